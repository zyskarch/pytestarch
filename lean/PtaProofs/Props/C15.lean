/-
  PtaProofs.Props.C15 — evaluation is independent of order and history (property C15, the part that is logic).
  The model is pure by construction, so "purity" is not claimed here; what is proved is that verdicts depend only on
  the SETS of modules, hierarchy edges and import edges (hence not on the order in which modules, imports or directory
  entries were enumerated), not on the order in which subjects, objects or exclusion patterns were listed, and not on
  how often or to how many architectures a rule object was applied before. The interpreter-level half (hash seeds,
  in-place mutation through networkx) is observed by the correspondence runs of the C15 check.
  Section "the MESSAGE" (and "layer rules: the message", "the fluent API") proves the same for the whole outcome the user
  sees — verdict class AND the literal list of message lines (`assertAppliesText`, `assertAppliesLayerText`,
  `runRuleOpsText`, `runLayerRuleOpsText`), not only for the class.
-/
import Bridge.Abs
import Bridge.OrderDefs
import PtaProofs.Lemmas.OrderCongr
import PtaProofs.Lemmas.DiagramApply
import PtaProofs.Lemmas.LArchSim
import PtaProofs.Lemmas.OrderPumlText
import PtaProofs.Lemmas.OrderReport
import PtaProofs.Lemmas.OrderReportOps
import PtaProofs.Lemmas.OrderScan
namespace Pta.C15
open PtaSpec

/-- the verdict of any rule depends only on the node set and the three edge sets of the graph -/
theorem verdict_congr (mt : Str → Str → Bool) (g g' : PGraph Str) (h : GraphEquiv g g') (r : RuleState) :
    verdictOf mt g r = verdictOf mt g' r := Ord.verdict_congr mt g g' h r

/-- the order in which subjects are listed is irrelevant -/
theorem perm_subjects (mt : Str → Str → Bool) (g : PGraph Str) (s o n dir exc : Bool) (subs subs' objs : List Filter)
    (h : subs.Perm subs') :
    verdictOf mt g (mkRule s o n dir exc subs objs) = verdictOf mt g (mkRule s o n dir exc subs' objs) :=
  Ord.verdictOf_congr mt (Ord.graphEquiv_refl g) (sameRule_mkRule s o n dir exc subs subs' objs objs h (List.Perm.refl _))

/-- the order in which objects are listed is irrelevant -/
theorem perm_objects (mt : Str → Str → Bool) (g : PGraph Str) (s o n dir exc : Bool) (subs objs objs' : List Filter)
    (h : objs.Perm objs') :
    verdictOf mt g (mkRule s o n dir exc subs objs) = verdictOf mt g (mkRule s o n dir exc subs objs') :=
  Ord.verdictOf_congr mt (Ord.graphEquiv_refl g) (sameRule_mkRule s o n dir exc subs subs objs objs' (List.Perm.refl _) h)

/-- the order in which modules and imports reach the graph constructor is irrelevant (also under a level limit) -/
theorem perm_modules_imports (mt : Str → Str → Bool) (a a' : Arch) (hwf : a.wf = true)
    (hn : a.nodes.Perm a'.nodes) (hi : a.imports.Perm a'.imports) (lim : Option Nat) (r : RuleState) :
    verdictOf mt (archGraphLim a lim) r = verdictOf mt (archGraphLim a' lim) r :=
  Ord.verdict_congr mt _ _ (Ord.archGraphLim_equiv a a' hwf hn hi lim) r

/-- re-applying a rule object (to the same or to another architecture) gives what a fresh rule object gives:
    the only in-place rewrite (`_convert_aliases`) is idempotent, and it keeps the subjects it removed
    (`modules_removed_by_alias_conversion`), so the existence check on them (repair of F-C13b) is repeated on the
    architecture the rule object is applied to next — see the example below -/
theorem reapply (mt : Str → Str → Bool) (s : RuleState) (g g' : PGraph Str) :
    (assertApplies mt (assertApplies mt s g).1 g').2 = (assertApplies mt s g').2 :=
  Ord.reapply mt s g g'

/-- the re-application that needs the removed subjects to be remembered: `[p.a, p.a.zz] should not import anything`, applied
    to an architecture that has `p.a.zz` and then — the same rule object — to one that has not, raises the lookup error
    exactly like a fresh rule object (an instance of `reapply`) -/
example :
    let s : RuleState := { cfg := { subjects := some [.name "p.a".toList, .name "p.a.zz".toList], shouldNot := true,
                                    importDir := some true, anything := true }, next := some false }
    let g := buildGraph ["p".toList, "p.a".toList, "p.a.zz".toList, "q".toList] [] none
    let g' := buildGraph ["p".toList, "p.a".toList, "q".toList] [] none
    (assertApplies (fun _ _ => false) s g).2 = .pass ∧
    (assertApplies (fun _ _ => false) s g).1.cfg.dropped = [.name "p.a.zz".toList] ∧
    (assertApplies (fun _ _ => false) (assertApplies (fun _ _ => false) s g).1 g').2 = .err .lookupError ∧
    (assertApplies (fun _ _ => false) s g').2 = .err .lookupError := by decide +kernel

theorem convertAliases_idem (c : RuleConfig) : convertAliases (convertAliases c) = convertAliases c :=
  Pta.convertAliases_idem c

/-- the order of exclusion patterns is irrelevant -/
theorem perm_patterns (mt : Str → Str → Bool) (ps ps' : List Str) (h : ps.Perm ps') (s : Str) :
    isExcluded mt (.globs ps) s = isExcluded mt (.globs ps') s ∧ isExcluded mt (.regexes ps) s = isExcluded mt (.regexes ps') s :=
  Ord.perm_patterns mt ps ps' h s

/-- the order in which the file system enumerates directory entries only permutes the module list and the file list -/
theorem perm_dir_entries (excl : Str → Bool) (base rootName : Str) (entries entries' : List Entry) (h : entries.Perm entries')
    (fuel : Nat) (e : Entry) :
    (parseWalk excl base rootName entries fuel e).allModules.Perm (parseWalk excl base rootName entries' fuel e).allModules :=
  Ord.perm_dir_entries excl base rootName entries entries' h fuel e

/-- the graph constructor depends on the module list and on the import list only as SETS (any level limit, external
    modules and dangling import ends allowed), provided every importer is a listed module and every import carries the
    parent modules of its importee (`importsClosed`; both hold for every scan). A package importing its own direct
    child is NOT excluded: under `importsClosed` the hierarchy edge wins that collision in every order. -/
theorem buildGraph_sets (lim : Option Nat) (mods mods' : List Str) (imps imps' : List ImportRec)
    (hm : ∀ x, x ∈ mods ↔ x ∈ mods') (hi : ∀ x, x ∈ imps ↔ x ∈ imps') (hc : importsClosed mods imps = true) :
    GraphEquiv (buildGraph mods imps lim) (buildGraph mods' imps' lim) := by
  unfold importsClosed at hc
  simp only [List.all_eq_true, Bool.and_eq_true, List.contains_iff_mem, beq_iff_eq] at hc
  exact OrdB.buildGraph_equiv lim mods mods' imps imps' hm hi (fun i h => (hc i h).1) (fun i h => (hc i h).2)

/-- without the second half of `importsClosed` (an import whose `importeeParents` are not those of its importee) the
    known last-write-wins collision is order dependent: package `a` imports its direct child `a.b` -/
theorem buildGraph_sets_counterexample :
    ¬ GraphEquiv
      (buildGraph ["a".toList, "a.b".toList, "c".toList] [⟨"a".toList, "a.b".toList, []⟩, absImport "c".toList "a.b".toList] none)
      (buildGraph ["a".toList, "a.b".toList, "c".toList] [absImport "c".toList "a.b".toList, ⟨"a".toList, "a.b".toList, []⟩] none) := by
  intro h
  have := (h.hier "a".toList "a.b".toList).1 (by decide +kernel)
  revert this
  decide +kernel

/-- without the first half (an importer that is not a listed module) node creation by a later import is order dependent -/
theorem buildGraph_sets_counterexample' :
    ¬ GraphEquiv (buildGraph ["c".toList] [absImport "a.b".toList "c".toList, absImport "c".toList "a".toList] none)
      (buildGraph ["c".toList] [absImport "c".toList "a".toList, absImport "a.b".toList "c".toList] none) := by
  intro h
  have := (h.succs "c".toList "a".toList).1 (by decide +kernel)
  revert this
  decide +kernel

example : importsClosed ["a".toList, "a.b".toList, "c".toList] [absImport "a".toList "a.b".toList, absImport "c".toList "ext.m".toList] = true := by
  decide +kernel

/-- two scans of the same tree whose directory entries are enumerated in different orders: both raise the same error, or
    both build graphs with the same nodes, the same hierarchy edges and the same import edges. No hypothesis on the
    tree, the options, the level limit or the import statements. -/
theorem scan_graph_perm (mt : Str → Str → Bool) (base rootName : Str) (mp : List Str) (entries entries' : List Entry)
    (o : ScanOptions) (h : entries.Perm entries') :
    SameScan (generateGraph mt base rootName mp entries o) (generateGraph mt base rootName mp entries' o) :=
  OrdS.ERel.sameScan (OrdS.scan_graph_perm mt base rootName mp entries entries' o h)

/-- hence every rule has the same verdict on both scans -/
theorem scan_verdict_perm (mt mt' : Str → Str → Bool) (base rootName : Str) (mp : List Str) (entries entries' : List Entry)
    (o : ScanOptions) (h : entries.Perm entries') (g g' : PGraph Str)
    (hg : generateGraph mt base rootName mp entries o = .ok g) (hg' : generateGraph mt base rootName mp entries' o = .ok g')
    (r : RuleState) : verdictOf mt' g r = verdictOf mt' g' r := by
  have := OrdS.scan_graph_perm mt base rootName mp entries entries' o h
  rw [hg, hg'] at this
  exact Ord.verdict_congr mt' g g' this r

namespace Ex
def e1 : Entry := { rel := ["a.py".toList], isDir := false,
                    stmts := [.imp ["pkg.sub.b".toList], .impFrom (some "sub".toList) ["b".toList] 1] }
def e2 : Entry := { rel := ["sub".toList], isDir := true }
def e3 : Entry := { rel := ["sub".toList, "b.py".toList], isDir := false,
                    stmts := [.impFrom none ["a".toList] 2, .imp ["os.path".toList]] }
def opts : ScanOptions := { exclusions := .globs [], excludeExternal := false }
def nodesOf (x : Except ErrKind (PGraph Str)) : Option (List Str) := match x with | .ok g => some g.nodes | .error _ => none
end Ex

example : [Ex.e1, Ex.e2, Ex.e3].Perm [Ex.e3, Ex.e2, Ex.e1] :=
  ((List.Perm.swap _ _ _).trans ((List.Perm.swap _ _ _).cons _)).trans (List.Perm.swap _ _ _)

set_option maxRecDepth 8000 in
/-- the two enumerations really produce different node LISTS (and both scans succeed, with external modules) -/
example : Ex.nodesOf (generateGraph (fun _ _ => false) "/r/pkg".toList "pkg".toList [] [Ex.e1, Ex.e2, Ex.e3] Ex.opts) =
    some ["pkg".toList, "pkg.a".toList, "pkg.sub".toList, "pkg.sub.b".toList, "os.path".toList, "os".toList] ∧
  Ex.nodesOf (generateGraph (fun _ _ => false) "/r/pkg".toList "pkg".toList [] [Ex.e3, Ex.e2, Ex.e1] Ex.opts) =
    some ["pkg".toList, "pkg.sub".toList, "pkg.sub.b".toList, "pkg.a".toList, "os.path".toList, "os".toList] := by decide +kernel


/-! ## the MESSAGE (audit finding F7)

The theorems above and the layer theorems below conclude equality of the verdict CLASS (`verdictOf`, `.cls`). The
following ones conclude equality of the whole outcome of `assert_applies` as the user sees it (`TextVerdict`): pass,
the same error, or `AssertionError` with literally THE SAME LIST OF MESSAGE LINES (`PtaModel/Message.lean`, transcribed
from message_generator.py). Reason: the eight violation buckets depend on graph, subjects and objects only as sets, the
generator sorts the objects inside a `does not import` line, and the lines are emitted as `sorted(set(lines))`. -/

/-- master statement for module rules: two rule objects that list the same subjects / objects (in any order, with any
    multiplicity — `SameRuleUpToOrder`), applied to two graphs with the same node and edge SETS, give the same outcome
    with the same message lines. Covers every rule state (all verbs, `except`, `anything`, regex filters, unfinished or
    ill-configured rules). -/
theorem report_congr (mt : Str → Str → Bool) (g g' : PGraph Str) (hg : GraphEquiv g g') (r r' : RuleState)
    (h : SameRuleUpToOrder r r') : (assertAppliesText mt r g).2 = (assertAppliesText mt r' g').2 :=
  Pta.report_congr_lemma mt g g' hg r r' h

/-- the order in which subjects are listed is irrelevant for the message -/
theorem report_perm_subjects (mt : Str → Str → Bool) (g : PGraph Str) (s o n dir exc : Bool) (subs subs' objs : List Filter)
    (h : subs.Perm subs') :
    (assertAppliesText mt (mkRule s o n dir exc subs objs) g).2 = (assertAppliesText mt (mkRule s o n dir exc subs' objs) g).2 :=
  Pta.report_perm_subjects_lemma mt g s o n dir exc subs subs' objs h

/-- the order in which objects are listed is irrelevant for the message -/
theorem report_perm_objects (mt : Str → Str → Bool) (g : PGraph Str) (s o n dir exc : Bool) (subs objs objs' : List Filter)
    (h : objs.Perm objs') :
    (assertAppliesText mt (mkRule s o n dir exc subs objs) g).2 = (assertAppliesText mt (mkRule s o n dir exc subs objs') g).2 :=
  Pta.report_perm_objects_lemma mt g s o n dir exc subs objs objs' h

/-- the `anything` alias (`objects := none`, not an instance of `mkRule`): the order of the subjects of
    `S should not import / be imported by anything` is irrelevant for class and message (by `C12.alias_anything_dedup`
    the rule is the `except` rule on `dedupSubjects S`, which keeps the same members for every order of `S`) -/
theorem report_perm_anything (mt : Str → Str → Bool) (g : PGraph Str) (S S' : List Filter) (dir : Bool) (h : S.Perm S') :
    (assertAppliesText mt (anythingRule dir S) g).2 = (assertAppliesText mt (anythingRule dir S') g).2 :=
  Pta.report_perm_anything_lemma mt g S S' dir h

/-- … and so is its verdict class (the state `perm_subjects` does not cover) -/
theorem perm_subjects_anything (mt : Str → Str → Bool) (g : PGraph Str) (S S' : List Filter) (dir : Bool) (h : S.Perm S') :
    verdictOf mt g (anythingRule dir S) = verdictOf mt g (anythingRule dir S') :=
  Ord.verdictOf_congr mt (Ord.graphEquiv_refl g) (sameRule_anything S S' dir h)

/-- text version of `reapply`: re-applying a rule object (to the same or to another architecture) gives the outcome and
    the message lines a fresh rule object gives -/
theorem report_reapply (mt : Str → Str → Bool) (s : RuleState) (g g' : PGraph Str) :
    (assertAppliesText mt (assertAppliesText mt s g).1 g').2 = (assertAppliesText mt s g').2 := by
  simp only [assertAppliesText_front, front_applied]

/-- the message of any rule depends only on the node set and the three edge sets of the graph -/
theorem report_congr_graph (mt : Str → Str → Bool) (g g' : PGraph Str) (h : GraphEquiv g g') (r : RuleState) :
    (assertAppliesText mt r g).2 = (assertAppliesText mt r g').2 :=
  Pta.report_congr_graph_lemma mt g g' h r

/-- hence not on the order in which modules and imports reach the graph constructor (also under a level limit) … -/
theorem report_perm_modules_imports (mt : Str → Str → Bool) (a a' : Arch) (hwf : a.wf = true)
    (hn : a.nodes.Perm a'.nodes) (hi : a.imports.Perm a'.imports) (lim : Option Nat) (r : RuleState) :
    (assertAppliesText mt r (archGraphLim a lim)).2 = (assertAppliesText mt r (archGraphLim a' lim)).2 :=
  Pta.report_perm_modules_imports_lemma mt a a' hwf hn hi lim r

/-- … nor on the order in which the file system enumerates directory entries -/
theorem scan_report_perm (mt mt' : Str → Str → Bool) (base rootName : Str) (mp : List Str) (entries entries' : List Entry)
    (o : ScanOptions) (h : entries.Perm entries') (g g' : PGraph Str)
    (hg : generateGraph mt base rootName mp entries o = .ok g) (hg' : generateGraph mt base rootName mp entries' o = .ok g')
    (r : RuleState) : (assertAppliesText mt' r g).2 = (assertAppliesText mt' r g').2 := by
  have := OrdS.scan_graph_perm mt base rootName mp entries entries' o h
  rw [hg, hg'] at this
  exact Pta.report_congr_graph_lemma mt' g g' this r

namespace Ex
def S (s : String) : Str := s.toList
def gm : PGraph Str :=
  buildGraph [S "p", S "p.a", S "p.a.x", S "p.b", S "p.c", S "q", S "q.r"]
    [absImport (S "p.a.x") (S "q"), absImport (S "p.c") (S "p.b"), absImport (S "p.c") (S "q.r")] none
/-- the same modules and imports, handed to the constructor in another order -/
def gm' : PGraph Str :=
  buildGraph [S "q", S "q.r", S "p", S "p.c", S "p.b", S "p.a", S "p.a.x"]
    [absImport (S "p.c") (S "q.r"), absImport (S "p.a.x") (S "q"), absImport (S "p.c") (S "p.b")] none
def subsA : List Filter := [.name (S "p.a"), .name (S "p.c")]
def subsB : List Filter := [.name (S "p.c"), .name (S "p.a"), .name (S "p.c")]
def objsA : List Filter := [.name (S "q.r"), .name (S "p.b")]
def objsB : List Filter := [.name (S "p.b"), .name (S "q.r")]
end Ex

/-- the hypotheses of `report_congr` on a non-trivial instance: `should only import`, subjects and objects listed in
    different orders (one subject twice), the graph built from differently ordered lists -/
example : SameRuleUpToOrder (mkRule false true false true false Ex.subsA Ex.objsA) (mkRule false true false true false Ex.subsB Ex.objsB) :=
  ⟨by intro x; simp only [Ex.subsA, Ex.subsB, List.mem_cons, List.not_mem_nil, or_false]; grind,
   by intro x; simp only [Ex.objsA, Ex.objsB, List.mem_cons, List.not_mem_nil, or_false]; exact Or.comm,
   fun _ => Iff.rfl, rfl, rfl, rfl, rfl, rfl, rfl⟩
example : Ex.objsA.Perm Ex.objsB := List.Perm.swap _ _ _
set_option maxRecDepth 8000 in
example : importsClosed [Ex.S "p", Ex.S "p.a", Ex.S "p.a.x", Ex.S "p.b", Ex.S "p.c", Ex.S "q", Ex.S "q.r"]
    [absImport (Ex.S "p.a.x") (Ex.S "q"), absImport (Ex.S "p.c") (Ex.S "p.b"), absImport (Ex.S "p.c") (Ex.S "q.r")] = true := by
  decide +kernel
set_option maxRecDepth 8000 in
example : GraphEquiv Ex.gm Ex.gm' :=
  buildGraph_sets none _ _ _ _ (by intro x; simp only [List.mem_cons, List.not_mem_nil, or_false]; grind)
    (by intro x; simp only [List.mem_cons, List.not_mem_nil, or_false]; grind) (by decide +kernel)
set_option maxRecDepth 8000 in
/-- … on which the message is not trivial, the graphs differ as data, and both sides are literally the same two lines -/
example : Ex.gm.nodes ≠ Ex.gm'.nodes ∧
    (assertAppliesText (fun _ _ => false) (mkRule false true false true false Ex.subsA Ex.objsA) Ex.gm).2 = .fail
      [Ex.S "\"p.a\" does not import \"p.b\", \"q.r\".", Ex.S "\"p.a.x\" imports \"q\"."] ∧
    (assertAppliesText (fun _ _ => false) (mkRule false true false true false Ex.subsB Ex.objsB) Ex.gm').2 = .fail
      [Ex.S "\"p.a\" does not import \"p.b\", \"q.r\".", Ex.S "\"p.a.x\" imports \"q\"."] := by decide +kernel

set_option maxRecDepth 8000 in
/-- the report ITEMS (before rendering) do depend on the order: the objects of a `does not import` item are listed in
    the order given; it is the generator's sorting that makes the message lines equal -/
example : (assertApplies (fun _ _ => false) (mkRule false true false true false Ex.subsA Ex.objsA) Ex.gm).2 ≠
    (assertApplies (fun _ _ => false) (mkRule false true false true false Ex.subsA Ex.objsB) Ex.gm).2 := by decide +kernel

/-- the `anything` form with permuted subjects, one of them a sub module of another -/
example : [Filter.name (Ex.S "p.a"), .name (Ex.S "p.a.x"), .name (Ex.S "p.c")].Perm
    [.name (Ex.S "p.c"), .name (Ex.S "p.a.x"), .name (Ex.S "p.a")] := by decide +kernel
set_option maxRecDepth 8000 in
example : (assertAppliesText (fun _ _ => false) (anythingRule true [.name (Ex.S "p.c"), .name (Ex.S "p.a.x"), .name (Ex.S "p.a")]) Ex.gm).2 =
    .fail [Ex.S "\"p.a.x\" imports \"q\".", Ex.S "\"p.c\" imports \"p.b\".", Ex.S "\"p.c\" imports \"q.r\"."] := by decide +kernel

/-- the order in which the layers were DEFINED does not matter — no hypothesis (since the repair of
    `LayerRuleMatcher._update_layer_mapping`): if the mapping the rule uses assigns some module identifier to two layers
    with different names, the rule raises `LayerMismatch` for EVERY definition order; otherwise the lenient detector sees
    the same layer of every module and the same set of layer names. Layer names need not be distinct (the builder forbids
    duplicates, the theorem does not need that), `layerOf` may report mismatches, the rule may be unfinished or
    ill-configured. -/
theorem perm_layers (mt : Str → Str → Bool) (larch larch' : LArch) (rule : Option RuleState) (g : PGraph Str)
    (hp : larch.Perm larch') :
    (assertAppliesLayer mt ⟨some larch, rule⟩ g).cls = (assertAppliesLayer mt ⟨some larch', rule⟩ g).cls :=
  OrdL.perm_layers mt larch larch' rule g hp

/-- the same one level down, for the rule matcher -/
theorem perm_layers_rule (mt : Str → Str → Bool) (g : PGraph Str) (a a' : LArch) (b : Behavior) (ir : Bool)
    (ss os : List Filter) (hp : a.Perm a') :
    (matchLayerRule mt g a b ir ss os).cls = (matchLayerRule mt g a' b ir ss os).cls := by
  rw [← OrdR.toText_clsL, ← OrdR.toText_clsL, ← matchLayerRuleText_eq, ← matchLayerRuleText_eq,
    matchLayerRuleText_queries, matchLayerRuleText_queries, OrdR.linesL_congr mt (Ord.graphEquiv_refl g) hp
      (Ord.queries_rel mt (Ord.graphEquiv_refl g) b ir (Ord.SM.refl ss) (Ord.SM.refl os))]

/-- the check itself does not depend on the definition order -/
theorem consistent_perm (m m' : LayerMap) (hp : m.Perm m') : m.consistent = m'.consistent :=
  Pta.consistent_perm hp

namespace Ex
def g : PGraph Str := buildGraph ["x".toList, "y".toList] [absImport "x".toList "y".toList] none
/-- a regex engine for the examples: the pattern "x|y" matches x and y, every other pattern matches itself only -/
def mt : Str → Str → Bool := fun r m => if r == "x|y".toList then (m == "x".toList || m == "y".toList) else r == m
def la : LArch := [("A".toList, [.name "x".toList]), ("B".toList, [.regex "x|y".toList])]
def lb : LArch := [("B".toList, [.regex "x|y".toList]), ("A".toList, [.name "x".toList])]
def rule : RuleState := mkRule false false true true false [.name "x".toList] [.regex "x|y".toList]
def lc : LArch := [("A".toList, [.name "x".toList]), ("B".toList, [.regex "y".toList])]
def ld : LArch := [("B".toList, [.regex "y".toList]), ("A".toList, [.name "x".toList])]
def rule2 : RuleState := mkRule false false true true false [.name "x".toList] [.regex "y".toList]
/-- a rule on the overlapping architecture `la` / `lb` that does not mention the regex of layer B -/
def rule3 : RuleState := mkRule false false true true false [.name "x".toList] [.name "y".toList]
end Ex

/-- module `x` is listed in layer A and matched by the regex of layer B (the builder accepts this): BOTH definition
    orders raise `LayerMismatch` (before the repair "A should not access B" passed for one definition order and failed
    for the other) -/
theorem perm_layers_overlap_rejected :
    runLArch [.layer "A".toList, .containingModules ["x".toList], .layer "B".toList, .matching "x|y".toList] = .ok Ex.la ∧
    Ex.la.Perm Ex.lb ∧ layersDisjoint Ex.mt Ex.g.nodes Ex.la = false ∧
    assertAppliesLayer Ex.mt ⟨some Ex.la, some Ex.rule⟩ Ex.g = .err .layerMismatch ∧
    assertAppliesLayer Ex.mt ⟨some Ex.lb, some Ex.rule⟩ Ex.g = .err .layerMismatch :=
  ⟨by rfl, List.Perm.swap _ _ _, by decide +kernel, by decide +kernel, by decide +kernel⟩

/-- non-overlapping layers: a verdict, the same for both orders -/
example : Ex.lc.Perm Ex.ld ∧ layersDisjoint Ex.mt Ex.g.nodes Ex.lc = true ∧
    (assertAppliesLayer Ex.mt ⟨some Ex.lc, some Ex.rule2⟩ Ex.g).cls = .fail ∧
    (assertAppliesLayer Ex.mt ⟨some Ex.ld, some Ex.rule2⟩ Ex.g).cls = .fail :=
  ⟨List.Perm.swap _ _ _, by decide +kernel, by decide +kernel, by decide +kernel⟩

/-- the check looks at the mapping THIS rule uses: a regex layer whose pattern does not occur in the rule contributes
    nothing (as in `_replace_regex_specified_modules_with_actual_modules`), so the overlapping architecture is not
    rejected by a rule that mentions only names — and the verdict is again the same for both orders -/
example : (assertAppliesLayer Ex.mt ⟨some Ex.la, some Ex.rule3⟩ Ex.g).cls = .fail ∧
    (assertAppliesLayer Ex.mt ⟨some Ex.lb, some Ex.rule3⟩ Ex.g).cls = .fail := by decide +kernel

/-- the order in which the subject / object filters of a layer rule are listed does not matter (no hypothesis) … -/
theorem perm_layer_rule_filters (mt : Str → Str → Bool) (g : PGraph Str) (a : LArch) (s o n dir exc : Bool)
    (subs subs' objs objs' : List Filter) (hs : subs.Perm subs') (ho : objs.Perm objs') :
    (assertAppliesLayer mt ⟨some a, some (mkRule s o n dir exc subs objs)⟩ g).cls =
      (assertAppliesLayer mt ⟨some a, some (mkRule s o n dir exc subs' objs')⟩ g).cls := by
  rw [OrdR.assertAppliesLayer_cls, OrdR.assertAppliesLayer_cls,
    report_perm_layer_rule_filters_lemma mt g a s o n dir exc subs subs' objs objs' hs ho]

/-- … and naming the object LAYERS in another order only permutes the filters that `are_named` appends to the rule
    (or raises the same error), so together with `perm_layer_rule_filters` the order of the object layers is irrelevant -/
theorem perm_object_layers (a : LArch) (ls ls' : List Str) (h : ls.Perm ls') :
    match ls.mapM a.get, ls'.mapM a.get with
    | .ok ms, .ok ms' => ms.flatten.Perm ms'.flatten
    | .error e, .error e' => e = e'
    | _, _ => False := by
  have := OrdL.layers_get_perm a h
  cases h1 : ls.mapM a.get <;> cases h2 : ls'.mapM a.get <;> rw [h1, h2] at this <;> exact this


/-! ### layer rules: the message -/

/-- master statement for layer rules: layers defined in another order, a rule that lists the same subject / object
    filters (hence the same subject / object layers) in another order, and two graphs with the same node / edge sets give
    the same outcome with the same message lines -/
theorem report_layer_congr (mt : Str → Str → Bool) (g g' : PGraph Str) (hg : GraphEquiv g g') (a a' : LArch) (hp : a.Perm a')
    (r r' : RuleState) (h : SameRuleUpToOrder r r') :
    assertAppliesLayerText mt ⟨some a, some r⟩ g = assertAppliesLayerText mt ⟨some a', some r'⟩ g' :=
  Pta.report_layer_congr_lemma mt g g' hg a a' hp r r' h

/-- the message of a layer rule depends only on the node set and the edge sets of the graph (the layer mapping the rule
    uses expands regex layers over the module LIST, but enters the detector and the generator only through member sets) -/
theorem report_layer_congr_graph (mt : Str → Str → Bool) (g g' : PGraph Str) (hg : GraphEquiv g g') (s : LayerRuleState) :
    assertAppliesLayerText mt s g = assertAppliesLayerText mt s g' :=
  OrdR.assertAppliesLayerText_rel mt hg (OrdR.LSRel.refl s)

/-- hence two scans whose directory entries are enumerated in different orders give every layer rule the same outcome
    and the same message -/
theorem scan_report_layer_perm (mt mt' : Str → Str → Bool) (base rootName : Str) (mp : List Str) (entries entries' : List Entry)
    (o : ScanOptions) (h : entries.Perm entries') (g g' : PGraph Str)
    (hg : generateGraph mt base rootName mp entries o = .ok g) (hg' : generateGraph mt base rootName mp entries' o = .ok g')
    (s : LayerRuleState) : assertAppliesLayerText mt' s g = assertAppliesLayerText mt' s g' := by
  have := OrdS.scan_graph_perm mt base rootName mp entries entries' o h
  rw [hg, hg'] at this
  exact report_layer_congr_graph mt' g g' this s

/-- text version of `perm_layers`: the message does not depend on the order in which the layers were DEFINED -/
theorem report_perm_layers (mt : Str → Str → Bool) (larch larch' : LArch) (rule : Option RuleState) (g : PGraph Str)
    (hp : larch.Perm larch') :
    assertAppliesLayerText mt ⟨some larch, rule⟩ g = assertAppliesLayerText mt ⟨some larch', rule⟩ g :=
  Pta.report_perm_layers_lemma mt larch larch' rule g hp

/-- text version of `perm_layer_rule_filters` (with `perm_object_layers`: of the order in which the object LAYERS are
    named) -/
theorem report_perm_layer_rule_filters (mt : Str → Str → Bool) (g : PGraph Str) (a : LArch) (s o n dir exc : Bool)
    (subs subs' objs objs' : List Filter) (hs : subs.Perm subs') (ho : objs.Perm objs') :
    assertAppliesLayerText mt ⟨some a, some (mkRule s o n dir exc subs objs)⟩ g =
      assertAppliesLayerText mt ⟨some a, some (mkRule s o n dir exc subs' objs')⟩ g :=
  Pta.report_perm_layer_rule_filters_lemma mt g a s o n dir exc subs subs' objs objs' hs ho

namespace Ex
def lg : PGraph Str :=
  buildGraph [S "p", S "p.a", S "p.a.x", S "q", S "s", S "r"]
    [absImport (S "p.a.x") (S "q"), absImport (S "p.a") (S "s")] none
def la1 : LArch := [(S "A", [.name (S "p.a")]), (S "B", [.name (S "q")]), (S "C", [.name (S "r")]), (S "D", [.name (S "s")])]
def la2 : LArch := [(S "D", [.name (S "s")]), (S "C", [.name (S "r")]), (S "A", [.name (S "p.a")]), (S "B", [.name (S "q")])]
end Ex

example : Ex.la1.Perm Ex.la2 := by decide +kernel
set_option maxRecDepth 8000 in
/-- `A should only access C, D` against the two definition orders, objects named in the two orders: the same three lines -/
example :
    assertAppliesLayerText (fun _ _ => false)
      ⟨some Ex.la1, some (mkRule false true false true false [.name (Ex.S "p.a")] [.name (Ex.S "r"), .name (Ex.S "s")])⟩ Ex.lg =
      .fail [Ex.S "\"p.a.x\" (layer \"A\") imports \"q\" (layer \"B\").", Ex.S "Layer \"A\" does not import layer \"C\"."] ∧
    assertAppliesLayerText (fun _ _ => false)
      ⟨some Ex.la2, some (mkRule false true false true false [.name (Ex.S "p.a")] [.name (Ex.S "s"), .name (Ex.S "r")])⟩ Ex.lg =
      .fail [Ex.S "\"p.a.x\" (layer \"A\") imports \"q\" (layer \"B\").", Ex.S "Layer \"A\" does not import layer \"C\"."] := by
  decide +kernel


namespace Ex
/-- a regex engine for the example: the pattern `P` matches the identifiers that start with `p` -/
def mtP : Str → Str → Bool := fun r m => r == S "P" && m.take 1 == S "p"
def laP : LArch := [(S "P", [.regex (S "P")]), (S "Q", [.name (S "q")])]
def ruleP : RuleState := mkRule false false true true false [.regex (S "P")] [.name (S "q")]
end Ex
set_option maxRecDepth 8000 in
/-- `report_layer_congr_graph` on the two differently ordered graphs `Ex.gm` / `Ex.gm'` with a regex layer: the layer
    mappings the rule uses list the matched modules in different orders, the message is the same two lines -/
example : updateLayerMap Ex.mtP Ex.gm.nodes Ex.laP [Ex.S "P"] ≠ updateLayerMap Ex.mtP Ex.gm'.nodes Ex.laP [Ex.S "P"] ∧
    assertAppliesLayerText Ex.mtP ⟨some Ex.laP, some Ex.ruleP⟩ Ex.gm =
      .fail [Ex.S "\"p.a.x\" (layer \"P\") imports \"q\" (layer \"Q\").",
             Ex.S "\"p.c\" (layer \"P\") imports \"q.r\" (layer \"Q\")."] ∧
    assertAppliesLayerText Ex.mtP ⟨some Ex.laP, some Ex.ruleP⟩ Ex.gm' =
      .fail [Ex.S "\"p.a.x\" (layer \"P\") imports \"q\" (layer \"Q\").",
             Ex.S "\"p.c\" (layer \"P\") imports \"q.r\" (layer \"Q\")."] := by decide +kernel

/-! ### the fluent API

The statements above are about finished rule objects. At the level of the calls the user writes: -/

/-- two `Rule` call chains that differ only in the order in which the names are listed inside `are_named(...)`,
    `are_sub_modules_of(...)`, `have_name_containing(...)` (`RuleOpsUpToOrder`: element-wise `RuleOpPerm`), run against
    two graphs with the same node / edge sets: the same call raises the same error, or `assert_applies` gives the same
    outcome with the same message lines (the second component is the index of the raising call) -/
theorem run_report_perm (glob : Str → Str) (mt : Str → Str → Bool) (g g' : PGraph Str) (hg : GraphEquiv g g')
    (ops ops' : List RuleOp) (h : RuleOpsUpToOrder ops ops') :
    runRuleOpsText glob mt ops g = runRuleOpsText glob mt ops' g' :=
  OrdR.runRuleOpsTextGo_rel glob mt hg h {} {} 0 (OrdR.SRel.refl _)

/-- the same for `LayerRule` call chains: the layer names inside `are_named(...)` listed in another order, and
    `based_on` given an architecture whose layers were defined in another order (`ArchRel`: a permutation under which every
    layer name denotes the same filters — for architectures the builder produces, any permutation: `archRel_of_builder`) -/
theorem run_layer_report_perm (mt : Str → Str → Bool) (g g' : PGraph Str) (hg : GraphEquiv g g')
    (ops ops' : List LayerRuleOp) (h : LayerRuleOpsUpToOrder ops ops') :
    runLayerRuleOpsText mt ops g = runLayerRuleOpsText mt ops' g' :=
  OrdR.runLayerRuleOpsTextGo_rel mt hg h {} {} 0 (OrdR.LSRel.refl _)

theorem archRel_of_builder (h : List LArchOp) (a a' : LArch) (ha : runLArch h = .ok a) (hp : a.Perm a') :
    Pta.OrdR.ArchRel a a' :=
  OrdR.archRel_of_perm hp (larch_invariant_lemma h a ha).1

namespace Ex
def opsA : List RuleOp :=
  [.modulesThat, .areNamed [S "p.a", S "p.c"], .shouldOnly, .importThat, .areNamed [S "q.r", S "p.b"]]
def opsB : List RuleOp :=
  [.modulesThat, .areNamed [S "p.c", S "p.a"], .shouldOnly, .importThat, .areNamed [S "p.b", S "q.r"]]
def buildLa1 : List LArchOp :=
  [.layer (S "A"), .containingModules [S "p.a"], .layer (S "B"), .containingModules [S "q"],
   .layer (S "C"), .containingModules [S "r"], .layer (S "D"), .containingModules [S "s"]]
def lopsA : List LayerRuleOp :=
  [.basedOn la1, .layersThat, .areNamed [S "A"] false, .shouldOnly, .access, .areNamed [S "C", S "D"] true]
def lopsB : List LayerRuleOp :=
  [.basedOn la2, .layersThat, .areNamed [S "A"] false, .shouldOnly, .access, .areNamed [S "D", S "C"] true]
end Ex

example : RuleOpsUpToOrder Ex.opsA Ex.opsB :=
  .cons (.refl _) (.cons (.areNamed (List.Perm.swap _ _ _)) (.cons (.refl _) (.cons (.refl _)
    (.cons (.areNamed (List.Perm.swap _ _ _)) .nil))))
set_option maxRecDepth 8000 in
example : runRuleOpsText id (fun _ _ => false) Ex.opsB Ex.gm' =
    (.fail [Ex.S "\"p.a\" does not import \"p.b\", \"q.r\".", Ex.S "\"p.a.x\" imports \"q\"."], 5) := by decide +kernel
example : runLArch Ex.buildLa1 = .ok Ex.la1 := by rfl
example : LayerRuleOpsUpToOrder Ex.lopsA Ex.lopsB :=
  .cons (.basedOn (archRel_of_builder Ex.buildLa1 Ex.la1 Ex.la2 (by rfl) (by decide))) (.cons (.refl _) (.cons (.refl _) (.cons (.refl _)
    (.cons (.refl _) (.cons (.areNamed true (List.Perm.swap _ _ _)) .nil)))))
set_option maxRecDepth 8000 in
example : runLayerRuleOpsText (fun _ _ => false) Ex.lopsB Ex.lg =
    (.fail [Ex.S "\"p.a.x\" (layer \"A\") imports \"q\" (layer \"B\").", Ex.S "Layer \"A\" does not import layer \"C\"."], 6) := by
  decide +kernel

/-- `MultipleRuleApplier`: if no generated rule raises, pass / fail and the collected violation items (as a multiset) do
    not depend on the order of the rules -/
theorem applyAll_perm (mt : Str → Str → Bool) (g : PGraph Str) (rules rules' : List RuleState) (hp : rules.Perm rules')
    (h : ∀ r ∈ rules, ∀ k, (assertApplies mt r g).2 ≠ .err k) :
    (applyAll mt g rules).cls = (applyAll mt g rules').cls ∧ (∀ k, (applyAll mt g rules).cls ≠ .err k) ∧
    (applyAll mt g rules).items.Perm (applyAll mt g rules').items := by
  have hv := hp.map (ruleVerdict mt g)
  have e := Dg.findSome_none_of_noErr mt g rules h
  have e' := Dg.findSome_none_of_noErr mt g rules' fun r hr => h r (hp.mem_iff.2 hr)
  obtain ⟨c, i⟩ := Dg.applyAll_views mt g [] rules rules' ⟨e.trans e'.symm, hv.any_eq, hv.flatMap_right _⟩
  refine ⟨c, fun k hk => ?_, i⟩
  rw [Dg.applyAll_eq_agg, Dg.agg_cls, e] at hk
  exact Alg.err_ne_ofBool k _ hk.symm

/-- if some generated rule raises, the result is an error for every order: the error of one of the raising rules (the
    first in the respective order), hence the same error if all raising rules raise the same kind -/
theorem applyAll_perm_err (mt : Str → Str → Bool) (g : PGraph Str) (rules rules' : List RuleState) (hp : rules.Perm rules')
    (h : ∃ r ∈ rules, ∃ k, (assertApplies mt r g).2 = .err k) :
    ∃ k k', applyAll mt g rules = .err k ∧ applyAll mt g rules' = .err k' ∧
      (∃ r ∈ rules, (assertApplies mt r g).2 = .err k) ∧ (∃ r ∈ rules, (assertApplies mt r g).2 = .err k') := by
  obtain ⟨k, h1, w1⟩ := Dg.applyAll_raises mt g rules h
  obtain ⟨k', h2, r, hr, w2⟩ := Dg.applyAll_raises mt g rules' (let ⟨r, hr, e⟩ := h; ⟨r, hp.mem_iff.1 hr, e⟩)
  exact ⟨k, k', h1, h2, w1, r, hp.mem_iff.2 hr, w2⟩

theorem applyAll_perm_err_same (mt : Str → Str → Bool) (g : PGraph Str) (rules rules' : List RuleState)
    (hp : rules.Perm rules') (e0 : ErrKind)
    (h : ∃ r ∈ rules, ∃ k, (assertApplies mt r g).2 = .err k)
    (hall : ∀ r ∈ rules, ∀ k, (assertApplies mt r g).2 = .err k → k = e0) :
    applyAll mt g rules = .err e0 ∧ applyAll mt g rules' = .err e0 := by
  obtain ⟨k, k', h1, h2, ⟨r1, hr1, e1⟩, ⟨r2, hr2, e2⟩⟩ := applyAll_perm_err mt g rules rules' hp h
  rw [h1, h2, hall r1 hr1 k e1, hall r2 hr2 k' e2]
  exact ⟨rfl, rfl⟩

namespace Ex
def rFail : RuleState := mkRule false false true true false [.name "x".toList] [.name "y".toList]
def rPass : RuleState := mkRule true false false true false [.name "x".toList] [.name "y".toList]
def rFail2 : RuleState := mkRule true false false true false [.name "y".toList] [.name "x".toList]
def rCfg : RuleState := mkRule true false false true false [] [.name "y".toList]
def rLook : RuleState := mkRule true false false true false [.name "x".toList] [.name "zzz".toList]
end Ex

example : (applyAll (fun _ _ => false) Ex.g [Ex.rFail, Ex.rPass, Ex.rFail2]).cls = .fail ∧
    (applyAll (fun _ _ => false) Ex.g [Ex.rFail2, Ex.rPass, Ex.rFail]).cls = .fail ∧
    (applyAll (fun _ _ => false) Ex.g [Ex.rFail, Ex.rPass, Ex.rFail2]).items ≠
      (applyAll (fun _ _ => false) Ex.g [Ex.rFail2, Ex.rPass, Ex.rFail]).items := by decide

/-- the error KIND does depend on the order when rules raise different kinds -/
theorem applyAll_error_kind_counterexample :
    (applyAll (fun _ _ => false) Ex.g [Ex.rCfg, Ex.rLook]).cls = .err .improperlyConfigured ∧
    (applyAll (fun _ _ => false) Ex.g [Ex.rLook, Ex.rCfg]).cls = .err .lookupError := by decide +kernel

/-- `PumlParser.parse` is tag slicing followed by `_unify` on the per-line results: the alias check of
    `_get_modules_by_alias` (parsing error when one alias is declared for two components), then the aggregation -/
theorem pumlParse_aggregate (content : Str) :
    pumlParse content = (pumlBody (pyStrip content)).bind fun body =>
      pumlUnify ((splitLines body).flatMap lineModules) ((splitLines body).filterMap lineDependency) :=
  OrdD.pumlParse_eq content

/-- `SameDiagram`, spelled out: both outcomes are the parsing error, or both are results with the same module SET and
    the same dependency RELATION -/
theorem sameDiagram_iff (x y : Except ErrKind Parsed') :
    SameDiagram x y ↔ (x = .error .pumlParsingError ∧ y = .error .pumlParsingError) ∨
      ∃ p q, x = .ok p ∧ y = .ok q ∧ (∀ m, m ∈ p.modules ↔ m ∈ q.modules) ∧ (∀ k v, p.hasDep k v = q.hasDep k v) := by
  cases x <;> cases y <;> simp [SameDiagram]

/-- permuting the lines of a diagram body — NO side condition: either both orders are rejected with the
    parsing error (one alias declared for two components) or both yield the same module SET and the same dependency
    RELATION. (`pumlUnify` = alias check + aggregation, i.e. everything `pumlParse` does behind the line recognisers.) -/
theorem diagram_lines_perm (lines lines' : List Str) (h : lines.Perm lines') :
    SameDiagram (pumlUnify (lines.flatMap lineModules) (lines.filterMap lineDependency))
      (pumlUnify (lines'.flatMap lineModules) (lines'.filterMap lineDependency)) :=
  OrdD.unify_perm _ _ _ _ (h.flatMap_right _) (h.filterMap _)

/-- the same for `pumlParse` on whole files whose tags are fine: the bodies have the same lines in a different order -/
theorem diagram_parse_perm (content content' body body' : Str)
    (hb : pumlBody (pyStrip content) = .ok body) (hb' : pumlBody (pyStrip content') = .ok body')
    (h : (splitLines body).Perm (splitLines body')) :
    SameDiagram (pumlParse content) (pumlParse content') := by
  rw [OrdD.pumlParse_eq, OrdD.pumlParse_eq, hb, hb']
  exact diagram_lines_perm _ _ h

/-- … and for files written as noise / `@startuml` / ARBITRARY raw lines / `@enduml` / noise -/
theorem diagram_text_perm (noise1 noise2 : Str) (lines lines' : List Str) (h : lines.Perm lines')
    (hl : ∀ l ∈ lines, '\n' ∉ l ∧ '@' ∉ l) (hn : isInfix "@enduml".toList noise2 = false) :
    SameDiagram (pumlParse (linesText noise1 lines noise2)) (pumlParse (linesText noise1 lines' noise2)) := by
  rw [OrdT.parse_linesText noise1 noise2 lines hl hn,
    OrdT.parse_linesText noise1 noise2 lines' (fun l hm => hl l (h.mem_iff.2 hm)) hn]
  exact diagram_lines_perm _ _ h

/-- such a file parses to `_unify` of the per-line results of its lines -/
theorem parse_linesText (noise1 noise2 : Str) (lines : List Str) (hl : ∀ l ∈ lines, '\n' ∉ l ∧ '@' ∉ l)
    (hn : isInfix "@enduml".toList noise2 = false) :
    pumlParse (linesText noise1 lines noise2) = pumlUnify (lines.flatMap lineModules) (lines.filterMap lineDependency) :=
  OrdT.parse_linesText noise1 noise2 lines hl hn

/-- the same at the level of the per-line results -/
theorem aggregate_perm (modules modules' : List PModule) (rawDeps rawDeps' : List (Str × Str))
    (hm : modules.Perm modules') (hd : rawDeps.Perm rawDeps') :
    SameDiagram (pumlUnify modules rawDeps) (pumlUnify modules' rawDeps') :=
  OrdD.unify_perm modules modules' rawDeps rawDeps' hm hd

/-- the aggregation step alone (behind a passed check) -/
theorem aggregate_perm_checked (modules modules' : List PModule) (rawDeps rawDeps' : List (Str × Str))
    (hm : modules.Perm modules') (hd : rawDeps.Perm rawDeps') (hc : aliasesConsistent modules = true) :
    (∀ x, x ∈ (pumlAggregate modules rawDeps).modules ↔ x ∈ (pumlAggregate modules' rawDeps').modules) ∧
    (∀ k v, (pumlAggregate modules rawDeps).hasDep k v = (pumlAggregate modules' rawDeps').hasDep k v) :=
  OrdD.aggregate_perm modules modules' rawDeps rawDeps' hm hd hc

namespace Ex
def l1 : List Str := ["[mod a] as x".toList, "[b] as y".toList, "x --> y".toList, "y --> c".toList]
def l2 : List Str := ["y --> c".toList, "x --> y".toList, "[b] as y".toList, "[mod a] as x".toList]
def l3 : List Str := ["[a] as x".toList, "[b] as x".toList, "x --> c".toList]
def l4 : List Str := ["[b] as x".toList, "[a] as x".toList, "x --> c".toList]
def agg (ls : List Str) : Parsed' := pumlAggregate (ls.flatMap lineModules) (ls.filterMap lineDependency)
def unify (ls : List Str) : Except ErrKind Parsed' := pumlUnify (ls.flatMap lineModules) (ls.filterMap lineDependency)
end Ex

-- a genuine permutation on which the check passes; the two results differ as lists and agree as sets
example : Ex.l1.Perm Ex.l2 := by decide +kernel
example : okModules (Ex.unify Ex.l1) = some ["mod a".toList, "b".toList, "c".toList] ∧
    okModules (Ex.unify Ex.l2) = some ["mod a".toList, "c".toList, "b".toList] := by decide +kernel
example : aliasesConsistent (Ex.l1.flatMap lineModules) = true ∧ (Ex.agg Ex.l1).modules ≠ (Ex.agg Ex.l2).modules ∧
    (Ex.agg Ex.l1).hasDep "mod a".toList "b".toList = true ∧ (Ex.agg Ex.l2).hasDep "mod a".toList "b".toList = true := by
  decide +kernel
-- hypotheses of `diagram_text_perm` / `parse_linesText`
example : (∀ l ∈ Ex.l1, '\n' ∉ l ∧ '@' ∉ l) ∧ (∀ l ∈ Ex.l3, '\n' ∉ l ∧ '@' ∉ l) ∧
    isInfix "@enduml".toList "\n' trailing @startuml junk".toList = false := by decide +kernel
set_option maxRecDepth 10000 in
example : linesText "junk\n".toList Ex.l3 "\n".toList =
    "junk\n@startuml\n[a] as x\n[b] as x\nx --> c\n@enduml\n".toList := by decide +kernel

/-- alias `x` declared for `a` and for `b`: both line orders are rejected with the parsing error — at the level of the
    per-line results and for the files themselves. (Before the repair the arrow `x --> c` was attributed to whichever
    declaration came last.) -/
theorem conflicting_alias_rejected :
    Ex.l3.Perm Ex.l4 ∧ aliasesConsistent (Ex.l3.flatMap lineModules) = false ∧
    Ex.unify Ex.l3 = .error .pumlParsingError ∧ Ex.unify Ex.l4 = .error .pumlParsingError ∧
    pumlParse (linesText [] Ex.l3 []) = .error .pumlParsingError ∧
    pumlParse (linesText [] Ex.l4 []) = .error .pumlParsingError := by
  refine ⟨List.Perm.swap _ _ _, by decide +kernel, OrdD.eq_error_of_check _ (by decide +kernel), OrdD.eq_error_of_check _ (by decide +kernel), ?_, ?_⟩
  · rw [parse_linesText [] [] Ex.l3 (by decide +kernel) (by decide +kernel)]
    exact OrdD.eq_error_of_check _ (by decide +kernel)
  · rw [parse_linesText [] [] Ex.l4 (by decide +kernel) (by decide +kernel)]
    exact OrdD.eq_error_of_check _ (by decide +kernel)

/-- the aggregation step WITHOUT the check depends on the line order: it is the check that makes the parse independent of it -/
theorem aggregation_without_check_depends_on_order :
    (Ex.agg Ex.l3).hasDep "b".toList "c".toList = true ∧ (Ex.agg Ex.l4).hasDep "b".toList "c".toList = false :=
  ⟨by decide +kernel, by decide +kernel⟩

end Pta.C15
