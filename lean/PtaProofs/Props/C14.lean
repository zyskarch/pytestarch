/-
  PtaProofs.Props.C14 — module identity follows dotted-name boundaries (property C14).
  (1) Bridge: every raw-string test the (repaired) code performs on rendered names — sub-module test, layer lookup,
      alias lookup, internal/external test — equals the component-level prefix relation.
  (2) The component-level semantics commutes with every injective renaming ρ of path components, including renamings
      that make a sibling's name a raw string prefix or substring of another's.
  Consequently verdicts, violating sets, layer attribution and plot labels are invariant up to the renaming.
  (3) The CODE MODEL itself commutes with the renaming for ALL rules with well-formed identifiers — related
      (ancestor / descendant) subjects and objects, batches, `anything` with its parent/sub-module de-duplication,
      names that do not exist (`model_verdict_ren_all`, `model_report_ren`, `model_atoms_ren`): the graph of the renamed
      architecture is the image of the original graph and every search, query, bucket and report line is mapped.
  (4) The same for LAYER rules (`layer_model_iso`, `layer_verdict_ren`): layer mapping, consistency check, layer lookup, the
      lenient detector and the tagged report commute with the renaming — same verdict class, same error kind
      (`LayerMismatch` included), same report lines with every module name renamed and the SAME layer tags.
  (5) The same for DIAGRAM rules (`diagram_model_iso`, `diagram_verdict_ren`, `diagram_spec_ren`): the generated rules of the
      renamed diagram are the renamed rules up to the order `sorted(...)` imposes; verdict class and the multiset of
      report items are invariant.
-/
import Bridge.Abs
import Bridge.Rename
import PtaProofs.Lemmas.RenameAux
import PtaProofs.Lemmas.RenameModel
import PtaProofs.Lemmas.RenameBuild
import PtaProofs.Lemmas.RenameNames
import Bridge.RenameLayer
import PtaProofs.Lemmas.RenameLayer
import PtaProofs.Lemmas.RenameDiagram
import PtaProofs.Lemmas.GlobLabel
namespace Pta.C14
open PtaSpec

/-- (1) the raw boundary-aware test is the dotted-prefix relation (sub modules, aliases, internal modules) -/
theorem raw_test_is_prefix (p n : Name) (hp : nameWF p = true) (hn : nameWF n = true) :
    isModuleOrSub (render p) (render n) = desc p n ∧ isStrictSub (render p) (render n) = sdesc p n ∧
    isInternal (render n) (render p) = desc p n :=
  ⟨isModuleOrSub_render p n hp hn, isStrictSub_render p n hp hn, isModuleOrSub_render p n hp hn⟩

/-- why the boundary matters: a raw `startswith` confuses `pkg.ab` with `pkg.a`, the boundary-aware test does not -/
theorem raw_prefix_counterexample :
    startsWith "pkg.a".toList "pkg.ab".toList = true ∧ isModuleOrSub "pkg.a".toList "pkg.ab".toList = false ∧
    isInfix "pkg.a".toList "pkg.ab".toList = true := by decide +kernel

/-- (2) the prefix relation is invariant under injective renaming of components -/
theorem desc_ren (ρ : Comp → Comp) (hρ : GoodRen ρ) (x n : Name) :
    desc (renName ρ x) (renName ρ n) = desc x n ∧ sdesc (renName ρ x) (renName ρ n) = sdesc x n ∧
    related (renName ρ x) (renName ρ n) = related x n :=
  ⟨Ren.desc_ren hρ x n, Ren.sdesc_ren hρ x n, Ren.related_ren hρ x n⟩

/-- the documented rule semantics is invariant under renaming (all rules, strict or not) -/
theorem verdict_ren (ρ : Comp → Comp) (hρ : GoodRen ρ) (a : Arch) (r : RuleSpec) :
    verdict (renArch ρ a) (renRule ρ r) = verdict a r := by
  simp only [verdict, Ren.effObjects_ren, Ren.renRule_subjects, Ren.renRule_importDir, Ren.renRule_verb, Ren.renRule_effExc,
    List.all_map, Function.comp_def, Ren.edges_ren hρ, Ren.others_ren hρ, List.isEmpty_map]

/-- … and so is the violating set, up to the renaming itself -/
theorem violating_ren (ρ : Comp → Comp) (hρ : GoodRen ρ) (a : Arch) (r : RuleSpec) :
    violating (renArch ρ a) (renRule ρ r) = (violating a r).map (renSItem ρ) := by
  -- the renaming moves inside `++`, `if`, `flatMap`, `filterMap` down to the four generators of report items
  simp only [violating, Ren.effObjects_ren, Ren.renRule_subjects, Ren.renRule_importDir, Ren.renRule_verb, Ren.renRule_effExc,
    List.map_append, apply_ite (List.map (renSItem ρ)), List.map_nil, List.flatMap_map, List.map_flatMap, List.map_map,
    List.filterMap_map, List.map_filterMap, Function.comp_def, apply_ite (Option.map (renSItem ρ)), Option.map_none,
    Option.map_some, renSItem]
  -- required imports that are missing: the objects without an edge
  simp only [Ren.missing_ren hρ, List.isEmpty_map]
  -- forbidden imports from subject to object
  simp only [Ren.edges_ren hρ, List.map_map, Function.comp_def, Ren.renPair]
  -- imports of others, forbidden or required
  simp only [Ren.others_ren hρ, List.map_map, Function.comp_def, Ren.renPair, List.isEmpty_map]
  rfl

/-- well-formedness, strictness and existence of names are preserved -/
theorem domain_ren (ρ : Comp → Comp) (hρ : GoodRen ρ) (a : Arch) (r : RuleSpec) :
    (a.wf = true → (renArch ρ a).wf = true) ∧ (renRule ρ r).strict = r.strict ∧ (renRule ρ r).namesIn (renArch ρ a) = r.namesIn a :=
  ⟨Ren.wf_ren hρ a, Ren.strict_ren hρ r, Ren.namesIn_ren hρ a r⟩

/-- plot labels: the nearest aliased ancestor is found by components, so labels commute with renaming -/
theorem nearest_alias_ren (ρ : Comp → Comp) (hρ : GoodRen ρ) (al : Aliases) (n : Name) :
    nearestAliased (al.map fun p => (renName ρ p.1, p.2)) (renName ρ n) =
      (nearestAliased al n).map fun p => (renName ρ p.1, p.2) :=
  Pta.nearest_alias_ren_lemma ρ hρ al n

/-- layer lookup (`get_layer_for_module_name`) on rendered names is the nearest listed ancestor by components,
    and is invariant under renaming -/
theorem layerOf_ren (ρ : Comp → Comp) (hρ : GoodRen ρ) (m : List (Str × List Name)) (n : Name)
    (hm : ∀ l ∈ m, ∀ x ∈ l.2, nameWF x = true) (hn : nameWF n = true) :
    LayerMap.layerOf (m.map fun l => (l.1, l.2.map fun x => render (renName ρ x))) (render (renName ρ n)) =
    LayerMap.layerOf (m.map fun l => (l.1, l.2.map render)) (render n) := by
  rw [Ren.layerOf_enc (fun x => render (renName ρ x))
        (fun x y hx hy h => Ren.renName_inj hρ (render_injective _ _ (Ren.nameWF_ren hρ hx) (Ren.nameWF_ren hρ hy) h)) m hm n hn
        (fun c hc => by
          show isStrictSub (render (renName ρ c)) (render (renName ρ n)) = sdesc c n
          rw [isStrictSub_render _ _ (Ren.nameWF_ren hρ hc) (Ren.nameWF_ren hρ hn), Ren.sdesc_ren hρ]),
    Ren.layerOf_enc render render_injective m hm n hn (fun c hc => isStrictSub_render c n hc hn)]

/-- the graph built for the renamed architecture is the image of the original graph: same node order, same edge
    records, every name renamed (an exact equality of the two data structures) -/
theorem graph_ren (ρ : Comp → Comp) (hρ : GoodRen ρ) (a : Arch) (hwf : a.wf = true) :
    archGraph (renArch ρ a) = mapGraph (renStr ρ) (archGraph a) :=
  Pta.RM.archGraph_ren hρ a hwf

/-- (3), verdict: for EVERY rule with well-formed identifiers (no strictness, names need not exist) the verdict
    class — pass / fail / which error — of the code model is invariant under the renaming -/
theorem model_verdict_ren_all (mt : Str → Str → Bool) (ρ : Comp → Comp) (hρ : GoodRen ρ) (a : Arch) (hwf : a.wf = true)
    (r : RuleSpec) (hr : ruleWF r = true) :
    verdictOf mt (archGraph (renArch ρ a)) (compile (renRule ρ r)) = verdictOf mt (archGraph a) (compile r) := by
  unfold verdictOf
  rw [RM.model_report_ren_lemma mt ρ hρ a hwf r hr, RM.cls_mapId]

/-- verdict of the CODE MODEL on the renamed architecture and rule = verdict on the original (strict domain) -/
theorem model_verdict_ren (mt : Str → Str → Bool) (ρ : Comp → Comp) (hρ : GoodRen ρ) (a : Arch) (hwf : a.wf = true)
    (r : RuleSpec) (hstrict : r.strict = true) (hnames : r.namesIn a = true)
    (hs : r.subjects ≠ []) (ho : r.anything = true ∨ r.objects ≠ [])
    (hany : r.anything = true → r.verb = .shouldNot) :
    verdictOf mt (archGraph (renArch ρ a)) (compile (renRule ρ r)) = verdictOf mt (archGraph a) (compile r) :=
  model_verdict_ren_all mt ρ hρ a hwf r (RM.ruleWF_of_namesIn a hwf r hnames)

/-- (3), report: the full outcome of `assert_applies` on the renamed inputs is the original outcome with every
    module name in every report line renamed component-wise (same lines, same order, same error kind) -/
theorem model_report_ren (mt : Str → Str → Bool) (ρ : Comp → Comp) (hρ : GoodRen ρ) (a : Arch) (hwf : a.wf = true)
    (r : RuleSpec) (hr : ruleWF r = true) :
    (assertApplies mt (compile (renRule ρ r)) (archGraph (renArch ρ a))).2 =
      (assertApplies mt (compile r) (archGraph a)).2.mapId (renDotted ρ) := by
  rw [RM.model_report_ren_lemma mt ρ hρ a hwf r hr]
  exact (RM.verdict_mapId_eq _ _ _).2 fun s hs => RM.renStr_eq_renDotted ρ s (RM.report_names_wf_lemma mt a hwf r hr s hs)

/-- … together with the rewritten rule object (`_convert_aliases` with its parent / sub-module de-duplication
    commutes with the renaming); `renStr ρ` is `renDotted ρ` on well-formed dotted names (`renStr_agrees`) -/
theorem model_outcome_ren (mt : Str → Str → Bool) (ρ : Comp → Comp) (hρ : GoodRen ρ) (a : Arch) (hwf : a.wf = true)
    (r : RuleSpec) (hr : ruleWF r = true) :
    assertApplies mt (compile (renRule ρ r)) (archGraph (renArch ρ a)) =
      ((assertApplies mt (compile r) (archGraph a)).1.mapId (renStr ρ),
       (assertApplies mt (compile r) (archGraph a)).2.mapId (renStr ρ)) :=
  Pta.RM.model_report_ren_lemma mt ρ hρ a hwf r hr

/-- the reported atoms (import lines, (subject, object) pairs of "does not import" lines) correspond one to one -/
theorem model_atoms_ren (mt : Str → Str → Bool) (ρ : Comp → Comp) (hρ : GoodRen ρ) (a : Arch) (hwf : a.wf = true)
    (r : RuleSpec) (hr : ruleWF r = true) (items : List Item)
    (h : (assertApplies mt (compile r) (archGraph a)).2 = .fail items) :
    ∃ items', (assertApplies mt (compile (renRule ρ r)) (archGraph (renArch ρ a))).2 = .fail items' ∧
      items'.flatMap Item.atoms = (items.flatMap Item.atoms).map (Atom.mapId (renDotted ρ)) := by
  refine ⟨items.map (Item.mapId (renDotted ρ)), ?_, ?_⟩
  · rw [model_report_ren mt ρ hρ a hwf r hr, h]; rfl
  · simp only [List.flatMap_map, List.map_flatMap, RM.atoms_mapId]

/-- every module name occurring in a report is a well-formed dotted name, so the renaming of a report is the
    plain component-wise one -/
theorem report_names_wf (mt : Str → Str → Bool) (a : Arch) (hwf : a.wf = true) (r : RuleSpec) (hr : ruleWF r = true) :
    ∀ s ∈ (assertApplies mt (compile r) (archGraph a)).2.names, nameWF (splitDots s) = true :=
  Pta.RM.report_names_wf_lemma mt a hwf r hr

/-- the guarded string renaming agrees with the plain one on well-formed dotted names, is `render ∘ renName ρ` on
    rendered names, and is injective on all strings -/
theorem renStr_agrees (ρ : Comp → Comp) (hρ : GoodRen ρ) :
    (∀ s, nameWF (splitDots s) = true → renStr ρ s = renDotted ρ s) ∧
    (∀ n, nameWF n = true → renStr ρ (render n) = render (renName ρ n)) ∧
    (∀ x y, renStr ρ x = renStr ρ y → x = y) :=
  ⟨Pta.RM.renStr_eq_renDotted ρ, Pta.RM.renStr_render ρ, Pta.RM.renStr_inj hρ⟩

/-- the generic fact behind (3): `assert_applies` commutes with EVERY injective map of node names that preserves
    the strict-sub-module test among the subject identifiers, on every graph and every regex-free rule object -/
theorem model_iso (φ : Str → Str) (hφ : ∀ x y, φ x = φ y → x = y) (mt : Str → Str → Bool) (g : PGraph Str) (s : RuleState)
    (hreg : Pta.RM.cfgNoRegex s.cfg) (hsub : Pta.RM.cfgSubOK φ s.cfg) :
    assertApplies mt (s.mapId φ) (mapGraph φ g) =
      ((assertApplies mt s g).1.mapId φ, (assertApplies mt s g).2.mapId φ) :=
  Pta.RM.assertApplies_map φ hφ mt g s hreg hsub

/-- plot labels of the renamed modules with the renamed alias table: the alias text is kept, the components that
    remain below the aliased ancestor are renamed (`labelWith id` is the documented label, `labelWith_id`) -/
theorem labels_ren (ρ : Comp → Comp) (hρ : GoodRen ρ) (nodes : List Name) (al : Aliases)
    (hn : ∀ n ∈ nodes, nameWF n = true) (hk : (al.map (·.1)).Nodup) (hex : ∀ a ∈ al, a.1 ∈ nodes) :
    plotLabels ((nodes.map (renName ρ)).map render) ((renAliases ρ al).map fun a => (render a.1, a.2)) =
      .ok (nodes.map fun n => (render (renName ρ n), labelWith (renName ρ) al n)) ∧
    plotLabels (nodes.map render) (al.map fun a => (render a.1, a.2)) =
      .ok (nodes.map fun n => (render n, labelWith id al n)) := by
  have hn' : ∀ n ∈ nodes.map (renName ρ), nameWF n = true := by
    intro n h
    obtain ⟨n0, h0, rfl⟩ := List.mem_map.1 h
    exact Ren.nameWF_ren hρ (hn n0 h0)
  rw [Pta.labels_spec_lemma _ _ hn' (RM.renAliases_keys_nodup hρ al hk) (RM.renAliases_keys_mem ρ al nodes hex),
    Pta.labels_spec_lemma nodes al hn hk hex, List.map_map]
  simp only [Function.comp_def, RM.label_ren hρ, RM.labelWith_id, and_self]

/-- the documented label commutes with the renaming -/
theorem label_ren (ρ : Comp → Comp) (hρ : GoodRen ρ) (al : Aliases) (n : Name) :
    PtaSpec.label (renAliases ρ al) (renName ρ n) = labelWith (renName ρ) al n ∧ PtaSpec.label al n = labelWith id al n :=
  ⟨Pta.RM.label_ren hρ al n, (Pta.RM.labelWith_id al n).symm⟩

/-- internal / external classification (`isInternal`, used by the scan to split imports) is invariant -/
theorem isInternal_ren (ρ : Comp → Comp) (hρ : GoodRen ρ) (n p : Name) (hn : nameWF n = true) (hp : nameWF p = true) :
    isInternal (render (renName ρ n)) (render (renName ρ p)) = isInternal (render n) (render p) :=
  Pta.RM.isInternal_ren_lemma ρ hρ n p hn hp

/-! ### non-vacuity: an adversarial renaming is admissible, and the hypotheses are met by non-strict rules -/

/-- `x ↦ a`, `y ↦ ab` (a sibling becomes a raw string prefix of the other), everything else gets a `z` in front -/
def advRen : Comp → Comp := fun c => if c = "x".toList then "a".toList else if c = "y".toList then "ab".toList else 'z' :: c
example : renName advRen [["p".toList], ["x".toList]].head! = ["zp".toList] := by decide +kernel

/-- a renaming given by a finite table; every other component gets a `z` in front -/
def tblRen (tbl : List (Comp × Comp)) (c : Comp) : Comp :=
  match tbl.find? (·.1 == c) with
  | some e => e.2
  | none => 'z' :: c

/-- the table is injective, its values are well-formed components that do not start with `z` -/
def tblOK (tbl : List (Comp × Comp)) : Bool :=
  tbl.all fun e => compWF e.2 && e.2.head? != some 'z' && tbl.all fun e' => e.2 != e'.2 || e.1 == e'.1

theorem tblRen_cases (tbl : List (Comp × Comp)) (c : Comp) :
    (∃ e ∈ tbl, e.1 = c ∧ tblRen tbl c = e.2) ∨ tblRen tbl c = 'z' :: c := by
  unfold tblRen
  cases h1 : tbl.find? (·.1 == c) with
  | some e => exact .inl ⟨e, List.mem_of_find?_eq_some h1, by simpa using List.find?_some h1, rfl⟩
  | none => exact .inr rfl

theorem tblRen_good (tbl : List (Comp × Comp)) (h : tblOK tbl = true) : GoodRen (tblRen tbl) := by
  simp only [tblOK, List.all_eq_true, Bool.and_eq_true, Bool.or_eq_true, bne_iff_ne, ne_eq, beq_iff_eq] at h
  have hc := tblRen_cases tbl
  have hz : ∀ e ∈ tbl, ∀ c : Comp, e.2 ≠ 'z' :: c := fun e he c hec => (h e he).1.2 (by rw [hec]; rfl)
  constructor
  · intro c d hcd
    rcases hc c with ⟨e, he, rfl, h1⟩ | h1 <;> rcases hc d with ⟨e', he', rfl, h2⟩ | h2 <;> rw [h1, h2] at hcd
    · exact ((h e he).2 e' he').resolve_left (fun hne => hne hcd)
    · exact absurd hcd (hz e he d)
    · exact absurd hcd.symm (hz e' he' c)
    · exact (List.cons.inj hcd).2
  · intro c hw
    rcases hc c with ⟨e, he, -, h1⟩ | h1 <;> rw [h1]
    · exact (h e he).1.1
    · rw [Pta.compWF_iff] at hw ⊢
      refine ⟨List.cons_ne_nil _ _, fun hm => ?_⟩
      rcases List.mem_cons.1 hm with h' | h'
      · cases h'
      · exact hw.2 h'

theorem advRen_eq : advRen = tblRen [("x".toList, "a".toList), ("y".toList, "ab".toList)] := by
  funext c
  by_cases c1 : c = "x".toList
  · rw [c1]; rfl
  · by_cases c2 : c = "y".toList
    · rw [c2]; rfl
    · have h1 : ("x".toList == c) = false := beq_false_of_ne (Ne.symm c1)
      have h2 : ("y".toList == c) = false := beq_false_of_ne (Ne.symm c2)
      simp only [advRen, tblRen, c1, c2, if_false, List.find?_cons, h1, h2, List.find?_nil]

theorem advRen_good : GoodRen advRen := advRen_eq ▸ tblRen_good _ (by decide +kernel)

def nm (s : String) : Name := splitDots s.toList
def exA : Arch :=
  { nodes := ["p", "p.x", "p.x.u", "p.y", "q"].map nm, imports := [(nm "p.x.u", nm "p.y"), (nm "p.y", nm "q"), (nm "q", nm "p.x")] }
/-- `anything` with related subjects (a module, one of its sub modules, and "sub modules of" their common parent) -/
def exR : RuleSpec :=
  { verb := .shouldNot, importDir := true, exc := false, anything := true, objects := [],
    subjects := [.named (nm "p.x"), .named (nm "p.x.u"), .subOf (nm "p")] }
/-- related subject and object, batch of objects, "be imported by" -/
def exR' : RuleSpec :=
  { verb := .shouldOnly, importDir := false, exc := false,
    subjects := [.named (nm "p.x"), .subOf (nm "p")], objects := [.named (nm "p.x.u"), .named (nm "q")] }
example : exA.wf = true ∧ ruleWF exR = true ∧ exR.strict = false ∧ ruleWF exR' = true ∧ exR'.strict = false := by decide +kernel
example : (assertApplies (fun _ _ => false) (compile exR) (archGraph exA)).2 = .fail [.imp "p.y".toList "q".toList false] ∧
    (assertApplies (fun _ _ => false) (compile (renRule advRen exR)) (archGraph (renArch advRen exA))).2 =
      .fail [.imp "zp.ab".toList "zq".toList false] := by decide +kernel
set_option maxRecDepth 8000 in
example : (assertApplies (fun _ _ => false) (compile exR') (archGraph exA)).2 =
      .fail [.miss false ⟨false, "p.x".toList⟩ [⟨false, "p.x.u".toList⟩] true] ∧
    (assertApplies (fun _ _ => false) (compile (renRule advRen exR')) (archGraph (renArch advRen exA))).2 =
      .fail [.miss false ⟨false, "zp.a".toList⟩ [⟨false, "zp.a.zu".toList⟩] true] := by decide +kernel
/-- labels: `p.ab` (renamed `p.y`) keeps its name although `p.a` (renamed `p.x`) has an alias -/
example : plotLabels (([nm "p", nm "p.x", nm "p.y", nm "p.x.u"].map (renName advRen)).map render)
      ((renAliases advRen [(nm "p.x", "A".toList)]).map fun a => (render a.1, a.2)) =
    .ok [("zp".toList, "zp".toList), ("zp.a".toList, "A".toList), ("zp.ab".toList, "zp.ab".toList), ("zp.a.zu".toList, "A.zu".toList)] := by
  rfl


/-- the generic fact: `LayerRule.assert_applies` commutes with EVERY injective map `φ` of node names that preserves the
    boundary-aware strict-sub-module test `isStrictSub x y` for `x` an identifier listed by a layer or used by the rule
    and `y` a name the graph mentions (node or edge end) or an identifier used by the rule (`subOK`) — on every graph,
    every layered architecture (regex layers contribute nothing to the mapping of a regex-free rule, on both sides) and
    every regex-free rule object. Same verdict class, same error kind (`LayerMismatch` included), same report lines in
    the same order with every module name mapped and the SAME layer tags. -/
theorem layer_model_iso (φ : Str → Str) (hφ : ∀ x y, φ x = φ y → x = y) (mt : Str → Str → Bool) (g : PGraph Str)
    (larch : LArch) (rule : RuleState) (hreg : Pta.RM.cfgNoRegex rule.cfg)
    (hsub : subOK φ (larch.listedIds ++ rule.cfg.ids) (g.names ++ rule.cfg.ids)) :
    assertAppliesLayer mt ⟨some (larch.mapIds φ), some (rule.mapId φ)⟩ (mapGraph φ g) =
      (assertAppliesLayer mt ⟨some larch, some rule⟩ g).mapId φ :=
  Pta.RL.assertAppliesLayer_map φ hφ mt g larch rule hreg hsub

/-- the mapped verdict has the class and the layer tags of the original one -/
theorem layer_mapId_cls_tags (φ : Str → Str) (v : LVerdict) : (v.mapId φ).cls = v.cls ∧ (v.mapId φ).tags = v.tags := by
  cases v with
  | fail items =>
    refine ⟨rfl, ?_⟩
    simp only [LVerdict.mapId, LVerdict.tags, List.flatMap_map]
    congr 1
    funext i
    cases i <;> rfl
  | _ => exact ⟨rfl, rfl⟩

/-- the layer mapping itself: consistency check (`LayerMismatch` for a module listed by two layers) and layer lookup
    (`get_layer_for_module_name`, with its de-duplication and its sub-module test) commute with `φ` -/
theorem layerMap_iso (φ : Str → Str) (hφ : ∀ x y, φ x = φ y → x = y) (m : LayerMap) :
    (m.mapIds φ).consistent = m.consistent ∧
    ∀ n, subOK φ m.listed [n] → (m.mapIds φ).layerOf (φ n) = m.layerOf n :=
  ⟨Pta.RL.consistent_map φ hφ m, fun n h => Pta.RL.layerOf_map φ hφ m n (fun c hc => h c hc n (by simp))⟩

/-- (4) for the component-wise renaming: for EVERY layer rule (any verb, direction, `except`, `anything`; layers may list related modules, the
    same module twice or in two layers, modules that do not exist; undefined layer names) on a well-formed architecture
    with layers listing well-formed names: the outcome on the renamed architecture with the renamed layers is the
    original outcome with every module name renamed — same class, same error kind, same layer tags -/
theorem layer_verdict_ren (mt : Str → Str → Bool) (ρ : Comp → Comp) (hρ : GoodRen ρ) (a : Arch) (hwf : a.wf = true)
    (ls : Layers) (hls : layersWF ls = true) (r : LRuleSpec) :
    assertAppliesLayer mt (compileLayerRule (compileLArch (renLayers ρ ls)) r) (archGraph (renArch ρ a)) =
      (assertAppliesLayer mt (compileLayerRule (compileLArch ls) r) (archGraph a)).mapId (renStr ρ) := by
  rw [RL.compileLArch_ren ρ ls hls, RL.compileLayerRule_map, RM.archGraph_ren hρ a hwf, RL.compileLayerRule_eq]
  obtain ⟨h1, h2⟩ := RL.layerSpec_hyps (renStr ρ) (RL.renStr_strictSub_wf hρ) a hwf ls hls r
  exact RL.assertAppliesLayer_map (renStr ρ) (RM.renStr_inj hρ) mt _ _ _ h1 h2

/-- … in particular the verdict class and the layer tags of the report are invariant -/
theorem layer_verdict_ren_cls (mt : Str → Str → Bool) (ρ : Comp → Comp) (hρ : GoodRen ρ) (a : Arch) (hwf : a.wf = true)
    (ls : Layers) (hls : layersWF ls = true) (r : LRuleSpec) :
    (assertAppliesLayer mt (compileLayerRule (compileLArch (renLayers ρ ls)) r) (archGraph (renArch ρ a))).cls =
      (assertAppliesLayer mt (compileLayerRule (compileLArch ls) r) (archGraph a)).cls ∧
    (assertAppliesLayer mt (compileLayerRule (compileLArch (renLayers ρ ls)) r) (archGraph (renArch ρ a))).tags =
      (assertAppliesLayer mt (compileLayerRule (compileLArch ls) r) (archGraph a)).tags := by
  rw [layer_verdict_ren mt ρ hρ a hwf ls hls r]
  exact layer_mapId_cls_tags _ _

theorem layer_report_names_wf (mt : Str → Str → Bool) (a : Arch) (hwf : a.wf = true) (ls : Layers)
    (hls : layersWF ls = true) (r : LRuleSpec) :
    ∀ s ∈ (assertAppliesLayer mt (compileLayerRule (compileLArch ls) r) (archGraph a)).names, nameWF (splitDots s) = true := by
  -- the model commutes with `fixW`, which fixes the layers and the graph
  obtain ⟨h1, h2⟩ := RL.layerSpec_hyps RM.fixW
    (fun x y hx hy => by rw [(RM.fixW_eq_iff x).2 hx, (RM.fixW_eq_iff y).2 hy]) a hwf ls hls r
  have h := RL.assertAppliesLayer_map RM.fixW RM.fixW_inj mt (archGraph a) (compileLArch ls) (RL.layerRuleOf (compileLArch ls) r) h1 h2
  change assertAppliesLayer mt ((compileLayerRule (compileLArch ls) r).mapId RM.fixW) _ = _ at h
  rw [← RL.compileLayerRule_map, RL.compileLArch_fix ls hls, RM.archGraph_fix a hwf] at h
  intro s hs
  exact (RM.fixW_eq_iff s).1 ((RL.lverdict_mapId_eq RM.fixW id _).1 (h.symm.trans (RL.lverdict_mapId_id _).symm) s hs)

/-- … with the plain component-wise renaming `renDotted ρ` of the report: every module name in a layer report is a
    well-formed dotted name (`layer_report_names_wf`) -/
theorem layer_report_ren (mt : Str → Str → Bool) (ρ : Comp → Comp) (hρ : GoodRen ρ) (a : Arch) (hwf : a.wf = true)
    (ls : Layers) (hls : layersWF ls = true) (r : LRuleSpec) :
    assertAppliesLayer mt (compileLayerRule (compileLArch (renLayers ρ ls)) r) (archGraph (renArch ρ a)) =
      (assertAppliesLayer mt (compileLayerRule (compileLArch ls) r) (archGraph a)).mapId (renDotted ρ) := by
  rw [layer_verdict_ren mt ρ hρ a hwf ls hls r]
  exact (RL.lverdict_mapId_eq _ _ _).2 fun s hs =>
    RM.renStr_eq_renDotted ρ s (layer_report_names_wf mt a hwf ls hls r s hs)

/-- `layer_model_iso` for an arbitrary state of the `LayerRule` builder (no rule yet, no architecture yet) -/
theorem layer_model_iso_state (φ : Str → Str) (hφ : ∀ x y, φ x = φ y → x = y) (mt : Str → Str → Bool) (g : PGraph Str)
    (s : LayerRuleState)
    (h : ∀ a r, s.arch = some a → s.rule = some r →
      Pta.RM.cfgNoRegex r.cfg ∧ subOK φ (a.listedIds ++ r.cfg.ids) (g.names ++ r.cfg.ids)) :
    assertAppliesLayer mt (s.mapId φ) (mapGraph φ g) = (assertAppliesLayer mt s g).mapId φ := by
  obtain ⟨arch, rule⟩ := s
  cases rule with
  | none => rfl
  | some r =>
    cases arch with
    | none => rfl
    | some a =>
      obtain ⟨h1, h2⟩ := h a r rfl rfl
      exact layer_model_iso φ hφ mt g a r h1 h2

/-- (a) `MultipleRuleApplier.assert_applies` on the mapped graph with the mapped generated rules: the mapped outcome,
    exactly (rule by rule from `model_iso`) -/
theorem diagram_rules_iso (φ : Str → Str) (hφ : ∀ x y, φ x = φ y → x = y) (mt : Str → Str → Bool) (g : PGraph Str)
    (so : Bool) (p : Parsed') :
    applyAll mt (mapGraph φ g) ((diagramRules so p).map (RuleState.mapId φ)) = (applyAll mt g (diagramRules so p)).mapId φ :=
  Pta.RD.applyAll_map φ hφ mt g _ (Pta.RD.diagramRules_ok φ so p)

/-- (b) the rules generated for the mapped diagram: the mapped "should" rules in the same order, followed by a
    PERMUTATION of the mapped "should not" rules, each with its object list permuted (`sorted(...)` sorts the mapped
    names, so neither order is preserved in general — see the example below) -/
theorem diagram_rules_shape (φ : Str → Str) (hφ : ∀ x y, φ x = φ y → x = y) (so : Bool) (p : Parsed') :
    ∃ A B B' B'', diagramRules so p = A ++ B ∧ diagramRules so (p.mapNames φ) = A.map (RuleState.mapId φ) ++ B' ∧
      B'.Perm B'' ∧ Forall2 SNPerm B'' (B.map (RuleState.mapId φ)) := by
  obtain ⟨B', B'', h1, h2, h3⟩ := Pta.RD.diagramRules_mapNames φ hφ so p
  exact ⟨_, _, B', B'', Pta.Dg.diagramRules_eq so p, h1, h2, h3⟩

/-- (5), generic: a diagram rule commutes with EVERY injective map of node names — no hypothesis on the graph or on
    the parser result: same verdict class (same error kind), and the report items are the mapped items as a multiset
    (neither the order of the "should not" rules nor the order of their objects matters) -/
theorem diagram_model_iso (φ : Str → Str) (hφ : ∀ x y, φ x = φ y → x = y) (mt : Str → Str → Bool) (g : PGraph Str)
    (so : Bool) (p : Parsed') :
    (applyAll mt (mapGraph φ g) (diagramRules so (p.mapNames φ))).cls = (applyAll mt g (diagramRules so p)).cls ∧
    (applyAll mt (mapGraph φ g) (diagramRules so (p.mapNames φ))).items.Perm
      ((applyAll mt g (diagramRules so p)).items.map (Item.mapId φ)) := by
  obtain ⟨B', B'', hshape, hperm, hf2⟩ := RD.diagramRules_mapNames φ hφ so p
  have hexact := RD.applyAll_map φ hφ mt g (diagramRules so p) (RD.diagramRules_ok φ so p)
  rw [Dg.diagramRules_eq so p, List.map_append] at hexact
  obtain ⟨hve, hu⟩ := RD.forall2_snPerm mt (mapGraph φ g) hf2
  obtain ⟨c1, c2⟩ := Dg.applyAll_views mt (mapGraph φ g) _ B' _
    ((Dg.Views.of_perm .lookupError (hperm.map _) hu).trans (Dg.Views.of_forall2 hve))
  rw [hexact, RD.items_mapId, ← Dg.diagramRules_eq] at c2
  rw [hshape, c1, hexact, RD.cls_mapId, ← Dg.diagramRules_eq]
  exact ⟨rfl, c2⟩

/-- (5) for the component-wise renaming, any parser result -/
theorem diagram_verdict_ren (mt : Str → Str → Bool) (ρ : Comp → Comp) (hρ : GoodRen ρ) (a : Arch) (hwf : a.wf = true)
    (so : Bool) (p : Parsed') :
    (applyAll mt (archGraph (renArch ρ a)) (diagramRules so (p.mapNames (renStr ρ)))).cls =
      (applyAll mt (archGraph a) (diagramRules so p)).cls ∧
    (applyAll mt (archGraph (renArch ρ a)) (diagramRules so (p.mapNames (renStr ρ)))).items.Perm
      ((applyAll mt (archGraph a) (diagramRules so p)).items.map (Item.mapId (renStr ρ))) := by
  rw [graph_ren ρ hρ a hwf]
  exact diagram_model_iso (renStr ρ) (RM.renStr_inj hρ) mt (archGraph a) so p

theorem parsedOf_ren (ρ : Comp → Comp) (hρ : GoodRen ρ) (d : Diagram) (hd : specDiagramWF d = true) :
    parsedOf (renDiagram ρ d) = (parsedOf d).mapNames (renStr ρ) := by
  obtain ⟨hc, ha⟩ := (RD.specDiagramWF_iff d).1 hd
  exact Dg.parsedOf_map _ (RM.renStr_inj hρ) (renName ρ) d (fun c h => (RM.renStr_render ρ c (hc c h)).symm)
    fun e h => ⟨(RM.renStr_render ρ _ (ha e h).1).symm, (RM.renStr_render ρ _ (ha e h).2).symm⟩


/-- … and for a specification-level diagram with an optional base module (`with_base_module`): what
    `DiagramRule.assert_applies` evaluates for the renamed diagram and the renamed base module on the renamed
    architecture (`parsedOf (renDiagram ρ d) = (parsedOf d).mapNames (renStr ρ)`, `parsedOf_ren`) -/
theorem diagram_spec_ren (mt : Str → Str → Bool) (ρ : Comp → Comp) (hρ : GoodRen ρ) (a : Arch) (hwf : a.wf = true)
    (so : Bool) (d : Diagram) (hd : specDiagramWF d = true) (base : Option Name) (hb : ∀ q, base = some q → nameWF q = true) :
    (applyAll mt (archGraph (renArch ρ a))
        (diagramRules so (prefixParsed (parsedOf (renDiagram ρ d)) ((base.map (renName ρ)).map render)))).cls =
      (applyAll mt (archGraph a) (diagramRules so (prefixParsed (parsedOf d) (base.map render)))).cls ∧
    (applyAll mt (archGraph (renArch ρ a))
        (diagramRules so (prefixParsed (parsedOf (renDiagram ρ d)) ((base.map (renName ρ)).map render)))).items.Perm
      ((applyAll mt (archGraph a) (diagramRules so (prefixParsed (parsedOf d) (base.map render)))).items.map
        (Item.mapId (renStr ρ))) := by
  have hb' : ∀ q, base.map (renName ρ) = some q → nameWF q = true := by
    intro q hq
    obtain ⟨q0, rfl, rfl⟩ := Option.map_eq_some_iff.1 hq
    exact Ren.nameWF_ren hρ (hb q0 rfl)
  rw [RD.prefixParsed_withBase _ _ hb' (RD.specDiagramWF_ren hρ d hd), RD.prefixParsed_withBase _ _ hb hd, RD.withBase_ren,
    parsedOf_ren ρ hρ _ (RD.withBase_wf base d hb hd)]
  exact diagram_verdict_ren mt ρ hρ a hwf so _

/-! ### non-vacuity of (4) and (5): the adversarial renaming, layer tags, `LayerMismatch`, reordered diagram rules -/

/-- three layers listing `p.x`, its sibling `p.y` (renamed to `zp.a` and `zp.ab`: a raw string prefix) and `q` -/
def exLs : Layers := [("L1".toList, [nm "p.x"]), ("L2".toList, [nm "p.y"]), ("L3".toList, [nm "q"])]
/-- "L1 should not access L2" — violated by `p.x.u → p.y` -/
def exLR : LRuleSpec := { verb := .shouldNot, importDir := true, exc := false, subject := "L1".toList, objects := ["L2".toList] }
/-- "L1 should only be accessed by L2" — `q → p.x` is forbidden and no module of L2 imports one of L1 -/
def exLR' : LRuleSpec := { verb := .shouldOnly, importDir := false, exc := false, subject := "L1".toList, objects := ["L2".toList] }
/-- related layer modules: `p.x.u` lies below `p` (L1) and below `p.x` (L2) -/
def exLs2 : Layers := [("L1".toList, [nm "p"]), ("L2".toList, [nm "p.x"]), ("L3".toList, [nm "q"])]
def exLR2 : LRuleSpec := { verb := .shouldNot, importDir := true, exc := false, subject := "L2".toList, objects := ["L1".toList] }

example : exA.wf = true ∧ layersWF exLs = true ∧ layersWF exLs2 = true := by decide +kernel

set_option maxRecDepth 8000 in
/-- a report line with layer tags: the sibling `zp.ab` of `zp.a` is attributed to L2, not to L1, and the line is kept -/
example :
    assertAppliesLayer (fun _ _ => false) (compileLayerRule (compileLArch exLs) exLR) (archGraph exA) =
      .fail [.imp "p.x.u".toList "p.y".toList false (some "L1".toList) (some "L2".toList)] ∧
    assertAppliesLayer (fun _ _ => false) (compileLayerRule (compileLArch (renLayers advRen exLs)) exLR)
        (archGraph (renArch advRen exA)) =
      .fail [.imp "zp.a.zu".toList "zp.ab".toList false (some "L1".toList) (some "L2".toList)] := by decide +kernel

set_option maxRecDepth 8000 in
/-- an import line and a layer-level "is not imported by" line -/
example :
    assertAppliesLayer (fun _ _ => false) (compileLayerRule (compileLArch exLs) exLR') (archGraph exA) =
      .fail [.imp "q".toList "p.x".toList true (some "L3".toList) (some "L1".toList),
             .miss false (some "L1".toList) [some "L2".toList] true] ∧
    assertAppliesLayer (fun _ _ => false) (compileLayerRule (compileLArch (renLayers advRen exLs)) exLR')
        (archGraph (renArch advRen exA)) =
      .fail [.imp "zq".toList "zp.a".toList true (some "L3".toList) (some "L1".toList),
             .miss false (some "L1".toList) [some "L2".toList] true] := by decide +kernel

set_option maxRecDepth 8000 in
/-- `LayerMismatch` (a module below listed modules of two layers) is preserved -/
example :
    assertAppliesLayer (fun _ _ => false) (compileLayerRule (compileLArch exLs2) exLR2) (archGraph exA) = .err .layerMismatch ∧
    assertAppliesLayer (fun _ _ => false) (compileLayerRule (compileLArch (renLayers advRen exLs2)) exLR2)
        (archGraph (renArch advRen exA)) = .err .layerMismatch := by decide +kernel

set_option maxRecDepth 8000 in
/-- the hypotheses of the generic `layer_model_iso` are met by the adversarial renaming on this instance -/
example :
    let rule := mkRule false false true true false [.name "p.x".toList] [.name "p.y".toList]
    Pta.RM.cfgNoRegex rule.cfg ∧
    subOK (renStr advRen) ((compileLArch exLs).listedIds ++ rule.cfg.ids) ((archGraph exA).names ++ rule.cfg.ids) :=
  ⟨Pta.RL.cfgNoRegex_of_check _ (by decide +kernel), Pta.RL.subOK_of_check _ _ _ (by decide +kernel)⟩

/-- an architecture and a diagram over top-level modules whose sorted order changes under the adversarial renaming
    (`q < x < y` but `a < ab < zq`) -/
def exB : Arch := { nodes := ["q", "x", "x.u", "y"].map nm, imports := [(nm "x.u", nm "y"), (nm "y", nm "q"), (nm "q", nm "x")] }
def exD : Diagram := { components := [nm "q", nm "x", nm "y"], arrows := [(nm "x", nm "y")] }

example : exB.wf = true ∧ specDiagramWF exD = true := by decide +kernel

set_option maxRecDepth 8000 in
/-- the generated "should not" rules are evaluated in a different order after the renaming, so the report lines come in
    a different order: `diagram_model_iso` cannot be an equality of lists -/
example :
    (applyAll (fun _ _ => false) (archGraph exB) (diagramRules false (parsedOf exD))).items =
      [.imp "q".toList "x".toList false, .imp "y".toList "q".toList false] ∧
    (applyAll (fun _ _ => false) (archGraph (renArch advRen exB)) (diagramRules false (parsedOf (renDiagram advRen exD)))).items =
      [.imp "ab".toList "zq".toList false, .imp "zq".toList "a".toList false] := by decide +kernel


/-- `diagram_model_iso` only asks for an injective map; the guarded string renaming is one -/
example : ∀ x y, renStr advRen x = renStr advRen y → x = y := (renStr_agrees advRen advRen_good).2.2

/-- a diagram drawn below the base module `p` (`with_base_module("p")`) without arrows: `p.x` must not import `p.y` -/
def exD' : Diagram := { components := [nm "x", nm "y"], arrows := [] }

example : specDiagramWF exD' = true ∧ ∀ q, some (nm "p") = some q → nameWF q = true :=
  ⟨by decide +kernel, fun q h => by cases h; decide +kernel⟩

set_option maxRecDepth 8000 in
example :
    (applyAll (fun _ _ => false) (archGraph exA)
      (diagramRules false (prefixParsed (parsedOf exD') ((some (nm "p")).map render)))).items =
      [.imp "p.x.u".toList "p.y".toList false] ∧
    (applyAll (fun _ _ => false) (archGraph (renArch advRen exA))
      (diagramRules false (prefixParsed (parsedOf (renDiagram advRen exD')) (((some (nm "p")).map (renName advRen)).map render)))).items =
      [.imp "zp.a.zu".toList "zp.ab".toList false] := by decide +kernel

end Pta.C14
