/-
  PtaProofs.Props.C15Hist — property C15 as a statement about HISTORIES (Bridge/History.lean).

  A `World` holds any number of `Rule`, `LayerRule` and `DiagramRule` objects and any number of evaluable architectures;
  an event `Ev` is one call `object_i.assert_applies(architecture_j)`; `step` makes the call with the model's functions
  and writes the object the call leaves behind (`Rule._configuration` is rewritten in place by `_convert_aliases`) back
  into its slot, so that later events see the rewritten object. Proved, for every world and every history: the
  architectures are untouched; the outcome of an event (pass / the literal message lines / the exception) after the history
  is its outcome in the initial world, whatever was evaluated before, how often, on which architectures; so the multiset
  of (event, outcome) pairs is invariant under permuting the history; and the objects left behind have a closed form (an
  object called at least once is in `_convert_aliases`-normal form, all others are untouched) that does not depend on the
  order either.

  The invariant is `World.Equiv` (slot-wise the same normal form): `rule_equiv_congr` / `layer_rule_equiv_congr` show that
  equivalent objects cannot be told apart by `assert_applies` on ANY graph, `rule_step_equiv` / `layer_rule_step_equiv`
  that a call stays inside the class. No counterexample: the statement holds for all three object kinds.
-/
import Bridge.History
import PtaProofs.Lemmas.History
namespace Pta.C15

/-- what `Rule.assert_applies` leaves behind is the normal form of the rule object, whatever the architecture -/
theorem rule_step_normalForm (mt : Str → Str → Bool) (r : RuleState) (g : PGraph Str) :
    (assertAppliesText mt r g).1 = r.normalForm :=
  Pta.History.assertAppliesText_fst mt r g

/-- a call stays inside the equivalence class of the object -/
theorem rule_step_equiv (mt : Str → Str → Bool) (r : RuleState) (g : PGraph Str) :
    (assertAppliesText mt r g).1.Equiv r :=
  Pta.History.assertAppliesText_equiv mt r g

/-- equivalent rule objects (same `_convert_aliases`-normal form) give the same outcome with the same message lines on
    every graph -/
theorem rule_equiv_congr (mt : Str → Str → Bool) (r r' : RuleState) (h : r.Equiv r') (g : PGraph Str) :
    (assertAppliesText mt r g).2 = (assertAppliesText mt r' g).2 :=
  Pta.History.assertAppliesText_congr mt r r' h g

/-- the state-returning `LayerRule.assert_applies` of Bridge/History.lean has the model's `assertAppliesLayerText` as
    its outcome (by definition) and the normal form as its state -/
theorem layer_rule_step (mt : Str → Str → Bool) (s : LayerRuleState) (g : PGraph Str) :
    (s.assertAppliesTextSt mt g).2 = assertAppliesLayerText mt s g ∧ (s.assertAppliesTextSt mt g).1 = s.normalForm :=
  ⟨rfl, Pta.History.assertAppliesTextSt_fst mt s g⟩

theorem layer_rule_step_equiv (mt : Str → Str → Bool) (s : LayerRuleState) (g : PGraph Str) :
    (s.assertAppliesTextSt mt g).1.Equiv s := by
  unfold LayerRuleState.Equiv
  rw [Pta.History.assertAppliesTextSt_fst, Pta.History.layer_normalForm_idem]

theorem layer_rule_equiv_congr (mt : Str → Str → Bool) (s s' : LayerRuleState) (h : s.Equiv s') (g : PGraph Str) :
    assertAppliesLayerText mt s g = assertAppliesLayerText mt s' g :=
  Pta.History.assertAppliesLayerText_congr mt s s' h g

/-- every history stays inside the equivalence class of the initial world … -/
theorem history_equiv (mt : Str → Str → Bool) (w : World) (h : List Ev) : (exec mt w h).Equiv w := by
  rw [World.Equiv, History.exec_eq_after, History.after_normalForm]

/-- … and equivalent worlds give every event the same outcome -/
theorem world_equiv_congr (mt : Str → Str → Bool) (w w' : World) (h : w.Equiv w') (e : Ev) :
    outcomeIn mt w e = outcomeIn mt w' e :=
  Pta.History.step_outcome_congr mt w w' h e

/-- after any history the list of architectures is literally the same -/
theorem history_archs_unchanged (mt : Str → Str → Bool) (w : World) (h : List Ev) : (exec mt w h).archs = w.archs := by
  rw [History.exec_eq_after]
  rfl

/-- … and so is the list of diagram-rule objects -/
theorem history_diagram_rules_unchanged (mt : Str → Str → Bool) (w : World) (h : List Ev) :
    (exec mt w h).diagramRules = w.diagramRules := by
  rw [History.exec_eq_after]
  rfl

/-- for EVERY history `h` and event `e`: the outcome of `e` after `h` — verdict, message lines, exception — is the
    outcome of `e` in the initial world -/
theorem history_outcome_fresh (mt : Str → Str → Bool) (w : World) (h : List Ev) (e : Ev) :
    outcomeIn mt (exec mt w h) e = outcomeIn mt w e :=
  History.step_outcome_congr mt _ _ (history_equiv mt w h) e

/-- the outcomes of a history are the outcomes of its events in the initial world -/
theorem history_outcomes (mt : Str → Str → Bool) (w : World) (h : List Ev) : run mt w h = h.map (outcomeIn mt w) :=
  Pta.History.run_eq_map mt w h

/-- what "the outcome in the initial world" is, for the three kinds of event with both indices in range: the model's
    function applied to the INITIAL object in slot `i` and architecture `j` -/
theorem outcome_initial (mt : Str → Str → Bool) (w : World) (i j : Nat) (g : PGraph Str) (hg : w.archs[j]? = some g) :
    (∀ r, w.rules[i]? = some r → outcomeIn mt w (.rule i j) = .rule (assertAppliesText mt r g).2) ∧
    (∀ s, w.layerRules[i]? = some s → outcomeIn mt w (.layerRule i j) = .layerRule (assertAppliesLayerText mt s g)) ∧
    (∀ d, w.diagramRules[i]? = some d →
      outcomeIn mt w (.diagramRule i j) = .diagramRule (d.assertApplies mt g) (d.assertAppliesText mt g)) :=
  ⟨fun r hr => by simp only [outcomeIn, step, hr, hg],
   fun s hs => by simp only [outcomeIn, step, hs, hg, History.assertAppliesTextSt_snd],
   fun d hd => by simp only [outcomeIn, step, hd, hg]⟩

/-- in particular: whatever was evaluated before, rule object `i` applied to architecture `j` gives what the rule object
    ORIGINALLY in slot `i` gives on that architecture (the general form of `report_reapply`) -/
theorem history_rule_outcome (mt : Str → Str → Bool) (w : World) (h : List Ev) (i j : Nat) (r : RuleState) (g : PGraph Str)
    (hr : w.rules[i]? = some r) (hg : w.archs[j]? = some g) :
    outcomeIn mt (exec mt w h) (.rule i j) = .rule (assertAppliesText mt r g).2 := by
  rw [history_outcome_fresh]
  exact (outcome_initial mt w i j g hg).1 r hr

theorem history_layer_rule_outcome (mt : Str → Str → Bool) (w : World) (h : List Ev) (i j : Nat) (s : LayerRuleState)
    (g : PGraph Str) (hs : w.layerRules[i]? = some s) (hg : w.archs[j]? = some g) :
    outcomeIn mt (exec mt w h) (.layerRule i j) = .layerRule (assertAppliesLayerText mt s g) := by
  rw [history_outcome_fresh]
  exact (outcome_initial mt w i j g hg).2.1 s hs

/-- the multiset of (event, outcome) pairs of a history is invariant under permuting the history -/
theorem history_perm (mt : Str → Str → Bool) (w : World) (h h' : List Ev) (hp : h.Perm h') :
    (trace mt w h).Perm (trace mt w h') := by
  rw [History.trace_eq_map, History.trace_eq_map]
  exact hp.map _

/-- the world a history leaves behind, in closed form (`World.after`): a rule / layer-rule object that was called at
    least once (with both indices in range) is in normal form, every other object and every architecture is untouched -/
theorem history_final (mt : Str → Str → Bool) (w : World) (h : List Ev) : exec mt w h = w.after h :=
  History.exec_eq_after mt w h

/-- hence the objects left behind do not depend on the order of the events either -/
theorem history_final_perm (mt : Str → Str → Bool) (w : World) (h h' : List Ev) (hp : h.Perm h') :
    exec mt w h = exec mt w h' := by
  rw [history_final, history_final, History.after_perm w h h' hp]

namespace HEx
def S (s : String) : Str := s.toList
/-- no regex engine needed -/
def mt : Str → Str → Bool := fun _ _ => false
/-- architecture 0 has `p.a.zz`, which imports `q`; architecture 1 has no `p.a.zz` and no import -/
def g0 : PGraph Str := buildGraph [S "p", S "p.a", S "p.a.zz", S "q"] [absImport (S "p.a.zz") (S "q")] none
def g1 : PGraph Str := buildGraph [S "p", S "p.a", S "q"] [] none
/-- `[p.a, p.a.zz] should not import anything`: the first application rewrites the object (alias conversion drops
    `p.a.zz` in favour of `p.a` and remembers it) -/
def rAny : RuleState :=
  { cfg := { subjects := some [.name (S "p.a"), .name (S "p.a.zz")], shouldNot := true, importDir := some true,
             anything := true }, next := some false }
/-- `p.a should import q` -/
def rShould : RuleState := mkRule true false false true false [.name (S "p.a")] [.name (S "q")]
def la : LArch := [(S "A", [.name (S "p.a")]), (S "B", [.name (S "q")])]
/-- `layers that are named A should not access any layer` (again an alias that the first application rewrites) -/
def lAny : LayerRuleState :=
  { arch := some la,
    rule := some { cfg := { subjects := some [.name (S "p.a")], shouldNot := true, importDir := some true, anything := true },
                   next := some false } }
def w0 : World := { rules := [rAny, rShould], layerRules := [lAny], archs := [g0, g1] }
/-- six calls: the `anything` rule on both architectures and once more on the first, the layer rule twice -/
def h6 : List Ev := [.rule 0 0, .rule 0 1, .layerRule 0 0, .rule 1 1, .rule 0 0, .layerRule 0 0]
/-- the same calls in another order -/
def h6' : List Ev := [.layerRule 0 0, .rule 0 0, .rule 1 1, .layerRule 0 0, .rule 0 1, .rule 0 0]
end HEx

set_option maxRecDepth 20000 in
/-- the outcomes of the six calls, computed by running the machine (the world threaded through) -/
example : run HEx.mt HEx.w0 HEx.h6 =
    [.rule (.fail [HEx.S "\"p.a.zz\" imports \"q\"."]),
     .rule (.err .lookupError),
     .layerRule (.fail [HEx.S "\"p.a.zz\" (layer \"A\") imports \"q\" (layer \"B\")."]),
     .rule (.fail [HEx.S "\"p.a\" does not import \"q\"."]),
     .rule (.fail [HEx.S "\"p.a.zz\" imports \"q\"."]),
     .layerRule (.fail [HEx.S "\"p.a.zz\" (layer \"A\") imports \"q\" (layer \"B\")."])] := by decide +kernel

set_option maxRecDepth 20000 in
/-- the history is not a no-op on the objects: slot 0 of the rules was rewritten (so the later events really ran on the
    rewritten object), slot 1 was not; the layer rule's embedded rule was rewritten as well -/
example : (exec HEx.mt HEx.w0 HEx.h6).rules =
    [{ cfg := { subjects := some [.name (HEx.S "p.a")], objects := some [.name (HEx.S "p.a")], shouldNot := true,
                exceptPresent := true, importDir := some true, dropped := [.name (HEx.S "p.a.zz")] }, next := some false },
     HEx.rShould] ∧
    (exec HEx.mt HEx.w0 HEx.h6).rules ≠ HEx.w0.rules ∧
    (exec HEx.mt HEx.w0 HEx.h6).layerRules.map (·.rule) =
      [some { cfg := { subjects := some [.name (HEx.S "p.a")], objects := some [.name (HEx.S "p.a")], shouldNot := true,
                       exceptPresent := true, importDir := some true }, next := some false }] := by decide +kernel

/-- the hypothesis of `history_perm` / `history_final_perm` on the two orders -/
example : HEx.h6.Perm HEx.h6' := by decide

example : (trace HEx.mt HEx.w0 HEx.h6).Perm (trace HEx.mt HEx.w0 HEx.h6') ∧
    exec HEx.mt HEx.w0 HEx.h6 = exec HEx.mt HEx.w0 HEx.h6' ∧ (exec HEx.mt HEx.w0 HEx.h6).archs = [HEx.g0, HEx.g1] :=
  ⟨history_perm _ _ _ _ (by decide), history_final_perm _ _ _ _ (by decide), history_archs_unchanged _ _ _⟩

set_option maxRecDepth 20000 in
/-- the outcomes in the other order, again by running the machine: each event has the outcome it had above -/
example : run HEx.mt HEx.w0 HEx.h6' =
    [.layerRule (.fail [HEx.S "\"p.a.zz\" (layer \"A\") imports \"q\" (layer \"B\")."]),
     .rule (.fail [HEx.S "\"p.a.zz\" imports \"q\"."]),
     .rule (.fail [HEx.S "\"p.a\" does not import \"q\"."]),
     .layerRule (.fail [HEx.S "\"p.a.zz\" (layer \"A\") imports \"q\" (layer \"B\")."]),
     .rule (.err .lookupError),
     .rule (.fail [HEx.S "\"p.a.zz\" imports \"q\"."])] := by decide +kernel

set_option maxRecDepth 20000 in
/-- indices out of range (no rule object 2, no architecture 5, no diagram rule at all): no call, outcome `none`, and the
    calls around them are not affected -/
example : run HEx.mt HEx.w0 [.rule 2 0, .rule 0 1, .rule 0 5, .diagramRule 0 0, .rule 0 1] =
    [.none, .rule (.err .lookupError), .none, .none, .rule (.err .lookupError)] := by decide +kernel

namespace HEx
/-- a diagram rule object (`a --> b` under the prefix `p`, i.e. `p.a should import p.b` and `p.b should not import p.a`) -/
def dRule : DiagramRuleState :=
  { file := some (S "@startuml\n[a] --> [b]\n@enduml"), base := some (S "p"), shouldOnly := false }
def g2 : PGraph Str := buildGraph [S "p", S "p.a", S "p.b"] [absImport (S "p.b") (S "p.a")] none
def w1 : World := { rules := [rAny], diagramRules := [dRule], archs := [g2, g0] }
end HEx

/-- a diagram rule around an application of a rule object: the same items and the same text both times (`decide +kernel`
    as for the other diagram examples of the project: `pumlParse` is too slow for the elaborator's evaluator) -/
example : run HEx.mt HEx.w1 [.diagramRule 0 0, .rule 0 1, .diagramRule 0 0] =
    [.diagramRule (.fail [.miss false ⟨false, HEx.S "p.a"⟩ [⟨false, HEx.S "p.b"⟩] false, .imp (HEx.S "p.b") (HEx.S "p.a") false])
       (.fail (HEx.S "\"p.a\" does not import \"p.b\".\n\"p.b\" imports \"p.a\".")),
     .rule (.fail [HEx.S "\"p.a.zz\" imports \"q\"."]),
     .diagramRule (.fail [.miss false ⟨false, HEx.S "p.a"⟩ [⟨false, HEx.S "p.b"⟩] false, .imp (HEx.S "p.b") (HEx.S "p.a") false])
       (.fail (HEx.S "\"p.a\" does not import \"p.b\".\n\"p.b\" imports \"p.a\"."))] := by decide +kernel

end Pta.C15
