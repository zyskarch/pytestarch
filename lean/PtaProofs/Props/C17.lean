/-
  PtaProofs.Props.C17 — plot labels (property C17): every module is labelled exactly once, the nearest
  aliased ancestor-or-self (by whole dotted components) is replaced by its alias, an alias for a module
  that does not exist is rejected naming it, other drawing options pass through.
-/
import Bridge.Abs
import PtaProofs.Lemmas.GlobLabel
import PtaProofs.Lemmas.KwargsOrder
namespace Pta.C17
open PtaSpec

/-- labels computed by the code = documented labelling, for all well-formed module names and alias maps -/
theorem labels_spec (nodes : List Name) (al : Aliases)
    (hn : ∀ n ∈ nodes, nameWF n = true) (hk : (al.map (·.1)).Nodup) (hex : ∀ a ∈ al, a.1 ∈ nodes) :
    plotLabels (nodes.map render) (al.map fun a => (render a.1, a.2)) =
      .ok (nodes.map fun n => (render n, PtaSpec.label al n)) :=
  Pta.labels_spec_lemma nodes al hn hk hex

/-- every module is labelled exactly once, in module order -/
theorem labels_cover (nodes : List Str) (aliases : List (Str × Str)) (ls : List (Str × Str))
    (h : plotLabels nodes aliases = .ok ls) : ls.map (·.1) = nodes := by
  rcases Pta.plotLabels_cases nodes aliases with ⟨_, e⟩ | ⟨_, _, _, e⟩ <;> cases e.symm.trans h
  simp [List.map_map, Function.comp_def]

/-- an alias for a module that does not exist is rejected with an error naming such a module -/
theorem unknown_alias (nodes : List Str) (aliases : List (Str × Str)) (h : ∃ a ∈ aliases, a.1 ∉ nodes) :
    ∃ who, plotLabels nodes aliases = .error (.lookupError, who) ∧ who ∉ nodes ∧ who ∈ aliases.map (·.1) := by
  rcases Pta.plotLabels_cases nodes aliases with ⟨hall, _⟩ | ⟨a, ha, hn, e⟩
  · obtain ⟨a, ha, hn⟩ := h
    exact absurd (hall a ha) hn
  · exact ⟨a.1, e, hn, List.mem_map_of_mem ha⟩

/-- remaining drawing options are handed to the backend unchanged — key AND value (`KwArg.other k v`: the keyword `k` with
    an opaque token `v` for its value); `spacing` / `aliases` are consumed -/
theorem kwargs_passthrough (kw : List KwArg) (k v : Str) :
    (KwArg.other k v ∈ drawKwargs kw ↔ KwArg.other k v ∈ kw) ∧ KwArg.spacing ∉ drawKwargs kw ∧ KwArg.aliases ∉ drawKwargs kw ∧
    (KwArg.spacing ∈ kw → KwArg.pos ∈ drawKwargs kw) ∧ (KwArg.aliases ∈ kw → KwArg.labels ∈ drawKwargs kw) := by
  rw [drawKwargs_shape]
  by_cases h1 : KwArg.spacing ∈ kw <;> by_cases h2 : KwArg.aliases ∈ kw <;> simp [h1, h2, List.mem_filter, KwArg.kept]

/-- audit finding F12 — order and values: the (key, value) pairs of the remaining options reach the backend in the SAME
    ORDER, with the same values and multiplicities (`kwargs` is an insertion-ordered dict; `pair?` reads the pair of an
    `other` keyword) -/
theorem kwargs_passthrough_ordered (kw : List KwArg) :
    (drawKwargs kw).filterMap KwArg.pair? = kw.filterMap KwArg.pair? := by
  rw [drawKwargs_shape]
  simp only [List.filterMap_append, filterMap_pair_kept]
  split <;> split <;> simp [KwArg.pair?]

/-- … and the exact argument list: the given keywords without `spacing` / `aliases`, in their order, followed by `pos`
    iff `spacing` was given and then by `labels` iff `aliases` was given (`spacing` / `aliases` are consumed and REPLACED) -/
theorem kwargs_exact (kw : List KwArg) :
    drawKwargs kw = kw.filter KwArg.kept ++ (if KwArg.spacing ∈ kw then [KwArg.pos] else []) ++
      (if KwArg.aliases ∈ kw then [KwArg.labels] else []) :=
  Pta.drawKwargs_shape kw

/-! non-vacuity: `draw(node_size=7, spacing=…, ax=AX, aliases=…, node_size'=8)` -/
example : drawKwargs [.other "node_size".toList "7".toList, .spacing, .other "ax".toList "AX".toList, .aliases,
      .other "with_labels".toList "True".toList] =
    [.other "node_size".toList "7".toList, .other "ax".toList "AX".toList, .other "with_labels".toList "True".toList,
     .pos, .labels] := by decide +kernel
example : (drawKwargs [.other "a".toList "1".toList, .aliases, .other "b".toList "2".toList]).filterMap KwArg.pair? =
    [("a".toList, "1".toList), ("b".toList, "2".toList)] := by decide +kernel

/-! non-vacuity: `p.ab` keeps its name although `p.a` has an alias -/
example : plotLabels ["p".toList, "p.a".toList, "p.ab".toList, "p.a.x".toList] [("p.a".toList, "A".toList)]
    = .ok [("p".toList, "p".toList), ("p.a".toList, "A".toList), ("p.ab".toList, "p.ab".toList), ("p.a.x".toList, "A.x".toList)] := by
  rfl

end Pta.C17
