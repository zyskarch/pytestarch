/-
  PtaProofs.Props.C10 — external-library options affect only external modules, never internal ones (property C10).

  The property is relational: two runs of `generateGraph` (PtaModel/Scan.lean) on the same tree that differ only in
  `excludeExternal` / `externalExclusions` produce graphs with the same internal part, for EVERY level limit and
  without any well-formedness assumption on the names.  Vocabulary (`internalNodes`, `internalImports`,
  `internalHier`, `retained`, `withParents`, `ScanOptions.admissible`) is in Bridge/ExtAbs.lean.
-/
import Bridge.ExtAbs
import PtaProofs.Lemmas.ExtScan
import PtaProofs.Lemmas.ExtLimit
import PtaProofs.Lemmas.Str
namespace Pta.C10

/-- MAIN: external options never add, remove or alter anything internal.  For option records that agree on
    `exclusions` and `levelLimit` (and differ arbitrarily in `excludeExternal` / `externalExclusions`), successful
    scans have the same internal nodes, the same import edges among internal nodes and the same hierarchy edges
    among internal nodes (same members; list order is not specified by the library). -/
theorem internal_invariant (mt : Str → Str → Bool) (base rootName : Str) (mp : List Str) (entries : List Entry)
    (o o' : ScanOptions) (hex : o.exclusions = o'.exclusions) (hlim : o.levelLimit = o'.levelLimit)
    (g g' : PGraph Str)
    (h : generateGraph mt base rootName mp entries o = .ok g)
    (h' : generateGraph mt base rootName mp entries o' = .ok g') :
    (∀ s, s ∈ internalNodes (internalPrefix rootName mp) g ↔ s ∈ internalNodes (internalPrefix rootName mp) g') ∧
    (∀ p, p ∈ internalImports (internalPrefix rootName mp) g ↔ p ∈ internalImports (internalPrefix rootName mp) g') ∧
    (∀ p, p ∈ internalHier (internalPrefix rootName mp) g ↔ p ∈ internalHier (internalPrefix rootName mp) g') :=
  (Pta.ExtScan.internal_invariant_lemma mt base rootName mp entries o o' hex hlim).2 g g' h h'

/-- the same, as equality up to order: the three internal lists have no duplicates and are permutations of one
    another ("identical" as sets, which is all the library guarantees about order) -/
theorem internal_invariant_perm (mt : Str → Str → Bool) (base rootName : Str) (mp : List Str) (entries : List Entry)
    (o o' : ScanOptions) (hex : o.exclusions = o'.exclusions) (hlim : o.levelLimit = o'.levelLimit)
    (g g' : PGraph Str)
    (h : generateGraph mt base rootName mp entries o = .ok g)
    (h' : generateGraph mt base rootName mp entries o' = .ok g') :
    (internalNodes (internalPrefix rootName mp) g).Perm (internalNodes (internalPrefix rootName mp) g') ∧
    (internalImports (internalPrefix rootName mp) g).Perm (internalImports (internalPrefix rootName mp) g') ∧
    (internalHier (internalPrefix rootName mp) g).Perm (internalHier (internalPrefix rootName mp) g') := by
  obtain ⟨m1, m2, m3⟩ := (ExtScan.internal_invariant_lemma mt base rootName mp entries o o' hex hlim).2 g g' h h'
  obtain ⟨a1, a2, a3⟩ := ExtScan.generateGraph_nodup mt base rootName mp entries o g h
  obtain ⟨b1, b2, b3⟩ := ExtScan.generateGraph_nodup mt base rootName mp entries o' g' h'
  refine ⟨?_, ?_, ?_⟩
  · exact (List.perm_ext_iff_of_nodup (a1.filter _) (b1.filter _)).2 m1
  · exact (List.perm_ext_iff_of_nodup (a2.filter _) (b2.filter _)).2 m2
  · exact (List.perm_ext_iff_of_nodup (a3.filter _) (b3.filter _)).2 m3

/-- … and the scan fails under `o` exactly when it fails under `o'`, with the same error (the conversion step does
    not look at the external options). -/
theorem internal_invariant_errors (mt : Str → Str → Bool) (base rootName : Str) (mp : List Str) (entries : List Entry)
    (o o' : ScanOptions) (hex : o.exclusions = o'.exclusions) (hlim : o.levelLimit = o'.levelLimit) (e : ErrKind) :
    generateGraph mt base rootName mp entries o = .error e ↔ generateGraph mt base rootName mp entries o' = .error e :=
  (Pta.ExtScan.internal_invariant_lemma mt base rootName mp entries o o' hex hlim).1 e

/-- Externals excluded (the default; admissible = no external exclusion patterns): the nodes are exactly the parsed
    modules with their dotted parents (flattened to the level limit), and every import edge joins two such nodes
    and points to (the flattening of) an internal module. -/
theorem externals_excluded (mt : Str → Str → Bool) (base rootName : Str) (mp : List Str) (entries : List Entry)
    (o : ScanOptions) (g : PGraph Str) (hx : o.excludeExternal = true) (hadm : o.admissible = true)
    (h : generateGraph mt base rootName mp entries o = .ok g) :
    (∀ s, s ∈ g.nodes ↔ ∃ m ∈ (scanParsed mt base rootName mp entries o).allModules,
        s ∈ withParents (flattenNode (shiftedLimit o mp) m)) ∧
    (∀ a b, (a, b) ∈ g.importPairs → a ∈ g.nodes ∧ b ∈ g.nodes ∧
        ∃ y, isInternal y (internalPrefix rootName mp) = true ∧ b = flattenNode (shiftedLimit o mp) y) := by
  obtain ⟨I, -, rfl, hgood⟩ := ExtScan.scan_graph mt base rootName mp entries o g h
  have hk := ExtScan.lists_known mt base o (internalPrefix rootName mp) _ I hgood
  constructor
  · intro s
    rw [ExtScan.mem_nodes mt base o _ _ I hgood, hx]
    exact ⟨fun h => h.elim id (fun h' => by cases h'.1), Or.inl⟩
  · intro a b hab
    rw [BuildGen.mem_importPairs] at hab
    obtain ⟨ha, hb⟩ := ExtBuild.buildGraph_edge_nodes _ _ _ hk _ hab
    obtain ⟨-, -, i, hi, -, -, rfl⟩ := ((ExtBuild.buildGraph_known _ _ _ hk).2.2 a b).1 hab
    refine ⟨ha, hb, i.importee, ?_, rfl⟩
    have := ((ExtScan.mem_retainImports mt o _ I i).1 hi).2
    rwa [ExtScan.retained_excluded mt o _ i hx hadm] at this

/-- the same without a level limit: a node is a parsed module or one of its dotted parents; import edges end in
    internal modules -/
theorem externals_excluded_nolimit (mt : Str → Str → Bool) (base rootName : Str) (mp : List Str) (entries : List Entry)
    (o : ScanOptions) (g : PGraph Str) (hx : o.excludeExternal = true) (hadm : o.admissible = true)
    (hl : o.levelLimit = none) (h : generateGraph mt base rootName mp entries o = .ok g) :
    (∀ s, s ∈ g.nodes ↔ s ∈ (scanParsed mt base rootName mp entries o).allModules ∨
        ∃ m ∈ (scanParsed mt base rootName mp entries o).allModules, s ∈ parentModules m) ∧
    (∀ a b, (a, b) ∈ g.importPairs → a ∈ g.nodes ∧ b ∈ g.nodes ∧ isInternal b (internalPrefix rootName mp) = true) := by
  obtain ⟨h1, h2⟩ := externals_excluded mt base rootName mp entries o g hx hadm h
  have hs := ScanWalk.shiftedLimit_none o mp hl
  rw [hs] at h1 h2
  constructor
  · intro s
    rw [h1]
    simp only [withParents, flattenNode, List.mem_append, List.mem_singleton]
    constructor
    · rintro ⟨m, hm, h | rfl⟩
      · exact Or.inr ⟨m, hm, h⟩
      · exact Or.inl hm
    · rintro (h | ⟨m, hm, h⟩)
      · exact ⟨s, h, Or.inr rfl⟩
      · exact ⟨m, hm, Or.inl h⟩
  · intro a b hab
    obtain ⟨ha, hb, y, hy, rfl⟩ := h2 a b hab
    exact ⟨ha, hb, hy⟩

/-- Externals included (no level limit).  `I` are the converted imports of the parsed files; `i` is one with an
    external importee.
    * If `i` is retained (no external exclusion pattern matches the importee or one of its parents) then the importee and
      all its dotted parents are nodes, and the import edge importer → importee exists (the importer being internal).
      [No side condition on the root path string `base`: since the repair of F-C10e (library commit 4ee40c9) the
      library does not skip importees whose name contains `str(root_path)`; see `relative_root_before_repair`.]
    * If `i` is not retained (a pattern matches the importee or one of its parents) then the importee is not a node
      and no edge of any kind touches it — provided it is not itself a parsed module or a parent of one. -/
theorem externals_included (mt : Str → Str → Bool) (base rootName : Str) (mp : List Str) (entries : List Entry)
    (o : ScanOptions) (g : PGraph Str) (hx : o.excludeExternal = false) (hl : o.levelLimit = none)
    (h : generateGraph mt base rootName mp entries o = .ok g) (I : List ImportRec)
    (hI : convertAll (scanParsed mt base rootName mp entries o) (absolutePrefix rootName mp)
      ((scanParsed mt base rootName mp entries o).allModules.filter fun m => isInternal m (internalPrefix rootName mp)) = .ok I)
    (i : ImportRec) (hi : i ∈ I) (hext : isInternal i.importee (internalPrefix rootName mp) = false) :
    (retained mt o (internalPrefix rootName mp) i = true →
      (∀ s ∈ withParents i.importee, s ∈ g.nodes) ∧
      (isInternal i.importer (internalPrefix rootName mp) = true → (i.importer, i.importee) ∈ g.importPairs)) ∧
    (retained mt o (internalPrefix rootName mp) i = false →
      (∀ m ∈ (scanParsed mt base rootName mp entries o).allModules, i.importee ∉ withParents m) →
      i.importee ∉ g.nodes ∧ ∀ x ∈ g.edges, x.src ≠ i.importee ∧ x.dst ≠ i.importee) := by
  -- without a limit nothing is flattened: both halves are the statements for an arbitrary limit
  have hs := ScanWalk.shiftedLimit_none o mp hl
  obtain ⟨rfl, hgood⟩ := ExtScan.scan_lists mt base rootName mp entries o g h I hI
  rw [hs]
  constructor
  · intro hret
    exact ⟨fun s hs' => (ExtScan.mem_nodes mt base o _ _ I hgood none s).2 (.inr ⟨hx, i, hi, hext, hret, hs'⟩),
      fun hX => ExtScan.retained_external_edge mt base o _ _ I hgood none i hx hi hext hret hX hext⟩
  · intro hret hnp
    exact ExtLimit.not_retained_lemma mt base o _ _ I hgood none hx i.importee
      (ExtLimit.not_retained_hit mt o _ _ I hgood i hx hi hext hret) hnp

/-- Externals included, ANY level limit, directory names without dots (so that the limit, which is shifted by the
    length of the module path, never cuts into the internal prefix): for a retained external import the flattened
    importee and all its dotted parents are nodes and the import edge between the flattened ends exists. -/
theorem externals_included_limit (mt : Str → Str → Bool) (base rootName : Str) (mp : List Str) (entries : List Entry)
    (o : ScanOptions) (g : PGraph Str) (hx : o.excludeExternal = false)
    (h : generateGraph mt base rootName mp entries o = .ok g) (I : List ImportRec)
    (hI : convertAll (scanParsed mt base rootName mp entries o) (absolutePrefix rootName mp)
      ((scanParsed mt base rootName mp entries o).allModules.filter fun m => isInternal m (internalPrefix rootName mp)) = .ok I)
    (i : ImportRec) (hi : i ∈ I) (hext : isInternal i.importee (internalPrefix rootName mp) = false)
    (hret : retained mt o (internalPrefix rootName mp) i = true)
    (hr : '.' ∉ rootName) (hmp : ∀ c ∈ mp, '.' ∉ c) :
    (∀ s ∈ withParents (flattenNode (shiftedLimit o mp) i.importee), s ∈ g.nodes) ∧
    (isInternal i.importer (internalPrefix rootName mp) = true →
      (flattenNode (shiftedLimit o mp) i.importer, flattenNode (shiftedLimit o mp) i.importee) ∈ g.importPairs) := by
  obtain ⟨rfl, hgood⟩ := ExtScan.scan_lists mt base rootName mp entries o g h I hI
  refine ⟨fun s hs => (ExtScan.mem_nodes mt base o _ _ I hgood _ s).2 (.inr ⟨hx, i, hi, hext, hret, hs⟩),
    fun hX => ExtScan.retained_external_edge mt base o _ _ I hgood _ i hx hi hext hret ?_ ?_⟩
  · rw [ExtScan.isInternal_shifted rootName mp o _ hr hmp]; exact hX
  · rw [ExtScan.isInternal_shifted rootName mp o _ hr hmp]; exact hext

/-! ### non-vacuity: a concrete tree satisfying all hypotheses, with visible effects -/
namespace Ex

/-- root `r` with `a.py`, `b.py`, `sub/c.py`, `sub.py`; imports of `os`, `os.path`, `numpy.linalg.x` are external -/
def ents : List Entry := [
  { rel := ["a.py".toList], isDir := false,
    stmts := [.imp ["os.path".toList, "r.b".toList], .impFrom (some "r.sub".toList) ["c".toList] 0] },
  { rel := ["b.py".toList], isDir := false, stmts := [.imp ["numpy.linalg.x".toList], .impFrom none ["a".toList] 1] },
  { rel := ["sub".toList], isDir := true },
  { rel := ["sub".toList, "c.py".toList], isDir := false, stmts := [.imp ["os".toList, "r.sub".toList]] },
  { rel := ["sub.py".toList], isDir := false, stmts := [.imp ["r.sub.c".toList, "r".toList]] } ]
def mt0 : Str → Str → Bool := fun _ _ => false
/-- the default: externals excluded -/
def oEx : ScanOptions := { exclusions := .globs [] }
/-- externals included, `numpy*` excluded by an external exclusion pattern -/
def oIn : ScanOptions := { exclusions := .globs [], excludeExternal := false, externalExclusions := .globs ["numpy*".toList] }
def oExL : ScanOptions := { oEx with levelLimit := some 1 }
def oInL : ScanOptions := { oIn with levelLimit := some 1 }
def run (o : ScanOptions) := generateGraph mt0 "/r".toList "r".toList [] ents o
/-- (#nodes, #internal nodes, #internal import edges, #internal hierarchy edges) -/
def sz (r : Except ErrKind (PGraph Str)) : Nat × Nat × Nat × Nat :=
  match r with
  | .ok g => (g.nodes.length, (internalNodes "r".toList g).length, (internalImports "r".toList g).length,
      (internalHier "r".toList g).length)
  | .error _ => (0, 0, 0, 0)
def conv (o : ScanOptions) : List ImportRec :=
  match convertAll (scanParsed mt0 "/r".toList "r".toList [] ents o) (absolutePrefix "r".toList [])
      ((scanParsed mt0 "/r".toList "r".toList [] ents o).allModules.filter fun m => isInternal m (internalPrefix "r".toList [])) with
  | .ok I => I
  | .error _ => []

-- hypotheses of `internal_invariant` (and of `externals_excluded` / `externals_included`)
example : oEx.exclusions = oIn.exclusions ∧ oEx.levelLimit = oIn.levelLimit := ⟨rfl, rfl⟩
example : oEx.excludeExternal = true ∧ oEx.admissible = true ∧ oEx.levelLimit = none := ⟨rfl, rfl, rfl⟩
example : oIn.excludeExternal = false ∧ oIn.admissible = true ∧ oIn.levelLimit = none := ⟨rfl, rfl, rfl⟩
example : ∃ g, run oEx = .ok g := ⟨_, rfl⟩
example : ∃ g, run oIn = .ok g := ⟨_, rfl⟩
example : ∃ g, run oExL = .ok g := ⟨_, rfl⟩
example : ∃ g, run oInL = .ok g := ⟨_, rfl⟩
-- the graphs differ (5 vs 7 nodes) but the internal parts have the same sizes; likewise with a level limit
set_option maxRecDepth 100000 in
example : sz (run oEx) = (5, 5, 5, 4) ∧ sz (run oIn) = (7, 5, 5, 4) := by decide +kernel
set_option maxRecDepth 100000 in
example : sz (run oExL) = (4, 4, 4, 3) ∧ sz (run oInL) = (6, 4, 4, 3) := by decide +kernel
-- `externals_included`: a retained external import and one removed by the pattern
set_option maxRecDepth 100000 in
example : convertAll (scanParsed mt0 "/r".toList "r".toList [] ents oIn) (absolutePrefix "r".toList [])
      ((scanParsed mt0 "/r".toList "r".toList [] ents oIn).allModules.filter fun m => isInternal m (internalPrefix "r".toList []))
    = .ok (conv oIn) := by rfl
set_option maxRecDepth 100000 in
example : let i := absImport "r.a".toList "os.path".toList
    i ∈ conv oIn ∧ isInternal i.importee "r".toList = false ∧ retained mt0 oIn "r".toList i = true ∧
    isInternal i.importer "r".toList = true := by decide +kernel
set_option maxRecDepth 100000 in
example : let i := absImport "r.b".toList "numpy.linalg.x".toList
    i ∈ conv oIn ∧ isInternal i.importee "r".toList = false ∧ retained mt0 oIn "r".toList i = false ∧
    ∀ m ∈ (scanParsed mt0 "/r".toList "r".toList [] ents oIn).allModules, i.importee ∉ withParents m := by decide +kernel

-- `externals_included_limit`: the same retained import under level limit 1
set_option maxRecDepth 100000 in
example : convertAll (scanParsed mt0 "/r".toList "r".toList [] ents oInL) (absolutePrefix "r".toList [])
      ((scanParsed mt0 "/r".toList "r".toList [] ents oInL).allModules.filter fun m => isInternal m (internalPrefix "r".toList []))
    = .ok (conv oInL) := by rfl
set_option maxRecDepth 100000 in
example : let i := absImport "r.a".toList "os.path".toList
    oInL.excludeExternal = false ∧ i ∈ conv oInL ∧ isInternal i.importee "r".toList = false ∧
    retained mt0 oInL "r".toList i = true ∧
    isInternal i.importer "r".toList = true ∧ '.' ∉ "r".toList ∧ ∀ c ∈ ([] : List Str), '.' ∉ c := by decide +kernel

end Ex

/-! ### the repair of F-C10e (library commit 4ee40c9): no root-path substring test

Before the repair `ImporteeModuleCalculator.calculate_importee_modules` skipped every importee whose dotted name
CONTAINS `str(root_path)`; `moduleListBeforeRepair` (PtaModel/Scan.lean) is that code, `moduleList` the repaired one
(which `generateGraph` uses; `externals_included`, `externals_included_limit` and the theorems of `C10Limit.lean` carry
no hypothesis about `base`). -/
namespace RelEx

/-- relative root path `proj` (so `str(root_path) = "proj"`), one file `proj/m.py` with
    `import projx, proj_ext.m, os.path` -/
def ents : List Entry := [
  { rel := ["m.py".toList], isDir := false,
    stmts := [.imp ["projx".toList, "proj_ext.m".toList, "os.path".toList]] } ]
def mt0 : Str → Str → Bool := fun _ _ => false
/-- externals included, no patterns, no limit -/
def oIn : ScanOptions := { exclusions := .globs [], excludeExternal := false }
def base : Str := "proj".toList
def parsed : Parsed := scanParsed mt0 base "proj".toList [] ents oIn
def conv : List ImportRec :=
  match convertAll parsed (absolutePrefix "proj".toList [])
      (parsed.allModules.filter fun m => isInternal m (internalPrefix "proj".toList [])) with
  | .ok I => I
  | .error _ => []
/-- the graph the code before the repair built: the constructor on the OLD module list -/
def oldGraph : PGraph Str :=
  buildGraph (moduleListBeforeRepair mt0 base oIn "proj".toList parsed.allModules conv) conv none
def newGraph : PGraph Str :=
  match generateGraph mt0 base "proj".toList [] ents oIn with
  | .ok g => g
  | .error _ => PGraph.empty

end RelEx
open RelEx in
/-- F-C10e on a concrete tree: root path given as the relative string `proj`, externals included, `proj.m` imports
    `projx` (and `proj_ext.m`, `os.path`).  The import records are external and retained; the OLD module list lacks
    `projx`, `proj_ext.m`, `proj_ext` (their names contain `proj`) but has `os.path`, `os`; the REPAIRED module list has
    all of them.  At the level of graphs: before the repair `projx` was not a node and the edge `proj.m → projx` was
    missing; the repaired scan has both. -/
theorem relative_root_before_repair :
    oIn.excludeExternal = false ∧
    convertAll parsed (absolutePrefix "proj".toList [])
      (parsed.allModules.filter fun m => isInternal m (internalPrefix "proj".toList [])) = .ok conv ∧
    absImport "proj.m".toList "projx".toList ∈ conv ∧
    isInternal "projx".toList (internalPrefix "proj".toList []) = false ∧
    retained mt0 oIn (internalPrefix "proj".toList []) (absImport "proj.m".toList "projx".toList) = true ∧
    -- the module lists
    "projx".toList ∉ moduleListBeforeRepair mt0 base oIn "proj".toList parsed.allModules conv ∧
    "projx".toList ∈ moduleList mt0 base oIn "proj".toList parsed.allModules conv ∧
    moduleListBeforeRepair mt0 base oIn "proj".toList parsed.allModules conv =
      ["proj", "proj.m", "os.path", "os"].map String.toList ∧
    moduleList mt0 base oIn "proj".toList parsed.allModules conv =
      ["proj", "proj.m", "projx", "proj_ext.m", "proj_ext", "os.path", "os"].map String.toList ∧
    -- the graphs
    generateGraph mt0 base "proj".toList [] ents oIn = .ok newGraph ∧
    "projx".toList ∉ oldGraph.nodes ∧ ("proj.m".toList, "projx".toList) ∉ oldGraph.importPairs ∧
    "projx".toList ∈ newGraph.nodes ∧ ("proj.m".toList, "projx".toList) ∈ newGraph.importPairs ∧
    ("proj.m".toList, "proj_ext.m".toList) ∈ newGraph.importPairs ∧ "proj_ext".toList ∈ newGraph.nodes := by
  refine ⟨by decide +kernel, by rfl, ?_⟩
  refine ⟨by decide +kernel, by decide +kernel, by decide +kernel, by decide +kernel, by decide +kernel, by decide +kernel,
    by decide +kernel, by rfl, ?_⟩
  decide +kernel

/-- the old and the repaired code compute the same module list whenever the substring test fires on no EXTERNAL
    importee -/
theorem moduleList_eq_before_repair_of_no_infix (mt : Str → Str → Bool) (base : Str) (o : ScanOptions) (pre : Str)
    (parsedModules : List Str) (imports : List ImportRec)
    (h : ∀ i ∈ imports, isInternal i.importee pre = false → isInfix base i.importee = false) :
    moduleListBeforeRepair mt base o pre parsedModules imports = moduleList mt base o pre parsedModules imports := by
  have hadd : (imports.filter fun i => !isInternal i.importee pre).flatMap
        (fun i => if isInfix base i.importee then [] else i.importee :: i.importeeParents) =
      (imports.filter fun i => !isInternal i.importee pre).flatMap (fun i => i.importee :: i.importeeParents) := by
    rw [List.flatMap_def, List.flatMap_def]
    congr 1
    apply List.map_congr_left
    intro i hi
    rw [List.mem_filter] at hi
    have := h i hi.1 (by simpa using hi.2)
    simp [this]
  unfold moduleListBeforeRepair moduleList
  simp only [hadd]

/-- … in particular for absolute root paths the repair changes nothing: if the root path string contains a `/` and
    no importee does (dotted module names never do), the substring test never fires -/
theorem moduleList_eq_before_repair_of_absolute (mt : Str → Str → Bool) (base : Str) (o : ScanOptions) (pre : Str)
    (parsedModules : List Str) (imports : List ImportRec)
    (hbase : '/' ∈ base) (himp : ∀ i ∈ imports, '/' ∉ i.importee) :
    moduleListBeforeRepair mt base o pre parsedModules imports = moduleList mt base o pre parsedModules imports :=
  moduleList_eq_before_repair_of_no_infix mt base o pre parsedModules imports
    (fun i hi _ => Pta.isInfix_false_of_char '/' base i.importee hbase (himp i hi))

-- hypotheses of `moduleList_eq_before_repair_of_absolute` on the tree `Ex` (root path `/r`)
set_option maxRecDepth 100000 in
example : '/' ∈ "/r".toList ∧ ∀ i ∈ Ex.conv Ex.oIn, '/' ∉ i.importee := by decide +kernel

end Pta.C10
