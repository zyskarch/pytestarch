/-
  PtaProofs.Props.C01 — module-rule verdicts equal the documented rule semantics (property C01), and the report
  equals the specification's violating set (property C03, part 2).
  For EVERY well-formed architecture, EVERY strict rule (subjects and objects pairwise unrelated; any number of them;
  both filter kinds; all 12 shapes and the two `anything` aliases) whose names exist: the model of
  `Rule(...).assert_applies` on the graph built by the model of `NetworkxGraph` passes exactly when the declarative
  semantics of PtaSpec/RuleSem.lean hold, and fails (AssertionError) exactly when they do not. The general form is for
  every `parentFree` rule (`verdict_spec_parentFree`, `report_spec_parentFree`); strict, compatible, all-named and admissible
  rules are special cases.
-/
import Bridge.Abs
import PtaProofs.Lemmas.Semantics
import Bridge.RuleChain
import PtaProofs.Lemmas.SemanticsNamed
import PtaProofs.Lemmas.QueryErr
import PtaProofs.Lemmas.BuildScan
namespace Pta.C01
open PtaSpec

/-- verdict = documented semantics, on any graph that represents the architecture -/
theorem verdict_spec_of_graph (mt : Str → Str → Bool) (a : Arch) (g : PGraph Str) (hg : GraphOf a g) (hwf : a.wf = true)
    (r : RuleSpec) (hstrict : r.strict = true) (hnames : r.namesIn a = true)
    (hs : r.subjects ≠ []) (ho : r.anything = true ∨ r.objects ≠ [])
    (hany : r.anything = true → r.verb = .shouldNot) :
    verdictOf mt g (compile r) = VClass.ofBool (verdict a r) :=
  Pta.verdict_spec_of_graph_lemma mt a g hg hwf r hstrict hnames hs ho hany

/-- verdict = documented semantics, on the graph the constructor builds -/
theorem verdict_spec (mt : Str → Str → Bool) (a : Arch) (hwf : a.wf = true)
    (r : RuleSpec) (hstrict : r.strict = true) (hnames : r.namesIn a = true)
    (hs : r.subjects ≠ []) (ho : r.anything = true ∨ r.objects ≠ [])
    (hany : r.anything = true → r.verb = .shouldNot) :
    verdictOf mt (archGraph a) (compile r) = VClass.ofBool (verdict a r) :=
  verdict_spec_of_graph mt a (archGraph a) (Pta.archGraph_graphOf a hwf) hwf r hstrict hnames hs ho hany

/-- C03 part 2: when the rule fails, the reported atoms are exactly the specification's violating set -/
theorem report_spec (mt : Str → Str → Bool) (a : Arch) (g : PGraph Str) (hg : GraphOf a g) (hwf : a.wf = true)
    (r : RuleSpec) (hstrict : r.strict = true) (hnames : r.namesIn a = true)
    (hs : r.subjects ≠ []) (ho : r.anything = true ∨ r.objects ≠ [])
    (hany : r.anything = true → r.verb = .shouldNot) (items : List Item)
    (h : (assertApplies mt (compile r) g).2 = .fail items) :
    ∀ x, x ∈ items.flatMap Item.atoms ↔ x ∈ (violating a r).flatMap SItem.atoms :=
  Pta.report_spec_lemma mt a g hg hwf r hstrict hnames hs ho hany items h

/-- unknown names never give a verdict (shared with C13) -/
theorem unknown_name_no_verdict (mt : Str → Str → Bool) (a : Arch) (g : PGraph Str) (hg : GraphOf a g)
    (r : RuleSpec) (hs : r.subjects ≠ []) (ho : r.anything = true ∨ r.objects ≠ [])
    (hany : r.anything = true → r.verb = .shouldNot)
    (hdd : r.anything = true → dedupSubjects (r.subjects.map compileFilter) = r.subjects.map compileFilter)
    (hmissing : ∃ f ∈ r.subjects ++ r.effObjects, f.id ∉ a.nodes) (hwfn : ∀ f ∈ r.subjects ++ r.effObjects, nameWF f.id = true)
    (hwf : a.wf = true) :
    verdictOf mt g (compile r) = .err .lookupError := by
  have hw := archWF_of_wf a hwf
  obtain ⟨f, hf, hn⟩ := hmissing
  unfold verdictOf
  rw [assertApplies_compile mt g r hs ho hany hdd, Verdict.cls_eq_err, matchRule_err_iff_queries,
    queries_lookupError_iff mt g (beh r) r.importDir _ _ (by unfold beh; cases r.verb <;> simp) (by simpa using hs)
      (by simpa using effObjects_ne_nil r hs ho),
    expand_of_noregex _ _ (compileFilter_noregex _), expand_of_noregex _ _ (compileFilter_noregex _), ← List.map_append]
  exact ⟨allMatch_of_noregex _ _ (compileFilter_noregex _), allMatch_of_noregex _ _ (compileFilter_noregex _),
    compileFilter f, List.mem_map_of_mem hf, by simpa using hasNode_render_false hw hg f.id (hwfn f hf) hn⟩

/-! non-vacuity: a 5-node architecture, a strict rule, both sides evaluate -/
def nm (s : String) : Name := splitDots s.toList
def exA : Arch := { nodes := ["p", "p.a", "p.a.x", "p.b", "q"].map nm, imports := [(nm "p.a.x", nm "q"), (nm "p.b", nm "p.a")] }
def exR : RuleSpec := { verb := .shouldOnly, importDir := true, exc := false, subjects := [.named (nm "p.a")], objects := [.named (nm "q")] }
example : exA.wf = true ∧ exR.strict = true ∧ exR.namesIn exA = true := by decide +kernel
example : verdictOf (fun _ _ => false) (archGraph exA) (compile exR) = .pass ∧ verdict exA exR = true := by decide +kernel

/-! ### beyond strict rules: plain `should` / `should_not` rules (no `except`, not `anything`) with NAMED subjects and
    objects. No relation between the names is assumed: a subject may equal an object, be an ancestor or a descendant of
    one, and either list may contain duplicates. (With `are_sub_modules_of` filters the extension is false.) -/

/-- verdict = documented semantics for plain named rules, on any graph that represents the architecture -/
theorem verdict_spec_plain_named (mt : Str → Str → Bool) (a : Arch) (g : PGraph Str) (hg : GraphOf a g) (hwf : a.wf = true)
    (r : RuleSpec) (hverb : r.verb = .should ∨ r.verb = .shouldNot) (hexc : r.exc = false) (hany : r.anything = false)
    (hnamed : (r.subjects ++ r.objects).all (fun f => !f.isSub) = true) (hnames : r.namesIn a = true)
    (hs : r.subjects ≠ []) (ho : r.objects ≠ []) :
    verdictOf mt g (compile r) = VClass.ofBool (verdict a r) :=
  Pta.verdict_spec_pf_lemma mt a g hg hwf r (Pta.plainCtx_of a r hverb hexc hany hnamed hnames).parentFree hnames hs (.inr ho)
    (by rw [hany]; exact Bool.noConfusion)

/-- the same on the graph the constructor builds -/
theorem verdict_spec_plain_named_arch (mt : Str → Str → Bool) (a : Arch) (hwf : a.wf = true)
    (r : RuleSpec) (hverb : r.verb = .should ∨ r.verb = .shouldNot) (hexc : r.exc = false) (hany : r.anything = false)
    (hnamed : (r.subjects ++ r.objects).all (fun f => !f.isSub) = true) (hnames : r.namesIn a = true)
    (hs : r.subjects ≠ []) (ho : r.objects ≠ []) :
    verdictOf mt (archGraph a) (compile r) = VClass.ofBool (verdict a r) :=
  verdict_spec_plain_named mt a (archGraph a) (Pta.archGraph_graphOf a hwf) hwf r hverb hexc hany hnamed hnames hs ho

/-- when a plain named rule fails, the reported atoms are exactly the specification's violating set -/
theorem report_spec_plain_named (mt : Str → Str → Bool) (a : Arch) (g : PGraph Str) (hg : GraphOf a g) (hwf : a.wf = true)
    (r : RuleSpec) (hverb : r.verb = .should ∨ r.verb = .shouldNot) (hexc : r.exc = false) (hany : r.anything = false)
    (hnamed : (r.subjects ++ r.objects).all (fun f => !f.isSub) = true) (hnames : r.namesIn a = true)
    (hs : r.subjects ≠ []) (ho : r.objects ≠ []) (items : List Item)
    (h : (assertApplies mt (compile r) g).2 = .fail items) :
    ∀ x, x ∈ items.flatMap Item.atoms ↔ x ∈ (violating a r).flatMap SItem.atoms :=
  Pta.report_spec_pf_lemma mt a g hg hwf r (Pta.plainCtx_of a r hverb hexc hany hnamed hnames).parentFree hnames hs (.inr ho)
    (by rw [hany]; exact Bool.noConfusion) items h

/-! non-vacuity: related names (subject `p`, objects `p.a` and `q`), both verbs, both directions; the rules are not
    strict, meet every hypothesis, and both sides evaluate (to the same verdict) -/
def exP (v : Verb) (d : Bool) : RuleSpec :=
  { verb := v, importDir := d, exc := false, subjects := [.named (nm "p")], objects := [.named (nm "p.a"), .named (nm "q")] }
example : ∀ v ∈ [Verb.should, Verb.shouldNot], ∀ d ∈ [true, false],
    (exP v d).strict = false ∧ (exP v d).namesIn exA = true ∧ (exP v d).exc = false ∧ (exP v d).anything = false ∧
    ((exP v d).subjects ++ (exP v d).objects).all (fun f => !f.isSub) = true ∧
    (exP v d).subjects ≠ [] ∧ (exP v d).objects ≠ [] := by decide +kernel
/-- `p` imports `p.a` (via `p.b → p.a`, inside `p`) and `q` (via `p.a.x → q`): `should import` holds, `should_not` fails -/
example : verdictOf (fun _ _ => false) (archGraph exA) (compile (exP .should true)) = .pass ∧ verdict exA (exP .should true) = true ∧
    verdictOf (fun _ _ => false) (archGraph exA) (compile (exP .shouldNot true)) = .fail ∧ verdict exA (exP .shouldNot true) = false := by
  decide +kernel
/-- nothing in `p.a` or `q` imports into `p` (the importer `p.b` of `p.b → p.a` is not in `p.a`):
    `should be imported by` fails, `should_not be imported by` passes -/
example : verdictOf (fun _ _ => false) (archGraph exA) (compile (exP .should false)) = .fail ∧ verdict exA (exP .should false) = false ∧
    verdictOf (fun _ _ => false) (archGraph exA) (compile (exP .shouldNot false)) = .pass ∧ verdict exA (exP .shouldNot false) = true := by
  decide +kernel
/-- the failing reports, atom by atom -/
example : (assertApplies (fun _ _ => false) (compile (exP .shouldNot true)) (archGraph exA)).2 =
    .fail [.imp "p.b".toList "p.a".toList false, .imp "p.a.x".toList "q".toList false] := by decide +kernel
/-- subject = object and duplicates: `p should_not import p, p` fails because of the import `p.b → p.a` inside `p` -/
def exS (v : Verb) (d : Bool) : RuleSpec :=
  { verb := v, importDir := d, exc := false, subjects := [.named (nm "p"), .named (nm "p")], objects := [.named (nm "p"), .named (nm "p.a"), .named (nm "p")] }
example : ∀ v ∈ [Verb.should, Verb.shouldNot], ∀ d ∈ [true, false],
    verdictOf (fun _ _ => false) (archGraph exA) (compile (exS v d)) = VClass.ofBool (verdict exA (exS v d)) := by decide +kernel
example : verdict exA (exS .should true) = true ∧ verdict exA (exS .shouldNot true) = false ∧
    verdict exA (exS .should false) = false ∧ verdict exA (exS .shouldNot false) = false := by decide +kernel

/-- why `hnamed` is needed (known from the differential run): with an `are_sub_modules_of` filter related to a named one the
    extension is false. `p.a` imports `p`; "sub modules of p should_not import p": the specification sees the edge
    (`p.a` is a strict descendant of `p`, `p` is in `desc p`), `get_dependency_between_modules` drops it because its
    importee is the parent identifier `p` of the `are_sub_modules_of` filter. All other hypotheses hold. -/
def exB : Arch := { nodes := ["p", "p.a"].map nm, imports := [(nm "p.a", nm "p")] }
def exSub : RuleSpec := { verb := .shouldNot, importDir := true, exc := false, subjects := [.subOf (nm "p")], objects := [.named (nm "p")] }
theorem plain_subOf_counterexample :
    exB.wf = true ∧ exSub.namesIn exB = true ∧ exSub.exc = false ∧ exSub.anything = false ∧
    verdictOf (fun _ _ => false) (archGraph exB) (compile exSub) = .pass ∧ verdict exB exSub = false := by decide +kernel

/-! ### beyond strict rules, all 12 shapes and the two `anything` aliases (audit F4)

    Domains (Bridge/RuleChain.lean), from small to large:
    `r.strict` ⊆ `compatible r` ⊇ `allNamedRule r`, and `compatible r` ⊆ `admissible r`.
    * `allNamedRule r`: every subject and (effective) object is an `are_named` filter; the names may be equal, nested,
      repeated, in any combination.
    * `compatible r`: the identifier of every `are_sub_modules_of` filter is unrelated to the identifier of every OTHER
      filter of the rule; `are_named` filters may be related to each other freely.
    * `admissible r = parentFree r && dedupSafe r`: the parent identifier of an `are_sub_modules_of` filter is not a
      MEMBER of any filter of the rule, and (for `anything`) every subject whose identifier lies strictly below another
      subject's identifier lies below a subject given by name. `_convert_aliases` (as repaired for F-C12a) removes
      only subjects below a subject given by name, so `parentFree r` alone suffices: `verdict_spec_parentFree`,
      `report_spec_parentFree` below. -/

theorem strict_compatible (r : RuleSpec) (h : r.strict = true) : compatible r = true := Pta.strict_compatible r h
theorem allNamed_compatible (r : RuleSpec) (h : allNamedRule r = true) : compatible r = true := by
  rw [compatible_iff]
  intro p hp hs
  have := (by simpa using List.all_eq_true.1 h p hp : p.isSub = false)
  rw [hs] at this; cases this
theorem compatible_admissible (r : RuleSpec) (h : compatible r = true) : admissible r = true :=
  Pta.compatible_admissible r h

/-- the most general form: verdict = documented semantics for every admissible rule -/
theorem verdict_spec_admissible (mt : Str → Str → Bool) (a : Arch) (g : PGraph Str) (hg : GraphOf a g) (hwf : a.wf = true)
    (r : RuleSpec) (hadm : admissible r = true) (hnames : r.namesIn a = true)
    (hs : r.subjects ≠ []) (ho : r.anything = true ∨ r.objects ≠ [])
    (hany : r.anything = true → r.verb = .shouldNot) :
    verdictOf mt g (compile r) = VClass.ofBool (verdict a r) :=
  Pta.verdict_spec_pf_lemma mt a g hg hwf r (Pta.admissible_parentFree r hadm) hnames hs ho hany

/-- the most general form: the reported atoms are the specification's violating set, for every admissible rule.
    This includes the `anything` aliases with related subjects: the model reports on the subjects `_convert_aliases`
    retains, the specification on all subjects, and the two SETS of violating imports coincide. -/
theorem report_spec_admissible (mt : Str → Str → Bool) (a : Arch) (g : PGraph Str) (hg : GraphOf a g) (hwf : a.wf = true)
    (r : RuleSpec) (hadm : admissible r = true) (hnames : r.namesIn a = true)
    (hs : r.subjects ≠ []) (ho : r.anything = true ∨ r.objects ≠ [])
    (hany : r.anything = true → r.verb = .shouldNot) (items : List Item)
    (h : (assertApplies mt (compile r) g).2 = .fail items) :
    ∀ x, x ∈ items.flatMap Item.atoms ↔ x ∈ (violating a r).flatMap SItem.atoms :=
  Pta.report_spec_pf_lemma mt a g hg hwf r (Pta.admissible_parentFree r hadm) hnames hs ho hany items h

/-- `r.strict` replaced by `compatible r`: every `are_sub_modules_of` identifier unrelated to every other identifier -/
theorem verdict_spec_compat (mt : Str → Str → Bool) (a : Arch) (g : PGraph Str) (hg : GraphOf a g) (hwf : a.wf = true)
    (r : RuleSpec) (hc : compatible r = true) (hnames : r.namesIn a = true)
    (hs : r.subjects ≠ []) (ho : r.anything = true ∨ r.objects ≠ [])
    (hany : r.anything = true → r.verb = .shouldNot) :
    verdictOf mt g (compile r) = VClass.ofBool (verdict a r) :=
  Pta.verdict_spec_pf_lemma mt a g hg hwf r (Pta.compatible_parentFree r hc) hnames hs ho hany

theorem verdict_spec_compat_arch (mt : Str → Str → Bool) (a : Arch) (hwf : a.wf = true)
    (r : RuleSpec) (hc : compatible r = true) (hnames : r.namesIn a = true)
    (hs : r.subjects ≠ []) (ho : r.anything = true ∨ r.objects ≠ [])
    (hany : r.anything = true → r.verb = .shouldNot) :
    verdictOf mt (archGraph a) (compile r) = VClass.ofBool (verdict a r) :=
  verdict_spec_compat mt a (archGraph a) (Pta.archGraph_graphOf a hwf) hwf r hc hnames hs ho hany

theorem report_spec_compat (mt : Str → Str → Bool) (a : Arch) (g : PGraph Str) (hg : GraphOf a g) (hwf : a.wf = true)
    (r : RuleSpec) (hc : compatible r = true) (hnames : r.namesIn a = true)
    (hs : r.subjects ≠ []) (ho : r.anything = true ∨ r.objects ≠ [])
    (hany : r.anything = true → r.verb = .shouldNot) (items : List Item)
    (h : (assertApplies mt (compile r) g).2 = .fail items) :
    ∀ x, x ∈ items.flatMap Item.atoms ↔ x ∈ (violating a r).flatMap SItem.atoms :=
  Pta.report_spec_pf_lemma mt a g hg hwf r (Pta.compatible_parentFree r hc) hnames hs ho hany items h

/-- all 12 shapes and the two `anything` aliases with NAMED subjects and objects, no relation between the names
    assumed (equal, nested, repeated — also across the two sides) -/
theorem verdict_spec_named (mt : Str → Str → Bool) (a : Arch) (g : PGraph Str) (hg : GraphOf a g) (hwf : a.wf = true)
    (r : RuleSpec) (hnamed : allNamedRule r = true) (hnames : r.namesIn a = true)
    (hs : r.subjects ≠ []) (ho : r.anything = true ∨ r.objects ≠ [])
    (hany : r.anything = true → r.verb = .shouldNot) :
    verdictOf mt g (compile r) = VClass.ofBool (verdict a r) :=
  verdict_spec_compat mt a g hg hwf r (allNamed_compatible r hnamed) hnames hs ho hany

theorem verdict_spec_named_arch (mt : Str → Str → Bool) (a : Arch) (hwf : a.wf = true)
    (r : RuleSpec) (hnamed : allNamedRule r = true) (hnames : r.namesIn a = true)
    (hs : r.subjects ≠ []) (ho : r.anything = true ∨ r.objects ≠ [])
    (hany : r.anything = true → r.verb = .shouldNot) :
    verdictOf mt (archGraph a) (compile r) = VClass.ofBool (verdict a r) :=
  verdict_spec_named mt a (archGraph a) (Pta.archGraph_graphOf a hwf) hwf r hnamed hnames hs ho hany

/-- the report of a named rule, as a set of atoms — in full also for the `anything` aliases with related subjects
    (no "`dedupSubjects` is the identity" hypothesis is needed: the duplicates only affect multiplicities) -/
theorem report_spec_named (mt : Str → Str → Bool) (a : Arch) (g : PGraph Str) (hg : GraphOf a g) (hwf : a.wf = true)
    (r : RuleSpec) (hnamed : allNamedRule r = true) (hnames : r.namesIn a = true)
    (hs : r.subjects ≠ []) (ho : r.anything = true ∨ r.objects ≠ [])
    (hany : r.anything = true → r.verb = .shouldNot) (items : List Item)
    (h : (assertApplies mt (compile r) g).2 = .fail items) :
    ∀ x, x ∈ items.flatMap Item.atoms ↔ x ∈ (violating a r).flatMap SItem.atoms :=
  report_spec_compat mt a g hg hwf r (allNamed_compatible r hnamed) hnames hs ho hany items h

/-! non-vacuity. Named, non-strict, every verb × direction × except: subjects `p.a` and its descendant `p.a.x`,
    objects `p` (an ancestor of both subjects) and `p.b` -/
def exN (v : Verb) (d x : Bool) : RuleSpec :=
  { verb := v, importDir := d, exc := x, subjects := [.named (nm "p.a"), .named (nm "p.a.x")],
    objects := [.named (nm "p"), .named (nm "p.b")] }
example : ∀ v ∈ [Verb.should, Verb.shouldOnly, Verb.shouldNot], ∀ d ∈ [true, false], ∀ x ∈ [true, false],
    (exN v d x).strict = false ∧ allNamedRule (exN v d x) = true ∧ (exN v d x).namesIn exA = true ∧
    (exN v d x).subjects ≠ [] ∧ (exN v d x).objects ≠ [] := by decide +kernel
set_option maxRecDepth 16000 in
/-- both sides evaluate, to the same class, on all 12 shapes (passes and failures both occur) -/
example : ∀ v ∈ [Verb.should, Verb.shouldOnly, Verb.shouldNot], ∀ d ∈ [true, false], ∀ x ∈ [true, false],
    verdictOf (fun _ _ => false) (archGraph exA) (compile (exN v d x)) = VClass.ofBool (verdict exA (exN v d x)) := by
  decide +kernel
example : verdict exA (exN .should true false) = false ∧ verdict exA (exN .should true true) = true ∧
    verdict exA (exN .shouldOnly true true) = true ∧ verdict exA (exN .shouldOnly false true) = false ∧
    verdict exA (exN .shouldNot false false) = false ∧ verdict exA (exN .shouldNot false true) = true := by decide +kernel
/-- `anything` with related (nested and repeated) named subjects: `_convert_aliases` removes `p.a` and the second `q`;
    the verdicts agree and so do the reported imports -/
def exAny (d : Bool) : RuleSpec :=
  { verb := .shouldNot, importDir := d, exc := false, subjects := [.named (nm "p.a"), .named (nm "q"), .named (nm "p.a.x"), .named (nm "q")],
    objects := [], anything := true }
example : ∀ d ∈ [true, false], (exAny d).strict = false ∧ allNamedRule (exAny d) = true ∧ (exAny d).namesIn exA = true ∧
    (exAny d).subjects ≠ [] ∧ (exAny d).anything = true ∧ (exAny d).verb = .shouldNot ∧ fluent (exAny d) = true ∧
    dedupSubjects ((exAny d).subjects.map compileFilter) ≠ (exAny d).subjects.map compileFilter := by decide +kernel
example : verdictOf (fun _ _ => false) (archGraph exA) (compile (exAny true)) = .pass ∧ verdict exA (exAny true) = true ∧
    verdictOf (fun _ _ => false) (archGraph exA) (compile (exAny false)) = .fail ∧ verdict exA (exAny false) = false := by
  decide +kernel
example : (assertApplies (fun _ _ => false) (compile (exAny false)) (archGraph exA)).2 =
      .fail [.imp "p.b".toList "p.a".toList true] ∧
    violating exA (exAny false) = [.imp (nm "p.b") (nm "p.a")] := by decide +kernel

/-- compatible but neither strict nor all named: `sub modules of p.a` next to the related names `p.b`, `p.b`, `q` -/
def exC (v : Verb) (d x : Bool) : RuleSpec :=
  { verb := v, importDir := d, exc := x, subjects := [.subOf (nm "p.a"), .named (nm "q"), .named (nm "q")],
    objects := [.named (nm "p.b"), .named (nm "q"), .subOf (nm "p.a")] }
example : ∀ v ∈ [Verb.should, Verb.shouldOnly, Verb.shouldNot], ∀ d ∈ [true, false], ∀ x ∈ [true, false],
    (exC v d x).strict = false ∧ allNamedRule (exC v d x) = false ∧ compatible (exC v d x) = true ∧
    (exC v d x).namesIn exA = true ∧ (exC v d x).subjects ≠ [] ∧ (exC v d x).objects ≠ [] := by decide +kernel
set_option maxRecDepth 16000 in
example : ∀ v ∈ [Verb.should, Verb.shouldOnly, Verb.shouldNot], ∀ d ∈ [true, false], ∀ x ∈ [true, false],
    verdictOf (fun _ _ => false) (archGraph exA) (compile (exC v d x)) = VClass.ofBool (verdict exA (exC v d x)) := by
  decide +kernel

/-- admissible but not compatible: `sub modules of p` together with its own descendant `p.a` (the parent identifier
    `p` is a member of neither filter) -/
def exD (v : Verb) (d x : Bool) : RuleSpec :=
  { verb := v, importDir := d, exc := x, subjects := [.subOf (nm "p")], objects := [.named (nm "p.a"), .named (nm "q")] }
example : ∀ v ∈ [Verb.should, Verb.shouldOnly, Verb.shouldNot], ∀ d ∈ [true, false], ∀ x ∈ [true, false],
    compatible (exD v d x) = false ∧ admissible (exD v d x) = true ∧ (exD v d x).namesIn exA = true ∧
    fluent (exD v d x) = true ∧ (exD v d x).subjects ≠ [] ∧ (exD v d x).objects ≠ [] := by decide +kernel
set_option maxRecDepth 16000 in
example : ∀ v ∈ [Verb.should, Verb.shouldOnly, Verb.shouldNot], ∀ d ∈ [true, false], ∀ x ∈ [true, false],
    verdictOf (fun _ _ => false) (archGraph exA) (compile (exD v d x)) = VClass.ofBool (verdict exA (exD v d x)) := by
  decide +kernel

/-- the boundary of `admissible`, first half: the rule of `plain_subOf_counterexample` is not `parentFree`
    (the parent identifier `p` of the subject is a member of the object `p`) -/
example : parentFree exSub = false ∧ dedupSafe exSub = true := by decide

/-- the boundary of `admissible`, second half (`dedupSafe`): `p.a` imports `p`;
    "sub modules of p, p.a should_not import anything". Before the repair of F-C12a `_convert_aliases` removed the
    subject `p.a` because its identifier lies below the identifier `p` of the OTHER subject — although
    `sub modules of p` does not cover the import `p.a → p` (importee `p` is the subject's own parent), which the removed
    subject `p.a` does forbid (`p` is outside `p.a` and outside every object); the model PASSED and the specification
    did not hold. Since the repair only a subject given by name covers another subject: `p.a` is kept, the model FAILS,
    in agreement with the specification. The rule is `parentFree` and not `dedupSafe`, i.e. outside `admissible` but
    inside the domain of `verdict_spec_parentFree` below. -/
def exDd : RuleSpec :=
  { verb := .shouldNot, importDir := true, exc := false, subjects := [.subOf (nm "p"), .named (nm "p.a")], objects := [],
    anything := true }
theorem anything_subOf_dedup_repaired :
    exB.wf = true ∧ exDd.namesIn exB = true ∧ parentFree exDd = true ∧ dedupSafe exDd = false ∧
    dedupSubjects (exDd.subjects.map compileFilter) = exDd.subjects.map compileFilter ∧
    verdictOf (fun _ _ => false) (archGraph exB) (compile exDd) = .fail ∧ verdict exB exDd = false := by decide +kernel

/-- the same with a rule the fluent API CAN build (one `are_sub_modules_of([...])` call) — the regression witness of
    F-C12a: nodes `p`, `p.a`, `p.a.x`, `q`; the only import is `p.a.x → p`;
    `modules_that().are_sub_modules_of(["p", "p.a"]).should_not().import_anything()`.
    Before the repair `_convert_aliases` removed the subject `sub modules of p.a` (its identifier lies below `p`) and the
    remaining rule "sub modules of p should_not import except sub modules of p" tolerates the import (its far end `p` is
    the subject's own parent): the model PASSED, against the specification (for the subject `sub modules of p.a` the
    importee `p` is outside `p.a` and outside every object) and against the model's own verdict on the rule WITHOUT the
    alias, `… should_not().import_modules_except_modules_that().are_sub_modules_of(["p", "p.a"])` (it FAILS).
    Since the repair `sub modules of p` removes nothing: alias and spelled-out rule both FAIL, as the specification
    says. (The rule is neither `parentFree` — `p.a` is a member of `sub modules of p` — nor `dedupSafe`, so it is
    outside the domain of the oracle theorems; on this input model and specification agree nevertheless.) -/
def exE : Arch := { nodes := ["p", "p.a", "p.a.x", "q"].map nm, imports := [(nm "p.a.x", nm "p")] }
def exEany : RuleSpec :=
  { verb := .shouldNot, importDir := true, exc := false, subjects := [.subOf (nm "p"), .subOf (nm "p.a")], objects := [],
    anything := true }
def exEexc : RuleSpec :=
  { verb := .shouldNot, importDir := true, exc := true, subjects := [.subOf (nm "p"), .subOf (nm "p.a")],
    objects := [.subOf (nm "p"), .subOf (nm "p.a")] }
theorem anything_nested_subOf_repaired :
    exE.wf = true ∧ exEany.namesIn exE = true ∧ fluent exEany = true ∧ fluent exEexc = true ∧
    parentFree exEany = false ∧ dedupSafe exEany = false ∧
    verdictOf (fun _ _ => false) (archGraph exE) (compile exEany) = .fail ∧ verdict exE exEany = false ∧
    verdictOf (fun _ _ => false) (archGraph exE) (compile exEexc) = .fail ∧ verdict exE exEexc = false ∧
    (runRuleOps id (fun _ _ => false) (ruleOps exEany) (archGraph exE)).1.cls = .fail := by decide +kernel

/-! ### `parentFree` alone suffices

    `_convert_aliases` (as repaired for F-C12a) removes a subject only when its identifier lies strictly below the
    identifier of a subject GIVEN BY NAME; such a subject covers the removed one, so the `dedupSafe` half of `admissible`
    is not needed. -/

/-- verdict = documented semantics for every `parentFree` rule (⊇ `admissible`) -/
theorem verdict_spec_parentFree (mt : Str → Str → Bool) (a : Arch) (g : PGraph Str) (hg : GraphOf a g) (hwf : a.wf = true)
    (r : RuleSpec) (hpf : parentFree r = true) (hnames : r.namesIn a = true)
    (hs : r.subjects ≠ []) (ho : r.anything = true ∨ r.objects ≠ [])
    (hany : r.anything = true → r.verb = .shouldNot) :
    verdictOf mt g (compile r) = VClass.ofBool (verdict a r) :=
  Pta.verdict_spec_pf_lemma mt a g hg hwf r hpf hnames hs ho hany

/-- the reported atoms are the specification's violating set for every `parentFree` rule -/
theorem report_spec_parentFree (mt : Str → Str → Bool) (a : Arch) (g : PGraph Str) (hg : GraphOf a g) (hwf : a.wf = true)
    (r : RuleSpec) (hpf : parentFree r = true) (hnames : r.namesIn a = true)
    (hs : r.subjects ≠ []) (ho : r.anything = true ∨ r.objects ≠ [])
    (hany : r.anything = true → r.verb = .shouldNot) (items : List Item)
    (h : (assertApplies mt (compile r) g).2 = .fail items) :
    ∀ x, x ∈ items.flatMap Item.atoms ↔ x ∈ (violating a r).flatMap SItem.atoms :=
  Pta.report_spec_pf_lemma mt a g hg hwf r hpf hnames hs ho hany items h

theorem admissible_parentFree (r : RuleSpec) (h : admissible r = true) : parentFree r = true :=
  Pta.admissible_parentFree r h

/-- non-vacuity beyond `admissible`: `exDd` meets every hypothesis of `verdict_spec_parentFree` and is not `admissible` -/
example : exB.wf = true ∧ parentFree exDd = true ∧ admissible exDd = false ∧ exDd.namesIn exB = true ∧ exDd.subjects ≠ [] ∧
    exDd.anything = true ∧ exDd.verb = .shouldNot := by decide +kernel

/-! ### the fluent call chain reaches `compile r` (audit F14) -/

/-- `Rule().modules_that().are_named/are_sub_modules_of(subjects).<verb>().<import type>()[.<naming>(objects)]`
    leaves the builder in the state `compile r`, for every rule a single chain can express (`fluent r`: one naming
    call per side, so each side is homogeneous) -/
theorem rule_chain_final_state (glob : Str → Str) (r : RuleSpec) (hf : fluent r = true) :
    (ruleOps r).foldlM (RuleState.step glob) ({} : RuleState) = .ok (compile r) := by
  obtain ⟨verb, dir, exc, subjects, objects, anything⟩ := r
  unfold fluent at hf
  simp only [Bool.and_eq_true, Bool.or_eq_true] at hf
  obtain ⟨hS, hO⟩ := hf
  unfold ruleOps
  cases anything
  · have hO' : homogeneous objects = true := by simpa using hO
    simp only [Bool.false_eq_true, if_false, List.cons_append, List.nil_append, List.foldlM_cons, List.foldlM_nil]
    simp only [namingOp_step, hS, hO']
    cases verb <;> cases dir <;> cases exc <;> rfl
  · simp only [if_true, List.append_nil, List.foldlM_cons, List.foldlM_nil]
    simp only [namingOp_step, hS]
    cases verb <;> cases dir <;> rfl

/-- hence running the chain followed by `assert_applies` is `assertApplies` on `compile r`; no call of the chain
    raises (the reported index is the chain's length, i.e. `assert_applies` itself) -/
theorem rule_chain_state (glob : Str → Str) (mt : Str → Str → Bool) (g : PGraph Str) (r : RuleSpec)
    (hf : fluent r = true) :
    runRuleOps glob mt (ruleOps r) g = ((assertApplies mt (compile r) g).2, (ruleOps r).length) := by
  unfold runRuleOps
  rw [Pta.runRuleOps_go_ok glob mt g (ruleOps r) {} (compile r) 0 (rule_chain_final_state glob r hf), Nat.zero_add]

/-- the oracle theorem, end to end from the call chain -/
theorem rule_chain_verdict (glob : Str → Str) (mt : Str → Str → Bool) (a : Arch) (g : PGraph Str) (hg : GraphOf a g)
    (hwf : a.wf = true) (r : RuleSpec) (hf : fluent r = true) (hadm : admissible r = true) (hnames : r.namesIn a = true)
    (hs : r.subjects ≠ []) (ho : r.anything = true ∨ r.objects ≠ [])
    (hany : r.anything = true → r.verb = .shouldNot) :
    (runRuleOps glob mt (ruleOps r) g).1.cls = VClass.ofBool (verdict a r) := by
  rw [rule_chain_state glob mt g r hf]
  exact verdict_spec_admissible mt a g hg hwf r hadm hnames hs ho hany

example : fluent exR = true ∧ fluent (exN .shouldOnly false true) = true ∧ fluent (exAny true) = true ∧
    fluent (exD .should true false) = true ∧ fluent (exC .should true false) = false := by decide
example : ruleOps (exD .shouldOnly false true) =
    [.modulesThat, .areSubModulesOf ["p".toList], .shouldOnly, .beImportedByExcept, .areNamed ["p.a".toList, "q".toList]] ∧
    ruleOps (exAny true) = [.modulesThat, .areNamed ["p.a".toList, "q".toList, "p.a.x".toList, "q".toList], .shouldNot, .importAnything] := by
  decide +kernel
example : runRuleOps id (fun _ _ => false) (ruleOps (exD .shouldOnly false true)) (archGraph exA) =
    ((assertApplies (fun _ _ => false) (compile (exD .shouldOnly false true)) (archGraph exA)).2, 5) := by decide +kernel

/-! ### which reading of "something else" the oracle uses (audit F3)

    For a `sub modules of X` subject the specification's `others` (PtaSpec/RuleSem.lean) tests the far end of an
    import with `!desc X far`: an import between a strict descendant of `X` and `X` ITSELF is NOT "something else".
    This is the implementation's reading (`any_dependency_to_module_other_than` skips every node of `X`'s sub tree,
    `X` included); the documentation is silent. A literal reading of "X's strict descendants" (`othersLit`: `!s.mem far`)
    would count such an import. The oracle theorems above are about `others`, NOT about `othersLit`. The two readings
    coincide unless some import connects a strict descendant of `X` with `X` itself in the rule's direction. -/

/-- no import between a strict descendant of `X` and `X` (in the rule's direction) for any `sub modules of X`
    subject: the two readings give the same "something else" imports, hence the same verdict -/
theorem others_literal_agree (a : Arch) (r : RuleSpec) (h : noImportToOwnParent a r = true) :
    (∀ s ∈ r.subjects, ∀ os, othersLit a r.importDir s os = others a r.importDir s os) ∧
    verdictLit a r = verdict a r :=
  ⟨Pta.others_literal_agree_lemma a r h, Pta.verdict_literal_agree_lemma a r h⟩

/-- in particular for rules whose subjects are all given by name -/
example : ∀ v ∈ [Verb.should, Verb.shouldOnly, Verb.shouldNot], ∀ d ∈ [true, false], ∀ x ∈ [true, false],
    noImportToOwnParent exA (exN v d x) = true ∧ noImportToOwnParent exA (exD v d x) = true := by decide +kernel

/-- where they differ: nodes `p`, `p.a`, `q`; the only import is `p.a → p`;
    "sub modules of p should_not import except q". Specification (`others`) and model: the rule holds / passes — the
    import's far end `p` is the subject's own parent. Literal reading: `p.a → p` is one violating import. -/
def exL : Arch := { nodes := ["p", "p.a", "q"].map nm, imports := [(nm "p.a", nm "p")] }
def exLr : RuleSpec := { verb := .shouldNot, importDir := true, exc := true, subjects := [.subOf (nm "p")], objects := [.named (nm "q")] }
theorem others_literal_counterexample :
    exL.wf = true ∧ exLr.strict = true ∧ exLr.namesIn exL = true ∧ noImportToOwnParent exL exLr = false ∧
    verdict exL exLr = true ∧ verdictOf (fun _ _ => false) (archGraph exL) (compile exLr) = .pass ∧
    others exL true (.subOf (nm "p")) [.named (nm "q")] = [] ∧
    othersLit exL true (.subOf (nm "p")) [.named (nm "q")] = [(nm "p.a", nm "p")] ∧
    verdictLit exL exLr = false := by decide +kernel

end Pta.C01
