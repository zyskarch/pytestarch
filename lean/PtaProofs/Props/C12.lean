/-
  PtaProofs.Props.C12 — rule algebra (property C12), stated for `PtaModel.assertApplies` on EVERY graph
  (no well-formedness, related identifiers included), every regex interpretation `mt`.
-/
import Bridge.Abs
import PtaProofs.Lemmas.RuleAlgebra
import PtaProofs.Lemmas.AnythingDedup
import PtaProofs.Lemmas.RuleErrors
namespace Pta.C12

/-- duality: `A should (not) import B` and `B should (not) be imported by A` have the same verdict.
    Three-valued: this is an equation between verdict CLASSES (`VClass` = pass | fail | err k), so it says at once:
    one passes iff the other passes, one fails iff the other fails, and one raises error `k` iff the other raises the
    same `k` (no hypothesis; ill-configured rules, unknown names and regexes without a match included). -/
theorem duality (mt : Str → Str → Bool) (g : PGraph Str) (A B : List Filter) (neg : Bool) :
    verdictOf mt g (mkRule (!neg) false neg true false A B) = verdictOf mt g (mkRule (!neg) false neg false false B A) :=
  Pta.duality_lemma mt g A B neg

/-- negation (one subject module, one object module; plain and `except` forms, both directions):
    `should` passes exactly when `should not` fails. "One subject" means one module filter: a regular
    expression stands for several subjects (see `negation_counterexample_regex`). -/
theorem negation (mt : Str → Str → Bool) (g : PGraph Str) (s o : Filter) (dir exc : Bool)
    (hs : s.isRegex = false) (ho : o.isRegex = false) :
    verdictOf mt g (mkRule true false false dir exc [s] [o]) = .pass ↔
    verdictOf mt g (mkRule false false true dir exc [s] [o]) = .fail :=
  ⟨Pta.negation_lemma_mp mt g [s] [o] dir exc, Pta.negation_lemma_mpr mt g s o dir exc hs ho⟩

/-- one direction holds for every filter kind: a passing `should` makes `should not` fail -/
theorem negation_mp (mt : Str → Str → Bool) (g : PGraph Str) (s o : Filter) (dir exc : Bool) :
    verdictOf mt g (mkRule true false false dir exc [s] [o]) = .pass →
    verdictOf mt g (mkRule false false true dir exc [s] [o]) = .fail :=
  Pta.negation_lemma_mp mt g [s] [o] dir exc

/-- why the hypothesis is needed: a regex subject matching two modules, one of which imports the object -/
theorem negation_counterexample_regex :
    let g : PGraph Str := ⟨["m1".toList, "m2".toList, "q".toList], [⟨"m1".toList, "q".toList, false⟩]⟩
    let mt : Str → Str → Bool := fun _ m => m == "m1".toList || m == "m2".toList
    ¬ (verdictOf mt g (mkRule true false false true false [.regex "m.".toList] [.name "q".toList]) = .pass ↔
       verdictOf mt g (mkRule false false true true false [.regex "m.".toList] [.name "q".toList]) = .fail) := by decide

/-- decomposition: `should only` passes exactly when `should` and `should not … except` pass -/
theorem decomposition (mt : Str → Str → Bool) (g : PGraph Str) (A B : List Filter) (dir : Bool) :
    verdictOf mt g (mkRule false true false dir false A B) = .pass ↔
    (verdictOf mt g (mkRule true false false dir false A B) = .pass ∧
     verdictOf mt g (mkRule false false true dir true A B) = .pass) :=
  Pta.decomposition_pass mt g A B dir false

/-- decomposition of `should only … except` into `should … except` and `should not` -/
theorem decomposition_except (mt : Str → Str → Bool) (g : PGraph Str) (A B : List Filter) (dir : Bool) :
    verdictOf mt g (mkRule false true false dir true A B) = .pass ↔
    (verdictOf mt g (mkRule true false false dir true A B) = .pass ∧
     verdictOf mt g (mkRule false false true dir false A B) = .pass) :=
  Pta.decomposition_pass mt g A B dir true

/-- the `anything` alias: `S should not import anything` is `S should not import modules except S`
    (for subject batches the parent/sub-module de-duplication leaves unchanged, e.g. a single subject, or — since the
    repair of F-C12a — a batch of `sub modules of` filters: `alias_anything_parents`) -/
theorem alias_anything (mt : Str → Str → Bool) (g : PGraph Str) (S : List Filter) (dir : Bool)
    (hS : dedupSubjects S = S) :
    assertApplies mt { cfg := { subjects := some S, shouldNot := true, importDir := some dir, anything := true }, next := some false } g
      = assertApplies mt (mkRule false false true dir true S S) g := by
  exact Pta.anything_alias_of_dedup_eq mt g S dir hS

/-- the `anything` alias for EVERY batch of names (no de-duplication hypothesis; the names need not exist), as verdict
    class: `S should not import anything` has the verdict of `S should not import modules except S`, on every graph whose
    hierarchy edges cover the dotted nesting of its nodes (`HierClosed`: every graph `buildGraph` constructs, see
    `Pta.C11.hierClosed_buildGraph`).  A name that does not exist makes both sides raise a lookup error (since the repair
    of F-C13b; before it the alias silently dropped an absent dotted extension of another subject, see
    `Pta.C11.anything_dedup_absent_name_witness`). -/
theorem alias_anything_verdict (mt : Str → Str → Bool) (g : PGraph Str) (hc : HierClosed g) (S : List Filter) (dir : Bool)
    (hS : namesOnly S = true) :
    verdictOf mt g { cfg := { subjects := some S, shouldNot := true, importDir := some dir, anything := true }, next := some false }
      = verdictOf mt g (mkRule false false true dir true S S) :=
  Pta.alias_anything_verdict_lemma mt g hc S dir hS

/-- the `anything` alias for every batch of `sub modules of` filters (`are_sub_modules_of([...])`), related or not:
    `_convert_aliases` removes nothing (`sub modules of p` does not contain `p`, so it covers no other subject — repair of
    F-C12a), hence alias and spelled-out `except` rule have the SAME outcome (verdict, report, errors, rule object
    afterwards) on every graph. Before the repair this failed for related identifiers, see
    `alias_parents_regression_witness`. -/
theorem alias_anything_parents (mt : Str → Str → Bool) (g : PGraph Str) (S : List Filter) (dir : Bool)
    (hS : S.all Filter.isParent = true) :
    dedupSubjects S = S ∧
    assertApplies mt { cfg := { subjects := some S, shouldNot := true, importDir := some dir, anything := true }, next := some false } g
      = assertApplies mt (mkRule false false true dir true S S) g :=
  ⟨Pta.dedupSubjects_parents S hS, alias_anything mt g S dir (Pta.dedupSubjects_parents S hS)⟩

/-- the verdict-class alias law for EVERY batch one naming call of the fluent API builds — `are_named([...])`,
    `are_sub_modules_of([...])`, `have_name_matching(...)` — related identifiers and absent names included, on every
    `HierClosed` graph (every graph `buildGraph` constructs): `S should not import / be imported by anything` has the
    verdict class of `S should not import / be imported by modules except S`. -/
theorem alias_anything_verdict_api (mt : Str → Str → Bool) (g : PGraph Str) (hc : HierClosed g) (S : List Filter) (dir : Bool)
    (hS : namesOnly S = true ∨ S.all Filter.isParent = true ∨ (∃ p, S = [.regex p])) :
    verdictOf mt g { cfg := { subjects := some S, shouldNot := true, importDir := some dir, anything := true }, next := some false }
      = verdictOf mt g (mkRule false false true dir true S S) :=
  Pta.alias_anything_verdict_names_or_fixed mt g hc S dir (Pta.apiBatch_names_or_fixed S hS)

/-- slightly more general: names only, or ANY batch the de-duplication leaves unchanged (characterised by
    `dedupSubjects_eq_self_iff`: no subject that is not a `sub modules of` filter lies strictly above another subject;
    e.g. the mixed batch `[sub modules of p, p.a]`, see the example below). This is as far as the law goes for mixed
    batches: see `alias_mixed_counterexample`. -/
theorem alias_anything_verdict_names_or_fixed (mt : Str → Str → Bool) (g : PGraph Str) (hc : HierClosed g) (S : List Filter)
    (dir : Bool) (hS : namesOnly S = true ∨ dedupSubjects S = S) :
    verdictOf mt g { cfg := { subjects := some S, shouldNot := true, importDir := some dir, anything := true }, next := some false }
      = verdictOf mt g (mkRule false false true dir true S S) :=
  Pta.alias_anything_verdict_names_or_fixed mt g hc S dir hS

theorem dedupSubjects_eq_self_iff (S : List Filter) :
    dedupSubjects S = S ↔ ∀ o ∈ S, ∀ f ∈ S, o.isParent = false → isStrictSub o.id f.id = false :=
  Pta.dedupSubjects_eq_self_iff S

/-- what `_convert_aliases` does for every subject list (outcome AND rewritten rule object): the alias is the `except`
    rule on the de-duplicated subjects which remembers the subjects it removed (`dropped`; before the repair of F-C13b
    they were forgotten, i.e. the right-hand side was `mkRule false false true dir true (dedupSubjects S) (dedupSubjects S)`) -/
theorem alias_anything_dedup (mt : Str → Str → Bool) (g : PGraph Str) (S : List Filter) (dir : Bool) :
    assertApplies mt { cfg := { subjects := some S, shouldNot := true, importDir := some dir, anything := true }, next := some false } g
      = assertApplies mt
          { cfg := { subjects := some (dedupSubjects S), objects := some (dedupSubjects S), shouldNot := true,
                     exceptPresent := true, importDir := some dir, dropped := droppedSubjects S }, next := some false } g := by
  simp only [Pta.assertApplies_front]; rfl

/-- … and its outcome in terms of the plain `except` rule: a removed subject that is not a module (and not a regex) is a
    lookup error; otherwise the outcome of `except` rule on the de-duplicated subjects -/
theorem alias_anything_dedup_verdict (mt : Str → Str → Bool) (g : PGraph Str) (S : List Filter) (dir : Bool) :
    (assertApplies mt { cfg := { subjects := some S, shouldNot := true, importDir := some dir, anything := true }, next := some false } g).2
      = if (droppedSubjects S).any (fun f => !f.isRegex && !g.hasNode f.id) = true then .err .lookupError
        else (assertApplies mt (mkRule false false true dir true (dedupSubjects S) (dedupSubjects S)) g).2 :=
  Pta.anything_alias_verdict mt g S dir

/-- in particular, when every (non-regex) subject is a module of the architecture, the alias has the outcome of the
    `except` rule on the de-duplicated subjects -/
theorem alias_anything_dedup_of_nodes (mt : Str → Str → Bool) (g : PGraph Str) (S : List Filter) (dir : Bool)
    (hn : ∀ f ∈ S, f.isRegex = false → g.hasNode f.id = true) :
    (assertApplies mt { cfg := { subjects := some S, shouldNot := true, importDir := some dir, anything := true }, next := some false } g).2
      = (assertApplies mt (mkRule false false true dir true (dedupSubjects S) (dedupSubjects S)) g).2 :=
  Pta.anything_alias_dedup_of_nodes mt g S dir hn

/-- monotonicity: a passing `should` rule (with or without `except`) stays passing. ANY pair `u v`, whether or
    not it carries an edge already (`addImportEdge g u v` appends the import edge `u → v` to the edge list and adds no
    module) -/
theorem monotone_should (mt : Str → Str → Bool) (g : PGraph Str) (u v : Str) (A B : List Filter) (dir exc : Bool) :
    verdictOf mt g (mkRule true false false dir exc A B) = .pass →
    verdictOf mt (addImportEdge g u v) (mkRule true false false dir exc A B) = .pass :=
  Pta.monotone_should_add mt g u v A B dir exc

/-- monotonicity: a failing `should not` rule (with or without `except`) stays failing -/
theorem monotone_should_not (mt : Str → Str → Bool) (g : PGraph Str) (u v : Str) (A B : List Filter) (dir exc : Bool) :
    verdictOf mt g (mkRule false false true dir exc A B) = .fail →
    verdictOf mt (addImportEdge g u v) (mkRule false false true dir exc A B) = .fail :=
  Pta.monotone_should_not_add mt g u v A B dir exc

/-! non-vacuity: a concrete graph on which the premises are met non-trivially -/
def exG : PGraph Str := buildGraph ["p".toList, "p.a".toList, "p.b".toList, "q".toList] [absImport "p.a".toList "q".toList] none

example : verdictOf (fun _ _ => false) exG (mkRule true false false true false [.name "p".toList] [.name "q".toList]) = .pass := by decide +kernel
example : verdictOf (fun _ _ => false) exG (mkRule false false true true false [.name "p".toList] [.name "q".toList]) = .fail := by decide +kernel
/-- the added pair `p.b → q` is new (a fact about the example; the theorems do not ask for it) -/
example : exG.hasEdge "p.b".toList "q".toList = false := by decide +kernel

/-! non-vacuity of `alias_anything_verdict`: a batch the de-duplication shrinks -/
def exG2 : PGraph Str :=
  buildGraph ["p".toList, "p.a".toList, "p.a.x".toList, "q".toList] [absImport "p.a.x".toList "q".toList] none
def exS2 : List Filter := [.name "p.a".toList, .name "p.a.x".toList, .name "p".toList]
example : HierClosed exG2 := Pta.buildGraph_hierClosed _ _ _ (by simp only [ExtBuild.NodeOf]; decide +kernel)
example : namesOnly exS2 = true := by decide
example : ∀ f ∈ exS2, exG2.hasNode f.id = true := by decide +kernel
example : dedupSubjects exS2 = [.name "p".toList] := by decide +kernel
example : verdictOf (fun _ _ => false) exG2 (mkRule false false true true true exS2 exS2) = .fail := by decide +kernel
/-- … and a batch with an absent name that the de-duplication drops: both sides raise the lookup error -/
def exS3 : List Filter := [.name "p.a".toList, .name "p.a.zz".toList]
example : namesOnly exS3 = true := by decide
example : dedupSubjects exS3 = [.name "p.a".toList] := by decide +kernel
example : exG2.hasNode "p.a.zz".toList = false := by decide +kernel
example : verdictOf (fun _ _ => false) exG2 (mkRule false false true true true exS3 exS3) = .err .lookupError := by decide +kernel
example : verdictOf (fun _ _ => false) exG2
    { cfg := { subjects := some exS3, shouldNot := true, importDir := some true, anything := true }, next := some false } =
    .err .lookupError := by decide +kernel

/-! ### the regression witness of F-C12a and the boundary of the alias law -/

/-- nodes `p`, `p.a`, `p.a.x` (hierarchy edges `p → p.a → p.a.x`), one import `p.a.x → p` -/
def exGW : PGraph Str :=
  buildGraph ["p".toList, "p.a".toList, "p.a.x".toList] [absImport "p.a.x".toList "p".toList] none
/-- `are_sub_modules_of(["p", "p.a"])` -/
def exSW : List Filter := [.parent "p".toList, .parent "p.a".toList]

/-- the regression witness of F-C12a: `modules_that().are_sub_modules_of(["p","p.a"]).should_not().import_anything()`
    and the spelled-out `….should_not().import_modules_except_modules_that().are_sub_modules_of(["p","p.a"])` both FAIL
    (the import `p.a.x → p` leaves `sub modules of p.a`, and `p` is in none of the objects), with the same report.
    BEFORE the repair the left-hand side was `.pass`: `_convert_aliases` removed `sub modules of p.a` in favour of
    `sub modules of p`, whose search treats its own parent `p` as inside. -/
theorem alias_parents_regression_witness :
    exSW.all Filter.isParent = true ∧ dedupSubjects exSW = exSW ∧
    verdictOf (fun _ _ => false) exGW
      { cfg := { subjects := some exSW, shouldNot := true, importDir := some true, anything := true }, next := some false } = .fail ∧
    verdictOf (fun _ _ => false) exGW (mkRule false false true true true exSW exSW) = .fail ∧
    (assertApplies (fun _ _ => false)
      { cfg := { subjects := some exSW, shouldNot := true, importDir := some true, anything := true }, next := some false } exGW).2 =
    (assertApplies (fun _ _ => false) (mkRule false false true true true exSW exSW) exGW).2 := by decide +kernel

example : HierClosed exGW := Pta.buildGraph_hierClosed _ _ _ (by simp only [ExtBuild.NodeOf]; decide +kernel)
/-- what the alias was before the repair: the `except` rule on `[sub modules of p]` alone (what the old de-duplication
    kept), which PASSES on `exGW` -/
example : verdictOf (fun _ _ => false) exGW
    (mkRule false false true true true [.parent "p".toList] [.parent "p".toList]) = .pass := by decide +kernel

/-- the mixed batch `[sub modules of p, p.a]` (not expressible with one naming call, but a value of the model): the
    repaired de-duplication leaves it unchanged, so the alias law holds for it (both sides fail on `exGW`); before the
    repair `p.a` was removed and the alias passed -/
example : dedupSubjects [.parent "p".toList, .name "p.a".toList] = [.parent "p".toList, .name "p.a".toList] ∧
    verdictOf (fun _ _ => false) exGW
      { cfg := { subjects := some [.parent "p".toList, .name "p.a".toList], shouldNot := true, importDir := some true,
                 anything := true }, next := some false } = .fail ∧
    verdictOf (fun _ _ => false) exGW
      (mkRule false false true true true [.parent "p".toList, .name "p.a".toList] [.parent "p".toList, .name "p.a".toList]) = .fail := by
  decide +kernel

/-- the three API batch shapes of `alias_anything_verdict_api`, each non-trivially -/
example : namesOnly exS2 = true ∧ exSW.all Filter.isParent = true ∧ (∃ p, [Filter.regex "p.*".toList] = [.regex p]) :=
  ⟨by decide, by decide, ⟨_, rfl⟩⟩

/-- the law does NOT extend to arbitrary regex-free batches mixing `are_named` and `are_sub_modules_of` filters (no
    single naming call of the fluent API builds these; the failure is independent of the repair of F-C12a). Two
    witnesses on `HierClosed` graphs, all names existing, the alias PASSES and the spelled-out rule FAILS:
    * `[p, sub modules of p.a, p.a.x]` with the import `p.a.x → p.a`: the name `p` covers and removes both others; in
      the spelled-out rule the parent identifier `p.a` of an object is not an allowed importee for the subject `p.a.x`;
    * `[p, p.a, sub modules of p]` with the import `p.a → p`: `p.a` is removed (covered by the name `p`); in the
      spelled-out rule `p` is the parent identifier of an object, hence not an allowed importee for the subject `p.a`. -/
theorem alias_mixed_counterexample :
    let g1 : PGraph Str := buildGraph ["p".toList, "p.a".toList, "p.a.x".toList] [absImport "p.a.x".toList "p.a".toList] none
    let S1 : List Filter := [.name "p".toList, .parent "p.a".toList, .name "p.a.x".toList]
    let g2 : PGraph Str := buildGraph ["p".toList, "p.a".toList] [absImport "p.a".toList "p".toList] none
    let S2 : List Filter := [.name "p".toList, .name "p.a".toList, .parent "p".toList]
    (S1.all (fun f => !f.isRegex) = true ∧ (∀ f ∈ S1, g1.hasNode f.id = true) ∧
      verdictOf (fun _ _ => false) g1
        { cfg := { subjects := some S1, shouldNot := true, importDir := some true, anything := true }, next := some false } = .pass ∧
      verdictOf (fun _ _ => false) g1 (mkRule false false true true true S1 S1) = .fail) ∧
    (S2.all (fun f => !f.isRegex) = true ∧ (∀ f ∈ S2, g2.hasNode f.id = true) ∧
      verdictOf (fun _ _ => false) g2
        { cfg := { subjects := some S2, shouldNot := true, importDir := some true, anything := true }, next := some false } = .pass ∧
      verdictOf (fun _ _ => false) g2 (mkRule false false true true true S2 S2) = .fail) := by decide +kernel

example : HierClosed (buildGraph ["p".toList, "p.a".toList, "p.a.x".toList] [absImport "p.a.x".toList "p.a".toList] none) :=
  Pta.buildGraph_hierClosed _ _ _ (by simp only [ExtBuild.NodeOf]; decide +kernel)
example : HierClosed (buildGraph ["p".toList, "p.a".toList] [absImport "p.a".toList "p".toList] none) :=
  Pta.buildGraph_hierClosed _ _ _ (by simp only [ExtBuild.NodeOf]; decide)


/-! ## three-valued forms (audit finding F13)

`verdictOf` has three kinds of values: `.pass`, `.fail`, `.err k`. The laws above are stated for `.pass` / `.fail`; the
theorems below add the error side, so that "passes exactly when both pass" is complemented by "raises exactly when one
of them raises — and then all of them raise, the same error". -/

/-- when a finished rule raises, and what, does not depend on verb, `except` or direction: two rules `mkRule …` on the
    same subjects and objects, each with a verb and a consistent behaviour, raise the same errors. (The three query
    families raise `lookupError` on the same inputs: a converted subject or object that is not a module.) -/
theorem error_independent_of_verb (mt : Str → Str → Bool) (g : PGraph Str) (A B : List Filter) (s o n d e s' o' n' d' e' : Bool)
    (hverb : (s || o || n) = true) (hc : (⟨s, o, n, e⟩ : Behavior).inconsistent = false)
    (hverb' : (s' || o' || n') = true) (hc' : (⟨s', o', n', e'⟩ : Behavior).inconsistent = false) (k : ErrKind) :
    verdictOf mt g (mkRule s o n d e A B) = .err k ↔ verdictOf mt g (mkRule s' o' n' d' e' A B) = .err k := by
  rw [Err.verdictOf_err_iff mt g s o n d e A B hverb hc, Err.verdictOf_err_iff mt g s' o' n' d' e' A B hverb' hc']

/-- error side of `decomposition`: `should only` raises `k` exactly when `should` raises `k`, and exactly when
    `should not … except` raises `k` (so the three rules raise together) -/
theorem decomposition_err_both (mt : Str → Str → Bool) (g : PGraph Str) (A B : List Filter) (dir : Bool) (k : ErrKind) :
    (verdictOf mt g (mkRule false true false dir false A B) = .err k ↔
      verdictOf mt g (mkRule true false false dir false A B) = .err k) ∧
    (verdictOf mt g (mkRule false true false dir false A B) = .err k ↔
      verdictOf mt g (mkRule false false true dir true A B) = .err k) :=
  ⟨error_independent_of_verb mt g A B _ _ _ _ _ _ _ _ _ _ rfl rfl rfl rfl k, error_independent_of_verb mt g A B _ _ _ _ _ _ _ _ _ _ rfl rfl rfl rfl k⟩

/-- … in particular: `should only` raises exactly when one of the two raises -/
theorem decomposition_err (mt : Str → Str → Bool) (g : PGraph Str) (A B : List Filter) (dir : Bool) (k : ErrKind) :
    verdictOf mt g (mkRule false true false dir false A B) = .err k ↔
    (verdictOf mt g (mkRule true false false dir false A B) = .err k ∨
     verdictOf mt g (mkRule false false true dir true A B) = .err k) := by
  obtain ⟨h1, h2⟩ := decomposition_err_both mt g A B dir k
  exact ⟨fun h => .inl (h1.1 h), fun h => h.elim h1.2 h2.2⟩

/-- the whole truth table of `decomposition` in one equation: the class of `should only` is the three-valued
    conjunction (`VClass.both`: an error if either raises, else fail if either fails, else pass) of the classes of
    `should` and `should not … except` -/
theorem decomposition_eq (mt : Str → Str → Bool) (g : PGraph Str) (A B : List Filter) (dir : Bool) :
    verdictOf mt g (mkRule false true false dir false A B) =
      VClass.both (verdictOf mt g (mkRule true false false dir false A B)) (verdictOf mt g (mkRule false false true dir true A B)) :=
  Pta.decomposition_cls mt g A B dir false

/-- hence the fail side: `should only` fails exactly when one of the two fails -/
theorem decomposition_fail (mt : Str → Str → Bool) (g : PGraph Str) (A B : List Filter) (dir : Bool) :
    verdictOf mt g (mkRule false true false dir false A B) = .fail ↔
    (verdictOf mt g (mkRule true false false dir false A B) = .fail ∨
     verdictOf mt g (mkRule false false true dir true A B) = .fail) := by
  rw [decomposition_eq]
  exact Pta.Err.both_fail_iff _ _ fun k =>
    (decomposition_err_both mt g A B dir k).1.symm.trans (decomposition_err_both mt g A B dir k).2

/-- the same three statements for `should only … except` = `should … except` ⊓ `should not` -/
theorem decomposition_except_err_both (mt : Str → Str → Bool) (g : PGraph Str) (A B : List Filter) (dir : Bool) (k : ErrKind) :
    (verdictOf mt g (mkRule false true false dir true A B) = .err k ↔
      verdictOf mt g (mkRule true false false dir true A B) = .err k) ∧
    (verdictOf mt g (mkRule false true false dir true A B) = .err k ↔
      verdictOf mt g (mkRule false false true dir false A B) = .err k) :=
  ⟨error_independent_of_verb mt g A B _ _ _ _ _ _ _ _ _ _ rfl rfl rfl rfl k, error_independent_of_verb mt g A B _ _ _ _ _ _ _ _ _ _ rfl rfl rfl rfl k⟩

theorem decomposition_except_err (mt : Str → Str → Bool) (g : PGraph Str) (A B : List Filter) (dir : Bool) (k : ErrKind) :
    verdictOf mt g (mkRule false true false dir true A B) = .err k ↔
    (verdictOf mt g (mkRule true false false dir true A B) = .err k ∨
     verdictOf mt g (mkRule false false true dir false A B) = .err k) := by
  obtain ⟨h1, h2⟩ := decomposition_except_err_both mt g A B dir k
  exact ⟨fun h => .inl (h1.1 h), fun h => h.elim h1.2 h2.2⟩

theorem decomposition_except_eq (mt : Str → Str → Bool) (g : PGraph Str) (A B : List Filter) (dir : Bool) :
    verdictOf mt g (mkRule false true false dir true A B) =
      VClass.both (verdictOf mt g (mkRule true false false dir true A B)) (verdictOf mt g (mkRule false false true dir false A B)) :=
  Pta.decomposition_cls mt g A B dir true

/-- error side of `negation` — for ALL subject / object lists, regexes included: `should not` raises `k` exactly when
    `should` raises `k` (plain and `except` forms, both directions) -/
theorem negation_err (mt : Str → Str → Bool) (g : PGraph Str) (A B : List Filter) (dir exc : Bool) (k : ErrKind) :
    verdictOf mt g (mkRule false false true dir exc A B) = .err k ↔ verdictOf mt g (mkRule true false false dir exc A B) = .err k :=
  by cases exc <;> exact error_independent_of_verb mt g A B _ _ _ _ _ _ _ _ _ _ rfl rfl rfl rfl k

/-- the whole truth table of `negation` (one subject module, one object module): the class of `should not` is the
    three-valued negation (`VClass.neg`: pass ↔ fail, errors kept) of the class of `should` -/
theorem negation_eq (mt : Str → Str → Bool) (g : PGraph Str) (s o : Filter) (dir exc : Bool)
    (hs : s.isRegex = false) (ho : o.isRegex = false) :
    verdictOf mt g (mkRule false false true dir exc [s] [o]) = VClass.neg (verdictOf mt g (mkRule true false false dir exc [s] [o])) :=
  Pta.Err.neg_of _ _ (negation mt g s o dir exc hs ho) (fun k => negation_err mt g [s] [o] dir exc k)

/-- hence the other half of `negation`: `should` fails exactly when `should not` passes -/
theorem negation_fail (mt : Str → Str → Bool) (g : PGraph Str) (s o : Filter) (dir exc : Bool)
    (hs : s.isRegex = false) (ho : o.isRegex = false) :
    verdictOf mt g (mkRule true false false dir exc [s] [o]) = .fail ↔
    verdictOf mt g (mkRule false false true dir exc [s] [o]) = .pass := by
  rw [negation_eq mt g s o dir exc hs ho]
  cases verdictOf mt g (mkRule true false false dir exc [s] [o]) <;> simp [VClass.neg]

/-- error side of the two monotonicity laws: adding an import edge does not change which error a rule raises (it adds
    no module), so the only change it can cause is `fail → pass` for `should` and `pass → fail` for `should not` -/
theorem monotone_err (mt : Str → Str → Bool) (g : PGraph Str) (u v : Str) (A B : List Filter) (neg dir exc : Bool) (k : ErrKind) :
    verdictOf mt (addImportEdge g u v) (mkRule (!neg) false neg dir exc A B) = .err k ↔
    verdictOf mt g (mkRule (!neg) false neg dir exc A B) = .err k :=
  Pta.monotone_err_lemma mt g u v A B (!neg) false neg dir exc (by cases neg <;> rfl) (by cases neg <;> cases exc <;> rfl) k

/-- the hypotheses of `error_independent_of_verb` hold for all six rule shapes of this file -/
example : ∀ e : Bool, (⟨true, false, false, e⟩ : Behavior).inconsistent = false ∧ (⟨false, true, false, e⟩ : Behavior).inconsistent = false ∧
    (⟨false, false, true, e⟩ : Behavior).inconsistent = false := by decide

/-! non-vacuity of the error side: an unknown object name makes all three rules raise the lookup error, a regex without
    a match the `impossibleMatch` error; and an instance where `should only` fails because exactly one side fails -/
example : verdictOf (fun _ _ => false) exG (mkRule false true false true false [.name "p".toList] [.name "zz".toList]) = .err .lookupError ∧
    verdictOf (fun _ _ => false) exG (mkRule true false false true false [.name "p".toList] [.name "zz".toList]) = .err .lookupError ∧
    verdictOf (fun _ _ => false) exG (mkRule false false true true true [.name "p".toList] [.name "zz".toList]) = .err .lookupError := by
  decide +kernel
example : verdictOf (fun _ _ => false) exG (mkRule false true false true false [.regex "x.*".toList] [.name "q".toList]) = .err .impossibleMatch ∧
    verdictOf (fun _ _ => false) exG (mkRule true false false true false [.regex "x.*".toList] [.name "q".toList]) = .err .impossibleMatch := by
  decide +kernel
def exG3 : PGraph Str :=
  buildGraph ["p".toList, "p.a".toList, "p.b".toList, "q".toList, "r".toList]
    [absImport "p.a".toList "q".toList, absImport "p.b".toList "r".toList] none
example : verdictOf (fun _ _ => false) exG3 (mkRule false true false true false [.name "p".toList] [.name "q".toList]) = .fail ∧
    verdictOf (fun _ _ => false) exG3 (mkRule true false false true false [.name "p".toList] [.name "q".toList]) = .pass ∧
    verdictOf (fun _ _ => false) exG3 (mkRule false false true true true [.name "p".toList] [.name "q".toList]) = .fail := by
  decide +kernel
example : verdictOf (fun _ _ => false) exG (mkRule false true false true false [.name "p".toList] [.name "q".toList]) = .pass ∧
    verdictOf (fun _ _ => false) exG (mkRule true false false true false [.name "p".toList] [.name "q".toList]) = .pass ∧
    verdictOf (fun _ _ => false) exG (mkRule false false true true true [.name "p".toList] [.name "q".toList]) = .pass := by
  decide +kernel
example : verdictOf (fun _ _ => false) exG (mkRule true false false true false [.name "p.b".toList] [.name "q".toList]) = .fail ∧
    verdictOf (fun _ _ => false) exG (mkRule false false true true false [.name "p.b".toList] [.name "q".toList]) = .pass := by
  decide +kernel

end Pta.C12
