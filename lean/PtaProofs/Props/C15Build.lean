/-
  PtaProofs.Props.C15Build — properties C15 / C13 for histories that INTERLEAVE BUILDER CALLS WITH APPLICATIONS on one
  `Rule` object (Bridge/HistoryBuild.lean; Props/C15Hist.lean only applies finished objects).

  Question: can an application change what LATER BUILDER CALLS mean?  Conjecture A ("applications are transparent"): the
  outcome of an application at the end of a history is the outcome of applying the object built by the builder calls of
  the history alone (`forget`).

  ANSWER: FALSE on the model (`apply_changes_later_calls_counterexample`, `ApplicationsTransparent_Statement_false`).
  `_convert_aliases` rewrites an `anything` rule in place into an `except` rule over its own subjects and CLEARS the
  `rule_object_anything` flag; a module-setting call made afterwards lands in a configuration in which the conversion is
  no longer pending, whereas in the never-applied object the conversion is still to come and OVERWRITES the call's effect.
  Three flavours below, all by `decide`: objects re-specified, subjects re-specified, `import_anything()` re-issued (then the
  remembered removed subjects, repair of F-C13b, are overwritten: PASS instead of `KeyError`).

  Proved: Conjecture A, for ALL outcomes of the history, whenever every module-setting / `anything` call is made while the
  history's object and the builder-only object agree on the `anything` flag, or is an `anything` call re-issued while no
  removed subject is remembered (`syncAtUnsafe`, `applications_transparent_sync`); the three counterexamples are exactly
  the three ways of violating this condition.
-/
import Bridge.HistoryBuild
import PtaProofs.Lemmas.HistoryBuild
namespace Pta.C15

/-- Conjecture A: for every history on a fresh `Rule()` and every architecture index in range, the application at the end
    of the history has the outcome of the rule built by the builder calls alone -/
def ApplicationsTransparent_Statement : Prop :=
  ∀ (glob : Str → Str) (mt : Str → Str → Bool) (archs : List (PGraph Str)) (h : List REv) (j : Nat),
    j < archs.length → outcomeAfter glob mt archs {} h j = outcomeForgotten glob mt archs {} h j

namespace BEx
def S (s : String) : Str := s.toList
/-- no regex engine / glob conversion needed -/
def mt : Str → Str → Bool := fun _ _ => false
def glob : Str → Str := id
/-- modules `a`, `b`, `c`; `a` imports `b` -/
def gab : PGraph Str := buildGraph [S "a", S "b", S "c"] [absImport (S "a") (S "b")] none
/-- modules `a`, `b`, `c`; `c` imports `a` -/
def gca : PGraph Str := buildGraph [S "a", S "b", S "c"] [absImport (S "c") (S "a")] none
/-- has `p.a.zz` -/
def gz : PGraph Str := buildGraph [S "p", S "p.a", S "p.a.zz", S "q"] [] none
/-- has no `p.a.zz` -/
def gnz : PGraph Str := buildGraph [S "p", S "p.a", S "q"] [] none
def archs : List (PGraph Str) := [gab, gca, gz, gnz]
/-- `Rule().modules_that().are_named("a").should_not().import_anything()` -/
def aNotAny : List REv := [.call .modulesThat, .call (.areNamed [S "a"]), .call .shouldNot, .call .importAnything]
/-- `…; r.assert_applies(gab); r.are_named("b")` -/
def hObj : List REv := aNotAny ++ [.apply 0, .call (.areNamed [S "b"])]
/-- `…; r.assert_applies(gab); r.modules_that().are_named("c")` -/
def hSubj : List REv := aNotAny ++ [.apply 0, .call .modulesThat, .call (.areNamed [S "c"])]
/-- `Rule().modules_that().are_named(["p.a", "p.a.zz"]).should_not().import_anything(); r.assert_applies(gz);
    r.import_anything()` -/
def hAgain : List REv :=
  [.call .modulesThat, .call (.areNamed [S "p.a", S "p.a.zz"]), .call .shouldNot, .call .importAnything,
   .apply 2, .call .importAnything]
/-- six events: `r = Rule(); r.should_not(); r.import_anything(); r.assert_applies(gab)  # raises`
    `r.modules_that(); r.are_named("a")` -/
def hSix : List REv := [.call .shouldNot, .call .importAnything, .apply 0, .call .modulesThat, .call (.areNamed [S "a"])]
end BEx

/-- THE COUNTEREXAMPLE (objects re-specified after an application). On the architecture `a → b`:

      r = Rule().modules_that().are_named("a").should_not().import_anything()
      r.assert_applies(arch)     # AssertionError: "a" imports "b".
      r.are_named("b")
      r.assert_applies(arch)     # PASSES: the object now reads `a should not import modules except b`

    whereas `Rule().modules_that().are_named("a").should_not().import_anything().are_named("b")` applied to the same
    architecture fails with `"a" imports "b".` (`_convert_aliases` overwrites the objects). Both runs in full: -/
theorem apply_changes_later_calls_counterexample :
    runREvs BEx.glob BEx.mt BEx.archs {} (BEx.hObj ++ [.apply 0]) =
      [.called, .called, .called, .called, .applied (.fail [BEx.S "\"a\" imports \"b\"."]), .called,
       .applied .pass] ∧
    refREvs BEx.glob BEx.mt BEx.archs {} (BEx.hObj ++ [.apply 0]) =
      [.called, .called, .called, .called, .applied (.fail [BEx.S "\"a\" imports \"b\"."]), .called,
       .applied (.fail [BEx.S "\"a\" imports \"b\"."])] ∧
    outcomeAfter BEx.glob BEx.mt BEx.archs {} BEx.hObj 0 = .applied .pass ∧
    outcomeForgotten BEx.glob BEx.mt BEx.archs {} BEx.hObj 0 = .applied (.fail [BEx.S "\"a\" imports \"b\"."]) := by
  decide

/-- the objects the two runs end with: an `except b` rule vs. an `anything` rule that is still to be converted -/
theorem apply_changes_later_calls_states :
    execREvs BEx.glob BEx.mt BEx.archs {} BEx.hObj =
      { cfg := { subjects := some [.name (BEx.S "a")], objects := some [.name (BEx.S "b")], shouldNot := true,
                 exceptPresent := true, importDir := some true, anything := false }, next := some false } ∧
    buildOnly BEx.glob {} (forget BEx.hObj) =
      { cfg := { subjects := some [.name (BEx.S "a")], objects := some [.name (BEx.S "b")], shouldNot := true,
                 exceptPresent := false, importDir := some true, anything := true }, next := some false } := by
  decide

/-- Conjecture A is false -/
theorem ApplicationsTransparent_Statement_false : ¬ ApplicationsTransparent_Statement := by
  intro h
  have h1 := h BEx.glob BEx.mt BEx.archs BEx.hObj 0 (by decide)
  rw [apply_changes_later_calls_counterexample.2.2.1, apply_changes_later_calls_counterexample.2.2.2] at h1
  exact absurd h1 (by decide)

/-- second flavour (SUBJECTS re-specified). On the architecture `c → a`:
    `r = Rule().modules_that().are_named("a").should_not().import_anything(); r.assert_applies(gab)` (fails),
    `r.modules_that().are_named("c"); r.assert_applies(gca)` PASSES (the object reads `c should not import modules except a`),
    the never-applied object fails with `"c" imports "a".` -/
theorem apply_changes_later_subjects_counterexample :
    outcomeAfter BEx.glob BEx.mt BEx.archs {} BEx.hSubj 1 = .applied .pass ∧
    outcomeForgotten BEx.glob BEx.mt BEx.archs {} BEx.hSubj 1 = .applied (.fail [BEx.S "\"c\" imports \"a\"."]) := by
  decide +kernel

/-- third flavour (`import_anything()` re-issued; touches the repair of F-C13b). `gz` has the module `p.a.zz`, `gnz` has not:
    `r = Rule().modules_that().are_named(["p.a", "p.a.zz"]).should_not().import_anything(); r.assert_applies(gz)` passes
    and remembers the removed subject `p.a.zz`; `r.assert_applies(gnz)` would raise `KeyError`; but after
    `r.import_anything()` the second conversion overwrites `modules_removed_by_alias_conversion` with `()` and
    `r.assert_applies(gnz)` PASSES, whereas the never-applied object raises `KeyError` on `gnz`. -/
theorem apply_then_anything_again_counterexample :
    outcomeAfter BEx.glob BEx.mt BEx.archs {} (BEx.hAgain.take 5) 3 = .applied (.err .lookupError) ∧
    outcomeAfter BEx.glob BEx.mt BEx.archs {} BEx.hAgain 3 = .applied .pass ∧
    outcomeForgotten BEx.glob BEx.mt BEx.archs {} BEx.hAgain 3 = .applied (.err .lookupError) ∧
    (execREvs BEx.glob BEx.mt BEx.archs {} (BEx.hAgain ++ [.apply 3])).cfg.dropped = [] ∧
    (execREvs BEx.glob BEx.mt BEx.archs {} (BEx.hAgain.take 5)).cfg.dropped = [.name (BEx.S "p.a.zz")] := by
  decide +kernel

/-- the shortest history with different outcomes (six events with the final application; five events cannot differ: the
    first application must meet an `anything` + `should_not` object, and with subjects unset both sides raise
    `ImproperlyConfigured`). Here the FIRST application raises `ImproperlyConfigured` (no subject) but has already
    rewritten the configuration (`_convert_aliases` runs before the check): afterwards
    `r.modules_that().are_named("a"); r.assert_applies(gab)` raises `ImproperlyConfigured` (no rule object) whereas the
    never-applied object gives the verdict `"a" imports "b".` -/
theorem apply_changes_later_calls_counterexample_six :
    runREvs BEx.glob BEx.mt BEx.archs {} (BEx.hSix ++ [.apply 0]) =
      [.called, .called, .applied (.err .improperlyConfigured), .called, .called,
       .applied (.err .improperlyConfigured)] ∧
    outcomeForgotten BEx.glob BEx.mt BEx.archs {} BEx.hSix 0 = .applied (.fail [BEx.S "\"a\" imports \"b\"."]) := by
  decide +kernel

/-- the eight safe calls (`modules_that`, `should`, `should_only`, `should_not`, `import_modules_that`,
    `be_imported_by_modules_that`, `import_modules_except_modules_that`, `be_imported_by_modules_except_modules_that`) map
    equivalent objects (same `_convert_aliases`-normal form) to equivalent objects -/
theorem step_respects_equiv_safe (glob : Str → Str) (s t : RuleState) (op : RuleOp) (h : s.Equiv t)
    (hop : op.safe = true) : (s.stepStay glob op).Equiv (t.stepStay glob op) :=
  Pta.HistoryBuild.stepStay_equiv_of_sync glob s t op h (by rw [hop]; rfl)

/-- in particular a safe call commutes with the normal form, up to equivalence: calling it on the object an application
    leaves behind gives an object equivalent to calling it on the original -/
theorem step_normalForm_safe (glob : Str → Str) (s : RuleState) (op : RuleOp) (hop : op.safe = true) :
    (s.normalForm.stepStay glob op).Equiv (s.stepStay glob op) :=
  step_respects_equiv_safe glob _ _ op (Pta.History.normalForm_idem s) hop

/-- EVERY call maps equivalent objects that agree on the `anything` flag to equivalent objects -/
theorem step_respects_equiv_sync (glob : Str → Str) (s t : RuleState) (op : RuleOp) (h : s.Equiv t)
    (ha : s.cfg.anything = t.cfg.anything) : (s.stepStay glob op).Equiv (t.stepStay glob op) :=
  Pta.HistoryBuild.stepStay_equiv_of_sync glob s t op h (by simp [ha])

/-- `import_anything` / `be_imported_by_anything` re-issued on equivalent objects (e.g. after an application has
    converted one of them) gives equivalent objects when no removed rule subject is remembered in either
    (`modules_removed_by_alias_conversion` empty) -/
theorem step_respects_equiv_anything (glob : Str → Str) (s t : RuleState) (op : RuleOp) (h : s.Equiv t)
    (hop : op = .importAnything ∨ op = .beImportedByAnything) (hs : s.cfg.dropped = []) (ht : t.cfg.dropped = []) :
    (s.stepStay glob op).Equiv (t.stepStay glob op) :=
  Pta.HistoryBuild.stepStay_equiv_of_sync glob s t op h (by rcases hop with rfl | rfl <;> simp [RuleOp.setsAnything, hs, ht])

/-- whether a call raises (and what) is the same on equivalent objects -/
theorem step_raises_equiv (glob : Str → Str) (s t : RuleState) (op : RuleOp) (h : s.Equiv t) :
    s.stepOut glob op = t.stepOut glob op :=
  Pta.HistoryBuild.stepOut_equiv glob s t op h

namespace BEx
/-- `[p.a, p.a.zz] should not import anything`, subjects to be specified next -/
def rSub : RuleState :=
  { cfg := { subjects := some [.name (S "p.a"), .name (S "p.a.zz")], shouldNot := true, importDir := some true,
             anything := true }, next := some true }
/-- the same, objects to be specified next (as `import_anything()` leaves it) -/
def rObj : RuleState := { rSub with next := some false }
end BEx

/-- none of the other six calls commutes with the normal form, not even up to equivalence -/
theorem unsafe_ops_break_equiv :
    ¬ (BEx.rObj.normalForm.stepStay BEx.glob (.areNamed [BEx.S "q"])).Equiv (BEx.rObj.stepStay BEx.glob (.areNamed [BEx.S "q"])) ∧
    ¬ (BEx.rSub.normalForm.stepStay BEx.glob (.areNamed [BEx.S "q"])).Equiv (BEx.rSub.stepStay BEx.glob (.areNamed [BEx.S "q"])) ∧
    ¬ (BEx.rObj.normalForm.stepStay BEx.glob (.areSubModulesOf [BEx.S "q"])).Equiv
        (BEx.rObj.stepStay BEx.glob (.areSubModulesOf [BEx.S "q"])) ∧
    ¬ (BEx.rObj.normalForm.stepStay BEx.glob (.haveNameMatching (BEx.S "q"))).Equiv
        (BEx.rObj.stepStay BEx.glob (.haveNameMatching (BEx.S "q"))) ∧
    ¬ (BEx.rObj.normalForm.stepStay BEx.glob (.haveNameContaining [BEx.S "q"])).Equiv
        (BEx.rObj.stepStay BEx.glob (.haveNameContaining [BEx.S "q"])) ∧
    ¬ (BEx.rObj.normalForm.stepStay BEx.glob .importAnything).Equiv (BEx.rObj.stepStay BEx.glob .importAnything) ∧
    ¬ (BEx.rObj.normalForm.stepStay BEx.glob .beImportedByAnything).Equiv
        (BEx.rObj.stepStay BEx.glob .beImportedByAnything) := by
  unfold RuleState.Equiv
  decide

/-- MAIN THEOREM. If every module-setting / `anything` call of the history is made while the history's object and the
    builder-only object agree on the `anything` flag, or is `import_anything` / `be_imported_by_anything` re-issued while
    no removed subject is remembered (`syncAtUnsafe`; safe calls and applications are unrestricted), then
    EVERY outcome of the history — builder calls that raise, verdicts, message lines, exceptions of every application —
    is the outcome in the reference run, where each application is made on the object built by the builder calls so far
    alone; and the object left behind is `_convert_aliases`-equivalent to the builder-only object. Any start object. -/
theorem applications_transparent_sync (glob : Str → Str) (mt : Str → Str → Bool) (archs : List (PGraph Str))
    (s : RuleState) (h : List REv) (hs : syncAtUnsafe glob mt archs s s h = true) :
    runREvs glob mt archs s h = refREvs glob mt archs s h ∧
    (execREvs glob mt archs s h).Equiv (buildOnly glob s (forget h)) :=
  Pta.HistoryBuild.run_eq_ref_lemma glob mt archs h s s rfl hs

/-- Conjecture A as `ApplicationsTransparent_Statement` puts it (the LAST application) under the synchronisation condition -/
theorem applications_transparent (glob : Str → Str) (mt : Str → Str → Bool) (archs : List (PGraph Str))
    (s : RuleState) (h : List REv) (j : Nat) (hs : syncAtUnsafe glob mt archs s s h = true) :
    outcomeAfter glob mt archs s h j = outcomeForgotten glob mt archs s h j :=
  (Pta.HistoryBuild.stepREv_apply_equiv glob mt archs _ _ j (applications_transparent_sync glob mt archs s h hs).2).1

/-- what `outcomeForgotten` is: `assertAppliesText` on the object the builder calls alone produce -/
theorem outcomeForgotten_eq (glob : Str → Str) (mt : Str → Str → Bool) (archs : List (PGraph Str)) (s : RuleState)
    (h : List REv) (j : Nat) (g : PGraph Str) (hg : archs[j]? = some g) :
    outcomeForgotten glob mt archs s h j = .applied (assertAppliesText mt (buildOnly glob s (forget h)) g).2 := by
  simp only [outcomeForgotten, stepREv, hg]

/-- syntactic corollary: once the object has been applied, only the eight safe calls are made -/
theorem applications_transparent_safe_after_apply (glob : Str → Str) (mt : Str → Str → Bool)
    (archs : List (PGraph Str)) (s : RuleState) (h : List REv) (hs : safeAfterApply h = true) :
    runREvs glob mt archs s h = refREvs glob mt archs s h ∧
    (∀ j, outcomeAfter glob mt archs s h j = outcomeForgotten glob mt archs s h j) :=
  have hsync := Pta.HistoryBuild.sync_of_safeAfterApply glob mt archs h s hs
  ⟨(applications_transparent_sync glob mt archs s h hsync).1,
   fun j => applications_transparent glob mt archs s h j hsync⟩

/-- if no application of the history meets an `anything` + `should_not` object (`noRewrite`: an `anything` rule misused
    with `should` raises before the conversion; any other rule is not converted), the object is at every time LITERALLY
    the object of the builder calls alone — any call may follow -/
theorem applications_transparent_no_rewrite (glob : Str → Str) (mt : Str → Str → Bool) (archs : List (PGraph Str))
    (s : RuleState) (h : List REv) (hn : noRewrite glob mt archs s h = true) :
    runREvs glob mt archs s h = refREvs glob mt archs s h ∧
    execREvs glob mt archs s h = buildOnly glob s (forget h) :=
  match h, s, hn with
  | [], _, _ => ⟨rfl, rfl⟩
  | .call op :: es, s, hn => by
    simp only [noRewrite] at hn
    have ih := applications_transparent_no_rewrite glob mt archs _ es hn
    simp only [runREvs, refREvs, execREvs, forget, buildOnly, stepREv]
    exact ⟨by rw [ih.1], ih.2⟩
  | .apply j :: es, s, hn => by
    simp only [noRewrite, Bool.and_eq_true] at hn
    have hst := Pta.HistoryBuild.stepREv_apply_of_not_rewriting glob mt archs s j hn.1
    have ih := applications_transparent_no_rewrite glob mt archs _ es hn.2
    rw [hst] at ih
    simp only [runREvs, refREvs, execREvs, forget, hst]
    exact ⟨by rw [ih.1], ih.2⟩

namespace BEx
/-- re-configuration AFTER the conversion has been renewed: `… import_anything(); apply; should(); apply;`
    `modules_that(); import_anything()  # anything flag back in sync`; `modules_that().are_named("c")`; apply -/
def hSync : List REv :=
  aNotAny ++ [.apply 0, .call .should, .apply 0, .call .importAnything, .call .modulesThat, .call (.areNamed [S "c"]),
    .apply 1]
/-- only safe calls after the first application -/
def hSafe : List REv := aNotAny ++ [.apply 0, .call .beImportedByThat, .call .modulesThat, .apply 1, .call .shouldOnly, .apply 0]
/-- an `except` rule re-specified after an application, and an `anything` rule misused with `should` (the application
    raises, then `should_not()` is added): no application rewrites -/
def hExcept : List REv :=
  [.call .modulesThat, .call (.areNamed [S "a"]), .call .shouldNot, .call .importExcept, .call (.areNamed [S "b"]),
   .apply 0, .call (.areNamed [S "c"]), .apply 0]
def hMisuse : List REv :=
  [.call (.areNamed [S "x"]), .call .modulesThat, .call (.areNamed [S "a"]), .call .should, .call .importAnything,
   .apply 0, .call (.areNamed [S "b"]), .call .modulesThat, .call (.areNamed [S "c"]), .apply 1]
end BEx

set_option maxRecDepth 20000 in
/-- the hypothesis of the main theorem on a history with two rewriting applications and module-setting calls after them
    (a non-trivial instance: the object IS rewritten, the final object differs from the builder-only object) -/
example : syncAtUnsafe BEx.glob BEx.mt BEx.archs {} {} BEx.hSync = true ∧
    execREvs BEx.glob BEx.mt BEx.archs {} BEx.hSync ≠ buildOnly BEx.glob {} (forget BEx.hSync) ∧
    runREvs BEx.glob BEx.mt BEx.archs {} BEx.hSync =
      [.called, .called, .called, .called, .applied (.fail [BEx.S "\"a\" imports \"b\"."]), .called,
       .applied (.err .ruleInconsistency), .called, .called, .called, .applied (.err .ruleInconsistency)] := by decide +kernel

set_option maxRecDepth 20000 in
example : safeAfterApply BEx.hSafe = true ∧ safeAfterApply BEx.hObj = false ∧
    syncAtUnsafe BEx.glob BEx.mt BEx.archs {} {} BEx.hObj = false ∧
    syncAtUnsafe BEx.glob BEx.mt BEx.archs {} {} BEx.hSubj = false ∧
    syncAtUnsafe BEx.glob BEx.mt BEx.archs {} {} BEx.hAgain = false := by decide +kernel

set_option maxRecDepth 20000 in
/-- the histories `… apply; should(); apply` and `… apply; import_anything(); apply` (no subject was
    dropped) ARE transparent, as are a re-specified `except` rule and a first application that raises -/
example :
    runREvs BEx.glob BEx.mt BEx.archs {} (BEx.aNotAny ++ [.apply 0, .call .should, .apply 0]) =
      refREvs BEx.glob BEx.mt BEx.archs {} (BEx.aNotAny ++ [.apply 0, .call .should, .apply 0]) ∧
    runREvs BEx.glob BEx.mt BEx.archs {} (BEx.aNotAny ++ [.apply 0, .call .importAnything, .apply 0]) =
      refREvs BEx.glob BEx.mt BEx.archs {} (BEx.aNotAny ++ [.apply 0, .call .importAnything, .apply 0]) ∧
    noRewrite BEx.glob BEx.mt BEx.archs {} BEx.hExcept = true ∧
    noRewrite BEx.glob BEx.mt BEx.archs {} BEx.hMisuse = true ∧
    noRewrite BEx.glob BEx.mt BEx.archs {} BEx.hObj = false ∧
    runREvs BEx.glob BEx.mt BEx.archs {} BEx.hMisuse =
      [.raised .improperlyConfigured, .called, .called, .called, .called, .applied (.err .improperlyConfigured),
       .called, .called, .called, .applied (.err .improperlyConfigured)] ∧
    runREvs BEx.glob BEx.mt BEx.archs {} BEx.hExcept =
      [.called, .called, .called, .called, .called, .applied .pass, .called,
       .applied (.fail [BEx.S "\"a\" imports \"b\"."])] := by decide +kernel

example : runREvs BEx.glob BEx.mt BEx.archs {} BEx.hSync = refREvs BEx.glob BEx.mt BEx.archs {} BEx.hSync :=
  (applications_transparent_sync _ _ _ _ _ (by decide +kernel)).1

example : runREvs BEx.glob BEx.mt BEx.archs {} BEx.hSafe = refREvs BEx.glob BEx.mt BEx.archs {} BEx.hSafe :=
  (applications_transparent_safe_after_apply _ _ _ _ _ (by decide)).1

example : execREvs BEx.glob BEx.mt BEx.archs {} BEx.hExcept = buildOnly BEx.glob {} (forget BEx.hExcept) :=
  (applications_transparent_no_rewrite _ _ _ _ _ (by decide)).2

end Pta.C15
