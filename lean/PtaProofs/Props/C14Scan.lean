/-
  PtaProofs.Props.C14Scan — property C14 at SCAN level: the scanned architecture is invariant, up to the renaming itself,
  under every injective renaming `ρ` of directory / file name components (`GoodRen ρ`: injective, keeps "non-empty and
  dot-free"), including renamings that make one sibling's name a string prefix of another's.

  The renamed inputs (Bridge/RenameScan.lean): every path component of every `Entry.rel` (`renFile ρ`: the stem is
  renamed, the suffix kept — `x ↦ ρ x`, `x.py ↦ (ρ x).py`), the root directory's name (`ρ root`), the components of
  `module_path` (`mp.map (renFile ρ)`), every dotted name in every import statement and AST node (`renStmt ρ`,
  `renAstNode ρ`); the path of the root directory (`base'`) is arbitrary. Exclusions: the renamed scan may use any
  patterns `ps'` / matcher `mt'` whose test agrees with the original one on the paths of the listing
  (`ExclTransported`; trivially so without patterns, `exclTransported_noPatterns`).

  Domain: trees well-formed as far as the scan can see them (`treeWFFor`), parser-producible statements, external
  modules excluded (the default), ANY level limit.
-/
import Bridge.Abs
import Bridge.Rename
import Bridge.RenameScan
import PtaProofs.Lemmas.RenameScan
import PtaProofs.Lemmas.RenameScanExt
import PtaProofs.Lemmas.RenameText
import PtaProofs.Lemmas.E2EMore
import PtaProofs.Props.C14
namespace Pta.C14
open Pta PtaSpec

/-- what `renFile ρ` does: a well-formed component (directory name) is renamed; a `.py` file name keeps its suffix
    and has its stem renamed; whether a name is a `.py` file, and what `with_suffix("")` leaves of it, is preserved;
    the renaming of components on disk is injective -/
theorem renFile_spec (ρ : Comp → Comp) (hρ : GoodRen ρ) :
    (∀ c, compWF c = true → renFile ρ c = ρ c) ∧
    (∀ c, isPyFile c = true → compWF (dropSuffix c) = true → renFile ρ c = ρ (dropSuffix c) ++ ".py".toList) ∧
    (∀ c, isPyFile (renFile ρ c) = isPyFile c) ∧
    (∀ c, dropSuffix (renFile ρ c) = renStem ρ (dropSuffix c)) ∧
    (∀ c d, renFile ρ c = renFile ρ d → c = d) :=
  ⟨Pta.RS.renFile_compWF, Pta.RS.renFile_py_lemma, Pta.RS.isPyFile_renFile hρ, Pta.RS.dropSuffix_renFile hρ,
    Pta.RS.renFile_inj hρ⟩

/-- without exclusion patterns the exclusion tests agree -/
theorem exclTransported_noPatterns (ρ : Comp → Comp) (mt mt' : Str → Str → Bool) (base base' : Str) (entries : List Entry) :
    ExclTransported ρ (isExcluded mt (.globs [])) (isExcluded mt' (.globs [])) base base' entries :=
  fun _ _ => rfl

/-- an arbitrary exclusion predicate on path strings is the test of one regex pattern under a suitable matcher -/
theorem isExcluded_pred (p : Str → Bool) : isExcluded (fun _ s => p s) (.regexes [[]]) = p := by
  funext s
  simp [isExcluded]

/-- the AST walk of `ImportConverter.convert` commutes with the renaming: the statements collected from the renamed
    AST are the renamed statements, in the same order -/
theorem collect_ren (ρ : Comp → Comp) (nodes : List AstNode) (e : Entry) :
    collectImports (nodes.map (renAstNode ρ)) = (collectImports nodes).map (renStmt ρ) ∧
    (renEntry ρ e).withCollected = renEntry ρ e.withCollected :=
  ⟨Pta.RS.collectImports_ren ρ nodes, by unfold Entry.withCollected renEntry; simp only [Pta.RS.collectImports_ren]⟩

section scan
variable (mt mt' : Str → Str → Bool) (base base' root : Str) (mp : List Str) (entries : List Entry) (o : ScanOptions)
  (ps' : Patterns) (ρ : Comp → Comp) (hρ : GoodRen ρ)
  (hwf : treeWFFor (isExcluded mt o.exclusions) base mp entries = true) (hmp : mpOK entries mp = true)
  (hroot : compWF root = true)
  (hst : ∀ e ∈ entries, ∀ st ∈ e.stmts, stmtOK (toSStmt st) = true)
  (hx : ExclTransported ρ (isExcluded mt o.exclusions) (isExcluded mt' ps') base base' entries)
include hρ hwf hmp hroot hst hx

/-- the hypotheses of the end-to-end theorems (Props/E2E.lean) are preserved by the renaming -/
theorem scan_hyps_ren :
    treeWFFor (isExcluded mt' (o.withExclusions ps').exclusions) base' (mp.map (renFile ρ)) (renEntries ρ entries) = true ∧
    mpOK (renEntries ρ entries) (mp.map (renFile ρ)) = true ∧ compWF (ρ root) = true ∧
    (∀ e ∈ renEntries ρ entries, ∀ st ∈ e.stmts, stmtOK (toSStmt st) = true) ∧
    mp.map (renFile ρ) = renName ρ mp :=
  ⟨Pta.RS.treeWFFor_ren hρ hx hwf, by rw [Pta.RS.mpOK_ren hρ]; exact hmp, hρ.wf root hroot,
    Pta.RS.stmts_ren_ok hρ entries hst,
    Pta.RS.mp_map_renFile root mp (Pta.RS.rootmp_wf hwf hmp hroot)⟩

/-- SPECIFICATION level: the modules of the renamed directory tree are the renamed modules, and the imports its import
    statements account for are the renamed imports (same order; "no answer" — a relative import above the root — stays
    "no answer"). I.e. `scanArch (renamed tree) = renArch ρ (scanArch tree)`. -/
theorem scan_arch_ren :
    scanModules (ρ root) (toSEntries (isExcluded mt' ps') base' (renEntries ρ entries)) (mp.map (renFile ρ)) =
      (scanModules root (toSEntries (isExcluded mt o.exclusions) base entries) mp).map (renName ρ) ∧
    scanImports (ρ root) (toSEntries (isExcluded mt' ps') base' (renEntries ρ entries)) (mp.map (renFile ρ)) =
      (scanImports root (toSEntries (isExcluded mt o.exclusions) base entries) mp).map
        (List.map fun e => (renName ρ e.1, renName ρ e.2)) :=
  ⟨by rw [Pta.RS.toSEntries_ren hρ hx hst]; exact Pta.RS.scanModules_ren hρ root _ mp (ScanSpec.own_wf hwf hroot),
    Pta.RS.scanImports_tree_ren hρ hwf hmp hroot hst hx⟩

variable (hxx : o.excludeExternal = true) (hext : o.externalExclusions.isEmpty = true)
include hxx hext

/-- `scan_ren` (external modules excluded, ANY level limit): the scan of the renamed tree has the outcome class of the
    scan of the original tree — an error (a relative import reaching above the root: `LookupError`) stays that error;
    on success its graph has exactly the nodes, hierarchy pairs and import pairs of the image `g.map (renDotted ρ)` of
    the original graph (`GraphEquiv`), and likewise for the guarded renaming `renStr ρ` (which is injective on all
    strings and agrees with `renDotted ρ` on well-formed dotted names, `renStr_agrees`). -/
theorem scan_ren :
    match generateGraph mt base root mp entries o with
    | .ok g => ∃ g', generateGraph mt' base' (ρ root) (mp.map (renFile ρ)) (renEntries ρ entries)
          (o.withExclusions ps') = .ok g' ∧
        GraphEquiv g' (mapGraph (renDotted ρ) g) ∧ GraphEquiv g' (mapGraph (renStr ρ) g)
    | .error k => generateGraph mt' base' (ρ root) (mp.map (renFile ρ)) (renEntries ρ entries)
          (o.withExclusions ps') = .error k := by
  rcases Pta.RS.scan_ren_cases hρ hwf hmp hroot hst hx hext with ⟨h, h'⟩ | ⟨g, g', h, h', he⟩ <;> rw [h]
  · exact h'
  · exact ⟨g', h', he _ (fun n hn => Pta.RS.renDotted_render n hn), he _ (Pta.RM.renStr_render ρ)⟩

/-- errors correspond in both directions: the renamed scan fails iff the original scan fails. Under these hypotheses the
    only error either scan raises is the `LookupError` of a relative import above the root (`RS.scan_ren_cases`); for any
    other `k` both sides are false. -/
theorem scan_error_ren (k : ErrKind) :
    generateGraph mt' base' (ρ root) (mp.map (renFile ρ)) (renEntries ρ entries) (o.withExclusions ps') = .error k ↔
      generateGraph mt base root mp entries o = .error k := by
  rcases Pta.RS.scan_ren_cases hρ hwf hmp hroot hst hx hext with ⟨h, h'⟩ | ⟨g, g', h, h', -⟩ <;> rw [h, h']
  exact ⟨fun e => (nomatch e), fun e => (nomatch e)⟩

variable (g g' : PGraph Str) (hg : generateGraph mt base root mp entries o = .ok g)
  (hg' : generateGraph mt' base' (ρ root) (mp.map (renFile ρ)) (renEntries ρ entries) (o.withExclusions ps') = .ok g')
include hg hg'

omit hxx in
/-- `scan_ren` for two graphs the two scans return -/
theorem scan_graph_ren : GraphEquiv g' (mapGraph (renDotted ρ) g) ∧ GraphEquiv g' (mapGraph (renStr ρ) g) := by
  rcases Pta.RS.scan_ren_cases hρ hwf hmp hroot hst hx hext with ⟨h, -⟩ | ⟨_, _, h, h', he⟩
  · cases hg.symm.trans h
  · cases hg.symm.trans h; cases hg'.symm.trans h'
    exact ⟨he _ (fun n hn => Pta.RS.renDotted_render n hn), he _ (Pta.RM.renStr_render ρ)⟩

/-- `scan_verdict_ren`: EVERY module rule with well-formed identifiers — strict or not, `parentFree` or not, names that
    are scanned modules or not — evaluated with the renamed names on the renamed scan has the verdict class (pass /
    fail / which error) it has on the original scan; any regex matcher `mt''` (irrelevant for such rules) -/
theorem scan_verdict_ren (mt'' : Str → Str → Bool) (r : RuleSpec) (hr : ruleWF r = true) :
    verdictOf mt'' g' (compile (renRule ρ r)) = verdictOf mt'' g (compile r) :=
  Pta.RT.verdict_of_image_lemma hρ mt'' g g'
    (scan_graph_ren mt mt' base base' root mp entries o ps' ρ hρ hwf hmp hroot hst hx hext g g' hg hg').2 r hr

/-- … and the message of the `AssertionError` is the rendering of the ORIGINAL report with every module name renamed
    (the lines are sorted after the renaming, as `sorted(set(lines))` does) -/
theorem scan_report_ren (mt'' : Str → Str → Bool) (r : RuleSpec) (hr : ruleWF r = true) :
    (assertAppliesText mt'' (compile (renRule ρ r)) g').2 =
      ((assertApplies mt'' (compile r) g).2.mapId (renStr ρ)).toText :=
  Pta.RT.text_of_image_lemma hρ mt'' g g'
    (scan_graph_ren mt mt' base base' root mp entries o ps' ρ hρ hwf hmp hroot hst hx hext g g' hg hg').2 r hr

/-- `scan_labels_ren` (no level limit): for every alias table whose keys are distinct scanned modules, both scans label
    every node exactly once; the original labelling is the documented one (`labelWith id = label`), and the labelling
    of the renamed scan with the renamed table is the documented one with the alias texts kept and the components
    below the aliased ancestor renamed -/
theorem scan_labels_ren (hlim : o.levelLimit = none) (al : Aliases) (hk : (al.map (·.1)).Nodup)
    (hex : ∀ a ∈ al, a.1 ∈ scanModules root (toSEntries (isExcluded mt o.exclusions) base entries) mp) :
    ∃ ls ls', plotLabels g.nodes (al.map fun a => (render a.1, a.2)) = .ok ls ∧
      plotLabels g'.nodes ((renAliases ρ al).map fun a => (render a.1, a.2)) = .ok ls' ∧
      ls.map (·.1) = g.nodes ∧ ls'.map (·.1) = g'.nodes ∧
      ls.Perm ((scanModules root (toSEntries (isExcluded mt o.exclusions) base entries) mp).map
        fun n => (render n, labelWith id al n)) ∧
      ls'.Perm ((scanModules root (toSEntries (isExcluded mt o.exclusions) base entries) mp).map
        fun n => (render (renName ρ n), labelWith (renName ρ) al n)) := by
  obtain ⟨hwf', hmp', hroot', -, -⟩ := scan_hyps_ren mt mt' base base' root mp entries o ps' ρ hρ hwf hmp hroot hst hx
  have hmods := (scan_arch_ren mt mt' base base' root mp entries o ps' ρ hρ hwf hmp hroot hst hx).1
  obtain ⟨ls, h1, h2, h3⟩ := Pta.E2EMore.labels_perm_lemma mt base root mp entries o hwf hmp hroot hxx hlim g hg al hk hex
  obtain ⟨ls', h1', h2', h3'⟩ := Pta.E2EMore.labels_perm_lemma mt' base' (ρ root) (mp.map (renFile ρ))
    (renEntries ρ entries) (o.withExclusions ps') hwf' hmp' hroot' hxx hlim g' hg' (renAliases ρ al)
    (Pta.RM.renAliases_keys_nodup hρ al hk) (hmods ▸ Pta.RM.renAliases_keys_mem ρ al _ hex)
  refine ⟨ls, ls', h1, h1', h2, h2', ?_, ?_⟩
  · simpa only [Pta.RM.labelWith_id] using h3
  · rw [show (o.withExclusions ps').exclusions = ps' from rfl, hmods, List.map_map] at h3'
    simpa only [Function.comp_def, Pta.RM.label_ren hρ] using h3'

end scan

/-! ### external modules included (`exclude_external_libraries=False`, no external exclusion patterns, no level limit)

  The names of external modules are renamed too (`import os` becomes `import (ρ os)`): `ρ` acts on every dotted name of
  every statement. A renaming that is meant to leave the external libraries alone is one with `ρ c = c` on their
  components; the theorem holds for every `GoodRen ρ`. -/

section ext
variable (mt mt' : Str → Str → Bool) (base base' root : Str) (mp : List Str) (entries : List Entry) (o : ScanOptions)
  (ps' : Patterns) (ρ : Comp → Comp) (hρ : GoodRen ρ)
  (hwf : treeWFFor (isExcluded mt o.exclusions) base mp entries = true) (hmp : mpOK entries mp = true)
  (hroot : compWF root = true)
  (hst : ∀ e ∈ entries, ∀ st ∈ e.stmts, stmtOK (toSStmt st) = true)
  (hx : ExclTransported ρ (isExcluded mt o.exclusions) (isExcluded mt' ps') base base' entries)
  (hxx : o.excludeExternal = false) (hext : o.externalExclusions.isEmpty = true) (hlim : o.levelLimit = none)
include hρ hwf hmp hroot hst hx hxx hext hlim

/-- `scan_ren` with external modules INCLUDED: same outcome class; on success the graph of the renamed tree — internal
    modules, external modules with their dotted parents, all import edges — has exactly the nodes, hierarchy pairs and
    import pairs of the image of the original graph under the (guarded, injective) string renaming `renStr ρ` -/
theorem scan_ren_ext :
    match generateGraph mt base root mp entries o with
    | .ok g => ∃ g', generateGraph mt' base' (ρ root) (mp.map (renFile ρ)) (renEntries ρ entries)
          (o.withExclusions ps') = .ok g' ∧ GraphEquiv g' (mapGraph (renStr ρ) g)
    | .error k => generateGraph mt' base' (ρ root) (mp.map (renFile ρ)) (renEntries ρ entries)
          (o.withExclusions ps') = .error k := by
  rcases Pta.RS.scan_ren_cases hρ hwf hmp hroot hst hx hext with ⟨h, h'⟩ | ⟨g, g', h, h', he⟩ <;> rw [h]
  · exact h'
  · exact ⟨g', h', he _ (Pta.RM.renStr_render ρ)⟩

variable (g g' : PGraph Str) (hg : generateGraph mt base root mp entries o = .ok g)
  (hg' : generateGraph mt' base' (ρ root) (mp.map (renFile ρ)) (renEntries ρ entries) (o.withExclusions ps') = .ok g')
include hg hg'

omit hxx hlim in
theorem scan_graph_ren_ext : GraphEquiv g' (mapGraph (renStr ρ) g) :=
  (scan_graph_ren mt mt' base base' root mp entries o ps' ρ hρ hwf hmp hroot hst hx hext g g' hg hg').2

/-- verdicts of all module rules with well-formed identifiers (they may name external modules) are invariant -/
theorem scan_verdict_ren_ext (mt'' : Str → Str → Bool) (r : RuleSpec) (hr : ruleWF r = true) :
    verdictOf mt'' g' (compile (renRule ρ r)) = verdictOf mt'' g (compile r) :=
  Pta.RT.verdict_of_image_lemma hρ mt'' g g'
    (scan_graph_ren_ext mt mt' base base' root mp entries o ps' ρ hρ hwf hmp hroot hst hx hext g g' hg hg') r hr

/-- … and the message is the original report with every module name renamed -/
theorem scan_report_ren_ext (mt'' : Str → Str → Bool) (r : RuleSpec) (hr : ruleWF r = true) :
    (assertAppliesText mt'' (compile (renRule ρ r)) g').2 =
      ((assertApplies mt'' (compile r) g).2.mapId (renStr ρ)).toText :=
  Pta.RT.text_of_image_lemma hρ mt'' g g'
    (scan_graph_ren_ext mt mt' base base' root mp entries o ps' ρ hρ hwf hmp hroot hst hx hext g g' hg hg') r hr

end ext

/-! ### non-vacuity: the adversarial renaming `advRen` (`x ↦ a`, `y ↦ ab`, everything else gets a `z` in front) on a tree
    with five `.py` files: the siblings `x/` and `y.py` become `a/` and `ab.py` (one name a string prefix of the
    other), the names `py.py`, `xpy/` and `__init__.py` occur, an excluded directory holds what the scan must not see -/

namespace ScanEx
def s (x : String) : Str := x.toList
def noRe : Str → Str → Bool := fun _ _ => false

/-- `r/x/u.py` (`from . import v`, `from .. import y`, `import r.py, os`), `r/x/v.py`, `r/y.py` (`from .x import u, zz`),
    `r/py.py` (`from r import y`), `r/xpy/__init__.py` (`import r.x.v`), `r/notes.txt`, and the excluded `r/cache/` with
    a dotted directory and a file importing above the root -/
def tree : List Entry :=
  [ { rel := [s "x"], isDir := true },
    { rel := [s "x", s "u.py"], isDir := false,
      stmts := [.impFrom none [s "v"] 1, .impFrom none [s "y"] 2, .imp [s "r.py", s "os"]] },
    { rel := [s "x", s "v.py"], isDir := false },
    { rel := [s "y.py"], isDir := false, stmts := [.impFrom (some (s "x")) [s "u", s "zz"] 1] },
    { rel := [s "py.py"], isDir := false, stmts := [.impFrom (some (s "r")) [s "y"] 0] },
    { rel := [s "xpy"], isDir := true },
    { rel := [s "xpy", s "__init__.py"], isDir := false, stmts := [.imp [s "r.x.v"]] },
    { rel := [s "notes.txt"], isDir := false },
    { rel := [s "cache"], isDir := true },
    { rel := [s "cache", s "v1.2"], isDir := true },
    { rel := [s "cache", s "x.py"], isDir := false, stmts := [.impFrom none [s "q"] 7] } ]

/-- the glob pattern `*cache` also matches the renamed directory `zcache` -/
def opts : ScanOptions := { exclusions := .globs [s "*cache"] }

/-- the renamed listing: stems renamed, suffixes kept (also of `notes.txt` and `v1.2`) -/
example : (renEntries advRen tree).map (·.rel) =
    [[s "a"], [s "a", s "zu.py"], [s "a", s "zv.py"], [s "ab.py"], [s "zpy.py"], [s "zxpy"], [s "zxpy", s "z__init__.py"],
     [s "znotes.txt"], [s "zcache"], [s "zcache", s "zv1.2"], [s "zcache", s "a.py"]] := by decide +kernel

example : ((renEntries advRen tree).map (·.stmts))[1]? =
    some [.impFrom none [s "zv"] 1, .impFrom none [s "ab"] 2, .imp [s "zr.zpy", s "zos"]] := by decide +kernel

/-- every hypothesis of `scan_ren` holds (root directory `/t/r`, renamed `/t/zr`; same patterns on both sides) -/
theorem hyps :
    treeWFFor (isExcluded noRe opts.exclusions) (s "/t/r") [] tree = true ∧ mpOK tree [] = true ∧
    compWF (s "r") = true ∧ (∀ e ∈ tree, ∀ st ∈ e.stmts, stmtOK (toSStmt st) = true) ∧
    exclTransportedB advRen (isExcluded noRe opts.exclusions) (isExcluded noRe (.globs [s "*cache"])) (s "/t/r") (s "/t/zr")
      tree = true ∧
    opts.excludeExternal = true ∧ opts.externalExclusions.isEmpty = true := by decide +kernel

/-- both scans evaluated: the graph of the renamed tree IS the image of the original graph (here even with the same
    order of nodes and edges), with `zr.a` and `zr.ab` kept apart -/
theorem graphs :
    (generateGraph noRe (s "/t/r") (s "r") [] tree opts).toOption.map (fun g => (g.nodes, g.importPairs)) =
      some ([s "r", s "r.x", s "r.x.u", s "r.x.v", s "r.y", s "r.py", s "r.xpy", s "r.xpy.__init__"],
        [(s "r.x.u", s "r.x.v"), (s "r.x.u", s "r.y"), (s "r.x.u", s "r.py"), (s "r.y", s "r.x.u"), (s "r.y", s "r.x"),
         (s "r.py", s "r.y"), (s "r.xpy.__init__", s "r.x.v")]) ∧
    (generateGraph noRe (s "/t/zr") (advRen (s "r")) ([].map (renFile advRen)) (renEntries advRen tree)
        (opts.withExclusions (.globs [s "*cache"]))).toOption.map (fun g => (g.nodes, g.importPairs)) =
      some ([s "zr", s "zr.a", s "zr.a.zu", s "zr.a.zv", s "zr.ab", s "zr.zpy", s "zr.zxpy", s "zr.zxpy.z__init__"],
        [(s "zr.a.zu", s "zr.a.zv"), (s "zr.a.zu", s "zr.ab"), (s "zr.a.zu", s "zr.zpy"), (s "zr.ab", s "zr.a.zu"),
         (s "zr.ab", s "zr.a"), (s "zr.zpy", s "zr.ab"), (s "zr.zxpy.z__init__", s "zr.a.zv")]) ∧
    (generateGraph noRe (s "/t/r") (s "r") [] tree opts).toOption.map
        (fun g => ((mapGraph (renDotted advRen) g).nodes, (mapGraph (renDotted advRen) g).edges)) =
      (generateGraph noRe (s "/t/zr") (advRen (s "r")) ([].map (renFile advRen)) (renEntries advRen tree)
        (opts.withExclusions (.globs [s "*cache"]))).toOption.map (fun g => (g.nodes, g.edges)) := by
  refine ⟨by decide +kernel, by decide +kernel, by decide +kernel⟩

/-- the theorem applied to the instance -/
example :
    match generateGraph noRe (s "/t/r") (s "r") [] tree opts with
    | .ok g => ∃ g', generateGraph noRe (s "/t/zr") (advRen (s "r")) ([].map (renFile advRen)) (renEntries advRen tree)
          (opts.withExclusions (.globs [s "*cache"])) = .ok g' ∧
        GraphEquiv g' (mapGraph (renDotted advRen) g) ∧ GraphEquiv g' (mapGraph (renStr advRen) g)
    | .error k => generateGraph noRe (s "/t/zr") (advRen (s "r")) ([].map (renFile advRen)) (renEntries advRen tree)
          (opts.withExclusions (.globs [s "*cache"])) = .error k :=
  scan_ren noRe noRe (s "/t/r") (s "/t/zr") (s "r") [] tree opts (.globs [s "*cache"]) advRen advRen_good hyps.1 hyps.2.1
    hyps.2.2.1 hyps.2.2.2.1 (Pta.RS.exclTransported_of_check _ _ _ _ _ hyps.2.2.2.2.1) hyps.2.2.2.2.2.1 hyps.2.2.2.2.2.2

/-- "sub modules of `r.x` should not import `r.y`" (violated by `r.x.u → r.y`) and "`r.y`, `r.x` should not be imported
    by anything" (related subjects, not strict); renamed: the sibling `zr.ab` of `zr.a` is NOT a sub module of `zr.a` -/
def rSub : RuleSpec :=
  { verb := .shouldNot, importDir := true, exc := false, subjects := [.subOf (nm "r.x")], objects := [.named (nm "r.y")] }
def rOnly : RuleSpec :=
  { verb := .shouldOnly, importDir := true, exc := false, subjects := [.subOf (nm "r.x")], objects := [.subOf (nm "r.x"), .named (nm "r.y"), .named (nm "r.py")] }

example : ruleWF rSub = true ∧ ruleWF rOnly = true := by decide +kernel

set_option maxRecDepth 100000 in
/-- both sides of `scan_verdict_ren` evaluated -/
example :
    (generateGraph noRe (s "/t/r") (s "r") [] tree opts).toOption.map
        (fun g => [rSub, rOnly].map fun r => verdictOf noRe g (compile r)) = some [.fail, .pass] ∧
    (generateGraph noRe (s "/t/zr") (advRen (s "r")) ([].map (renFile advRen)) (renEntries advRen tree)
        (opts.withExclusions (.globs [s "*cache"]))).toOption.map
        (fun g => [rSub, rOnly].map fun r => verdictOf noRe g (compile (renRule advRen r))) = some [.fail, .pass] := by
  refine ⟨by decide +kernel, by decide +kernel⟩

set_option maxRecDepth 100000 in
/-- the sub-directory scan `module_path = r/x` with `level_limit = 0` and an error case: scanning from `r/x` the
    statement `from .. import y` of `r/x/u.py` still resolves (to `r.y`, outside the scan), whereas a file importing
    seven levels up makes both scans raise the same error -/
example :
    treeWFFor (isExcluded noRe opts.exclusions) (s "/t/r") [s "x"] tree = true ∧ mpOK tree [s "x"] = true ∧
    (generateGraph noRe (s "/t/r") (s "r") [s "x"] tree { opts with levelLimit := some 0 }).toOption.map (·.nodes) =
      some [s "r.x", s "r"] ∧
    (generateGraph noRe (s "/t/zr") (advRen (s "r")) ([s "x"].map (renFile advRen)) (renEntries advRen tree)
        { opts with levelLimit := some 0 }).toOption.map (·.nodes) = some [s "zr.a", s "zr"] ∧
    (generateGraph noRe (s "/t/r") (s "r") [] tree { exclusions := .globs [] }).toOption.map (·.nodes) = none ∧
    (generateGraph noRe (s "/t/zr") (advRen (s "r")) [] (renEntries advRen tree) { exclusions := .globs [] }).toOption.map
      (·.nodes) = none := by
  refine ⟨by decide +kernel, by decide +kernel, by decide +kernel, by decide +kernel, by decide +kernel, by decide +kernel⟩

set_option maxRecDepth 100000 in
/-- labels: alias `X` for `r.x` -/
example :
    (generateGraph noRe (s "/t/zr") (advRen (s "r")) ([].map (renFile advRen)) (renEntries advRen tree)
        (opts.withExclusions (.globs [s "*cache"]))).toOption.bind
      (fun g => (plotLabels g.nodes ((renAliases advRen [(nm "r.x", s "X")]).map fun a => (render a.1, a.2))).toOption) =
    some [(s "zr", s "zr"), (s "zr.a", s "X"), (s "zr.a.zu", s "X.zu"), (s "zr.a.zv", s "X.zv"), (s "zr.ab", s "zr.ab"),
      (s "zr.zpy", s "zr.zpy"), (s "zr.zxpy", s "zr.zxpy"), (s "zr.zxpy.z__init__", s "zr.zxpy.z__init__")] := by decide +kernel

/-- the same tree with external modules included: `os` (renamed `zos`) becomes a node with the edge `r.x.u → os` -/
def optsExt : ScanOptions := { exclusions := .globs [s "*cache"], excludeExternal := false }

set_option maxRecDepth 100000 in
example :
    optsExt.excludeExternal = false ∧ optsExt.externalExclusions.isEmpty = true ∧ optsExt.levelLimit = none ∧
    (generateGraph noRe (s "/t/zr") (advRen (s "r")) ([].map (renFile advRen)) (renEntries advRen tree)
        (optsExt.withExclusions (.globs [s "*cache"]))).toOption.map
      (fun g => (g.nodes.contains (s "zos"), g.importPairs.contains (s "zr.a.zu", s "zos"))) = some (true, true) ∧
    (generateGraph noRe (s "/t/r") (s "r") [] tree optsExt).toOption.map
        (fun g => ((mapGraph (renStr advRen) g).nodes, (mapGraph (renStr advRen) g).edges)) =
      (generateGraph noRe (s "/t/zr") (advRen (s "r")) ([].map (renFile advRen)) (renEntries advRen tree)
        (optsExt.withExclusions (.globs [s "*cache"]))).toOption.map (fun g => (g.nodes, g.edges)) := by
  refine ⟨by decide +kernel, by decide +kernel, by decide +kernel, by decide +kernel, by decide +kernel⟩

end ScanEx

/-! ### the hypotheses on `ρ` and on the exclusion test are needed -/

namespace ScanNeeds
open ScanEx

/-- `r/x/u.py` (`import r.y`), `r/y.py` (`from .x import u`) -/
def tr : List Entry :=
  [ { rel := [s "x"], isDir := true },
    { rel := [s "x", s "u.py"], isDir := false, stmts := [.imp [s "r.y"]] },
    { rel := [s "y.py"], isDir := false, stmts := [.impFrom (some (s "x")) [s "u"] 1] } ]
def oN : ScanOptions := { exclusions := .globs [] }

/-- `y ↦ x`: keeps "non-empty, dot-free" but is not injective -/
def merge : Comp → Comp := fun c => if c = s "y" then s "x" else c
/-- `x ↦ a.py` (and `a.py ↦ x`): injective but produces a dotted component (one ending in `.py`) -/
def dotty : Comp → Comp := fun c => if c = s "x" then s "a.py" else if c = s "a.py" then s "x" else c

theorem dotty_invol (c : Comp) : dotty (dotty c) = c := by
  unfold dotty
  by_cases h1 : c = s "x"
  · subst h1; decide
  · by_cases h2 : c = s "a.py"
    · subst h2; decide
    · simp only [h1, h2, if_false]

theorem hyps : treeWFFor (isExcluded noRe oN.exclusions) (s "/t/r") [] tr = true ∧ mpOK tr [] = true ∧ compWF (s "r") = true ∧
    (∀ e ∈ tr, ∀ st ∈ e.stmts, stmtOK (toSStmt st) = true) ∧ oN.excludeExternal = true ∧
    oN.externalExclusions.isEmpty = true := by decide +kernel

/-- a test of the returned value, read off the run as the kernel evaluates it -/
theorem of_eval {ε α : Type} {x : Except ε α} {a : α} (hx : x = .ok a) (p : α → Bool) (b : Bool)
    (h : x.toOption.map p = some b) : p a = b := by
  subst hx; exact Option.some.inj h

/-- INJECTIVITY is needed. `merge` preserves well-formedness, every other hypothesis of `scan_ren` holds, both scans
    succeed, but the renamed tree has `x.py` next to `x/`: the image of the original graph has the import pair
    `r.x → r.x.u` (image of `r.y → r.x.u`), the graph of the renamed tree keeps that pair as a hierarchy edge only. -/
theorem scan_ren_needs_injective :
    (∀ c, compWF c = true → compWF (merge c) = true) ∧ merge (s "y") = merge (s "x") ∧
    ∀ g g', generateGraph noRe (s "/t/r") (s "r") [] tr oN = .ok g →
      generateGraph noRe (s "/t/r") (merge (s "r")) ([].map (renFile merge)) (renEntries merge tr) (oN.withExclusions (.globs [])) = .ok g' →
      ¬ GraphEquiv g' (mapGraph (renDotted merge) g) := by
  refine ⟨?_, by decide +kernel, ?_⟩
  · intro c h
    unfold merge
    split
    · decide +kernel
    · exact h
  · intro g g' hg hg' h
    have h1 := of_eval hg (fun g => decide (s "r.x.u" ∈ (mapGraph (renDotted merge) g).importSuccs (s "r.x"))) true
      (by decide +kernel)
    have h2 := of_eval hg' (fun g => decide (s "r.x.u" ∈ g.importSuccs (s "r.x"))) false (by decide +kernel)
    exact of_decide_eq_false h2 ((h.succs _ _).2 (of_decide_eq_true h1))

/-- DOT-FREE images are needed (in particular `ρ` must not produce names ending in `.py`). `dotty` is injective, every
    other hypothesis holds, both scans succeed, but the directory `r/x` renamed to `r/a.py` is the module `r.a`
    (`Path.with_suffix("")`) with the package `r.a.py` below it: the node `r.a` is not in the image of the original graph. -/
theorem scan_ren_needs_dotfree :
    (∀ c d, dotty c = dotty d → c = d) ∧ compWF (dotty (s "x")) = false ∧
    ∀ g g', generateGraph noRe (s "/t/r") (s "r") [] tr oN = .ok g →
      generateGraph noRe (s "/t/r") (dotty (s "r")) ([].map (renFile dotty)) (renEntries dotty tr) (oN.withExclusions (.globs [])) = .ok g' →
      ¬ GraphEquiv g' (mapGraph (renDotted dotty) g) := by
  refine ⟨?_, by decide +kernel, ?_⟩
  · intro c d h
    rw [← dotty_invol c, ← dotty_invol d, h]
  · intro g g' hg hg' h
    have h1 := of_eval hg (fun g => decide (s "r.a" ∈ (mapGraph (renDotted dotty) g).nodes)) false (by decide +kernel)
    have h2 := of_eval hg' (fun g => decide (s "r.a" ∈ g.nodes)) true (by decide +kernel)
    exact of_decide_eq_false h1 ((h.nodes _).1 (of_decide_eq_true h2))

/-- `r/x/u.py`, `r/k.py`; the pattern `*x` excludes the directory `r/x` -/
def trX : List Entry :=
  [ { rel := [s "x"], isDir := true }, { rel := [s "x", s "u.py"], isDir := false }, { rel := [s "k.py"], isDir := false } ]
def oX : ScanOptions := { exclusions := .globs [s "*x"] }

/-- the exclusion test must be TRANSPORTED. With the same glob pattern `*x` on both sides and `advRen` (`x ↦ a`) the
    renamed directory `zr/a` is no longer excluded: all other hypotheses hold, `ExclTransported` fails (its Bool form
    evaluates to `false`), and the renamed scan has the module `zr.a`, which is not in the image of the original graph. -/
theorem scan_ren_needs_transport :
    treeWFFor (isExcluded noRe oX.exclusions) (s "/t/r") [] trX = true ∧ mpOK trX [] = true ∧
    exclTransportedB advRen (isExcluded noRe oX.exclusions) (isExcluded noRe (.globs [s "*x"])) (s "/t/r") (s "/t/zr") trX = false ∧
    ∀ g g', generateGraph noRe (s "/t/r") (s "r") [] trX oX = .ok g →
      generateGraph noRe (s "/t/zr") (advRen (s "r")) ([].map (renFile advRen)) (renEntries advRen trX)
        (oX.withExclusions (.globs [s "*x"])) = .ok g' →
      ¬ GraphEquiv g' (mapGraph (renDotted advRen) g) := by
  refine ⟨by decide +kernel, by decide +kernel, by decide +kernel, ?_⟩
  intro g g' hg hg' h
  have h1 := of_eval hg (fun g => decide (s "zr.a" ∈ (mapGraph (renDotted advRen) g).nodes)) false (by decide +kernel)
  have h2 := of_eval hg' (fun g => decide (s "zr.a" ∈ g.nodes)) true (by decide +kernel)
  exact of_decide_eq_false h1 ((h.nodes _).1 (of_decide_eq_true h2))

/-- `r/a.py` (`import r.a.b`) next to the directory `r/a/` with `r/a/b.py`; `r/c.py` — the tree of
    `Pta.E2E.collision_needs_treeWF` -/
def trC : List Entry :=
  [ { rel := [s "a.py"], isDir := false, stmts := [.imp [s "r.a.b"]] },
    { rel := [s "a"], isDir := true },
    { rel := [s "a", s "b.py"], isDir := false },
    { rel := [s "c.py"], isDir := false } ]

set_option maxRecDepth 100000 in
/-- the tree hypothesis `treeWFFor` comes from the ROUTE (the specification of a scan is only related to the model for
    such trees); it is not known to be needed for the renaming statement itself: on the collision tree it fails, and
    the graph of the renamed tree is nevertheless the image of the original graph -/
example :
    treeWFFor (isExcluded noRe oN.exclusions) (s "/t/r") [] trC = false ∧
    (generateGraph noRe (s "/t/r") (s "r") [] trC oN).toOption.map
        (fun g => ((mapGraph (renDotted advRen) g).nodes, (mapGraph (renDotted advRen) g).edges)) =
      (generateGraph noRe (s "/t/zr") (advRen (s "r")) [] (renEntries advRen trC) oN).toOption.map
        (fun g => (g.nodes, g.edges)) := by
  refine ⟨by decide +kernel, by decide +kernel⟩

end ScanNeeds

end Pta.C14
