/-
  PtaProofs.Props.E2EWide — the END-TO-END theorems of Props/E2E.lean (C04 ∘ C02 ∘ C01) for the WIDEST oracle domain:
  `parentFree` rules instead of strict rules.

  `Pta.E2E.scan_rule_verdict` / `scan_rule_report` compose the scan theorems with the oracle theorem for STRICT rules
  (subjects and objects pairwise unrelated). `Pta.C01.verdict_spec_parentFree` / `report_spec_parentFree` hold on
  the wider domain `parentFree r` (Bridge/RuleChain.lean): the identifiers of the rule may be related in any
  way (equal, nested, repeated, also across the two sides) as long as the parent identifier of an `are_sub_modules_of`
  filter is not a MEMBER of any filter of the rule. The compositions below have the same shape as the strict ones, the
  hypothesis `r.strict = true` replaced by `parentFree r = true` (`strict_parentFree`: the domain contains the strict rules).
-/
import PtaProofs.Props.E2E
import PtaProofs.Props.C01
namespace Pta.E2E
open PtaSpec

/-- strict ⊆ compatible ⊆ admissible ⊆ parentFree -/
theorem strict_parentFree (r : RuleSpec) (h : r.strict = true) : parentFree r = true :=
  Pta.C01.admissible_parentFree r (Pta.C01.compatible_admissible r (Pta.C01.strict_compatible r h))

section tree
variable (mt : Str → Str → Bool) (base root : Str) (mp : List Str) (entries : List Entry) (o : ScanOptions)
  (hwf : treeWFFor (isExcluded mt o.exclusions) base mp entries = true) (hmp : mpOK entries mp = true)
  (hroot : compWF root = true)
  (hxx : o.excludeExternal = true) (hlim : o.levelLimit = none) (hext : o.externalExclusions.isEmpty = true)
  (hst : ∀ e ∈ entries, ∀ st ∈ e.stmts, stmtOK (toSStmt st) = true)
  (is : List (Name × Name))
  (his : scanImports root (toSEntries (isExcluded mt o.exclusions) base entries) mp = some is)
include hwf hmp hroot hxx hlim hext hst his

/-- END-TO-END, verdict, widest domain: `Rule(...).assert_applies(get_evaluable_architecture(root, module_path))` passes
    exactly when the documented semantics hold on the modules of the directory tree and the imports its import
    statements account for, and raises AssertionError exactly when they do not — for every `parentFree` rule (all 12
    shapes and the `anything` aliases, any number of subjects / objects, both filter kinds, identifiers related or not)
    whose names are scanned modules, and every regex matcher `mt'` (irrelevant for such rules). -/
theorem scan_rule_verdict_parentFree :
    ∃ g, generateGraph mt base root mp entries o = .ok g ∧
      ∀ (mt' : Str → Str → Bool) (r : RuleSpec), parentFree r = true →
        r.namesIn (scanArch root (toSEntries (isExcluded mt o.exclusions) base entries) mp is) = true →
        r.subjects ≠ [] → (r.anything = true ∨ r.objects ≠ []) → (r.anything = true → r.verb = .shouldNot) →
        verdictOf mt' g (compile r) =
          VClass.ofBool (verdict (scanArch root (toSEntries (isExcluded mt o.exclusions) base entries) mp is) r) := by
  obtain ⟨g, hgen, hawf, hg⟩ := scan_graph_of_scanArch mt base root mp entries o hwf hmp hroot hxx hlim hext hst is his
  exact ⟨g, hgen, fun mt' r hpf hnames hs ho hany =>
    Pta.C01.verdict_spec_parentFree mt' _ g hg hawf r hpf hnames hs ho hany⟩

/-- END-TO-END, report, widest domain: when the rule fails, the atoms of the reported violations are exactly the atoms
    of the specification's violating set on the specification architecture of the tree -/
theorem scan_rule_report_parentFree :
    ∃ g, generateGraph mt base root mp entries o = .ok g ∧
      ∀ (mt' : Str → Str → Bool) (r : RuleSpec), parentFree r = true →
        r.namesIn (scanArch root (toSEntries (isExcluded mt o.exclusions) base entries) mp is) = true →
        r.subjects ≠ [] → (r.anything = true ∨ r.objects ≠ []) → (r.anything = true → r.verb = .shouldNot) →
        ∀ items, (assertApplies mt' (compile r) g).2 = .fail items →
          ∀ x, x ∈ items.flatMap Item.atoms ↔
            x ∈ (violating (scanArch root (toSEntries (isExcluded mt o.exclusions) base entries) mp is) r).flatMap
              SItem.atoms := by
  obtain ⟨g, hgen, hawf, hg⟩ := scan_graph_of_scanArch mt base root mp entries o hwf hmp hroot hxx hlim hext hst is his
  exact ⟨g, hgen, fun mt' r hpf hnames hs ho hany items h =>
    Pta.C01.report_spec_parentFree mt' _ g hg hawf r hpf hnames hs ho hany items h⟩

/-- the same for ANY presentation of the import set: only the set of imports matters -/
theorem scan_rule_verdict_parentFree_set (a : Arch) (ha : ∀ e, e ∈ a.imports ↔ e ∈ is) :
    ∃ g, generateGraph mt base root mp entries o = .ok g ∧
      ∀ (mt' : Str → Str → Bool) (r : RuleSpec), parentFree r = true →
        r.namesIn (scanArch root (toSEntries (isExcluded mt o.exclusions) base entries) mp is) = true →
        r.subjects ≠ [] → (r.anything = true ∨ r.objects ≠ []) → (r.anything = true → r.verb = .shouldNot) →
        verdictOf mt' g (compile r) = VClass.ofBool (verdict a r) := by
  obtain ⟨g, hgen, hall⟩ := scan_rule_verdict_parentFree mt base root mp entries o hwf hmp hroot hxx hlim hext hst is his
  refine ⟨g, hgen, fun mt' r hpf hnames hs ho hany => ?_⟩
  rw [verdict_congr_imports a (scanArch root (toSEntries (isExcluded mt o.exclusions) base entries) mp is) ha r]
  exact hall mt' r hpf hnames hs ho hany

end tree

/-- both cases in one statement: the scan raises exactly when the specification has no import list (a relative import
    reaching above the root); otherwise it yields a graph on which every `parentFree` rule over scanned modules has the
    documented verdict -/
theorem scan_rule_total_parentFree (mt : Str → Str → Bool) (base root : Str) (mp : List Str) (entries : List Entry)
    (o : ScanOptions)
    (hwf : treeWFFor (isExcluded mt o.exclusions) base mp entries = true) (hmp : mpOK entries mp = true)
    (hroot : compWF root = true)
    (hxx : o.excludeExternal = true) (hlim : o.levelLimit = none) (hext : o.externalExclusions.isEmpty = true)
    (hst : ∀ e ∈ entries, ∀ st ∈ e.stmts, stmtOK (toSStmt st) = true) :
    match scanImports root (toSEntries (isExcluded mt o.exclusions) base entries) mp with
    | none => generateGraph mt base root mp entries o = .error .lookupError
    | some is => ∃ g, generateGraph mt base root mp entries o = .ok g ∧
        ∀ (mt' : Str → Str → Bool) (r : RuleSpec), parentFree r = true →
          r.namesIn (scanArch root (toSEntries (isExcluded mt o.exclusions) base entries) mp is) = true →
          r.subjects ≠ [] → (r.anything = true ∨ r.objects ≠ []) → (r.anything = true → r.verb = .shouldNot) →
          verdictOf mt' g (compile r) =
            VClass.ofBool (verdict (scanArch root (toSEntries (isExcluded mt o.exclusions) base entries) mp is) r) := by
  cases his : scanImports root (toSEntries (isExcluded mt o.exclusions) base entries) mp with
  | none => exact ScanCompose.scan_none hwf hmp hroot hext hst his
  | some is => exact scan_rule_verdict_parentFree mt base root mp entries o hwf hmp hroot hxx hlim hext hst is his

/-! ### non-vacuity: the tree `exTree` of Props/E2E.lean, rules with RELATED names (none of them strict)

  modules `r`, `r.a`, `r.a.m`, `r.a.k`, `r.b`; imports `r.a.m → r.a.k`, `r.a.m → r.a`, `r.a.m → r.b`, `r.b → r.a.k`,
  `r.b → r.a` (`exIs`). -/

/-- `r.a` and its own descendant `r.a.m` should import `r` (an ancestor of both) or `r.b` — related on both sides;
    holds: `r.a.m → r.b` lies in `r.a` and in `r.a.m` -/
def exWPass : RuleSpec :=
  { verb := .should, importDir := true, exc := false, subjects := [.named (nm "r.a"), .named (nm "r.a.m")],
    objects := [.named (nm "r"), .named (nm "r.b")] }
/-- sub modules of `r` should not import `r.a.k`, `r.a.k` (a strict descendant of the parent identifier, repeated) —
    violated by `r.a.m → r.a.k` and `r.b → r.a.k` -/
def exWFail : RuleSpec :=
  { verb := .shouldNot, importDir := true, exc := false, subjects := [.subOf (nm "r")],
    objects := [.named (nm "r.a.k"), .named (nm "r.a.k")] }
/-- sub modules of `r.a` and `r.a.k` should only be imported by `r.b` — violated by the importer `r.a.m` of `r.a.k` -/
def exWOnly : RuleSpec :=
  { verb := .shouldOnly, importDir := false, exc := false, subjects := [.subOf (nm "r.a"), .named (nm "r.a.k")],
    objects := [.named (nm "r.b")] }
/-- `r.a`, `r.a.k`, `r.a.k` should not be imported by anything — the `anything` alias with nested and repeated subjects
    (`_convert_aliases` removes `r.a.k` twice); violated by `r.b → r.a.k` -/
def exWAny : RuleSpec :=
  { verb := .shouldNot, importDir := false, exc := false,
    subjects := [.named (nm "r.a"), .named (nm "r.a.k"), .named (nm "r.a.k")], objects := [], anything := true }
/-- `r.a.m` should not import anything except `r.a` and its descendant `r.a.k` — violated by `r.a.m → r.b` … -/
def exWExc : RuleSpec :=
  { verb := .shouldNot, importDir := true, exc := true, subjects := [.named (nm "r.a.m")],
    objects := [.named (nm "r.a"), .named (nm "r.a.k")] }
/-- … and with `r.b` among the exceptions it holds -/
def exWExcPass : RuleSpec :=
  { verb := .shouldNot, importDir := true, exc := true, subjects := [.named (nm "r.a.m")],
    objects := [.named (nm "r.a"), .named (nm "r.a.k"), .named (nm "r.b"), .named (nm "r")] }

def exWRules : List RuleSpec := [exWPass, exWFail, exWOnly, exWAny, exWExc, exWExcPass]

/-- the tree hypotheses of `scan_rule_verdict_parentFree` for `exTree` (as in Props/E2E.lean), and the specification's
    answer -/
example :
    treeWFFor (isExcluded noRe exOpts.exclusions) (s "/x/r") [] exTree = true ∧ mpOK exTree [] = true ∧
    compWF (s "r") = true ∧ exOpts.excludeExternal = true ∧ exOpts.levelLimit = none ∧
    exOpts.externalExclusions.isEmpty = true ∧ (∀ e ∈ exTree, ∀ st ∈ e.stmts, stmtOK (toSStmt st) = true) ∧
    scanImports (s "r") (toSEntries (isExcluded noRe exOpts.exclusions) (s "/x/r") exTree) [] = some exIs := by decide +kernel

/-- the rules meet the hypotheses on rules of `scan_rule_verdict_parentFree`, and NONE of them is strict (the tree
    hypotheses are those of Props/E2E.lean, discharged there for `exTree`) -/
example :
    ∀ r ∈ exWRules,
      r.strict = false ∧ parentFree r = true ∧
      r.namesIn (scanArch (s "r") (toSEntries (isExcluded noRe exOpts.exclusions) (s "/x/r") exTree) [] exIs) = true ∧
      r.subjects ≠ [] ∧ (r.anything = true ∨ r.objects ≠ []) ∧ (r.anything = true → r.verb = .shouldNot) := by decide +kernel

/-- two of them are outside `compatible` as well (an `are_sub_modules_of` identifier related to another identifier) -/
example : compatible exWFail = false ∧ compatible exWOnly = false := by decide +kernel

set_option maxRecDepth 40000 in
/-- both sides evaluated: the model (scan, then `assert_applies`) and the specification agree -/
example :
    (generateGraph noRe (s "/x/r") (s "r") [] exTree exOpts).toOption.map
        (fun g => exWRules.map fun r => verdictOf noRe g (compile r)) =
      some [.pass, .fail, .fail, .fail, .fail, .pass] ∧
    exWRules.map
        (verdict (scanArch (s "r") (toSEntries (isExcluded noRe exOpts.exclusions) (s "/x/r") exTree) [] exIs)) =
      [true, false, false, false, false, true] := by decide +kernel

set_option maxRecDepth 40000 in
/-- the report of a failing rule with related names, atom by atom, on both sides: the same SET of atoms (the model
    de-duplicates the repeated object, the specification lists the violations once per object) -/
example :
    (generateGraph noRe (s "/x/r") (s "r") [] exTree exOpts).toOption.map
        (fun g => match (assertApplies noRe (compile exWFail) g).2 with
          | .fail items => items.flatMap Item.atoms
          | _ => []) =
      some [.imp (s "r.b") (s "r.a.k"), .imp (s "r.a.m") (s "r.a.k")] ∧
    (violating (scanArch (s "r") (toSEntries (isExcluded noRe exOpts.exclusions) (s "/x/r") exTree) [] exIs) exWFail).flatMap
        SItem.atoms =
      [.imp (s "r.a.m") (s "r.a.k"), .imp (s "r.b") (s "r.a.k"), .imp (s "r.a.m") (s "r.a.k"), .imp (s "r.b") (s "r.a.k")] := by
  decide +kernel

/-! the boundary is the one of C01 (`plain_subOf_counterexample`), reached from a directory tree: `r/a/m.py` with
    `from .. import a`. "sub modules of `r.a` should not import `r.a`" is not `parentFree` (the parent identifier is a
    member of the object); the specification counts `r.a.m → r.a`, the model's query drops it. -/

def exTreeB : List Entry :=
  [ { rel := [s "a"], isDir := true },
    { rel := [s "a", s "m.py"], isDir := false, stmts := [.impFrom none [s "a"] 2] } ]
def exOptsB : ScanOptions := { exclusions := .globs [] }
def exWOut : RuleSpec :=
  { verb := .shouldNot, importDir := true, exc := false, subjects := [.subOf (nm "r.a")], objects := [.named (nm "r.a")] }

theorem parentFree_needed_on_scan :
    treeWFFor (isExcluded noRe exOptsB.exclusions) (s "/x/r") [] exTreeB = true ∧ mpOK exTreeB [] = true ∧
    (∀ e ∈ exTreeB, ∀ st ∈ e.stmts, stmtOK (toSStmt st) = true) ∧
    scanImports (s "r") (toSEntries (isExcluded noRe exOptsB.exclusions) (s "/x/r") exTreeB) [] =
      some [(nm "r.a.m", nm "r.a")] ∧
    parentFree exWOut = false ∧
    exWOut.namesIn (scanArch (s "r") (toSEntries (isExcluded noRe exOptsB.exclusions) (s "/x/r") exTreeB) []
      [(nm "r.a.m", nm "r.a")]) = true ∧
    (generateGraph noRe (s "/x/r") (s "r") [] exTreeB exOptsB).toOption.map
        (fun g => verdictOf noRe g (compile exWOut)) = some .pass ∧
    verdict (scanArch (s "r") (toSEntries (isExcluded noRe exOptsB.exclusions) (s "/x/r") exTreeB) []
      [(nm "r.a.m", nm "r.a")]) exWOut = false := by
  decide +kernel

end Pta.E2E
