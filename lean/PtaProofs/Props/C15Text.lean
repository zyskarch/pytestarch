/-
  PtaProofs.Props.C15Text — the diagram MESSAGE under permuted diagram lines (property C15 for the string the user sees).

  With the text-valued model `diagramAssertText` (PtaModel/DiagramText.lean) the statement is STRONGER than for the report
  items: the dictionary order of `dependencies` decides the order of the objects inside one `does not import` ITEM
  (`C07.report_lists_objects_in_dict_order`), but the message TEXT sorts them, so it does not show. What does show is the
  order of the generated `should` rules (dictionary key order = order of the arrow lines), i.e. the order of the per-rule
  blocks of the aggregated text: literal equality of the texts is false (`diagram_message_order_counterexample`), the
  multiset statement is the strongest one.

  Errors: the two checks raise the same error or none. The generated rules can only raise `lookupError`
  (`generated_rules_raise_lookup_only`), so the order dependence of the error KIND that `MultipleRuleApplier` has for
  arbitrary rule lists (`C15.applyAll_error_kind_counterexample`) cannot show for a diagram.
-/
import Bridge.MessageAgg
import Bridge.OrderDefs
import PtaProofs.Lemmas.MessageAgg
import PtaProofs.Lemmas.OrderDiagramText
import PtaProofs.Props.C07
import PtaProofs.Props.C07Text
namespace Pta.C15
open PtaSpec

/-- two rule lists whose outcomes (with message lines) are permutations of each other and that raise nothing but
    `lookupError`: the same error or none, the same class, the same multisets of per-rule messages and of message lines -/
theorem same_outcome_of_perm (mt : Str → Str → Bool) (g : PGraph Str) (rs rs' : List RuleState)
    (hperm : (rs.map (ruleText mt g)).Perm (rs'.map (ruleText mt g)))
    (kp : ∀ k, applyAllText mt g rs = .err k → k = .lookupError)
    (kq : ∀ k, applyAllText mt g rs' = .err k → k = .lookupError) :
    (∀ k, applyAllText mt g rs = .err k ↔ applyAllText mt g rs' = .err k) ∧
    (∀ k, applyAllText mt g rs = .err k → k = .lookupError) ∧
    (applyAllText mt g rs).cls = (applyAllText mt g rs').cls ∧
    (aggMessages mt g rs).Perm (aggMessages mt g rs') ∧ (aggLines mt g rs).Perm (aggLines mt g rs') := by
  have e := findSome?_perm_uniform (f := TextVerdict.errKind) hperm .lookupError
    (fun k h => kp k ((Pta.Agg.applyAllText_eq_aggOf mt g rs).trans ((Pta.Agg.aggOf_err_iff _ k).2 h)))
    (fun k h => kq k ((Pta.Agg.applyAllText_eq_aggOf mt g rs').trans ((Pta.Agg.aggOf_err_iff _ k).2 h)))
  refine ⟨fun k => ?_, kp, ?_, Pta.OrdDT.views_perm mt g rs rs' hperm⟩
  · rw [Pta.Agg.applyAllText_eq_aggOf, Pta.Agg.applyAllText_eq_aggOf, Pta.Agg.aggOf_err_iff, Pta.Agg.aggOf_err_iff, e]
  · rw [Pta.Agg.applyAllText_eq_aggOf, Pta.Agg.applyAllText_eq_aggOf, Pta.Agg.aggOf_cls, Pta.Agg.aggOf_cls, e, hperm.any_eq]

/-- **parse results with the same content.** Same module SET, same dependency RELATION (`SameDiagram`), unique dictionary keys
    and non-empty value lists on both sides (`C07.DepsOK`; the parser guarantees them), any graph, both modes:
    (1) checking `p` raises `k` iff checking `q` raises `k`, and `k` can only be `lookupError` (a drawn module is no module);
    (2) same class; and the messages of the failing rules, hence their lines, are the same multisets (`List.Perm`) —
        when the checks fail these are the blocks / lines of the two texts (`diagram_text_views`). -/
theorem diagram_rules_text_perm (mt : Str → Str → Bool) (g : PGraph Str) (so : Bool) (p q : Parsed')
    (hs : SameDiagram (.ok p) (.ok q)) (hp : Pta.C07.DepsOK p) (hq : Pta.C07.DepsOK q) :
    (∀ k, applyAllText mt g (diagramRules so p) = .err k ↔ applyAllText mt g (diagramRules so q) = .err k) ∧
    (∀ k, applyAllText mt g (diagramRules so p) = .err k → k = .lookupError) ∧
    (applyAllText mt g (diagramRules so p)).cls = (applyAllText mt g (diagramRules so q)).cls ∧
    (aggMessages mt g (diagramRules so p)).Perm (aggMessages mt g (diagramRules so q)) ∧
    (aggLines mt g (diagramRules so p)).Perm (aggLines mt g (diagramRules so q)) := by
  have hd : ∀ x y, y ∈ p.depsOf x ↔ y ∈ q.depsOf x := fun x y => by
    rw [← Pta.E2E.hasDep_iff_depsOf p hp.1, ← Pta.E2E.hasDep_iff_depsOf q hq.1, hs.2 x y]
  have hperm := Pta.OrdDT.rules_text_perm mt g so p q hp hq hs.1 hd
  exact same_outcome_of_perm mt g _ _ hperm (Pta.OrdDT.applyAllText_err_kind mt g so p hp)
    (Pta.OrdDT.applyAllText_err_kind mt g so q hq)

/-- a rule generated from a parse result with non-empty dictionary values raises nothing but `lookupError` -/
theorem generated_rules_raise_lookup_only (mt : Str → Str → Bool) (g : PGraph Str) (so : Bool) (p : Parsed')
    (hp : Pta.C07.DepsOK p) (r : RuleState) (hr : r ∈ diagramRules so p) (k : ErrKind)
    (h : (assertAppliesText mt r g).2 = .err k) : k = .lookupError :=
  Pta.OrdDT.generated_rule_err mt g so p hp r hr k h

/-- what the views `aggMessages` / `aggLines` / `diagramRulesOf` say about the text of a file check: it is the '\n'-join of
    the per-rule messages, and the '\n'-join of all their lines -/
theorem diagram_text_views (mt : Str → Str → Bool) (g : PGraph Str) (so : Bool) (base : Option Str) (c text : Str)
    (h : diagramAssertText mt (some c) base so g = .fail text) :
    text = joinWith ['\n'] (aggMessages mt g (diagramRulesOf c base so)) ∧
    text = messageText (aggLines mt g (diagramRulesOf c base so)) ∧
    ((∀ l ∈ aggLines mt g (diagramRulesOf c base so), '\n' ∉ l) →
      splitLines text = aggLines mt g (diagramRulesOf c base so)) := by
  simp only [diagramAssertText, diagramRulesOf] at h ⊢
  cases hp : pumlParse c with
  | error k => rw [hp] at h; cases h
  | ok p =>
    simp only [hp] at h ⊢
    -- a check that fails (rather than raises) found every component among the modules of the architecture
    split at h
    · cases h
    obtain ⟨h1, _, _, _, h5⟩ := (Pta.C07.aggregated_text_items mt g _).2 text h
    exact ⟨by rw [h1, ← Pta.Agg.join_aggMessages], h1, h5⟩

/-- **permuted diagram lines.** Two files `noise / @startuml / lines / @enduml / noise` whose line lists are permutations of
    each other (raw lines without newline and `@`, as in `C15.diagram_text_perm`), any base module, any graph, both modes:
    (1) one check raises `k` iff the other raises `k` (both the parsing error, or both the lookup error: of the check that
        every component is a module, or of a generated rule);
    (2) same class, the same multiset of per-rule messages, the same multiset of message lines (when the checks fail,
        these are the blocks / lines of the two texts: `diagram_text_views`, `diagram_message_text_lines_perm`). -/
theorem diagram_message_lines_perm (mt : Str → Str → Bool) (g : PGraph Str) (so : Bool) (base : Option Str)
    (noise1 noise2 : Str) (lines lines' : List Str) (h : lines.Perm lines')
    (hl : ∀ l ∈ lines, '\n' ∉ l ∧ '@' ∉ l) (hn : isInfix "@enduml".toList noise2 = false) :
    (∀ k, diagramAssertText mt (some (linesText noise1 lines noise2)) base so g = .err k ↔
      diagramAssertText mt (some (linesText noise1 lines' noise2)) base so g = .err k) ∧
    (diagramAssertText mt (some (linesText noise1 lines noise2)) base so g).cls =
      (diagramAssertText mt (some (linesText noise1 lines' noise2)) base so g).cls ∧
    (aggMessages mt g (diagramRulesOf (linesText noise1 lines noise2) base so)).Perm
      (aggMessages mt g (diagramRulesOf (linesText noise1 lines' noise2) base so)) ∧
    (aggLines mt g (diagramRulesOf (linesText noise1 lines noise2) base so)).Perm
      (aggLines mt g (diagramRulesOf (linesText noise1 lines' noise2) base so)) := by
  simp only [diagramAssertText, diagramRulesOf]
  rcases Pta.OrdDT.linesText_parse noise1 noise2 lines lines' h hl hn with ⟨e1, e2⟩ | ⟨p, q, e1, e2, hp, hq, hm, hd⟩
  · rw [e1, e2]
    exact ⟨fun _ => Iff.rfl, rfl, List.Perm.refl _, List.Perm.refl _⟩
  · rw [e1, e2]
    simp only
    -- same content and the dictionary invariants survive `with_base_module`
    have hp' := Pta.E2E.depsOK_prefix p base hp
    have hq' := Pta.E2E.depsOK_prefix q base hq
    obtain ⟨hm', hd'⟩ := Pta.E2E.prefix_sim p q base ⟨hm, hd⟩
    obtain ⟨h1, _, h3, h4, h5⟩ := same_outcome_of_perm mt g _ _ (Pta.OrdDT.rules_text_perm mt g so _ _ hp' hq' hm' hd')
      (Pta.OrdDT.applyAllText_err_kind mt g so _ hp') (Pta.OrdDT.applyAllText_err_kind mt g so _ hq')
    -- the check of the repair of F-C13c sees the module SET only
    rw [Pta.Repair.diagramMissing_congr _ _ g hm']
    cases diagramMissing (prefixParsed q base) g with
    | true => exact ⟨fun _ => Iff.rfl, rfl, h4, h5⟩
    | false => exact ⟨h1, h3, h4, h5⟩

/-- … for the lines of the literal texts: if both checks fail with texts `t`, `t'` and no message line contains a newline
    (no module name does), the lines of `t'` are a permutation of the lines of `t` -/
theorem diagram_message_text_lines_perm (mt : Str → Str → Bool) (g : PGraph Str) (so : Bool) (base : Option Str)
    (noise1 noise2 : Str) (lines lines' : List Str) (h : lines.Perm lines')
    (hl : ∀ l ∈ lines, '\n' ∉ l ∧ '@' ∉ l) (hn : isInfix "@enduml".toList noise2 = false) (t t' : Str)
    (ht : diagramAssertText mt (some (linesText noise1 lines noise2)) base so g = .fail t)
    (ht' : diagramAssertText mt (some (linesText noise1 lines' noise2)) base so g = .fail t')
    (hnl : ∀ l ∈ aggLines mt g (diagramRulesOf (linesText noise1 lines noise2) base so), '\n' ∉ l) :
    (splitLines t).Perm (splitLines t') := by
  obtain ⟨_, _, _, hperm⟩ := diagram_message_lines_perm mt g so base noise1 noise2 lines lines' h hl hn
  have hnl' : ∀ l ∈ aggLines mt g (diagramRulesOf (linesText noise1 lines' noise2) base so), '\n' ∉ l :=
    fun l hl' => hnl l (hperm.mem_iff.2 hl')
  rw [(diagram_text_views mt g so base _ t ht).2.2 hnl, (diagram_text_views mt g so base _ t' ht').2.2 hnl']
  exact hperm

def T (s : String) : Str := s.toList
def mt0 : Str → Str → Bool := fun _ _ => false

/-- four modules, one import `d → a` -/
def exIso : Arch := { nodes := ["a", "b", "c", "d"].map Pta.C07.nm, imports := [(Pta.C07.nm "d", Pta.C07.nm "a")] }
/-- three arrow lines, and the same lines in another order (the value list of `a` becomes `[c, b]`, and `c` becomes the
    first dictionary key) -/
def exL : List Str := [T "[a] --> [b]", T "[c] --> [d]", T "[a] --> [c]"]
def exL' : List Str := [T "[c] --> [d]", T "[a] --> [c]", T "[a] --> [b]"]

/-- the hypotheses of `diagram_message_lines_perm` / `diagram_message_text_lines_perm` -/
example : exL.Perm exL' ∧ (∀ l ∈ exL, '\n' ∉ l ∧ '@' ∉ l) ∧ isInfix "@enduml".toList ([] : Str) = false := by decide +kernel

/-- **literal equality of the two texts is false**: the blocks of the `should` rules follow the order of the arrow lines.
    Same lines as a multiset (as `diagram_message_lines_perm` says); inside the line of `a` the objects are sorted in both
    texts although the dictionary lists them as `b, c` in one file and `c, b` in the other. -/
theorem diagram_message_order_counterexample :
    diagramAssertText mt0 (some (linesText [] exL [])) none false (archGraph exIso) =
      .fail (T "\"a\" does not import \"b\", \"c\".\n\"c\" does not import \"d\".\n\"d\" imports \"a\".") ∧
    diagramAssertText mt0 (some (linesText [] exL' [])) none false (archGraph exIso) =
      .fail (T "\"c\" does not import \"d\".\n\"a\" does not import \"b\", \"c\".\n\"d\" imports \"a\".") ∧
    diagramAssertText mt0 (some (linesText [] exL [])) none false (archGraph exIso) ≠
      diagramAssertText mt0 (some (linesText [] exL' [])) none false (archGraph exIso) := by
  decide +kernel

example : aggLines mt0 (archGraph exIso) (diagramRulesOf (linesText [] exL []) none false) =
      [T "\"a\" does not import \"b\", \"c\".", T "\"c\" does not import \"d\".", T "\"d\" imports \"a\"."] ∧
    aggLines mt0 (archGraph exIso) (diagramRulesOf (linesText [] exL' []) none false) =
      [T "\"c\" does not import \"d\".", T "\"a\" does not import \"b\", \"c\".", T "\"d\" imports \"a\"."] ∧
    (∀ l ∈ aggLines mt0 (archGraph exIso) (diagramRulesOf (linesText [] exL []) none false), '\n' ∉ l) := by
  decide +kernel

/-- the theorem applied to the instance: the lines of the two literal texts are permutations of each other -/
example : (splitLines (T "\"a\" does not import \"b\", \"c\".\n\"c\" does not import \"d\".\n\"d\" imports \"a\".")).Perm
    (splitLines (T "\"c\" does not import \"d\".\n\"a\" does not import \"b\", \"c\".\n\"d\" imports \"a\".")) :=
  diagram_message_text_lines_perm mt0 (archGraph exIso) false none [] [] exL exL' (by decide +kernel) (by decide +kernel) (by decide +kernel) _ _
    diagram_message_order_counterexample.1 diagram_message_order_counterexample.2.1 (by decide +kernel)

/-- **the dictionary order does not reach the text.** The two parse results `exP`, `exQ` of Props/C07.lean
    (`report_lists_objects_in_dict_order`: the report ITEMS list `b, c` resp. `c, b`) give literally the same text; so do the
    two files `exAB`, `exAB.reverse` -/
theorem diagram_message_objects_sorted :
    applyAllText mt0 (archGraph Pta.C07.exIsolated) (diagramRules false Pta.C07.exP) =
      .fail (T "\"a\" does not import \"b\", \"c\".") ∧
    applyAllText mt0 (archGraph Pta.C07.exIsolated) (diagramRules false Pta.C07.exQ) =
      .fail (T "\"a\" does not import \"b\", \"c\".") ∧
    diagramAssertText mt0 (some (diagramText [] Pta.C07.exAB [])) none false (archGraph Pta.C07.exIsolated) =
      diagramAssertText mt0 (some (diagramText [] Pta.C07.exAB.reverse [])) none false (archGraph Pta.C07.exIsolated) := by
  decide +kernel

/-- the hypotheses of `diagram_rules_text_perm` hold for `exP`, `exQ` -/
example : SameDiagram (.ok Pta.C07.exP) (.ok Pta.C07.exQ) ∧ Pta.C07.DepsOK Pta.C07.exP ∧ Pta.C07.DepsOK Pta.C07.exQ :=
  ⟨⟨(Pta.C07.exPQ_hyps false).1.1, fun k v => by
      rw [Bool.eq_iff_iff, Pta.E2E.hasDep_iff_depsOf _ (Pta.C07.exPQ_hyps false).2.1.1,
        Pta.E2E.hasDep_iff_depsOf _ (Pta.C07.exPQ_hyps false).2.2.1.1]
      exact (Pta.C07.exPQ_hyps false).1.2 k v⟩,
    (Pta.C07.exPQ_hyps false).2.1, (Pta.C07.exPQ_hyps false).2.2.1⟩

/-- a base module that does not exist: both orders raise (the same lookup error here) -/
example : diagramAssertText mt0 (some (linesText [] exL [])) (some (T "zz")) false (archGraph exIso) = .err .lookupError ∧
    diagramAssertText mt0 (some (linesText [] exL' [])) (some (T "zz")) false (archGraph exIso) = .err .lookupError := by
  decide +kernel

end Pta.C15
