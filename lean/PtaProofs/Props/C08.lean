/-
  PtaProofs.Props.C08 — glob-style exclusion patterns mean "literal text, optional leading/trailing *"
  (property C08), for ALL patterns and ALL subject strings; and exclusion of a directory removes its sub tree.

  Second half (`exclusion_exact_…`): one tree scanned under two exclusion tests `excl0 ≤ excl` (the option records
  differ only in `exclusions`, the second has more patterns). Modules and parsed files: an entry remains iff it was
  there before and no path from `module_path` down to it matches (`Clear`). Imports (default options): the import
  pairs of the second graph are exactly the import pairs of the first between remaining modules — under the
  carve-out `carveOut` (Bridge/ScanExcl.lean), which is needed (`carve_out_needed`): excluding `P/n.py` turns the
  target of `from P import n` into `P`.
-/
import Bridge.Abs
import Bridge.ScanTree
import Bridge.ScanExcl
import PtaProofs.Lemmas.GlobLabel
import PtaProofs.Lemmas.ScanExclude
import PtaProofs.Lemmas.ScanCompose
import PtaSpec.GlobSem
import Bridge.ScanAbs
import PtaProofs.Lemmas.GlobMeaning
namespace Pta.C08
open PtaSpec

/-- `re.escape` is undone by the emitted-class reader: the literal survives the round trip -/
theorem unescape_escape (s : Str) : unescape (reEscape s) = some s := Pta.unescape_escape_lemma s

/-- the converter's output always lies in the emitted class, with exactly the documented shape -/
theorem convert_shape (p : Str) :
    parseEmitted (convertPartialMatch p) =
      some ⟨startsWith ['*'] p,
            pySlice p (if startsWith ['*'] p then 1 else 0) (if endsWith ['*'] p then p.length - 1 else p.length),
            endsWith ['*'] p⟩ := Pta.convert_shape_lemma p

/-- the glob theorem: matching the converted pattern = the documented meaning of the glob pattern -/
theorem glob_spec (p s : Str) : matchEmitted (convertPartialMatch p) s = some (globSpec p s) :=
  Pta.glob_spec_lemma p s

/-- `glob_meaning` (audit finding F11): the flag-and-slice reading `globSpec` IS the independent meaning
    `PtaSpec.globMeaning` (PtaSpec/GlobSem.lean: the pattern is literal text `lit` with an optional star in front and an
    optional star behind — the lone `"*"` being both —, and the subject is `pre ++ lit ++ suf` with `pre` / `suf` empty
    where there is no star), for ALL patterns and subjects, `"*"`, `"**"` and `""` included -/
theorem glob_meaning (p s : Str) : globSpec p s = true ↔ globMeaning p s :=
  Pta.glob_meaning_lemma p s

/-- so `glob_spec` is a statement against an independent meaning: the converted pattern matches exactly the subjects the
    glob pattern means -/
theorem glob_spec_meaning (p s : Str) : matchEmitted (convertPartialMatch p) s = some true ↔ globMeaning p s := by
  rw [glob_spec, Option.some.injEq]; exact glob_meaning p s

/-- the boundary patterns: `"*"` and `"**"` match everything, `""` matches the empty subject only, and `"***"` matches
    the subjects containing a star -/
theorem glob_boundary (s : Str) :
    globMeaning "*".toList s ∧ globMeaning "**".toList s ∧ (globMeaning "".toList s ↔ s = []) ∧
    (globMeaning "***".toList s ↔ '*' ∈ s) := by
  -- `"*"` and `"**"` both ask for the empty infix
  have h0 : isInfix [] s = true := (Pta.isInfix_iff _ _).2 List.nil_infix
  refine ⟨(glob_meaning _ s).1 h0, (glob_meaning _ s).1 h0, ?_, ?_⟩
  · rw [← glob_meaning]
    show (s == []) = true ↔ s = []
    simp
  · rw [← glob_meaning]
    show isInfix ['*'] s = true ↔ '*' ∈ s
    rw [Pta.isInfix_iff]
    constructor
    · rintro ⟨a, b, rfl⟩; simp
    · intro h
      obtain ⟨a, b, rfl⟩ := List.append_of_mem h
      exact ⟨a, b, by simp⟩

/-- `.py` files: `isPyFile` means "a non-empty stem followed by `.py`" (`PtaSpec.isPyName`), … -/
theorem py_file_meaning (name : Str) : isPyFile name = true ↔ ∃ stem, isPyName name stem := ScanNames.isPyFile_iff name

/-- … `dropSuffix` returns that stem, … -/
theorem drop_suffix_py (name stem : Str) (h : isPyName name stem) : dropSuffix name = stem := by
  obtain ⟨rfl, hne⟩ := h
  rw [ScanNames.dropSuffix_last_dot stem ['p', 'y'] (by decide), if_neg hne]

/-- … and this is how the specification's view of a directory entry (`toSEntry`, Bridge/ScanAbs.lean) gets its `isPy` flag
    and its `stem`: a file entry whose last path component is `stem ++ ".py"` -/
theorem entry_py_stem (excl : Str → Bool) (base : Str) (e : Entry) (name : Str) (hn : e.rel.getLast? = some name) :
    ((toSEntry excl base e).isPy = true ↔ e.isDir = false ∧ ∃ stem, isPyName name stem) ∧
    ∀ stem, isPyName name stem → (toSEntry excl base e).stem = stem := by
  simp only [toSEntry, hn, Bool.and_eq_true, Bool.not_eq_true', py_file_meaning]
  exact ⟨trivial, fun stem h => drop_suffix_py name stem h⟩

/-! non-vacuity -/
example : globMeaning "*a.b".toList "xa.b".toList := (glob_meaning _ _).1 (by decide +kernel)
example : ¬ globMeaning "*a.b".toList "xaxb".toList := fun h => absurd ((glob_meaning _ _).2 h) (by decide +kernel)
example : isPyName "a.b.py".toList "a.b".toList := ⟨by decide +kernel, by decide +kernel⟩
example : isPyFile ".py".toList = false ∧ isPyFile "x.py".toList = true ∧ dropSuffix "a.b.py".toList = "a.b".toList := by decide +kernel

/-- all other characters are literal: a pattern without `*` at either end matches exactly itself -/
theorem literal_pattern (p s : Str) (h1 : startsWith ['*'] p = false) (h2 : endsWith ['*'] p = false) :
    matchEmitted (convertPartialMatch p) s = some (s == p) := by
  rw [glob_spec_lemma]
  unfold globSpec
  simp only [h1, h2, Bool.false_eq_true, if_false, pySlice_zero_length]

/-- an excluded directory contributes no module and nothing below it is visited -/
theorem excluded_directory_contributes_nothing (excl : Str → Bool) (base rootName : Str) (entries : List Entry)
    (fuel : Nat) (e : Entry) (hd : e.isDir = true) (hx : excl (pathStr base e.rel) = true) :
    parseWalk excl base rootName entries fuel e = {} := by
  cases fuel with
  | zero => rfl
  | succ f => simp [parseWalk, hd, hx]

/-- an excluded (or non-.py) file contributes nothing -/
theorem excluded_file_contributes_nothing (excl : Str → Bool) (base rootName : Str) (entries : List Entry)
    (fuel : Nat) (e : Entry) (hd : e.isDir = false) (hx : excl (pathStr base e.rel) = true) :
    parseWalk excl base rootName entries fuel e = {} := by
  cases fuel with
  | zero => rfl
  | succ f =>
    simp only [parseWalk, hd]
    cases e.rel.getLast? <;> simp [hx]

/-! non-vacuity -/
example : matchEmitted (convertPartialMatch "*a.b".toList) "xa.b".toList = some true := by decide +kernel
example : matchEmitted (convertPartialMatch "*a.b".toList) "xaxb".toList = some false := by decide +kernel
example : convertPartialMatch "a+(*".toList = "a\\+\\(.*".toList := by decide +kernel

/-! ### exclusions remove exactly the matching files / directories, nothing else -/

section exact
variable (excl0 excl : Str → Bool) (hsub : ∀ p, excl0 p = true → excl p = true)
  (base root : Str) (mp : List Str) (entries : List Entry)

omit hsub in
/-- the modules of a walk, under any exclusion test: the names of the entries (root directory included) at or below
    `module_path` that are directories or `.py` files and have no excluded path from `module_path` down to themselves -/
theorem walk_modules (hshape : treeShape entries = true) (hmp : mpOK entries mp = true) (x : Str) :
    x ∈ (walkFrom excl0 base root mp entries).allModules ↔
      ∃ e ∈ rootEntry :: entries, Survives excl0 base mp e ∧ x = moduleName root e.rel := by
  exact ScanSpec.walk_modules excl0 base (ScanWalk.shape_of entries hshape) hmp root x

include hsub

/-- C08, modules (through entries): with additional exclusions (`excl0 p → excl p`) the walk registers exactly the
    entries it registered before and that are `Clear`: no path from `module_path` down to the entry — the entry's
    own path and every directory above it — matches. So a matching file or directory, and everything below a
    matching directory, contributes no module; every other module is as before. -/
theorem exclusion_exact_modules (hshape : treeShape entries = true) (hmp : mpOK entries mp = true) (x : Str) :
    x ∈ (walkFrom excl base root mp entries).allModules ↔
      ∃ e ∈ rootEntry :: entries, Survives excl0 base mp e ∧ Clear excl base mp e ∧ x = moduleName root e.rel := by
  rw [walk_modules excl base root mp entries hshape hmp]
  simp only [ScanExclude.survives_split hsub, and_assoc]

/-- C08, parsed files (the sources of imports): exactly the `.py` files parsed before that are `Clear`, each with
    its statements -/
theorem exclusion_exact_files (hshape : treeShape entries = true) (hmp : mpOK entries mp = true)
    (y : Str × List ImportStmt) :
    y ∈ (walkFrom excl base root mp entries).files ↔
      ∃ e ∈ entries, e.isDir = false ∧ Survives excl0 base mp e ∧ Clear excl base mp e ∧
        y = (moduleName root e.rel, e.stmts) := by
  rw [ScanSpec.walk_files excl base (ScanWalk.shape_of entries hshape) hmp root y]
  simp only [ScanExclude.survives_split hsub, and_assoc]

/-- C08, modules (through module names; on a well-formed tree the entry of a module is unique): a module remains iff
    it was a module before and its entry is `Clear` -/
theorem exclusion_exact_modules_names (hwf0 : treeWFFor excl0 base mp entries = true) (hmp : mpOK entries mp = true)
    (hroot : compWF root = true) (x : Str) :
    x ∈ (walkFrom excl base root mp entries).allModules ↔
      x ∈ (walkFrom excl0 base root mp entries).allModules ∧
      ∀ e ∈ rootEntry :: entries, Survives excl0 base mp e → moduleName root e.rel = x → Clear excl base mp e := by
  obtain ⟨hshape, s, nm⟩ := ScanNames.tree_facts hwf0
  rw [exclusion_exact_modules excl0 excl hsub base root mp entries hshape hmp,
    walk_modules excl0 base root mp entries hshape hmp]
  constructor
  · rintro ⟨e, he, hS, hC, rfl⟩
    refine ⟨⟨e, he, hS, rfl⟩, fun e' he' hS' heq => ?_⟩
    -- names of surviving entries are unique, so `e'` is `e`
    exact ScanExclude.Clear.congr (ScanNames.moduleName_inj s nm root hroot e' e he' he (ScanWalk.survives_dirOrPy _ base hS')
      (ScanWalk.survives_dirOrPy _ base hS) (ScanNames.Rel.of_survives hS') (ScanNames.Rel.of_survives hS) heq).symm hC
  · rintro ⟨⟨e, he, hS, rfl⟩, hall⟩
    exact ⟨e, he, hS, hall e he hS rfl, rfl⟩

/-- a file or directory whose path matches, and everything below a matching directory, contributes no module -/
theorem excluded_contributes_no_module (hwf0 : treeWFFor excl0 base mp entries = true) (hmp : mpOK entries mp = true)
    (hroot : compWF root = true) (e : Entry) (he : e ∈ rootEntry :: entries) (hS : Survives excl0 base mp e)
    (k : Nat) (hk1 : mp.length ≤ k) (hk2 : k ≤ e.rel.length) (hx : excl (pathStr base (e.rel.take k)) = true) :
    moduleName root e.rel ∉ (walkFrom excl base root mp entries).allModules := by
  intro hm
  have := ((exclusion_exact_modules_names excl0 excl hsub base root mp entries hwf0 hmp hroot _).1 hm).2 e he hS rfl k
    hk1 hk2
  rw [hx] at this
  cases this

/-- every other module is exactly as in the scan without the additional patterns -/
theorem unexcluded_module_remains (hshape : treeShape entries = true) (hmp : mpOK entries mp = true)
    (e : Entry) (he : e ∈ rootEntry :: entries) (hS : Survives excl0 base mp e) (hc : Clear excl base mp e) :
    moduleName root e.rel ∈ (walkFrom excl base root mp entries).allModules :=
  (exclusion_exact_modules excl0 excl hsub base root mp entries hshape hmp _).2 ⟨e, he, hS, hc, rfl⟩

end exact

/-- `scanParsed` is the walk under the exclusion test of the options -/
theorem scanParsed_walkFrom (mt : Str → Str → Bool) (base root : Str) (mp : List Str) (entries : List Entry)
    (o : ScanOptions) :
    scanParsed mt base root mp entries o = walkFrom (isExcluded mt o.exclusions) base root mp entries := rfl

/-- more patterns (of the same kind) exclude more: the hypothesis `excl0 p → excl p` for option records -/
theorem more_patterns_exclude_more (mt : Str → Str → Bool) (a b c : Patterns) (h : a.add b = some c) (s : Str) :
    isExcluded mt c s = (isExcluded mt a s || isExcluded mt b s) := by
  cases a <;> cases b <;> simp only [Patterns.add, Option.some.injEq, reduceCtorEq] at h
  all_goals
    subst h
    simp only [isExcluded, List.any_append]

/-- … and no patterns exclude nothing -/
theorem no_patterns_exclude_nothing (mt : Str → Str → Bool) (s : Str) :
    isExcluded mt (.globs []) s = false ∧ isExcluded mt (.regexes []) s = false := ⟨rfl, rfl⟩

section opts
variable (mt : Str → Str → Bool) (base root : Str) (mp : List Str) (entries : List Entry) (o0 : ScanOptions)
  (ps : Patterns) (hsub : ∀ p, isExcluded mt o0.exclusions p = true → isExcluded mt ps p = true)
include hsub

/-- C08, modules, for two option records that differ only in `exclusions` (the second excludes at least what the
    first does) -/
theorem exclusion_exact_modules_opts (hwf0 : treeWFFor (isExcluded mt o0.exclusions) base mp entries = true)
    (hmp : mpOK entries mp = true) (hroot : compWF root = true) (x : Str) :
    x ∈ (scanParsed mt base root mp entries (o0.withExclusions ps)).allModules ↔
      x ∈ (scanParsed mt base root mp entries o0).allModules ∧
      ∀ e ∈ rootEntry :: entries, Survives (isExcluded mt o0.exclusions) base mp e → moduleName root e.rel = x →
        Clear (isExcluded mt ps) base mp e :=
  exclusion_exact_modules_names _ _ hsub base root mp entries hwf0 hmp hroot x

/-- C08, imports (default options: externals excluded, no level limit): under the carve-out, when the scan without
    the additional patterns succeeds so does the scan with them, and its import pairs are exactly the import pairs
    of the former between remaining modules (nodes of the new graph). In particular an excluded file contributes no
    import, and no import between two remaining modules appears or disappears. -/
theorem exclusion_exact_imports (hwf0 : treeWFFor (isExcluded mt o0.exclusions) base mp entries = true)
    (hmp : mpOK entries mp = true) (hroot : compWF root = true)
    (hxx : o0.excludeExternal = true) (hlim : o0.levelLimit = none) (hext : o0.externalExclusions.isEmpty = true)
    (hst : ∀ e ∈ entries, ∀ st ∈ e.stmts, stmtOK (toSStmt st) = true)
    (hcarve : carveOut root (toSEntries (isExcluded mt o0.exclusions) base entries)
      (toSEntries (isExcluded mt ps) base entries) mp = true)
    (g0 : PGraph Str) (h0 : generateGraph mt base root mp entries o0 = .ok g0) :
    ∃ g, generateGraph mt base root mp entries (o0.withExclusions ps) = .ok g ∧
      ∀ u v, (u, v) ∈ g.importPairs ↔ (u, v) ∈ g0.importPairs ∧ u ∈ g.nodes ∧ v ∈ g.nodes := by
  have hwf : treeWFFor (isExcluded mt (o0.withExclusions ps).exclusions) base mp entries = true :=
    ScanExclude.treeWFFor_mono hsub mp entries hwf0
  obtain ⟨-, s, nm⟩ := ScanNames.tree_facts hwf0
  obtain ⟨is0, his0, E0⟩ := ScanCompose.scan_ok_imports hwf0 hmp hroot hxx hlim hext hst g0 h0
  obtain ⟨is, his, hiff⟩ := ScanExclude.scanImports_excl hsub s nm hmp hcarve is0 his0
  obtain ⟨g, hg, E⟩ := ScanCompose.scan_some_imports (o := o0.withExclusions ps) hwf hmp hroot hxx hlim hext hst is his
  refine ⟨g, hg, fun u v => ?_⟩
  have hnodes := ScanGraph.scan_nodes_lemma mt base root mp entries (o0.withExclusions ps) hwf hmp hroot hxx hlim g hg
  have hmodwf : ∀ n ∈ scanModules root (toSEntries (isExcluded mt ps) base entries) mp, nameWF n = true :=
    fun n hn => BuildImports.Cl_wf (ScanSpec.own_wf hwf hroot) ((ScanImports.mem_scanModules root _ mp n).1 hn)
  rw [E u v, E0 u v]
  constructor
  · rintro ⟨e, he, rfl, rfl⟩
    obtain ⟨he0, h1, h2⟩ := (hiff e).1 he
    exact ⟨⟨e, he0, rfl, rfl⟩, (hnodes _).2 ⟨e.1, h1, rfl⟩, (hnodes _).2 ⟨e.2, (List.mem_filter.1 h2).1, rfl⟩⟩
  · -- a node of the new graph is the rendering of exactly one well-formed name
    rintro ⟨⟨e, he0, rfl, rfl⟩, hu, hv⟩
    obtain ⟨hw1, hw2⟩ := ScanCompose.scanImports_wf_tree hwf0 hroot is0 his0 e he0
    obtain ⟨-, hin0, -⟩ := ScanImports.scanImports_mem _ _ _ is0 his0 e he0
    obtain ⟨n1, hn1, hr1⟩ := (hnodes _).1 hu
    obtain ⟨n2, hn2, hr2⟩ := (hnodes _).1 hv
    rw [← render_injective _ _ hw1 (hmodwf n1 hn1) hr1] at hn1
    rw [← render_injective _ _ hw2 (hmodwf n2 hn2) hr2] at hn2
    exact ⟨e, (hiff e).2 ⟨he0, hn1, List.mem_filter.2 ⟨hn2, (List.mem_filter.1 hin0).2⟩⟩, rfl, rfl⟩

end opts

/-! non-vacuity -/

def p (l : List String) : List Str := l.map String.toList
def noRe : Str → Str → Bool := fun _ _ => false

/-- `proj/a/x.py` (`import proj.b.y`, `from proj.cache import z`, `import proj.cache.z`), `proj/b/y.py`
    (`from ..a import x`), `proj/cache/z.py` (`import proj.a.x`) -/
def exEntries : List Entry :=
  [ { rel := p ["a"], isDir := true },
    { rel := p ["a", "x.py"], isDir := false,
      stmts := [.imp ["proj.b.y".toList], .impFrom (some "proj.cache".toList) ["z".toList] 0, .imp ["proj.cache.z".toList]] },
    { rel := p ["b"], isDir := true },
    { rel := p ["b", "y.py"], isDir := false, stmts := [.impFrom (some "a".toList) ["x".toList] 2] },
    { rel := p ["cache"], isDir := true },
    { rel := p ["cache", "z.py"], isDir := false, stmts := [.imp ["proj.a.x".toList]] } ]
def exOpts0 : ScanOptions := { exclusions := .globs [] }
def exPats : Patterns := .globs ["*cache".toList]

/-- the hypotheses of `exclusion_exact_modules_opts` / `exclusion_exact_imports` hold for this tree, … -/
example :
    (∀ s, isExcluded noRe exOpts0.exclusions s = true → isExcluded noRe exPats s = true) ∧
    treeWFFor (isExcluded noRe exOpts0.exclusions) "/r/proj".toList [] exEntries = true ∧ mpOK exEntries [] = true ∧
    compWF "proj".toList = true ∧ exOpts0.excludeExternal = true ∧ exOpts0.levelLimit = none ∧
    exOpts0.externalExclusions.isEmpty = true ∧
    (∀ e ∈ exEntries, ∀ st ∈ e.stmts, stmtOK (toSStmt st) = true) ∧
    carveOut "proj".toList (toSEntries (isExcluded noRe exOpts0.exclusions) "/r/proj".toList exEntries)
      (toSEntries (isExcluded noRe exPats) "/r/proj".toList exEntries) [] = true := by
  refine ⟨fun s h => (by simp [exOpts0, isExcluded] at h), ?_⟩
  decide +kernel

set_option maxRecDepth 20000 in
/-- … the two module lists, … -/
example :
    (scanParsed noRe "/r/proj".toList "proj".toList [] exEntries exOpts0).allModules =
      ["proj", "proj.a", "proj.a.x", "proj.b", "proj.b.y", "proj.cache", "proj.cache.z"].map String.toList ∧
    (scanParsed noRe "/r/proj".toList "proj".toList [] exEntries (exOpts0.withExclusions exPats)).allModules =
      ["proj", "proj.a", "proj.a.x", "proj.b", "proj.b.y"].map String.toList := by decide +kernel

set_option maxRecDepth 40000 in
/-- … and the two graphs' import pairs -/
example :
    (generateGraph noRe "/r/proj".toList "proj".toList [] exEntries exOpts0).toOption.map (·.importPairs) =
      some [ ("proj.a.x".toList, "proj.b.y".toList), ("proj.a.x".toList, "proj.cache.z".toList),
             ("proj.b.y".toList, "proj.a.x".toList), ("proj.cache.z".toList, "proj.a.x".toList) ] ∧
    (generateGraph noRe "/r/proj".toList "proj".toList [] exEntries (exOpts0.withExclusions exPats)).toOption.map
        (·.importPairs) =
      some [ ("proj.a.x".toList, "proj.b.y".toList), ("proj.b.y".toList, "proj.a.x".toList) ] := by decide +kernel

/-- `Clear` in Bool form, for concrete trees -/
theorem clearB_iff (excl : Str → Bool) (base : Str) (mp : List Str) (e : Entry) :
    clearB excl base mp e = true ↔ Clear excl base mp e := ScanNames.clearB_iff excl base mp e

example : clearB (isExcluded noRe exPats) "/r/proj".toList [] { rel := p ["a", "x.py"], isDir := false } = true ∧
    clearB (isExcluded noRe exPats) "/r/proj".toList [] { rel := p ["cache", "z.py"], isDir := false } = false := by
  decide +kernel

/-- `r/P/n.py`, `r/m.py` (`from r.P import n`), `r/q.py` (`import r.m`) -/
def exCarve : List Entry :=
  [ { rel := p ["P"], isDir := true },
    { rel := p ["P", "n.py"], isDir := false },
    { rel := p ["m.py"], isDir := false, stmts := [.impFrom (some "r.P".toList) ["n".toList] 0] },
    { rel := p ["q.py"], isDir := false, stmts := [.imp ["r.m".toList]] } ]
def exCarvePats : Patterns := .globs ["*n.py".toList]

/-- The carve-out of `exclusion_exact_imports` is needed: excluding `P/n.py` turns the target of `from r.P import n`
    in `r/m.py` from the module `r.P.n` into the package `r.P` — an import between two remaining modules (`r.m`,
    `r.P`) that the scan without the pattern does not have. All other hypotheses of `exclusion_exact_imports` hold.
    (The real library behaves the same way: `ImportConverter` tests `P.n` against the list of scanned modules.) -/
theorem carve_out_needed :
    treeWFFor (isExcluded noRe exOpts0.exclusions) "/x/r".toList [] exCarve = true ∧ mpOK exCarve [] = true ∧
    (∀ e ∈ exCarve, ∀ st ∈ e.stmts, stmtOK (toSStmt st) = true) ∧
    carveOut "r".toList (toSEntries (isExcluded noRe exOpts0.exclusions) "/x/r".toList exCarve)
      (toSEntries (isExcluded noRe exCarvePats) "/x/r".toList exCarve) [] = false ∧
    (generateGraph noRe "/x/r".toList "r".toList [] exCarve exOpts0).toOption.map (·.importPairs) =
      some [ ("r.m".toList, "r.P.n".toList), ("r.q".toList, "r.m".toList) ] ∧
    (generateGraph noRe "/x/r".toList "r".toList [] exCarve (exOpts0.withExclusions exCarvePats)).toOption.map
        (fun g => (g.nodes, g.importPairs)) =
      some ( ["r", "r.P", "r.m", "r.q"].map String.toList,
             [ ("r.m".toList, "r.P".toList), ("r.q".toList, "r.m".toList) ] ) := by decide +kernel

/-! ### where the conversion looks at the list of internal modules -/

/-- `ImportConverter._convert` depends on the list of internal modules only through the membership of the
    `consulted` strings (Bridge/ScanExcl.lean): `prefix.name` in `_adjust_with_root_prefix`, the adjusted `P.n` of
    `from P import n`, and the resolved `P.n` of a relative `from`-import -/
theorem conversion_consults (importer absPrefix : Str) (internal internal' : List Str) (st : ImportStmt)
    (h : ∀ q ∈ consulted importer absPrefix st, internal.contains q = internal'.contains q) :
    convertStmt importer absPrefix internal st = convertStmt importer absPrefix internal' st :=
  ScanExclude.convertStmt_consults importer absPrefix internal internal' st h

/-- hence a statement none of whose consulted strings is an excluded module (in `internal0`, not in `internal`)
    is converted to the same import records with and without the additional exclusions -/
theorem conversion_unaffected (importer absPrefix : Str) (internal0 internal : List Str) (st : ImportStmt)
    (hsub : ∀ q, q ∈ internal → q ∈ internal0)
    (h : ∀ q ∈ consulted importer absPrefix st, q ∈ internal0 → q ∈ internal) :
    convertStmt importer absPrefix internal st = convertStmt importer absPrefix internal0 st := by
  apply conversion_consults
  intro q hq
  rw [Bool.eq_iff_iff, List.contains_iff_mem, List.contains_iff_mem]
  exact ⟨hsub q, h q hq⟩

example : consulted "r.m".toList [] (.impFrom (some "r.P".toList) ["n".toList] 0) =
    [".r.P.n".toList, "r.P.n".toList, ".r.P".toList] ∧
    consulted "r.a.m".toList "r".toList (.impFrom (some "P".toList) ["n".toList] 2) = ["r.P.n".toList] := by decide +kernel


/-! ### The scan "without that pattern" exists (repaired defect F-C08a, fix c0bb7ac)

C08 compares every filtered scan with "the scan without that pattern"; for a single pattern that is the call with
`exclusions=()`. Before the repair that call raised a `TypeError` (`EntryArgs.filePatternsBeforeRepair` is `none`,
`FileFilter(Config(None))`). -/

/-- the entry point never runs into the `TypeError` branch: whatever the options, the file patterns are defined -/
theorem no_type_error (mt : Str → Str → Bool) (fs : Str → List Entry) (rootPath modulePath : Str) (a : EntryArgs) :
    getEvaluableArchitecture mt fs rootPath modulePath a ≠ .error .typeError := by
  unfold getEvaluableArchitecture
  split
  · simp
  · split
    · simp
    · have h : a.scanOptions ≠ none := by
        simp only [EntryArgs.scanOptions, EntryArgs.filePatterns]
        split <;> simp
      split
      · contradiction
      · split <;> simp

/-- `exclusions=()` and no `regex_exclusions`: the scan with the empty pattern list, i.e. nothing is excluded -/
theorem no_patterns_scan (mt : Str → Str → Bool) (a : EntryArgs)
    (hex : a.exclusions = []) (hrex : a.regexExclusions = none) :
    (a.scanOptions.map (·.exclusions)) = some (.regexes []) ∧
    ∀ s, isExcluded mt (.regexes []) s = false := by
  constructor
  · simp [EntryArgs.scanOptions, EntryArgs.filePatterns, hex, hrex]
  · intro s; simp [isExcluded]

/-- the defect, on the code before the repair: the pattern value handed to the file filter was `None` -/
theorem no_patterns_before_repair :
    ({ exclusions := [] } : EntryArgs).filePatternsBeforeRepair = none ∧
    ({ exclusions := [] } : EntryArgs).filePatterns = some (.regexes []) := ⟨rfl, rfl⟩

end Pta.C08
