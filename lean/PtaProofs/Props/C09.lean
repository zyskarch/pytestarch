/-
  PtaProofs.Props.C09 — level_limit yields the quotient graph (property C09, first sentence): for EVERY
  well-formed architecture and every limit k, the graph built with level_limit = k has exactly the truncated
  module names as nodes, a hierarchy edge exactly between a truncated name and its parent, and an import edge
  a → b exactly when some module truncating to a imports some module truncating to b and a ≠ b.
  With `lim = none` this is the statement that the graph constructor represents the architecture faithfully.

  Second sentence: the flattened graph is the graph of the (well-formed) quotient architecture `truncArch lim a`,
  and every STRICT rule whose identifiers lie at or above the limit (`ruleAbove k r`: `are_named x` with at most k+1
  components, `are_sub_modules_of x` with at most k) has the same verdict on the flattened and on the full graph.
  For related identifiers this fails (`verdict_not_preserved_related`).
-/
import Bridge.Abs
import Bridge.Quotient
import PtaProofs.Lemmas.BuildScan
import PtaProofs.Lemmas.ExtBuild
import PtaProofs.Lemmas.LimitVerdict
import Bridge.ScanLimit
import PtaProofs.Lemmas.ScanLimit
namespace Pta.C09
open PtaSpec

theorem quotient (a : Arch) (hwf : a.wf = true) (lim : Option Nat) : QuotientOf a lim (archGraphLim a lim) :=
  Pta.buildGraph_quotient a hwf lim

/-- without a limit: the graph of an architecture -/
theorem graph_of_arch (a : Arch) (hwf : a.wf = true) : GraphOf a (archGraph a) :=
  Pta.archGraph_graphOf a hwf

/-- nodes are never duplicated -/
theorem nodes_nodup (a : Arch) (lim : Option Nat) : (archGraphLim a lim).nodes.Nodup :=
  Pta.ExtBuild.buildGraph_nodup _ _ lim

/-- self edges are dropped: no node imports itself -/
theorem no_self_import (a : Arch) (hwf : a.wf = true) (lim : Option Nat) (s : Str) :
    s ∉ (archGraphLim a lim).importSuccs s := by
  intro h
  obtain ⟨e, he, hne, h1, h2⟩ := ((quotient a hwf lim).succs s s).1 h
  obtain ⟨i1, i2, -, -⟩ := BuildNames.wf_import a hwf e he
  exact hne (render_injective _ _ (nameWF_trunc lim _ (BuildNames.wf_nodes a hwf _ i1))
    (nameWF_trunc lim _ (BuildNames.wf_nodes a hwf _ i2)) (h1.symm.trans h2))

/-- the limit is raised by the number of levels between root_path and module_path (`generate_graph`) -/
theorem limit_shift (k : Nat) (mp : List Str) :
    ((some k).map fun k => if !mp.isEmpty then k + mp.length else k) = some (if mp = [] then k else k + mp.length) := by
  cases mp <;> simp

/-! non-vacuity -/
def exA : Arch :=
  { nodes := [["p".toList], ["p".toList, "a".toList], ["p".toList, "a".toList, "x".toList], ["p".toList, "b".toList], ["q".toList]],
    imports := [(["p".toList, "a".toList, "x".toList], ["q".toList]), (["p".toList, "a".toList, "x".toList], ["p".toList, "a".toList])] }
example : exA.wf = true := by decide +kernel
example : (archGraphLim exA (some 1)).importPairs = [("p.a".toList, "q".toList)] := by decide +kernel

/-! ### second sentence: verdicts above the limit are preserved -/

/-- the flattened graph is the graph of the quotient architecture … -/
theorem graph_of_quotient_arch (a : Arch) (hwf : a.wf = true) (lim : Option Nat) :
    GraphOf (truncArch lim a) (archGraphLim a lim) :=
  Pta.graphOf_truncArch a lim _ (Pta.buildGraph_quotient a hwf lim)

/-- … which is again well-formed (in particular truncation never makes an importer a strict ancestor of its importee),
    so that C01 applies to the flattened graph -/
theorem quotient_arch_wf (a : Arch) (hwf : a.wf = true) (lim : Option Nat) : (truncArch lim a).wf = true :=
  Pta.truncArch_wf lim a hwf

/-- on the specification side, rules at or above the limit do not see the truncation -/
theorem spec_verdict_preserved (a : Arch) (k : Nat) (r : RuleSpec) (hstrict : r.strict = true)
    (hany : r.anything = true → r.verb = .shouldNot) (habove : ruleAbove k r = true) :
    verdict (truncArch (some k) a) r = verdict a r :=
  Pta.verdict_trunc k a r hstrict habove hany

/-- C09, second sentence: every strict rule whose named modules lie at or above level k (and whose
    'sub modules of' parents lie strictly above it) has the same verdict on the flattened and on the full graph -/
theorem verdict_preserved (mt : Str → Str → Bool) (a : Arch) (hwf : a.wf = true) (k : Nat)
    (r : RuleSpec) (hstrict : r.strict = true) (hnames : r.namesIn a = true)
    (hs : r.subjects ≠ []) (ho : r.anything = true ∨ r.objects ≠ [])
    (hany : r.anything = true → r.verb = .shouldNot)
    (hdepth : ruleAbove k r = true) :
    verdictOf mt (archGraphLim a (some k)) (compile r) = verdictOf mt (archGraph a) (compile r) :=
  (verdict_of_quotient mt a hwf k _ (buildGraph_quotient a hwf (some k)) r hstrict hnames hs ho hany hdepth).trans
    (verdict_spec_of_graph_lemma mt a (archGraph a) (archGraph_graphOf a hwf) hwf r hstrict hnames hs ho hany).symm

/-- `hdepth`, spelled out: `are_named x` has at most k+1 components, `are_sub_modules_of x` at most k -/
theorem ruleAbove_iff (k : Nat) (r : RuleSpec) :
    ruleAbove k r = true ↔ ∀ f ∈ r.subjects ++ r.effObjects,
      (∀ x, f = .named x → x.length ≤ k + 1) ∧ (∀ x, f = .subOf x → x.length ≤ k) := by
  unfold ruleAbove
  rw [List.all_eq_true]
  refine forall_congr' fun f => forall_congr' fun _ => ?_
  cases f <;> simp [filterAbove]

/-- and both are the documented semantics evaluated on the FULL architecture -/
theorem verdict_lim_spec (mt : Str → Str → Bool) (a : Arch) (hwf : a.wf = true) (k : Nat)
    (r : RuleSpec) (hstrict : r.strict = true) (hnames : r.namesIn a = true)
    (hs : r.subjects ≠ []) (ho : r.anything = true ∨ r.objects ≠ [])
    (hany : r.anything = true → r.verb = .shouldNot)
    (hdepth : ruleAbove k r = true) :
    verdictOf mt (archGraphLim a (some k)) (compile r) = VClass.ofBool (verdict a r) :=
  verdict_of_quotient mt a hwf k _ (buildGraph_quotient a hwf (some k)) r hstrict hnames hs ho hany hdepth

/-! non-vacuity: `p.a should only import q` at limit 1; `sub modules of p should not import except q` at limit 1 -/
def nm (s : String) : Name := splitDots s.toList
def exR : RuleSpec :=
  { verb := .shouldOnly, importDir := true, exc := false, subjects := [.named (nm "p.a")], objects := [.named (nm "q")] }
def exR2 : RuleSpec :=
  { verb := .shouldNot, importDir := true, exc := true, subjects := [.subOf (nm "p")], objects := [.named (nm "q")] }
example : exA.wf = true ∧ exR.strict = true ∧ exR.namesIn exA = true ∧ exR.subjects ≠ [] ∧ exR.objects ≠ [] ∧
    ruleAbove 1 exR = true := by decide +kernel
example : exR2.strict = true ∧ exR2.namesIn exA = true ∧ ruleAbove 1 exR2 = true := by decide +kernel
example : (truncArch (some 1) exA).nodes = [nm "p", nm "p.a", nm "p.b", nm "q"] ∧
    (truncArch (some 1) exA).imports = [(nm "p.a", nm "q")] := by decide +kernel
example : verdictOf (fun _ _ => false) (archGraphLim exA (some 1)) (compile exR) = .pass ∧
    verdictOf (fun _ _ => false) (archGraph exA) (compile exR) = .pass := by decide +kernel
example : verdictOf (fun _ _ => false) (archGraphLim exA (some 1)) (compile exR2) = .pass ∧
    verdictOf (fun _ _ => false) (archGraph exA) (compile exR2) = .pass := by decide +kernel

/-- the `anything` alias: `p.a should not import anything` fails on both graphs (`p.a.x → q`) -/
def exR3 : RuleSpec :=
  { verb := .shouldNot, importDir := true, exc := false, subjects := [.named (nm "p.a")], objects := [], anything := true }
example : exR3.strict = true ∧ exR3.namesIn exA = true ∧ ruleAbove 1 exR3 = true := by decide +kernel
example : verdictOf (fun _ _ => false) (archGraphLim exA (some 1)) (compile exR3) = .fail ∧
    verdictOf (fun _ _ => false) (archGraph exA) (compile exR3) = .fail := by decide +kernel

/-! ### why the theorem is stated on strict rules -/

/-- `p.a.x → p.a.y` is the only import; the rule is `p.a should import p` (object `p` is an ancestor of the subject) -/
def exB : Arch :=
  { nodes := [nm "p", nm "p.a", nm "p.a.x", nm "p.a.y", nm "p.b"], imports := [(nm "p.a.x", nm "p.a.y")] }
def exRrel : RuleSpec :=
  { verb := .should, importDir := true, exc := false, subjects := [.named (nm "p.a")], objects := [.named (nm "p")] }

/-- for RELATED identifiers the verdict is not preserved: every hypothesis of `verdict_preserved` except strictness
    holds (all names exist and lie at or above limit 1), the rule passes on the full graph (the import `p.a.x → p.a.y`
    leads from `p.a` into `p`) and fails on the flattened graph (the import collapses to a dropped self edge of `p.a`) -/
theorem verdict_not_preserved_related :
    exB.wf = true ∧ exRrel.namesIn exB = true ∧ ruleAbove 1 exRrel = true ∧ exRrel.strict = false ∧
    verdictOf (fun _ _ => false) (archGraph exB) (compile exRrel) = .pass ∧
    verdictOf (fun _ _ => false) (archGraphLim exB (some 1)) (compile exRrel) = .fail := by decide +kernel

/-! ### the scan entry point: `generate_graph(level_limit = k)` against `generate_graph(level_limit = None)`

`o.noLimit` is `o` with `levelLimit := none`; `shiftedLimit o mp` is the limit the constructor receives
(`k + len(module_path below root_path)`).  Both runs hand the same module list and the same import records to the
graph constructor; no well-formedness of names, tree or statements is assumed, externals may be included. -/

/-- whether the scan fails does not depend on the level limit -/
theorem scan_error_indep (mt : Str → Str → Bool) (base rootName : Str) (mp : List Str) (entries : List Entry)
    (o : ScanOptions) (e : ErrKind) :
    generateGraph mt base rootName mp entries o = .error e ↔
      generateGraph mt base rootName mp entries o.noLimit = .error e :=
  Pta.ScanLimit.error_indep_lemma mt base rootName mp entries o e

/-- nodes of the limited graph = flattened nodes of the full graph -/
theorem scan_quotient_nodes (mt : Str → Str → Bool) (base rootName : Str) (mp : List Str) (entries : List Entry)
    (o : ScanOptions) (g g0 : PGraph Str)
    (hg : generateGraph mt base rootName mp entries o = .ok g)
    (hg0 : generateGraph mt base rootName mp entries o.noLimit = .ok g0) (s : Str) :
    s ∈ g.nodes ↔ ∃ n ∈ g0.nodes, s = flattenNode (shiftedLimit o mp) n :=
  (Pta.ScanLimit.scan_quotient_lemma mt base rootName mp entries o g g0 hg hg0).1 s

/-- hierarchy edges of the limited graph = flattened hierarchy edges of the full graph whose ends stay distinct -/
theorem scan_quotient_hier (mt : Str → Str → Bool) (base rootName : Str) (mp : List Str) (entries : List Entry)
    (o : ScanOptions) (g g0 : PGraph Str)
    (hg : generateGraph mt base rootName mp entries o = .ok g)
    (hg0 : generateGraph mt base rootName mp entries o.noLimit = .ok g0) (a b : Str) :
    (a, b) ∈ g.hierPairs ↔
      ∃ u v, (u, v) ∈ g0.hierPairs ∧ a = flattenNode (shiftedLimit o mp) u ∧ b = flattenNode (shiftedLimit o mp) v ∧ a ≠ b :=
  (Pta.ScanLimit.scan_quotient_lemma mt base rootName mp entries o g g0 hg hg0).2.1 a b

/-- import edges, unconditional half: a flattened import edge of the full graph whose ends stay distinct and which
    does not land on a parent→child pair is an import edge of the limited graph; and no import edge of the limited
    graph is a self edge or a parent→child pair -/
theorem scan_quotient_imports_sup (mt : Str → Str → Bool) (base rootName : Str) (mp : List Str) (entries : List Entry)
    (o : ScanOptions) (g g0 : PGraph Str)
    (hg : generateGraph mt base rootName mp entries o = .ok g)
    (hg0 : generateGraph mt base rootName mp entries o.noLimit = .ok g0) (a b : Str) :
    ((a ≠ b ∧ isHierPair a b = false ∧
        ∃ u v, (u, v) ∈ g0.importPairs ∧ a = flattenNode (shiftedLimit o mp) u ∧ b = flattenNode (shiftedLimit o mp) v) →
      (a, b) ∈ g.importPairs) ∧
    ((a, b) ∈ g.importPairs → a ≠ b ∧ isHierPair a b = false) :=
  have h := (Pta.ScanLimit.scan_quotient_lemma mt base rootName mp entries o g g0 hg hg0).2.2.1 a b
  ⟨h.2, fun hab => ⟨(h.1 hab).1, (h.1 hab).2.1⟩⟩

/-- import edges, exactly, in terms of the import records `R` handed to the constructor (no hypothesis).
    Since the repair of `_initialise` (`_is_import_between_known_modules`) only the records whose importee is a node of
    the FULL graph count: a record whose importee is not a module produces no edge onto the module its name
    is truncated to. (The importer of a record is always a node.) -/
theorem scan_imports_exact (mt : Str → Str → Bool) (base rootName : Str) (mp : List Str) (entries : List Entry)
    (o : ScanOptions) (g g0 : PGraph Str)
    (hg : generateGraph mt base rootName mp entries o = .ok g)
    (hg0 : generateGraph mt base rootName mp entries o.noLimit = .ok g0)
    (R : List ImportRec) (hR : scanRetained mt base rootName mp entries o = .ok R) (a b : Str) :
    (a, b) ∈ g.importPairs ↔
      a ≠ b ∧ isHierPair a b = false ∧ a ∈ g.nodes ∧ b ∈ g.nodes ∧
      ∃ i ∈ R, i.importee ∈ g0.nodes ∧
        a = flattenNode (shiftedLimit o mp) i.importer ∧ b = flattenNode (shiftedLimit o mp) i.importee :=
  (Pta.ScanLimit.scan_quotient_lemma mt base rootName mp entries o g g0 hg hg0).2.2.2 R hR a b

/-- C09 for scans, import edges (no side condition): `a` imports `b` in
    the limited graph exactly when some module flattening to `a` imports some module flattening to `b` in the full
    graph, `a ≠ b`, and `(a, b)` is not a parent→child pair (such a pair is the hierarchy edge, see `collision_iff`
    for when this happens) -/
theorem scan_quotient_imports (mt : Str → Str → Bool) (base rootName : Str) (mp : List Str) (entries : List Entry)
    (o : ScanOptions) (g g0 : PGraph Str)
    (hg : generateGraph mt base rootName mp entries o = .ok g)
    (hg0 : generateGraph mt base rootName mp entries o.noLimit = .ok g0) (a b : Str) :
    (a, b) ∈ g.importPairs ↔
      a ≠ b ∧ isHierPair a b = false ∧
      ∃ u v, (u, v) ∈ g0.importPairs ∧ a = flattenNode (shiftedLimit o mp) u ∧ b = flattenNode (shiftedLimit o mp) v :=
  (Pta.ScanLimit.scan_quotient_lemma mt base rootName mp entries o g g0 hg hg0).2.2.1 a b

/-- `isHierPair` is the immediate-parent relation on dotted names -/
theorem isHierPair_spec (s e : Str) : isHierPair s e = true ↔ ∃ t, '.' ∉ t ∧ e = s ++ '.' :: t :=
  Pta.ScanLimit.isHierPair_iff s e

/-- when a flattened pair lands on a parent→child pair: exactly when the importer has `j` components (it sits one
    level above the cut `j + 1`, so it is not truncated) and the importee lies strictly below it — at least two levels
    below, the pair not being parent→child itself.  For scans the importer is a file, so this needs a module `x.py`
    with nodes below the name `x` (a directory `x` next to `x.py`, or dotted file names). -/
theorem collision_iff (j : Nat) (u v : Str) (hnp : isHierPair u v = false) :
    isHierPair (flattenNode (some j) u) (flattenNode (some j) v) = true ↔
      isStrictSub u v = true ∧ (splitDots u).length = j := by
  rw [Pta.ScanLimit.isHierPair_iff]
  exact Pta.ScanLimit.collision_iff j u v (by rw [← Pta.ScanLimit.isHierPair_iff, hnp]; simp)

/-- importers that are leaves of the module tree never import downwards -/
theorem noDownward_of_leafImporters (mt : Str → Str → Bool) (base rootName : Str) (mp : List Str) (entries : List Entry)
    (o : ScanOptions) (g0 : PGraph Str)
    (hg0 : generateGraph mt base rootName mp entries o.noLimit = .ok g0)
    (R : List ImportRec) (hR : scanRetained mt base rootName mp entries o = .ok R)
    (hleaf : leafImporters R g0 = true) : noDownwardImports g0 = true := by
  unfold noDownwardImports
  rw [List.all_eq_true]
  rintro ⟨u, v⟩ huv
  obtain ⟨-, hv, i, hi, rfl, rfl⟩ := ScanLimit.full_import_facts mt base rootName mp entries o g0 hg0 R hR u v huv
  unfold leafImporters at hleaf
  simp only [List.all_eq_true] at hleaf
  exact hleaf i hi _ hv

/-- … and importers are leaves as soon as the modules of the parsed `.py` files are -/
theorem leafImporters_of_leafFiles (mt : Str → Str → Bool) (base rootName : Str) (mp : List Str) (entries : List Entry)
    (o : ScanOptions) (g0 : PGraph Str) (R : List ImportRec)
    (hR : scanRetained mt base rootName mp entries o = .ok R)
    (hleaf : leafFiles (scanParsed mt base rootName mp entries o).files g0 = true) : leafImporters R g0 = true := by
  unfold leafImporters
  rw [List.all_eq_true]
  intro i hi
  obtain ⟨f, hf, hif, -⟩ := ExtScan.retained_recs mt base rootName mp entries o R hR i hi
  unfold leafFiles at hleaf
  rw [List.all_eq_true] at hleaf
  rw [hif]
  exact hleaf f hf

/-- every importer handed to the constructor is the module of a parsed file -/
theorem importers_are_files (mt : Str → Str → Bool) (base rootName : Str) (mp : List Str) (entries : List Entry)
    (o : ScanOptions) (R : List ImportRec) (hR : scanRetained mt base rootName mp entries o = .ok R) :
    ∀ i ∈ R, ∃ f ∈ (scanParsed mt base rootName mp entries o).files, i.importer = f.1 := by
  intro i hi
  obtain ⟨f, hf, hif, -⟩ := ExtScan.retained_recs mt base rootName mp entries o R hR i hi
  exact ⟨f, hf, hif⟩

/-- C09 for scans, the property text verbatim: no import from a module into its own subtree
    (e.g. importers are leaves: no `x.py` next to a directory `x`). Then `a` imports `b` in the limited graph exactly
    when some module truncating to `a` imports some module truncating to `b` and `a ≠ b`. -/
theorem scan_quotient_imports_clean (mt : Str → Str → Bool) (base rootName : Str) (mp : List Str) (entries : List Entry)
    (o : ScanOptions) (g g0 : PGraph Str)
    (hg : generateGraph mt base rootName mp entries o = .ok g)
    (hg0 : generateGraph mt base rootName mp entries o.noLimit = .ok g0)
    (hdown : noDownwardImports g0 = true) (a b : Str) :
    (a, b) ∈ g.importPairs ↔
      a ≠ b ∧ ∃ u v, (u, v) ∈ g0.importPairs ∧ a = flattenNode (shiftedLimit o mp) u ∧ b = flattenNode (shiftedLimit o mp) v := by
  rw [scan_quotient_imports mt base rootName mp entries o g g0 hg hg0 a b]
  constructor
  · rintro ⟨h1, -, h3⟩; exact ⟨h1, h3⟩
  · rintro ⟨h1, u, v, huv, rfl, rfl⟩
    exact ⟨h1, Pta.ScanLimit.no_collision_lemma mt base rootName mp entries o g0 hg0 hdown u v huv, u, v, huv, rfl, rfl⟩

/-- "truncated to k levels below module_path": the constructor's limit is `k + len(module_path)`, so a module
    `root.mp.rest` keeps the first `k` components of `rest` … -/
theorem flatten_is_truncation (o : ScanOptions) (k : Nat) (hk : o.levelLimit = some k) (root : Comp) (mp rest : List Comp)
    (hwf : nameWF (root :: mp ++ rest) = true) :
    flattenNode (shiftedLimit o mp) (render (root :: mp ++ rest)) = render (root :: mp ++ rest.take k) := by
  rw [ScanLimit.shiftedLimit_some o mp k hk, ExtNames.flatten_render _ _ hwf]
  congr 1
  simp only [trunc, List.cons_append, List.take_succ_cons, List.cons.injEq, true_and]
  rw [Nat.add_comm, List.take_length_add_append]

/-- … while `module_path` and its ancestors are unchanged -/
theorem flatten_above_unchanged (o : ScanOptions) (root : Comp) (mp : List Comp) (j : Nat)
    (hwf : nameWF (root :: mp) = true) :
    flattenNode (shiftedLimit o mp) (render (root :: mp.take j)) = render (root :: mp.take j) := by
  cases hk : o.levelLimit with
  | none =>
    rw [ScanWalk.shiftedLimit_none o mp hk]; rfl
  | some k =>
    have hwf' : nameWF (root :: mp.take j) = true :=
      nameWF_of_prefix hwf (by simp) ((List.prefix_cons_inj root).2 (List.take_prefix _ _))
    rw [ScanLimit.shiftedLimit_some o mp k hk, ExtNames.flatten_render _ _ hwf']
    congr 1
    apply List.take_of_length_le
    simp only [List.length_cons, List.length_take]
    omega

/-- on every string the constructor's flattening is "keep the first `j + 1` components" -/
theorem flatten_def (j : Nat) (s : Str) : flattenNode (some j) s = joinDots ((splitDots s).take (j + 1)) := rfl

/-! #### non-vacuity: `module_path = r/app` below `root_path = r`, limit 1 -/
namespace ScanEx

def mt0 : Str → Str → Bool := fun _ _ => false
def S (s : String) : Str := s.toList

/-- r/app/{a/x.py, b/y/z.py, c.py};  x: `import app.b.y.z` (completed to `r.app.b.y.z`);  z: `from ... import c` -/
def ents : List Entry := [
  { rel := [S "app"], isDir := true },
  { rel := [S "app", S "a"], isDir := true },
  { rel := [S "app", S "a", S "x.py"], isDir := false, stmts := [.imp [S "app.b.y.z"]] },
  { rel := [S "app", S "b"], isDir := true },
  { rel := [S "app", S "b", S "y"], isDir := true },
  { rel := [S "app", S "b", S "y", S "z.py"], isDir := false, stmts := [.impFrom none [S "c"] 3] },
  { rel := [S "app", S "c.py"], isDir := false } ]
def o1 : ScanOptions := { exclusions := .globs [], levelLimit := some 1 }
def run (es : List Entry) (mp : List Str) (o : ScanOptions) : PGraph Str :=
  match generateGraph mt0 (S "/r") (S "r") mp es o with
  | .ok g => g
  | .error _ => PGraph.empty
def recs (es : List Entry) (mp : List Str) (o : ScanOptions) : List ImportRec :=
  match scanRetained mt0 (S "/r") (S "r") mp es o with
  | .ok R => R
  | .error _ => []

set_option maxRecDepth 100000 in
example : generateGraph mt0 (S "/r") (S "r") [S "app"] ents o1 = .ok (run ents [S "app"] o1) ∧
    generateGraph mt0 (S "/r") (S "r") [S "app"] ents o1.noLimit = .ok (run ents [S "app"] o1.noLimit) ∧
    scanRetained mt0 (S "/r") (S "r") [S "app"] ents o1 = .ok (recs ents [S "app"] o1) := ⟨by rfl, by rfl, by rfl⟩
example : shiftedLimit o1 [S "app"] = some 2 := rfl
-- the hypothesis of `scan_quotient_imports_clean` (`noDownwardImports`), two sufficient conditions for it, and
-- `danglingFree` (no theorem asks for it; it fails on `entsD` below)
set_option maxRecDepth 100000 in
example : danglingFree (recs ents [S "app"] o1) (run ents [S "app"] o1.noLimit) = true ∧
    leafImporters (recs ents [S "app"] o1) (run ents [S "app"] o1.noLimit) = true ∧
    leafFiles (scanParsed mt0 (S "/r") (S "r") [S "app"] ents o1).files (run ents [S "app"] o1.noLimit) = true ∧
    noDownwardImports (run ents [S "app"] o1.noLimit) = true := by decide +kernel
-- the full graph …
set_option maxRecDepth 100000 in
example : (run ents [S "app"] o1.noLimit).nodes =
      [S "r.app", S "r", S "r.app.a", S "r.app.a.x", S "r.app.b", S "r.app.b.y", S "r.app.b.y.z", S "r.app.c"] ∧
    (run ents [S "app"] o1.noLimit).importPairs = [(S "r.app.a.x", S "r.app.b.y.z"), (S "r.app.b.y.z", S "r.app.c")] := by
  decide +kernel
-- … and its quotient: every name cut to one level below `r.app`
set_option maxRecDepth 100000 in
example : (run ents [S "app"] o1).nodes = [S "r.app", S "r", S "r.app.a", S "r.app.b", S "r.app.c"] ∧
    (run ents [S "app"] o1).importPairs = [(S "r.app.a", S "r.app.b"), (S "r.app.b", S "r.app.c")] ∧
    (run ents [S "app"] o1).hierPairs = [(S "r", S "r.app"), (S "r.app", S "r.app.a"), (S "r.app", S "r.app.b"), (S "r.app", S "r.app.c")] := by
  decide +kernel
example : nameWF [S "r", S "app", S "b", S "y", S "z"] = true ∧
    flattenNode (shiftedLimit o1 [S "app"]) (S "r.app.b.y.z") = S "r.app.b" := by decide +kernel

/-! #### a dangling import (the defect repaired by `_is_import_between_known_modules`)

`c.py` additionally does `import r.app.a.gone` (no such module: not a `.py` file, excluded, or a typo).  The full
graph has no edge for it (the constructor requires both ends to be nodes).  Before the repair, with limit 1 the importee
was cut to the existing package `r.app.a` and the edge `r.app.c → r.app.a` appeared in the limited graph although it is
the image of no import edge of the full graph.  The repaired constructor checks the UNFLATTENED names against the known
modules, and the limited graph has exactly the import edges of the quotient. -/
def entsD : List Entry := ents.dropLast ++ [{ rel := [S "app", S "c.py"], isDir := false, stmts := [.imp [S "r.app.a.gone"]] }]

/-- the import edges of the quotient of `g0`: flattened import edges with distinct ends that are not parent→child pairs -/
def quotientImports (L : Option Nat) (g0 : PGraph Str) : List (Str × Str) :=
  (g0.importPairs.map fun p => (flattenNode L p.1, flattenNode L p.2)).filter fun p => p.1 != p.2 && !isHierPair p.1 p.2

end ScanEx

/-- on the tree with the dangling import `r.app.c → r.app.a.gone` (so `danglingFree` fails) the limited graph has
    exactly the quotient's import edges; in particular not `r.app.c → r.app.a` -/
theorem scan_quotient_imports_dangling_fixed :
    generateGraph ScanEx.mt0 (ScanEx.S "/r") (ScanEx.S "r") [ScanEx.S "app"] ScanEx.entsD ScanEx.o1 =
      .ok (ScanEx.run ScanEx.entsD [ScanEx.S "app"] ScanEx.o1) ∧
    generateGraph ScanEx.mt0 (ScanEx.S "/r") (ScanEx.S "r") [ScanEx.S "app"] ScanEx.entsD ScanEx.o1.noLimit =
      .ok (ScanEx.run ScanEx.entsD [ScanEx.S "app"] ScanEx.o1.noLimit) ∧
    danglingFree (ScanEx.recs ScanEx.entsD [ScanEx.S "app"] ScanEx.o1)
      (ScanEx.run ScanEx.entsD [ScanEx.S "app"] ScanEx.o1.noLimit) = false ∧
    (ScanEx.run ScanEx.entsD [ScanEx.S "app"] ScanEx.o1.noLimit).importPairs =
      [(ScanEx.S "r.app.a.x", ScanEx.S "r.app.b.y.z"), (ScanEx.S "r.app.b.y.z", ScanEx.S "r.app.c")] ∧
    (ScanEx.run ScanEx.entsD [ScanEx.S "app"] ScanEx.o1).importPairs =
      [(ScanEx.S "r.app.a", ScanEx.S "r.app.b"), (ScanEx.S "r.app.b", ScanEx.S "r.app.c")] ∧
    (ScanEx.run ScanEx.entsD [ScanEx.S "app"] ScanEx.o1).importPairs =
      ScanEx.quotientImports (shiftedLimit ScanEx.o1 [ScanEx.S "app"])
        (ScanEx.run ScanEx.entsD [ScanEx.S "app"] ScanEx.o1.noLimit) ∧
    (ScanEx.S "r.app.c", ScanEx.S "r.app.a") ∉ (ScanEx.run ScanEx.entsD [ScanEx.S "app"] ScanEx.o1).importPairs := by
  refine ⟨by rfl, by rfl, ?_⟩
  decide +kernel

/-- the property text read as an equivalence on the scan graphs, without side condition -/
def ScanQuotientImports_Statement : Prop :=
  ∀ (mt : Str → Str → Bool) (base rootName : Str) (mp : List Str) (entries : List Entry) (o : ScanOptions)
    (g g0 : PGraph Str),
    generateGraph mt base rootName mp entries o = .ok g →
    generateGraph mt base rootName mp entries o.noLimit = .ok g0 →
    ∀ a b, (a, b) ∈ g.importPairs ↔
      a ≠ b ∧ isHierPair a b = false ∧
      ∃ u v, (u, v) ∈ g0.importPairs ∧ a = flattenNode (shiftedLimit o mp) u ∧ b = flattenNode (shiftedLimit o mp) v

/-- it HOLDS of the repaired model (it was false before the repair: `_create_edge` tests `has_node` AFTER flattening,
    so a dangling import reappeared on the module its importee is truncated to) -/
theorem scanQuotientImports : ScanQuotientImports_Statement :=
  fun mt base rootName mp entries o g g0 hg hg0 a b =>
    scan_quotient_imports mt base rootName mp entries o g g0 hg hg0 a b

/-! #### a collision: `x.py` next to a directory `x`, limit 2

`r/x.py` does `import r.x.y.z`; `r.x` is also the package `r/x`.  In the full graph `r.x → r.x.y.z` is an import edge;
cut to three components it becomes `r.x → r.x.y`, a parent→child pair, which stays the hierarchy edge: the limited
graph has no import edge although the quotient has one with distinct ends. -/
namespace CollEx
open ScanEx
def ents : List Entry := [
  { rel := [S "x.py"], isDir := false, stmts := [.imp [S "r.x.y.z"]] },
  { rel := [S "x"], isDir := true },
  { rel := [S "x", S "y"], isDir := true },
  { rel := [S "x", S "y", S "z.py"], isDir := false } ]
def o2 : ScanOptions := { exclusions := .globs [], levelLimit := some 2 }

theorem collision_facts :
    generateGraph mt0 (S "/r") (S "r") [] ents o2 = .ok (run ents [] o2) ∧
    generateGraph mt0 (S "/r") (S "r") [] ents o2.noLimit = .ok (run ents [] o2.noLimit) ∧
    (run ents [] o2.noLimit).importPairs = [(S "r.x", S "r.x.y.z")] ∧
    (run ents [] o2).importPairs = [] ∧
    (S "r.x", S "r.x.y") ∈ (run ents [] o2).hierPairs ∧
    flattenNode (shiftedLimit o2 []) (S "r.x") = S "r.x" ∧ flattenNode (shiftedLimit o2 []) (S "r.x.y.z") = S "r.x.y" ∧
    danglingFree (recs ents [] o2) (run ents [] o2.noLimit) = true ∧
    noDownwardImports (run ents [] o2.noLimit) = false ∧
    isStrictSub (S "r.x") (S "r.x.y.z") = true ∧ (splitDots (S "r.x")).length = 2 := by
  refine ⟨by rfl, by rfl, ?_⟩
  decide +kernel
end CollEx

end Pta.C09
