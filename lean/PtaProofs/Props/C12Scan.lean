/-
  PtaProofs.Props.C12Scan — monotonicity (property C12) at the level of FILES:

    "Adding an import to the architecture never turns a passing 'should' rule (with or without 'except') into a failing
     one nor a failing 'should not' rule into a passing one."

  Props/C12.lean proves this for adding one import EDGE to a graph value (`addImportEdge g u v`). A user adds an import
  STATEMENT to a file. Here: for the scan model (`generateGraph`), external libraries excluded (the default), ANY
  exclusion patterns, ANY level limit, on directory trees that are well-formed as far as the scan can see them
  (`treeWFFor`, the hypothesis of C04 / C02 / the end-to-end theorems) and parser-producible statements.
  `addStmtAt entries i k st` is `entries` with the statement `st` inserted at position `k` of the statement list of the
  `i`-th entry (the statement list of a file = all its `Import` / `ImportFrom` nodes at any depth, so "inside a nested
  block" is "somewhere in the list"); `MoreStmts entries entries'` is any number of statements added anywhere.

  What is NOT monotone (and not claimed): `should only` rules; the allowed direction of change is shown in the example
  (a failing `should` becomes passing, a passing `should_not` becomes failing).
-/
import Bridge.ScanMono
import PtaProofs.Lemmas.ScanMono
namespace Pta.C12
open PtaSpec

/-! ### graph level: a finite set of added import edges -/

/-- `monotone_should` for a list of added import edges (no condition on the pairs) -/
theorem monotone_should_edges (mt : Str → Str → Bool) (g : PGraph Str) (ps : List (Str × Str)) (A B : List Filter)
    (dir exc : Bool) :
    verdictOf mt g (mkRule true false false dir exc A B) = .pass →
    verdictOf mt (addImportEdges g ps) (mkRule true false false dir exc A B) = .pass :=
  (ScanMono.verdict_mono_edges mt A B dir exc ps g).1

/-- `monotone_should_not` for a list of added import edges -/
theorem monotone_should_not_edges (mt : Str → Str → Bool) (g : PGraph Str) (ps : List (Str × Str)) (A B : List Filter)
    (dir exc : Bool) :
    verdictOf mt g (mkRule false false true dir exc A B) = .fail →
    verdictOf mt (addImportEdges g ps) (mkRule false false true dir exc A B) = .fail :=
  (ScanMono.verdict_mono_edges mt A B dir exc ps g).2.1

/-- `monotone_err` for a list of added import edges: the same error before and after -/
theorem monotone_err_edges (mt : Str → Str → Bool) (g : PGraph Str) (ps : List (Str × Str)) (A B : List Filter)
    (neg dir exc : Bool) (k : ErrKind) :
    verdictOf mt (addImportEdges g ps) (mkRule (!neg) false neg dir exc A B) = .err k ↔
    verdictOf mt g (mkRule (!neg) false neg dir exc A B) = .err k :=
  (ScanMono.verdict_mono_edges mt A B dir exc ps g).2.2 neg k

/-- what `addImportEdges` is: the edge list extended by one import edge per pair; one pair = `addImportEdge` -/
theorem addImportEdges_eq (g : PGraph Str) (ps : List (Str × Str)) :
    addImportEdges g ps = { g with edges := g.edges ++ ps.map fun p => ⟨p.1, p.2, false⟩ } :=
  ScanMono.addImportEdges_eq ps g

example (g : PGraph Str) (u v : Str) : addImportEdges g [(u, v)] = addImportEdge g u v := rfl

/-- between ANY two graphs with the same modules and hierarchy, the second with more imports: as far as rules can tell
    the second is the first with import edges added (`GraphEquiv`), so the three laws hold between them -/
theorem monotone_should_le (mt : Str → Str → Bool) (g g' : PGraph Str) (h : GraphLe g g') (A B : List Filter)
    (dir exc : Bool) :
    verdictOf mt g (mkRule true false false dir exc A B) = .pass →
    verdictOf mt g' (mkRule true false false dir exc A B) = .pass :=
  (ScanMono.verdict_mono_of_le mt A B dir exc g g' h).1

theorem monotone_should_not_le (mt : Str → Str → Bool) (g g' : PGraph Str) (h : GraphLe g g') (A B : List Filter)
    (dir exc : Bool) :
    verdictOf mt g (mkRule false false true dir exc A B) = .fail →
    verdictOf mt g' (mkRule false false true dir exc A B) = .fail :=
  (ScanMono.verdict_mono_of_le mt A B dir exc g g' h).2.1

theorem monotone_err_le (mt : Str → Str → Bool) (g g' : PGraph Str) (h : GraphLe g g') (A B : List Filter)
    (neg dir exc : Bool) (k : ErrKind) :
    verdictOf mt g' (mkRule (!neg) false neg dir exc A B) = .err k ↔
    verdictOf mt g (mkRule (!neg) false neg dir exc A B) = .err k :=
  (ScanMono.verdict_mono_of_le mt A B dir exc g g' h).2.2 neg k

/-- `GraphLe` in terms of node list, hierarchy pairs and import pairs -/
theorem graphLe_pairs (g g' : PGraph Str) (h : GraphLe g g') :
    (∀ s, s ∈ g.nodes ↔ s ∈ g'.nodes) ∧ (∀ p, p ∈ g.hierPairs ↔ p ∈ g'.hierPairs) ∧
    (∀ p ∈ g.importPairs, p ∈ g'.importPairs) := by
  refine ⟨h.nodes, fun p => ?_, fun p hp => ?_⟩
  · obtain ⟨u, v⟩ := p
    rw [BuildGen.mem_hierPairs, BuildGen.mem_hierPairs, ← BuildGen.mem_hierChildren, ← BuildGen.mem_hierChildren]
    exact h.hier u v
  · obtain ⟨u, v⟩ := p
    rw [BuildGen.mem_importPairs, ← BuildGen.mem_importSuccs] at hp ⊢
    exact h.succs u v hp

/-! ### file level: trees that differ by added statements (any number, anywhere) -/

section more
variable (mt : Str → Str → Bool) (base root : Str) (mp : List Str) (entries entries' : List Entry) (o : ScanOptions)
  (hms : MoreStmts entries entries')
  (hwf : treeWFFor (isExcluded mt o.exclusions) base mp entries = true) (hmp : mpOK entries mp = true)
  (hroot : compWF root = true)
  (hxx : o.excludeExternal = true) (hext : o.externalExclusions.isEmpty = true)
  (hst : ∀ e ∈ entries', ∀ st ∈ e.stmts, stmtOK (toSStmt st) = true)
include hms hwf hmp hroot hxx hext hst

/-- if the scan of the tree with MORE statements succeeds, so does the scan of the tree with fewer -/
theorem scan_more_statements_succeeds (g' : PGraph Str) (hg' : generateGraph mt base root mp entries' o = .ok g') :
    ∃ g, generateGraph mt base root mp entries o = .ok g ∧ GraphLe g g' := by
  obtain ⟨hwf', hmp'⟩ := ScanSim.tree_same (ScanMono.moreStmts_skel hms) _ base hwf hmp
  obtain ⟨is', his', -, hR'⟩ := (E2ERule.scan_answers mt base root mp entries' o hwf' hmp' hroot hxx hext hst).of_ok g' hg'
  -- fewer statements: an answer as well, with fewer edges on the same modules
  obtain ⟨is, his, hsub⟩ := ScanMono.scanImports_more hms _ base root mp is' his'
  obtain ⟨g, hg, -, hR⟩ := E2ERule.scan_spec_quotient_lemma mt base root mp entries o hwf hmp hroot hxx hext
    (ScanMono.moreStmts_stmtOK hms hst) is his
  exact ⟨g, hg, ScanMono.graphLe_of_quotient _ _ _ g g' (ScanSim.scanModules_same (ScanMono.moreStmts_skel hms) _ base root mp).symm hsub hR hR'⟩

/-- same nodes, same hierarchy edges, the import pairs of the first among those of the second -/
theorem scan_more_statements_nodes (g g' : PGraph Str) (hg : generateGraph mt base root mp entries o = .ok g)
    (hg' : generateGraph mt base root mp entries' o = .ok g') :
    (∀ s, s ∈ g.nodes ↔ s ∈ g'.nodes) ∧ g.nodes.Perm g'.nodes ∧
    (∀ p, p ∈ g.hierPairs ↔ p ∈ g'.hierPairs) ∧ (∀ p ∈ g.importPairs, p ∈ g'.importPairs) := by
  obtain ⟨g0, hg0, hle⟩ := scan_more_statements_succeeds mt base root mp entries entries' o hms hwf hmp hroot hxx hext hst g' hg'
  cases hg.symm.trans hg0
  obtain ⟨h1, h2, h3⟩ := graphLe_pairs g g' hle
  refine ⟨h1, ?_, h2, h3⟩
  exact (List.perm_ext_iff_of_nodup (ExtScan.generateGraph_nodup mt base root mp entries o g hg).1
    (ExtScan.generateGraph_nodup mt base root mp entries' o g' hg').1).2 h1

/-- monotonicity of verdicts under added statements, three-valued -/
theorem scan_more_statements_monotone (g g' : PGraph Str) (hg : generateGraph mt base root mp entries o = .ok g)
    (hg' : generateGraph mt base root mp entries' o = .ok g')
    (mt' : Str → Str → Bool) (A B : List Filter) (dir exc : Bool) :
    (verdictOf mt' g (mkRule true false false dir exc A B) = .pass →
      verdictOf mt' g' (mkRule true false false dir exc A B) = .pass) ∧
    (verdictOf mt' g (mkRule false false true dir exc A B) = .fail →
      verdictOf mt' g' (mkRule false false true dir exc A B) = .fail) ∧
    (∀ (neg : Bool) (k : ErrKind), verdictOf mt' g' (mkRule (!neg) false neg dir exc A B) = .err k ↔
      verdictOf mt' g (mkRule (!neg) false neg dir exc A B) = .err k) := by
  obtain ⟨g0, hg0, hle⟩ := scan_more_statements_succeeds mt base root mp entries entries' o hms hwf hmp hroot hxx hext hst g' hg'
  cases hg.symm.trans hg0
  exact ScanMono.verdict_mono_of_le mt' A B dir exc g g' hle

/-- a scan that raises keeps raising (the same error) when statements are added -/
theorem scan_more_statements_error (k : ErrKind) (h : generateGraph mt base root mp entries o = .error k) :
    generateGraph mt base root mp entries' o = .error k := by
  have e := E2ERule.scan_answers mt base root mp entries o hwf hmp hroot hxx hext (ScanMono.moreStmts_stmtOK hms hst)
  obtain ⟨hwf', hmp'⟩ := ScanSim.tree_same (ScanMono.moreStmts_skel hms) _ base hwf hmp
  have e' := E2ERule.scan_answers mt base root mp entries' o hwf' hmp' hroot hxx hext hst
  obtain rfl := e.errOnly k h
  exact e'.error_iff.2 (ScanSim.sim_none (ScanMono.sim_more hms _ base root mp) (fun _ => trivial) (e.error_iff.1 h))

end more

/-- adding one statement is a case of `MoreStmts` -/
theorem addStmtAt_moreStmts (entries : List Entry) (i k : Nat) (st : ImportStmt) :
    MoreStmts entries (addStmtAt entries i k st) := by
  induction entries generalizing i with
  | nil => exact .nil
  | cons e es ih =>
    cases i with
    | zero => exact .cons (ScanMono.insertStmt_more e k st) (ScanMono.moreStmts_refl es)
    | succ i => exact .cons ⟨rfl, rfl, fun _ h => h⟩ (ih i)

/-! ### file level: ONE import statement added to ONE file -/

section one
variable (mt : Str → Str → Bool) (base root : Str) (mp : List Str) (entries : List Entry) (o : ScanOptions)
  (hwf : treeWFFor (isExcluded mt o.exclusions) base mp entries = true) (hmp : mpOK entries mp = true)
  (hroot : compWF root = true)
  (hxx : o.excludeExternal = true) (hext : o.externalExclusions.isEmpty = true)
  (hst : ∀ e ∈ entries, ∀ st ∈ e.stmts, stmtOK (toSStmt st) = true)
  (i k : Nat) (st : ImportStmt) (hnew : stmtOK (toSStmt st) = true)
include hwf hmp hroot hxx hext hst hnew

/-- if the scan with the added statement succeeds, the scan without it does -/
theorem scan_add_statement_succeeds (g' : PGraph Str)
    (hg' : generateGraph mt base root mp (addStmtAt entries i k st) o = .ok g') :
    ∃ g, generateGraph mt base root mp entries o = .ok g :=
  (scan_more_statements_succeeds mt base root mp entries _ o (addStmtAt_moreStmts entries i k st) hwf hmp hroot hxx hext
    (ScanMono.addStmtAt_stmtOK entries i k st hst hnew) g' hg').imp fun _ h => h.1

/-- FILE LEVEL, structure: one more import statement in one file (at any position of its statement list) leaves the
    nodes and the hierarchy edges of the scan graph unchanged and can only add import edges -/
theorem scan_add_statement_nodes (g g' : PGraph Str) (hg : generateGraph mt base root mp entries o = .ok g)
    (hg' : generateGraph mt base root mp (addStmtAt entries i k st) o = .ok g') :
    (∀ s, s ∈ g.nodes ↔ s ∈ g'.nodes) ∧ g.nodes.Perm g'.nodes ∧
    (∀ p, p ∈ g.hierPairs ↔ p ∈ g'.hierPairs) ∧ (∀ p ∈ g.importPairs, p ∈ g'.importPairs) :=
  scan_more_statements_nodes mt base root mp entries _ o (addStmtAt_moreStmts entries i k st) hwf hmp hroot hxx hext
    (ScanMono.addStmtAt_stmtOK entries i k st hst hnew) g g' hg hg'

/-- FILE LEVEL, verdicts (property C12): adding an import statement to a file never turns a passing `should` rule
    (with or without `except`) into a failing one, nor a failing `should_not` rule into a passing one, and a rule that
    raises keeps raising the same error and vice versa — for all subject / object filter lists (names, parents,
    regexes), both directions, every regex matcher `mt'` -/
theorem scan_add_statement_monotone (g g' : PGraph Str) (hg : generateGraph mt base root mp entries o = .ok g)
    (hg' : generateGraph mt base root mp (addStmtAt entries i k st) o = .ok g')
    (mt' : Str → Str → Bool) (A B : List Filter) (dir exc : Bool) :
    (verdictOf mt' g (mkRule true false false dir exc A B) = .pass →
      verdictOf mt' g' (mkRule true false false dir exc A B) = .pass) ∧
    (verdictOf mt' g (mkRule false false true dir exc A B) = .fail →
      verdictOf mt' g' (mkRule false false true dir exc A B) = .fail) ∧
    (∀ (neg : Bool) (k : ErrKind), verdictOf mt' g' (mkRule (!neg) false neg dir exc A B) = .err k ↔
      verdictOf mt' g (mkRule (!neg) false neg dir exc A B) = .err k) :=
  scan_more_statements_monotone mt base root mp entries _ o (addStmtAt_moreStmts entries i k st) hwf hmp hroot hxx hext
    (ScanMono.addStmtAt_stmtOK entries i k st hst hnew) g g' hg hg' mt' A B dir exc

/-- FILE LEVEL, the error case: the scan of the tree with the added statement raises — a lookup error, never anything
    else — exactly when the scan of the old tree raised (`Pta.C02.scan_error_iff_tree`: some relative import of some
    surviving file reaches above the root), or the changed entry `e` is a `.py` file the scan reads and the NEW
    statement reaches above the root: `aboveRoot importer st`, i.e. `from <level dots>[module] import …` with
    `level ≥` the number of components of the file's module name (`level > ` depth of the file below the root
    directory), or the unparseable `from import x`. -/
theorem scan_add_statement_error (e : Entry) (hi : entries[i]? = some e) :
    (generateGraph mt base root mp (addStmtAt entries i k st) o = .error .lookupError ↔
      generateGraph mt base root mp entries o = .error .lookupError ∨
      (e.isDir = false ∧
        survives (toSEntries (isExcluded mt o.exclusions) base entries) mp
          (toSEntry (isExcluded mt o.exclusions) base e) = true ∧
        aboveRoot (entryName root (toSEntry (isExcluded mt o.exclusions) base e)) (toSStmt st) = true)) ∧
    (∀ x, generateGraph mt base root mp (addStmtAt entries i k st) o = .error x → x = .lookupError) := by
  have hms := addStmtAt_moreStmts entries i k st
  obtain ⟨hwf', hmp'⟩ := ScanSim.tree_same (ScanMono.moreStmts_skel hms) _ base hwf hmp
  have a' := E2ERule.scan_answers mt base root mp _ o hwf' hmp' hroot hxx hext
    (ScanMono.addStmtAt_stmtOK entries i k st hst hnew)
  refine ⟨?_, a'.errOnly⟩
  rw [a'.error_iff, (E2ERule.scan_answers mt base root mp entries o hwf hmp hroot hxx hext hst).error_iff]
  -- an entry survives in both trees or in neither
  have hsv : ∀ x x' : Entry, x.rel = x'.rel → x.isDir = x'.isDir →
      survives (toSEntries (isExcluded mt o.exclusions) base (addStmtAt entries i k st)) mp
        (toSEntry (isExcluded mt o.exclusions) base x') =
      survives (toSEntries (isExcluded mt o.exclusions) base entries) mp
        (toSEntry (isExcluded mt o.exclusions) base x) :=
    fun x x' hr hd => ScanSim.survives_same (ScanMono.moreStmts_skel hms) _ base mp hr.symm hd.symm
  constructor
  · intro h
    obtain ⟨f, hf, s, hs, ha⟩ := ScanSim.scanImports_eq_none_iff.1 h
    obtain ⟨x, hx, hd, hsx, rfl⟩ := (ScanSim.mem_filesOf_tree f).1 hf
    obtain ⟨s0, hs0, rfl⟩ := List.mem_map.1 hs
    -- the statement that reaches above the root is an old statement of an old file, or the new one
    rcases ScanMono.mem_addStmtAt hx with hxo | ⟨e0, hi0, rfl⟩
    · rw [hsv x x rfl rfl] at hsx
      exact .inl (ScanSim.scanImports_eq_none_iff.2
        ⟨_, (ScanSim.mem_filesOf_tree _).2 ⟨x, hxo, hd, hsx, rfl⟩, _, List.mem_map.2 ⟨s0, hs0, rfl⟩, ha⟩)
    · rw [hi, Option.some.injEq] at hi0
      subst hi0
      rw [hsv e (e.insertStmt k st) rfl rfl] at hsx
      rcases ScanMono.mem_insertStmt hs0 with h0 | rfl
      · exact .inl (ScanSim.scanImports_eq_none_iff.2
          ⟨_, (ScanSim.mem_filesOf_tree _).2 ⟨e, List.mem_of_getElem? hi, hd, hsx, rfl⟩, _,
            List.mem_map.2 ⟨s0, h0, rfl⟩, ha⟩)
      · exact .inr ⟨hd, hsx, ha⟩
  · rintro (h | ⟨hd, hse, ha⟩)
    · exact ScanSim.sim_none (ScanMono.sim_more hms _ base root mp) (fun _ => trivial) h
    · rw [← hsv e (e.insertStmt k st) rfl rfl] at hse
      exact ScanSim.scanImports_eq_none_iff.2
        ⟨_, (ScanSim.mem_filesOf_tree _).2 ⟨_, ScanMono.insertStmt_mem k st hi, hd, hse, rfl⟩, toSStmt st,
          List.mem_map.2 ⟨st, List.mem_append_right _ List.mem_cons_self, rfl⟩, ha⟩

/-- with no level limit the old scan's error is the one of `Pta.C02.scan_error_iff_tree`: the specification has no
    import list -/
theorem scan_add_statement_error_spec (hlim : o.levelLimit = none) (e : Entry) (hi : entries[i]? = some e) :
    (∃ x, generateGraph mt base root mp (addStmtAt entries i k st) o = .error x) ↔
      scanImports root (toSEntries (isExcluded mt o.exclusions) base entries) mp = none ∨
      (e.isDir = false ∧
        survives (toSEntries (isExcluded mt o.exclusions) base entries) mp
          (toSEntry (isExcluded mt o.exclusions) base e) = true ∧
        aboveRoot (entryName root (toSEntry (isExcluded mt o.exclusions) base e)) (toSStmt st) = true) := by
  obtain ⟨h1, h2⟩ := scan_add_statement_error mt base root mp entries o hwf hmp hroot hxx hext hst i k st hnew e hi
  rw [← ScanCompose.scan_error_iff_none hwf hmp hroot hxx hlim hext hst]
  exact ⟨fun ⟨x, hx⟩ => h1.1 (h2 x hx ▸ hx), fun h => ⟨_, h1.2 h⟩⟩

end one

/-! ### example: a 4-file tree, a statement added inside a nested block, verdicts before and after

  `r/a/m.py`, `r/a/k.py`, `r/b.py` (`import r.c`), `r/c.py`; the file `r/a/m.py` is
  ```
  def f():
      try:
          from . import k
      except ImportError:
          pass
          from .. import c          # <- ADDED (inside def → try → except handler)
  import r.b
  ```
  Each file comes with its AST; the statement lists are what the model's walk of `ImportConverter.convert` collects. -/

namespace ScanEx

def s (x : String) : Str := x.toList
def noRe : Str → Str → Bool := fun _ _ => false

def astOld : List AstNode :=
  [ { path := [], kind := .other (s "Module") },
    { path := [0], kind := .other (s "FunctionDef"), field := s "body" },
    { path := [0, 0], kind := .other (s "Try"), field := s "body" },
    { path := [0, 0, 0], kind := .impFrom none [s "k"] 1, field := s "body" },
    { path := [0, 0, 1], kind := .other (s "ExceptHandler"), field := s "handlers" },
    { path := [0, 0, 1, 0], kind := .other (s "Pass"), field := s "body" },
    { path := [1], kind := .imp [s "r.b"], field := s "body" } ]

/-- the added statement: `from .. import c` -/
def stNew : ImportStmt := .impFrom none [s "c"] 2

/-- the AST with the new node in the body of the `except` handler -/
def astNew : List AstNode :=
  astOld ++ [{ path := [0, 0, 1, 1], kind := .impFrom none [s "c"] 2, field := s "body" }]

def emptyAst : List AstNode := [{ path := [], kind := .other (s "Module") }]

def treeWith (ast : List AstNode) : List Entry :=
  [ { rel := [s "a"], isDir := true },
    { rel := [s "a", s "m.py"], isDir := false, tree := ast },
    { rel := [s "a", s "k.py"], isDir := false, tree := emptyAst },
    { rel := [s "b.py"], isDir := false, tree := [{ path := [], kind := .other (s "Module") },
                                                  { path := [0], kind := .imp [s "r.c"], field := s "body" }] },
    { rel := [s "c.py"], isDir := false, tree := emptyAst } ]

/-- the old tree and the tree of the edited file, statements collected by the model's walk -/
def old : List Entry := (treeWith astOld).map Entry.withCollected
def new : List Entry := (treeWith astNew).map Entry.withCollected

def opts : ScanOptions := { exclusions := .globs [] }
def optsLim : ScanOptions := { exclusions := .globs [], levelLimit := some 1 }

/-- the walk reaches the new node between the two old statements: the edited tree IS `addStmtAt old 1 1 stNew`
    (entry 1 = `a/m.py`, position 1 of its statement list) -/
example :
    collectImports astOld = [.imp [s "r.b"], .impFrom none [s "k"] 1] ∧
    collectImports astNew = [.imp [s "r.b"], stNew, .impFrom none [s "k"] 1] ∧
    new.map (fun e => (e.rel, e.isDir, e.stmts)) = (addStmtAt old 1 1 stNew).map (fun e => (e.rel, e.isDir, e.stmts)) := by
  decide +kernel

/-- every hypothesis of the file-level theorems holds (with and without the level limit) -/
example :
    treeWFFor (isExcluded noRe opts.exclusions) (s "/x/r") [] old = true ∧ mpOK old [] = true ∧ compWF (s "r") = true ∧
    opts.excludeExternal = true ∧ opts.externalExclusions.isEmpty = true ∧
    optsLim.excludeExternal = true ∧ optsLim.externalExclusions.isEmpty = true ∧
    (∀ e ∈ old, ∀ st ∈ e.stmts, stmtOK (toSStmt st) = true) ∧ stmtOK (toSStmt stNew) = true ∧
    old[1]?.map (·.rel) = some [s "a", s "m.py"] := by decide +kernel

/-- the rules: `r.a should import r.b`; `r.a should import r.c`; `r.a should_not import r.c`;
    `r.b should_not import anything except r.a`; `r.a should import except r.b` (something other than `r.b`);
    `r.zz should import r.b` (unknown module) -/
def rules : List RuleState :=
  [ mkRule true false false true false [.name (s "r.a")] [.name (s "r.b")],
    mkRule true false false true false [.name (s "r.a")] [.name (s "r.c")],
    mkRule false false true true false [.name (s "r.a")] [.name (s "r.c")],
    mkRule false false true true true [.name (s "r.b")] [.name (s "r.a")],
    mkRule true false false true true [.name (s "r.a")] [.name (s "r.b")],
    mkRule true false false true false [.name (s "r.zz")] [.name (s "r.b")] ]

set_option maxRecDepth 100000 in
/-- the two scans and the verdicts BEFORE and AFTER the edit: the passing `should` stays passing, the failing
    `should_not … except` stays failing, the error stays the error; the changes are the allowed ones (a failing `should`
    and a failing `should … except` now pass, a passing `should_not` now fails); nodes and hierarchy edges are the same,
    the import pairs grow by `r.a.m → r.c` -/
example :
    (generateGraph noRe (s "/x/r") (s "r") [] old opts).toOption.map
        (fun g => rules.map (verdictOf noRe g)) =
      some [.pass, .fail, .pass, .fail, .fail, .err .lookupError] ∧
    (generateGraph noRe (s "/x/r") (s "r") [] (addStmtAt old 1 1 stNew) opts).toOption.map
        (fun g => rules.map (verdictOf noRe g)) =
      some [.pass, .pass, .fail, .fail, .pass, .err .lookupError] ∧
    (generateGraph noRe (s "/x/r") (s "r") [] new opts).toOption.map
        (fun g => rules.map (verdictOf noRe g)) =
      some [.pass, .pass, .fail, .fail, .pass, .err .lookupError] ∧
    (generateGraph noRe (s "/x/r") (s "r") [] old opts).toOption.map (fun g => (g.nodes, g.hierPairs)) =
      (generateGraph noRe (s "/x/r") (s "r") [] (addStmtAt old 1 1 stNew) opts).toOption.map
        (fun g => (g.nodes, g.hierPairs)) ∧
    (generateGraph noRe (s "/x/r") (s "r") [] old opts).toOption.map (·.importPairs) =
      some [(s "r.a.m", s "r.b"), (s "r.a.m", s "r.a.k"), (s "r.b", s "r.c")] ∧
    (generateGraph noRe (s "/x/r") (s "r") [] (addStmtAt old 1 1 stNew) opts).toOption.map (·.importPairs) =
      some [(s "r.a.m", s "r.b"), (s "r.a.m", s "r.c"), (s "r.a.m", s "r.a.k"), (s "r.b", s "r.c")] := by
  refine ⟨by decide +kernel, by decide +kernel, by decide +kernel, by decide +kernel, by decide +kernel, by decide +kernel⟩

set_option maxRecDepth 100000 in
/-- the same with `level_limit = 1` (nodes `r`, `r.a`, `r.b`, `r.c`; the new import is the flattened `r.a → r.c`) -/
example :
    (generateGraph noRe (s "/x/r") (s "r") [] old optsLim).toOption.map
        (fun g => (rules.map (verdictOf noRe g), g.nodes, g.importPairs)) =
      some ([.pass, .fail, .pass, .fail, .fail, .err .lookupError],
        [s "r", s "r.a", s "r.b", s "r.c"], [(s "r.a", s "r.b"), (s "r.b", s "r.c")]) ∧
    (generateGraph noRe (s "/x/r") (s "r") [] (addStmtAt old 1 1 stNew) optsLim).toOption.map
        (fun g => (rules.map (verdictOf noRe g), g.nodes, g.importPairs)) =
      some ([.pass, .pass, .fail, .fail, .pass, .err .lookupError],
        [s "r", s "r.a", s "r.b", s "r.c"], [(s "r.a", s "r.b"), (s "r.a", s "r.c"), (s "r.b", s "r.c")]) := by
  refine ⟨by decide +kernel, by decide +kernel⟩

/-- the error case: `from .... import x` (level 4) in `r/a/m.py` (module `r.a.m`, three components) reaches above
    the root: the side condition of `scan_add_statement_error` holds and the new scan raises the lookup error, while
    level 3 does as well (`r.a.m` → `r.a` → `r` → above) and level 2 (`from .. import c`, the statement above) does not -/
def stBad : ImportStmt := .impFrom none [s "x"] 4

set_option maxRecDepth 100000 in
example :
    stmtOK (toSStmt stBad) = true ∧
    (old[1]?.map fun e => (e.isDir,
      survives (toSEntries (isExcluded noRe opts.exclusions) (s "/x/r") old) []
        (toSEntry (isExcluded noRe opts.exclusions) (s "/x/r") e),
      aboveRoot (entryName (s "r") (toSEntry (isExcluded noRe opts.exclusions) (s "/x/r") e)) (toSStmt stBad),
      aboveRoot (entryName (s "r") (toSEntry (isExcluded noRe opts.exclusions) (s "/x/r") e))
        (toSStmt (.impFrom none [s "x"] 3)),
      aboveRoot (entryName (s "r") (toSEntry (isExcluded noRe opts.exclusions) (s "/x/r") e)) (toSStmt stNew))) =
      some (false, true, true, true, false) ∧
    (generateGraph noRe (s "/x/r") (s "r") [] old opts).toOption.isSome = true ∧
    (generateGraph noRe (s "/x/r") (s "r") [] (addStmtAt old 1 2 stBad) opts).toOption.isNone = true ∧
    (match generateGraph noRe (s "/x/r") (s "r") [] (addStmtAt old 1 2 stBad) opts with
      | .error k => k == .lookupError | .ok _ => false) = true := by
  refine ⟨by decide +kernel, by decide +kernel, by decide +kernel, by decide +kernel, by decide +kernel⟩

/-- the tree with the added statement is a `MoreStmts` extension of the old one (hypothesis of the general theorems) -/
example : MoreStmts old (addStmtAt old 1 1 stNew) := addStmtAt_moreStmts old 1 1 stNew

/-! ### the hypotheses, evaluated at excluded points -/

/-- `exclude_external_libraries = False` is OUTSIDE the theorems, and there the property is FALSE for rules with a
    regular-expression subject: an import of a library adds a MODULE (a node) to the architecture, and a regex subject
    may match it. Tree `r/xs.py` (`import r.c`), `r/b.py`, `r/c.py`; rule "modules matching `.*s` should import `r.c`"
    (the pattern engine is a parameter: here "ends with s"). Before: the only match `r.xs` imports `r.c` — PASS.
    After adding `import os` to `b.py`: the node `os` matches and imports nothing — FAIL. All other hypotheses hold.
    (With the default `exclude_external_libraries = True` the node list cannot change: `scan_add_statement_nodes`.) -/
def extTree : List Entry :=
  [ { rel := [s "xs.py"], isDir := false, stmts := [.imp [s "r.c"]] },
    { rel := [s "b.py"], isDir := false },
    { rel := [s "c.py"], isDir := false } ]
def extOpts : ScanOptions := { exclusions := .globs [], excludeExternal := false }
def endsWithS : Str → Str → Bool := fun _ m => endsWith (s "s") m
def extRule : RuleState := mkRule true false false true false [.regex (s ".*s")] [.name (s "r.c")]

theorem external_modules_not_monotone :
    treeWFFor (isExcluded noRe extOpts.exclusions) (s "/x/r") [] extTree = true ∧ mpOK extTree [] = true ∧
    extOpts.excludeExternal = false ∧ extOpts.externalExclusions.isEmpty = true ∧
    (∀ e ∈ extTree, ∀ st ∈ e.stmts, stmtOK (toSStmt st) = true) ∧ stmtOK (toSStmt (.imp [s "os"])) = true ∧
    (generateGraph noRe (s "/x/r") (s "r") [] extTree extOpts).toOption.map
        (fun g => (verdictOf endsWithS g extRule, g.nodes)) =
      some (.pass, [s "r", s "r.xs", s "r.b", s "r.c"]) ∧
    (generateGraph noRe (s "/x/r") (s "r") [] (addStmtAt extTree 1 0 (.imp [s "os"])) extOpts).toOption.map
        (fun g => (verdictOf endsWithS g extRule, g.nodes)) =
      some (.fail, [s "r", s "r.xs", s "r.b", s "r.c", s "os"]) := by
  refine ⟨by decide +kernel, by decide +kernel, by decide +kernel, by decide +kernel, by decide +kernel, by decide +kernel, by decide +kernel, by decide +kernel⟩

/-- `treeWFFor` is forced by the proof route (through the specification architecture, which is ill-formed for a file
    `a.py` next to a directory `a/`); no counterexample to the CONCLUSION is known there. At the excluded point of
    `Pta.E2E.collision_needs_treeWF` — `r/a.py`, `r/a/`, `r/a/b.py` (`import r.c`), `r/c.py`, the statement
    `import r.a.b` added to `a.py` — the model's two graphs are equal (the pair `r.a → r.a.b` is written as an import
    edge and at once overwritten by the hierarchy edge), so the conclusion holds. -/
def colTree : List Entry :=
  [ { rel := [s "a.py"], isDir := false },
    { rel := [s "a"], isDir := true },
    { rel := [s "a", s "b.py"], isDir := false, stmts := [.imp [s "r.c"]] },
    { rel := [s "c.py"], isDir := false } ]

set_option maxRecDepth 100000 in
example :
    treeWFFor (isExcluded noRe opts.exclusions) (s "/x/r") [] colTree = false ∧
    (generateGraph noRe (s "/x/r") (s "r") [] colTree opts).toOption.map
        (fun g => (g.nodes, g.hierPairs, g.importPairs)) =
      some ([s "r", s "r.a", s "r.a.b", s "r.c"], [(s "r", s "r.a"), (s "r.a", s "r.a.b"), (s "r", s "r.c")],
        [(s "r.a.b", s "r.c")]) ∧
    (generateGraph noRe (s "/x/r") (s "r") [] (addStmtAt colTree 0 0 (.imp [s "r.a.b"])) opts).toOption.map
        (fun g => (g.nodes, g.hierPairs, g.importPairs)) =
      some ([s "r", s "r.a", s "r.a.b", s "r.c"], [(s "r", s "r.a"), (s "r.a", s "r.a.b"), (s "r", s "r.c")],
        [(s "r.a.b", s "r.c")]) := by
  refine ⟨by decide +kernel, by decide +kernel, by decide +kernel⟩

/-- `stmtOK` (the statement is one the CPython parser can produce) is needed for `scan_add_statement_error`: a
    relative `from` import with an EMPTY alias list — which the grammar forbids — reaches above the root according to
    `aboveRoot`, but the model's loop over its aliases never runs and nothing raises
    (cf. `Pta.C02.empty_alias_list_counterexample`) -/
example :
    stmtOK (toSStmt (.impFrom none [] 7)) = false ∧
    aboveRoot [s "r", s "a", s "m"] (toSStmt (.impFrom none [] 7)) = true ∧
    (generateGraph noRe (s "/x/r") (s "r") [] (addStmtAt old 1 0 (.impFrom none [] 7)) opts).toOption.isSome = true := by
  refine ⟨by decide +kernel, by decide +kernel, by decide +kernel⟩

/-- `o.externalExclusions.isEmpty` costs nothing: together with `exclude_external_libraries = True` a non-empty
    external exclusion tuple is rejected by `get_evaluable_architecture` before any scan -/
example : ∀ a b c : Bool,
    entryOptionsError ⟨a, b, true, c, true, true⟩ ≠ none ∧ entryOptionsError ⟨a, b, c, true, true, true⟩ ≠ none := by decide

end ScanEx

end Pta.C12
