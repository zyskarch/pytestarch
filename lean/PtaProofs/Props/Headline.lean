/-
  PtaProofs.Props.Headline — ONE headline statement per property C01 … C17.

  `PtaProofs/Props/Cxx.lean` holds, per property, a bag of proved theorems.  This file writes down, in Lean, WHICH
  conjunction of those theorems is the property, and (in the docstring of each `Cxx_Statement`) which clause of the
  English statement of `properties.jsonl` is carried by which conjunct, under which hypotheses — and which clauses are
  carried by no theorem at all (outside the model; established only by the correspondence runs).

  Nothing new is proved here: every conjunct of `Cxx_Statement` is the full statement (all binders and hypotheses) of
  one existing theorem of `Pta.Cxx` / `Pta.E2E` (`Pta.C12` / `Pta.C13` of Props/Tables.lean and `Pta.C04` of
  Props/TablesWiring.lean included; the theorems of Props/C07Text, C09Layer, C10Limit, C12Scan, C13More, C14Text, C14Scan,
  C15Text, C15Hist live in the namespaces `Pta.C07`, `Pta.C09`, `Pta.C10`, `Pta.C12`, `Pta.C13`, `Pta.C14`, `Pta.C14`,
  `Pta.C15`, `Pta.C15`, those of Props/E2EWide in `Pta.E2E`),
  and `theorem cxx` is the tuple of those theorems.  Non-vacuity of the hypotheses of every conjunct is shown by the `example`s next to
  the original theorem in its Props file.

  Reading conventions common to all statements:
  * "the library" means the hand-written executable model `PtaModel/*` (checked against the Python code by the
    correspondence runs, not by a theorem); "the documented semantics" means `PtaSpec/*`.
  * Outcomes are three-valued (`VClass` / `Verdict`: pass | fail | err k).  "returns normally" = pass,
    "raises AssertionError" = fail, any other exception = `err k`.  Which Python exception CLASS an `ErrKind` stands for
    is a naming convention of the harness (correspondence check only).
  * `mt : Str → Str → Bool` is the regex engine (`re.match(pattern, s) is not None`), an uninterpreted parameter: the
    theorems hold for every interpretation; nothing is proved about Python's `re`.
  * `GraphOf a g` ("g is a graph of the architecture a") together with `a.wf = true` is the standing interface between
    specification and model; it is discharged for the constructor's graph by `Pta.C09.graph_of_arch` and for scanned
    architectures by `Pta.C04.scan_wf` / `Pta.E2E.scan_graph_of_scanArch`.
-/
import PtaProofs.Props.C01
import PtaProofs.Props.C02
import PtaProofs.Props.C03
import PtaProofs.Props.C04
import PtaProofs.Props.C05
import PtaProofs.Props.C06
import PtaProofs.Props.C07
import PtaProofs.Props.C08
import PtaProofs.Props.C09
import PtaProofs.Props.C10
import PtaProofs.Props.C11
import PtaProofs.Props.C12
import PtaProofs.Props.C13
import PtaProofs.Props.C14
import PtaProofs.Props.C15
import PtaProofs.Props.C16
import PtaProofs.Props.C17
import PtaProofs.Props.E2E
import PtaProofs.Props.Tables
import PtaProofs.Props.C07Text
import PtaProofs.Props.C09Layer
import PtaProofs.Props.C10Limit
import PtaProofs.Props.C12Scan
import PtaProofs.Props.C14Text
import PtaProofs.Props.C15Text
import PtaProofs.Props.E2EWide
import PtaProofs.Props.TablesWiring
import PtaProofs.Props.C13More
import PtaProofs.Props.C14Scan
import PtaProofs.Props.C15Hist

namespace Pta.Headline

/-! ## C01 -/
section C01
open PtaSpec

/-- C01 — Module-rule verdicts equal the documented rule semantics.
    English statement (verbatim from properties.jsonl): "For every evaluable architecture and every rule built with Rule
    (should / should_only / should_not, import or be-imported-by, with or without 'except', subjects and objects given by
    name or as 'sub modules of', singly or in batches), assert_applies returns normally exactly when the documented
    semantics hold on the architecture's import relation and raises AssertionError exactly when they do not. A named
    module stands for itself and all its descendants, 'sub modules of X' stands for X's strict descendants, 'edge'
    requirements are judged per subject/object pair, 'any edge to/from something else' requirements are judged per
    subject against all objects jointly, and imports that stay inside the subject never count as 'something else'."

    Clause map:
      (1) "For every evaluable architecture and every rule built with Rule (…all 12 shapes, both filter kinds, singly or
          in batches) assert_applies returns normally exactly when the documented semantics hold … and raises
          AssertionError exactly when they do not"
          — conjunct 1 (`Pta.C01.verdict_spec_parentFree`): `verdictOf mt g (compile r) = VClass.ofBool (verdict a r)`
          (an equation of three-valued classes: pass iff the semantics hold, fail iff they do not, never an error), for
          every well-formed `a` (`a.wf`), every `g` with `GraphOf a g`, and every rule in the domain `parentFree r`
          (the parent identifier of an `are_sub_modules_of` filter is not a member of any filter of the rule; contains
          all rules with pairwise unrelated identifiers, all all-named rules and all `admissible` rules), whose names
          exist (`r.namesIn a`), with non-empty subjects, objects given unless `anything`, and `anything` only with
          `should_not`.  The domain hypothesis is needed: `Pta.C01.plain_subOf_counterexample` (a non-`parentFree`
          rule on which model and specification differ; the documentation is ambiguous there).  `hany` is needed:
          with another verb the library raises ImproperlyConfigured (C13).  `hnames`: see (4).
      (2) "every rule built with Rule(…)" as a CALL CHAIN — conjunct 3 (`Pta.C01.rule_chain_state`): running the fluent
          chain `ruleOps r` and then `assert_applies` is `assertApplies` on `compile r`, for every rule one chain can
          express (`fluent r`: one naming call per side).  Rules with mixed filter kinds on one side (`fluent r =
          false`) are values of the model only.
      (3) "every evaluable architecture" — conjunct 5 (`Pta.C09.graph_of_arch`): the graph the constructor builds from a
          well-formed architecture satisfies `GraphOf`; conjunct 6 (`Pta.E2E.scan_graph_of_scanArch`): so does the graph
          of a SCANNED directory tree (`treeWFFor`, `mpOK`, `compWF root`, default options, `stmtOK` statements), with
          `Arch.wf` of the specification architecture a consequence; conjunct 7 (`Pta.E2E.scan_rule_total`): (1)
          composed with the scan for strict rules, including the case where the scan raises; conjunct 8
          (`Pta.E2E.scan_rule_total_parentFree`, Props/E2EWide.lean): the same composition for the WIDEST oracle domain,
          `parentFree` rules (identifiers related in any way; `Pta.E2E.strict_parentFree`: contains the strict rules) —
          the domain hypothesis is needed on scanned trees as well: `Pta.E2E.parentFree_needed_on_scan` (`r/a/m.py`
          with `from .. import a`, rule "sub modules of r.a should not import r.a").  Needed:
          `Pta.E2E.collision_needs_treeWF` (a file `x.py` next to a directory `x`).
      (4) (implicit in "exactly when") a rule naming a module that does not exist gives no verdict — conjunct 2
          (`Pta.C01.unknown_name_no_verdict`), lookup error (shared with C13).
      (5) "A named module stands for itself and all its descendants, 'sub modules of X' stands for X's strict
          descendants, 'edge' requirements are judged per subject/object pair, 'any edge to/from something else' … per
          subject against all objects jointly, imports that stay inside the subject never count as 'something else'"
          — these sentences are the DEFINITION of the right-hand side `PtaSpec.verdict` (PtaSpec/RuleSem.lean: `mem`,
          `edges`, `others`); they are carried by conjunct 1 through that definition, not by a separate theorem.  The
          one place where the definition takes the implementation's reading rather than the literal text (for a
          `sub modules of X` subject an import between a strict descendant of `X` and `X` itself is not "something
          else") is made explicit by conjunct 4 (`Pta.C01.others_literal_agree`): the literal reading `verdictLit` agrees
          with `verdict` whenever `noImportToOwnParent a r`; they differ otherwise
          (`Pta.C01.others_literal_counterexample`).
    Not carried by a theorem (correspondence check only / outside the model):
      * "raises AssertionError" as a Python exception class, and the message (C03) — the model has outcome classes.
      * rules OUTSIDE `parentFree` (e.g. "sub modules of p should_not import p"): no oracle theorem; model and
        specification are known to differ there (`plain_subOf_counterexample`, from a directory tree:
        `Pta.E2E.parentFree_needed_on_scan`); the differential run uses the strict oracle only on unrelated names.
      * scans with non-default options (level limit: C09; externals included: C10) are not composed with (1) here.
      * regex-specified subjects/objects are not part of `RuleSpec`; they are reduced to names by C11. -/
def C01_Statement : Prop :=
  -- 1 `Pta.C01.verdict_spec_parentFree`
  (∀ (mt : Str → Str → Bool) (a : Arch) (g : PGraph Str), GraphOf a g → a.wf = true →
    ∀ (r : RuleSpec), parentFree r = true → r.namesIn a = true →
    r.subjects ≠ [] → (r.anything = true ∨ r.objects ≠ []) →
    (r.anything = true → r.verb = .shouldNot) →
    verdictOf mt g (compile r) = VClass.ofBool (verdict a r)) ∧
  -- 2 `Pta.C01.unknown_name_no_verdict`
  (∀ (mt : Str → Str → Bool) (a : Arch) (g : PGraph Str), GraphOf a g →
    ∀ (r : RuleSpec), r.subjects ≠ [] → (r.anything = true ∨ r.objects ≠ []) →
    (r.anything = true → r.verb = .shouldNot) →
    (r.anything = true → dedupSubjects (r.subjects.map compileFilter) = r.subjects.map compileFilter) →
    (∃ f ∈ r.subjects ++ r.effObjects, f.id ∉ a.nodes) → (∀ f ∈ r.subjects ++ r.effObjects, nameWF f.id = true) →
    a.wf = true →
    verdictOf mt g (compile r) = .err .lookupError) ∧
  -- 3 `Pta.C01.rule_chain_state`
  (∀ (glob : Str → Str) (mt : Str → Str → Bool) (g : PGraph Str) (r : RuleSpec), fluent r = true →
    runRuleOps glob mt (ruleOps r) g = ((assertApplies mt (compile r) g).2, (ruleOps r).length)) ∧
  -- 4 `Pta.C01.others_literal_agree`
  (∀ (a : Arch) (r : RuleSpec), noImportToOwnParent a r = true →
    (∀ s ∈ r.subjects, ∀ os, othersLit a r.importDir s os = others a r.importDir s os) ∧
    verdictLit a r = verdict a r) ∧
  -- 5 `Pta.C09.graph_of_arch`
  (∀ (a : Arch), a.wf = true → GraphOf a (archGraph a)) ∧
  -- 6 `Pta.E2E.scan_graph_of_scanArch`
  (∀ (mt : Str → Str → Bool) (base root : Str) (mp : List Str) (entries : List Entry) (o : ScanOptions),
    treeWFFor (isExcluded mt o.exclusions) base mp entries = true → mpOK entries mp = true →
    compWF root = true →
    o.excludeExternal = true → o.levelLimit = none → o.externalExclusions.isEmpty = true →
    (∀ e ∈ entries, ∀ st ∈ e.stmts, stmtOK (toSStmt st) = true) →
    ∀ (is : List (Name × Name)),
    scanImports root (toSEntries (isExcluded mt o.exclusions) base entries) mp = some is →
    ∃ g, generateGraph mt base root mp entries o = .ok g ∧
      (Pta.E2E.scanArch root (toSEntries (isExcluded mt o.exclusions) base entries) mp is).wf = true ∧
      GraphOf (Pta.E2E.scanArch root (toSEntries (isExcluded mt o.exclusions) base entries) mp is) g) ∧
  -- 7 `Pta.E2E.scan_rule_total`
  (∀ (mt : Str → Str → Bool) (base root : Str) (mp : List Str) (entries : List Entry) (o : ScanOptions),
    treeWFFor (isExcluded mt o.exclusions) base mp entries = true → mpOK entries mp = true →
    compWF root = true →
    o.excludeExternal = true → o.levelLimit = none → o.externalExclusions.isEmpty = true →
    (∀ e ∈ entries, ∀ st ∈ e.stmts, stmtOK (toSStmt st) = true) →
    match scanImports root (toSEntries (isExcluded mt o.exclusions) base entries) mp with
    | none => generateGraph mt base root mp entries o = .error .lookupError
    | some is => ∃ g, generateGraph mt base root mp entries o = .ok g ∧
        ∀ (mt' : Str → Str → Bool) (r : RuleSpec), r.strict = true →
          r.namesIn (Pta.E2E.scanArch root (toSEntries (isExcluded mt o.exclusions) base entries) mp is) = true →
          r.subjects ≠ [] → (r.anything = true ∨ r.objects ≠ []) → (r.anything = true → r.verb = .shouldNot) →
          verdictOf mt' g (compile r) =
            VClass.ofBool (verdict (Pta.E2E.scanArch root (toSEntries (isExcluded mt o.exclusions) base entries) mp is) r)) ∧
  -- 8 `Pta.E2E.scan_rule_total_parentFree`
  (∀ (mt : Str → Str → Bool) (base root : Str) (mp : List Str) (entries : List Entry) (o : ScanOptions),
    treeWFFor (isExcluded mt o.exclusions) base mp entries = true → mpOK entries mp = true →
    compWF root = true →
    o.excludeExternal = true → o.levelLimit = none → o.externalExclusions.isEmpty = true →
    (∀ e ∈ entries, ∀ st ∈ e.stmts, stmtOK (toSStmt st) = true) →
    match scanImports root (toSEntries (isExcluded mt o.exclusions) base entries) mp with
    | none => generateGraph mt base root mp entries o = .error .lookupError
    | some is => ∃ g, generateGraph mt base root mp entries o = .ok g ∧
        ∀ (mt' : Str → Str → Bool) (r : RuleSpec), parentFree r = true →
          r.namesIn (Pta.E2E.scanArch root (toSEntries (isExcluded mt o.exclusions) base entries) mp is) = true →
          r.subjects ≠ [] → (r.anything = true ∨ r.objects ≠ []) → (r.anything = true → r.verb = .shouldNot) →
          verdictOf mt' g (compile r) =
            VClass.ofBool (verdict (Pta.E2E.scanArch root (toSEntries (isExcluded mt o.exclusions) base entries) mp is) r))

theorem c01 : C01_Statement :=
  ⟨@Pta.C01.verdict_spec_parentFree, @Pta.C01.unknown_name_no_verdict, @Pta.C01.rule_chain_state,
   @Pta.C01.others_literal_agree, @Pta.C09.graph_of_arch, @Pta.E2E.scan_graph_of_scanArch, @Pta.E2E.scan_rule_total,
   @Pta.E2E.scan_rule_total_parentFree⟩

end C01

/-! ## C02 -/
section C02
open PtaSpec

/-- C02 — Every import statement in a scanned file becomes an import edge, only those.
    English statement (verbatim): "Every import statement in a scanned file, whether at module level or nested at any
    depth inside functions, classes or any branch of any compound statement (if/else, try/except/else/finally, loops and
    their else, with, match cases), yields an import from that file's module to the internal module the statement names:
    'import a.b.c [as x]' names a.b.c, 'from P import n' names P.n when that is itself a scanned module and P otherwise,
    and relative forms are resolved against the importing file's package. Conversely the architecture contains no import
    between two internal modules that no import statement in the importer's file accounts for (imports of the importing
    file's own ancestor packages are outside this claim)."

    Clause map:
      (1) "whether at module level or nested at any depth inside functions, classes or any branch of any compound
          statement (…)" — conjunct 2 (`Pta.C02.collect_all_imports`): the walk of `ImportConverter.convert`
          (`collectImports`) collects a PERMUTATION of the statements of ALL import nodes of the file's AST, for every
          depth, node class and field name, under `astOK nodes` (paths unique, every parent listed, no import node
          below an import node — the last is about the flat encoding, `Pta.C02.import_below_import_counterexample`).
          What this rules out: `Pta.C02.walk_body_only_counterexample` (defect F-C02a, the pre-fix walk through `body`
          only).  The list of compound statements in the English text is not enumerated: the theorem quantifies over
          all trees, so every field (`orelse`, `handlers`, `finalbody`, `cases`, …) is included.
      (2) "'import a.b.c [as x]' names a.b.c, 'from P import n' names P.n when that is itself a scanned module and P
          otherwise, and relative forms are resolved against the importing file's package" — conjunct 1
          (`Pta.C02.convertStmt_spec`): for one statement of module `imp` (well-formed names, `stmtOK`: a relative
          `from` lists at least one name — needed, `Pta.C02.empty_alias_list_counterexample`), `ImportConverter._convert`
          yields exactly the rendered `PtaSpec.targets` (which is the quoted rule, PtaSpec/ScanSem.lean), and raises
          exactly when a relative import reaches above the root.
      (3) "yields an import from that file's module to the internal module the statement names … Conversely the
          architecture contains no import between two internal modules that no import statement in the importer's file
          accounts for" — conjunct 3 (`Pta.C02.scan_imports_exact_tree_ast`): on a directory tree (`treeWFFor`, `mpOK`,
          `compWF root`, default options: externals excluded, no level limit, no external exclusions; any exclusion
          patterns; `astOK` trees with `stmtOK` imports) the import pairs of the scan graph are EXACTLY (↔, both
          directions) the rendered edges of `scanImports`, computed from all import nodes of the trees; the scan raises
          exactly when the specification has no answer.  Conjunct 4 (`Pta.C02.scan_imports_exact`): the same under the
          abstract walk hypotheses `ScanHyps` (no `treeWFFor`), where ONE exception remains and is proved in both
          directions: an edge from a module to its own direct child (file `x.py` next to directory `x`) is not an
          import edge — conjunct 5 (`Pta.C02.parent_child_not_import`), witness `Pta.C02.collision_counterexample`.
          Conjunct 6 (`Pta.C02.scanHyps_of_tree`): `ScanHyps` holds on every `treeWFFor` tree.
      (4) "(imports of the importing file's own ancestor packages are outside this claim)" — not needed: in model and
          specification alike such imports ARE import edges, so conjunct 3 covers them too.
    Not carried by a theorem (correspondence check only / outside the model):
      * source text → AST (`ast.parse`) and the reduction of an `Import`/`ImportFrom` node to `ImportStmt` (the alias
        `as x` is dropped there): the AST is a parameter of the model.
      * non-default options (externals included, level limit) for the edge equality: see C09, C10. -/
def C02_Statement : Prop :=
  -- 1 `Pta.C02.convertStmt_spec`
  (∀ (imp : Name), nameWF imp = true → ∀ (mods : List Name),
    (∀ m ∈ mods, nameWF m = true) → ∀ (internal : List Str),
    (∀ s, s ∈ internal ↔ ∃ n ∈ mods, s = render n) → ∀ (absPrefix : Option Name),
    (∀ p, absPrefix = some p → nameWF p = true) → ∀ (st : ImportStmt), stmtOK (toSStmt st) = true →
    match targets mods absPrefix imp (toSStmt st) with
    | some ts => ∃ recs, convertStmt (render imp) (renderPrefix absPrefix) internal st = .ok recs ∧
        recs.map (·.importee) = ts.map render ∧
        (∀ r ∈ recs, r.importer = render imp ∧ r.importeeParents = parentModules r.importee) ∧
        ∀ t ∈ ts, nameWF t = true
    | none => convertStmt (render imp) (renderPrefix absPrefix) internal st = .error .lookupError) ∧
  -- 2 `Pta.C02.collect_all_imports`
  (∀ (nodes : List AstNode), astOK nodes = true →
    ((collectImports nodes).map toSStmt).Perm (allImports (nodes.map toSNode))) ∧
  -- 3 `Pta.C02.scan_imports_exact_tree_ast`
  (∀ (mt : Str → Str → Bool) (base root : Str) (mp : List Str) (entries : List Entry) (o : ScanOptions),
    treeWFFor (isExcluded mt o.exclusions) base mp entries = true → mpOK entries mp = true →
    compWF root = true →
    o.excludeExternal = true → o.levelLimit = none → o.externalExclusions.isEmpty = true →
    (∀ e ∈ entries, astOK e.tree = true) →
    (∀ e ∈ entries, ∀ st ∈ allImports (e.tree.map toSNode), stmtOK st = true) →
    match scanImports root (toSEntriesAst (isExcluded mt o.exclusions) base entries) mp with
    | none => generateGraph mt base root mp (entries.map Entry.withCollected) o = .error .lookupError
    | some is => ∃ g, generateGraph mt base root mp (entries.map Entry.withCollected) o = .ok g ∧
        ∀ u v, (u, v) ∈ g.importPairs ↔ ∃ e ∈ is, u = render e.1 ∧ v = render e.2) ∧
  -- 4 `Pta.C02.scan_imports_exact`
  (∀ (mt : Str → Str → Bool) (base root : Str) (mp : List Str) (entries : List Entry)
    (o : ScanOptions), ScanHyps mt base root mp entries o →
    match scanImports root (sentriesOf mt base entries o) mp with
    | none => generateGraph mt base root mp entries o = .error .lookupError
    | some is => ∃ g, generateGraph mt base root mp entries o = .ok g ∧
        ∀ u v, (u, v) ∈ g.importPairs ↔ ∃ e ∈ is, u = render e.1 ∧ v = render e.2 ∧ e.1 ≠ e.2.dropLast) ∧
  -- 5 `Pta.C02.parent_child_not_import`
  (∀ (mt : Str → Str → Bool) (base root : Str) (mp : List Str) (entries : List Entry)
    (o : ScanOptions), ScanHyps mt base root mp entries o → ∀ (g : PGraph Str),
    generateGraph mt base root mp entries o = .ok g → ∀ (c : Name),
    c ∈ scanModules root (sentriesOf mt base entries o) mp → 2 ≤ c.length →
    (render c.dropLast, render c) ∉ g.importPairs ∧ (render c.dropLast, render c) ∈ g.hierPairs) ∧
  -- 6 `Pta.C02.scanHyps_of_tree`
  (∀ (mt : Str → Str → Bool) (base root : Str) (mp : List Str) (entries : List Entry) (o : ScanOptions),
    treeWFFor (isExcluded mt o.exclusions) base mp entries = true → mpOK entries mp = true →
    compWF root = true →
    o.excludeExternal = true → o.levelLimit = none → o.externalExclusions.isEmpty = true →
    (∀ e ∈ entries, ∀ st ∈ e.stmts, stmtOK (toSStmt st) = true) →
    ScanHyps mt base root mp (rootEntry :: entries) o)

theorem c02 : C02_Statement :=
  ⟨@Pta.C02.convertStmt_spec, @Pta.C02.collect_all_imports, @Pta.C02.scan_imports_exact_tree_ast,
   @Pta.C02.scan_imports_exact, @Pta.C02.parent_child_not_import, @Pta.C02.scanHyps_of_tree⟩

end C02

/-! ## C03 -/
section C03
open PtaSpec

/-- C03 — Violation reports name exactly the offending imports and missing imports.
    English statement (verbatim): "When assert_applies fails, every line 'X imports Y' / 'X is imported by Y' in the
    message is a real import between two concrete modules that belongs to the rule's violating set (a forbidden import
    between subject and object, or a not-allowed import between the subject and something else), and every import in
    that violating set is listed. Every 'does not import' / 'is not imported by' line names exactly one subject for which
    the required import is missing, together with exactly the objects it is missing for; no import unrelated to the
    rule's subject is ever reported."

    Clause map:
      (1) "every line 'X imports Y' / 'X is imported by Y' … is a real import between two concrete modules" — conjunct 2
          (`Pta.C03.reported_imports_are_imports`): every reported import item is an import edge of the graph; EVERY
          graph and rule state, no hypothesis beyond "the rule failed".
      (2) "that belongs to the rule's violating set (…), and every import in that violating set is listed" — conjunct 1
          (`Pta.C01.report_spec_parentFree`): the atoms of the reported items are EXACTLY (↔) the atoms of
          `PtaSpec.violating a r`, on the oracle domain of C01 (`a.wf`, `GraphOf a g`, `parentFree r`, names exist, …;
          the hypothesis is needed for the same reason as in C01, `Pta.C01.plain_subOf_counterexample`).  The equality
          is of SETS of atoms (imports, and (subject, object) pairs of "does not import" lines); multiplicities and
          order are not claimed (for the `anything` aliases with related subjects the model reports on the retained
          subjects only, same set).  On SCANNED directory trees (`treeWFFor`, default options): conjunct 14
          (`Pta.E2E.scan_rule_report_parentFree`, Props/E2EWide.lean): the scan succeeds and for every `parentFree` rule
          over scanned modules that fails, the reported atoms are exactly the atoms of the violating set on the
          specification architecture of the tree.
      (3) "Every 'does not import' / 'is not imported by' line names exactly one subject for which the required import
          is missing, together with exactly the objects it is missing for" — conjuncts 4, 5
          (`Pta.C03.missing_lines_are_missing`, `…missing_any_lines_are_missing`): a plain line names one rule subject
          and EXACTLY (↔) the rule objects whose pair query is empty; the `except` form names one subject whose
          "other" query is empty and lists all objects; conjunct 6 (`…one_missing_line_per_subject`): one line per
          (form, subject); conjuncts 7, 8 (`…missing_lines_complete`, `…missing_any_lines_complete`): every missing
          pair / subject IS reported; conjunct 9 (`…pair_query_empty_iff`): what "the query is empty" means on the
          graph (no import from the sub tree of the one into the sub tree of the other).  Every graph, every rule
          (related names, regexes, aliases); `subs` / `objs` are the rule's filters after alias conversion and regex
          expansion.  (`Pta.C03.missing_line_twice_witness`: a rule object carrying both `should()` and `should_only()`
          lists the identical item twice; the text is de-duplicated.)
      (4) "no import unrelated to the rule's subject is ever reported" — conjunct 3
          (`Pta.C03.reported_imports_touch_subject`): one end of every reported import lies in the sub tree of a rule
          subject.  Every graph, every rule.
      (5) "in the message" (the literal TEXT) — conjunct 10 (`Pta.C03.line_of_item`): the message lines are the rendered
          report items, sorted, without duplicates; conjunct 11 (`…assert_text_eq`): `assert_applies` with text is
          `assert_applies` with items, rendered; conjunct 12 (`…text_lines_shape`): every literal line has one of the
          four shapes and says something true; conjunct 13 (`…parse_render`): a parser inverts the renderer on items
          whose names contain no `"` (`Item.parsable`), so lines determine items.
    Not carried by a theorem (correspondence check only / outside the model):
      * that `str(AssertionError)` is the '\n'-join of these lines preceded by nothing else: `messageText` is a
        transcription checked by the correspondence runs.
      * set equality with the specification's violating set OUTSIDE `parentFree` rules.
      * layer-rule and diagram-rule messages are covered by C05 (`layer_report_sound`) / C07, not here. -/
def C03_Statement : Prop :=
  -- 1 `Pta.C01.report_spec_parentFree`
  (∀ (mt : Str → Str → Bool) (a : Arch) (g : PGraph Str), GraphOf a g → a.wf = true →
    ∀ (r : RuleSpec), parentFree r = true → r.namesIn a = true →
    r.subjects ≠ [] → (r.anything = true ∨ r.objects ≠ []) →
    (r.anything = true → r.verb = .shouldNot) → ∀ (items : List Item),
    (assertApplies mt (compile r) g).2 = .fail items →
    ∀ x, x ∈ items.flatMap Item.atoms ↔ x ∈ (violating a r).flatMap SItem.atoms) ∧
  -- 2 `Pta.C03.reported_imports_are_imports`
  (∀ (mt : Str → Str → Bool) (g : PGraph Str) (r : RuleState) (items : List Item),
    (assertApplies mt r g).2 = .fail items →
    ∀ u v d, Item.imp u v d ∈ items → v ∈ g.importSuccs u) ∧
  -- 3 `Pta.C03.reported_imports_touch_subject`
  (∀ (mt : Str → Str → Bool) (g : PGraph Str) (r : RuleState) (items : List Item),
    (assertApplies mt r g).2 = .fail items → ∀ (ss subs : List Filter),
    (convertAliases r.cfg).subjects = some ss → convertFilters mt g.nodes ss = .ok subs →
    ∀ u v d, Item.imp u v d ∈ items → ∃ s ∈ subs, Reach g s.id u ∨ Reach g s.id v) ∧
  -- 4 `Pta.C03.missing_lines_are_missing`
  (∀ (mt : Str → Str → Bool) (g : PGraph Str) (r : RuleState) (items : List Item),
    (assertApplies mt r g).2 = .fail items → ∀ (dir : Bool) (ss subs os objs : List Filter),
    (convertAliases r.cfg).importDir = some dir →
    (convertAliases r.cfg).subjects = some ss → convertFilters mt g.nodes ss = .ok subs →
    (convertAliases r.cfg).objects = some os → convertFilters mt g.nodes os = .ok objs →
    ∀ s objsM d, Item.miss false s objsM d ∈ items →
      (((convertAliases r.cfg).behavior.should || (convertAliases r.cfg).behavior.shouldOnly) &&
        !(convertAliases r.cfg).behavior.exc) = true ∧ d = !dir ∧
      s.toFilter ∈ subs ∧ objsM ≠ [] ∧ objsM.Nodup ∧
      ∀ o, o ∈ objsM ↔ (o.toFilter ∈ objs ∧ pairQuery g dir s.toFilter o.toFilter = .ok [])) ∧
  -- 5 `Pta.C03.missing_any_lines_are_missing`
  (∀ (mt : Str → Str → Bool) (g : PGraph Str) (r : RuleState) (items : List Item),
    (assertApplies mt r g).2 = .fail items → ∀ (dir : Bool) (ss subs os objs : List Filter),
    (convertAliases r.cfg).importDir = some dir →
    (convertAliases r.cfg).subjects = some ss → convertFilters mt g.nodes ss = .ok subs →
    (convertAliases r.cfg).objects = some os → convertFilters mt g.nodes os = .ok objs →
    ∀ s objsM d, Item.miss true s objsM d ∈ items →
      (((convertAliases r.cfg).behavior.should || (convertAliases r.cfg).behavior.shouldOnly) &&
        (convertAliases r.cfg).behavior.exc) = true ∧ d = !dir ∧
      s.toFilter ∈ subs ∧ objsM = dedup (objs.map Filter.toMod) ∧ otherQuery g dir s.toFilter objs = .ok []) ∧
  -- 6 `Pta.C03.one_missing_line_per_subject`
  (∀ (mt : Str → Str → Bool) (g : PGraph Str) (r : RuleState) (items : List Item),
    (assertApplies mt r g).2 = .fail items →
    ∀ any s os₁ d₁ os₂ d₂, Item.miss any s os₁ d₁ ∈ items → Item.miss any s os₂ d₂ ∈ items → os₁ = os₂ ∧ d₁ = d₂) ∧
  -- 7 `Pta.C03.missing_lines_complete`
  (∀ (mt : Str → Str → Bool) (g : PGraph Str) (r : RuleState) (items : List Item),
    (assertApplies mt r g).2 = .fail items → ∀ (dir : Bool) (ss subs os objs : List Filter),
    (convertAliases r.cfg).importDir = some dir →
    (convertAliases r.cfg).subjects = some ss → convertFilters mt g.nodes ss = .ok subs →
    (convertAliases r.cfg).objects = some os → convertFilters mt g.nodes os = .ok objs →
    (((convertAliases r.cfg).behavior.should || (convertAliases r.cfg).behavior.shouldOnly) &&
        !(convertAliases r.cfg).behavior.exc) = true →
    ∀ s ∈ subs, ∀ o ∈ objs, pairQuery g dir s o = .ok [] →
      ∃ objsM, Item.miss false s.toMod objsM (!dir) ∈ items ∧ o.toMod ∈ objsM) ∧
  -- 8 `Pta.C03.missing_any_lines_complete`
  (∀ (mt : Str → Str → Bool) (g : PGraph Str) (r : RuleState) (items : List Item),
    (assertApplies mt r g).2 = .fail items → ∀ (dir : Bool) (ss subs os objs : List Filter),
    (convertAliases r.cfg).importDir = some dir →
    (convertAliases r.cfg).subjects = some ss → convertFilters mt g.nodes ss = .ok subs →
    (convertAliases r.cfg).objects = some os → convertFilters mt g.nodes os = .ok objs →
    (((convertAliases r.cfg).behavior.should || (convertAliases r.cfg).behavior.shouldOnly) &&
        (convertAliases r.cfg).behavior.exc) = true →
    ∀ s ∈ subs, otherQuery g dir s objs = .ok [] →
      Item.miss true s.toMod (dedup (objs.map Filter.toMod)) (!dir) ∈ items) ∧
  -- 9 `Pta.C03.pair_query_empty_iff`
  (∀ (g : PGraph Str) (dir : Bool) (s o : Filter),
    pairQuery g dir s o = .ok [] ↔
      g.hasNode s.id = true ∧ g.hasNode o.id = true ∧
      ∀ u v, Reach g s.id u → Reach g o.id v → u ∉ parentIds [s, o] → v ∉ parentIds [s, o] →
        ¬ (if dir = true then v ∈ g.importSuccs u else u ∈ g.importSuccs v)) ∧
  -- 10 `Pta.C03.line_of_item`
  (∀ (importRule : Bool) (v : Violations),
    messageLines importRule v = renderItems (reportItems importRule v) ∧
    ∀ line, line ∈ messageLines importRule v ↔ ∃ x ∈ reportItems importRule v, renderItem x = line) ∧
  -- 11 `Pta.C03.assert_text_eq`
  (∀ (mt : Str → Str → Bool) (r : RuleState) (g : PGraph Str),
    assertAppliesText mt r g = ((assertApplies mt r g).1, (assertApplies mt r g).2.toText)) ∧
  -- 12 `Pta.C03.text_lines_shape`
  (∀ (mt : Str → Str → Bool) (g : PGraph Str) (r : RuleState) (lines : List Str),
    (assertAppliesText mt r g).2 = .fail lines → ∀ (ss subs os objs : List Filter),
    (convertAliases r.cfg).subjects = some ss → convertFilters mt g.nodes ss = .ok subs →
    (convertAliases r.cfg).objects = some os → convertFilters mt g.nodes os = .ok objs →
    ∀ line ∈ lines,
      (∃ u v d, line = renderLine (.imp u v d) ∧ v ∈ g.importSuccs u ∧ ∃ s ∈ subs, Reach g s.id u ∨ Reach g s.id v) ∨
      (∃ any s objsM d, line = renderLine (.miss any s objsM d) ∧ s ∈ subs.map Filter.toMod ∧ objsM ≠ [] ∧
        ∀ o ∈ objsM, o ∈ objs.map Filter.toMod)) ∧
  -- 13 `Pta.C03.parse_render`
  (∀ (x : Item), x.parsable = true → parseLine (renderLine x) = some x) ∧
  -- 14 `Pta.E2E.scan_rule_report_parentFree`
  (∀ (mt : Str → Str → Bool) (base root : Str) (mp : List Str) (entries : List Entry) (o : ScanOptions),
    treeWFFor (isExcluded mt o.exclusions) base mp entries = true → mpOK entries mp = true →
    compWF root = true →
    o.excludeExternal = true → o.levelLimit = none → o.externalExclusions.isEmpty = true →
    (∀ e ∈ entries, ∀ st ∈ e.stmts, stmtOK (toSStmt st) = true) →
    ∀ (is : List (Name × Name)),
    scanImports root (toSEntries (isExcluded mt o.exclusions) base entries) mp = some is →
    ∃ g, generateGraph mt base root mp entries o = .ok g ∧
      ∀ (mt' : Str → Str → Bool) (r : RuleSpec), parentFree r = true →
        r.namesIn (Pta.E2E.scanArch root (toSEntries (isExcluded mt o.exclusions) base entries) mp is) = true →
        r.subjects ≠ [] → (r.anything = true ∨ r.objects ≠ []) → (r.anything = true → r.verb = .shouldNot) →
        ∀ items, (assertApplies mt' (compile r) g).2 = .fail items →
          ∀ x, x ∈ items.flatMap Item.atoms ↔
            x ∈ (violating (Pta.E2E.scanArch root (toSEntries (isExcluded mt o.exclusions) base entries) mp is) r).flatMap
              SItem.atoms)

theorem c03 : C03_Statement :=
  ⟨@Pta.C01.report_spec_parentFree, @Pta.C03.reported_imports_are_imports, @Pta.C03.reported_imports_touch_subject,
   @Pta.C03.missing_lines_are_missing, @Pta.C03.missing_any_lines_are_missing, @Pta.C03.one_missing_line_per_subject,
   @Pta.C03.missing_lines_complete, @Pta.C03.missing_any_lines_complete, @Pta.C03.pair_query_empty_iff,
   @Pta.C03.line_of_item, @Pta.C03.assert_text_eq, @Pta.C03.text_lines_shape, @Pta.C03.parse_render,
   @Pta.E2E.scan_rule_report_parentFree⟩

end C03

/-! ## C04 -/
section C04
open PtaSpec

/-- C04 — Modules and hierarchy mirror the scanned directory tree, named from root_path.
    English statement (verbatim): "The architecture's modules are exactly one module per non-excluded .py file and per
    non-excluded directory at or below module_path, each named by its dotted path starting with root_path's own directory
    name, plus every ancestor package of module_path up to the root; the sub modules of a module are exactly the modules
    whose dotted name extends it. Scanning a sub-directory as module_path gives the same modules and imports as scanning
    the whole root restricted to that sub-tree (absolute imports written either fully qualified from the root directory's
    name or relative to module_path's parent directory both resolve), and the module-object entry point builds the same
    architecture as the path entry point."

    The file system is a parameter: a flat list `entries` of paths below the root directory.  Domain predicates
    (Bridge/ScanAbs.lean, Bridge/ScanTree.lean): `treeShape` (paths duplicate-free, non-empty, parents listed as
    directories); `treeWFFor excl base mp` (shape, and — only for what the scan from `mp` can see — directory names and
    `.py` stems non-empty and dot-free, no `x.py` next to a directory `x`); `mpOK` (`module_path` is the root or a listed
    directory); `compWF root`.  Options: `excludeExternal = true`, `levelLimit = none` (the defaults; ANY exclusions).

    Clause map:
      (1) "The architecture's modules are exactly one module per non-excluded .py file and per non-excluded directory at or
          below module_path, each named by its dotted path starting with root_path's own directory name"
          — conjunct 1 (`Pta.C04.walk_modules_exact`, under `treeShape`, `mpOK`): the registered modules are exactly the
          names `render (entryName root e)` of the surviving entries (at or below `module_path`, directory or `.py` file,
          no excluded path from `module_path` down to the entry); "one module per …": conjunct 2
          (`Pta.C04.walk_modules_nodup`, under `treeWFFor`): no module is registered twice.
      (2) "plus every ancestor package of module_path up to the root" — conjunct 3 (`Pta.C04.graph_modules_explicit`):
          a node of the scan graph is the name of a surviving entry or (unless `module_path` itself is excluded) one of
          `root`, `root.c₁`, …  Under `treeWFFor`, `mpOK`, `compWF root`, default options, for a successful scan.
      (3) "the sub modules of a module are exactly the modules whose dotted name extends it" — conjunct 4
          (`Pta.C04.hierarchy_exact`): hierarchy edges = (parent, child) for every module with a parent; conjunct 5
          (`Pta.C04.submodules_exact`): `get_all_submodules_of` returns exactly the modules with `n <+: m` (component
          prefix; the module itself included).  Conjunct 6 (`Pta.C04.scan_wf`): the architecture read off the scan
          graph is well-formed and the graph is a graph of it (discharges the standing hypothesis of C01/C03/C05/…).
      (4) "Scanning a sub-directory as module_path gives the same modules and imports as scanning the whole root restricted
          to that sub-tree" — conjunct 7 (`Pta.C04.subscan_modules`) and conjunct 8 (`Pta.C04.subscan_graph`): modules
          and nodes = whole-root ones internal to `module_path` (plus the ancestor packages); import pairs = whole-root
          import pairs with both ends internal.  Extra hypotheses: no directory strictly between root and `module_path`
          is excluded (`hclear`), `stmtOK` statements, and `portable` (no absolute name the conversion looks up is, read
          relative to `module_path`'s parent, a module of the sub-scan) — needed: `Pta.C04.subscan_ambiguity` (a
          directory `proj/proj`).
      (5) "(absolute imports written either fully qualified from the root directory's name or relative to module_path's
          parent directory both resolve)" — conjunct 9 (`Pta.C04.parent_relative_graph`): the tree re-spelled relative to
          `module_path`'s parent (`parentRelative`) scans to a graph with the same nodes and import pairs; conjunct 10
          (`Pta.C04.parent_relative_equiv`): … which is the restriction of the whole-root scan of the fully qualified
          tree.  Extra hypothesis `plain` (the stripped name is not itself a module while the name as written is not) —
          needed: `Pta.C04.plain_needed`.
      (6) "named by its dotted path starting with root_path's own directory name" / the entry point as called —
          conjunct 12 (`Pta.C04.path_entry_eq_generateGraph`): `get_evaluable_architecture(root_path, module_path, …)`
          (`getEvaluableArchitecture`, PtaModel/Scan.lean; the file system is the parameter `fs`) IS `generateGraph` on
          what `entryPaths` derives from the two path strings, whenever the options pass `entryOptionsError`; so every
          conjunct above is about the entry point.  Conjunct 13 (`Pta.C04.entry_module_path_str`): `base` is
          `str(root_as_path)`, `root` its last component (`root_path`'s own directory name), and `str(module_as_path)`
          is the `pathStr base mp` the walk uses — for a root path with at least one component (for `/`, `//`, `""` the
          model's `pathStr` differs from pathlib's string: example in Props/C04.lean).
      (7) "and the module-object entry point builds the same architecture as the path entry point" — conjunct 11
          (`Pta.C04.dirname_spec`): `os.path.dirname(d + "/" + f) = d` for non-empty `d` not ending in `/` and `f`
          without `/` (the two cases left out: `Pta.C04.dirname_no_slash`, `dirname_root_file`); conjunct 14
          (`Pta.C04.module_object_entry_eq_path_entry`): for PACKAGE module objects (`__file__ = dir/__init__.py`)
          `get_evaluable_architecture_for_module_objects` returns literally (graph or error, same six options) what the
          path entry point returns for the two directories; conjunct 15 (`Pta.C04.module_object_plain_module`): for a
          PLAIN module object `dir/x.py` the scanned directory is `dir`, the parent package — the module-object entry
          point cannot scan a single file (so a plain module and the package `__init__.py` next to it give the same
          result: `Pta.C04.module_object_plain_eq_package`); conjunct 16 (`Pta.C04.module_object_modules_exact`): the
          transfer spelled out once — the nodes of the graph the module-object entry point returns are exactly the
          rendered `scanModules` of the specification.  That the six options reach `generate_graph` unchanged from both
          entry points, with the same defaults, is conjunct 17 (`Pta.C04.generated_wiring_agree`,
          Props/TablesWiring.lean): the option data flow extracted from pytestarch.py on every run
          (Generated/Wiring.lean) equals the plumbing the scan model assumes (PtaModel/Wiring.lean).
    Not carried by a theorem (correspondence check only / outside the model):
      * of the module-object entry point: that a module object is its `__file__` string (`ModuleObj.file`); module
        objects without `__file__` (namespace packages, built-ins) are not modelled; `__file__` values outside the
        hypotheses of conjuncts 14 / 15 (directory empty or ending in `/`) are covered by evaluation of `dirname` only.
      * that Python's `posixpath.dirname` / `pathlib.PurePosixPath` behave as the transcriptions `dirname`, `parsePath`,
        `PPath.str`, `PPath.name`, `PPath.relativeTo` (POSIX paths only; `..` is kept, nothing is resolved).
      * `os.walk` / `pathlib` producing `entries` (`fs base`), and symlinks: the listing is a parameter.
      * trees outside `treeWFFor` (dotted directory names, `x.py` next to `x/` inside the scanned part): the naming clauses
        are not claimed there (see `Pta.C02.collision_counterexample`). -/
def C04_Statement : Prop :=
  -- 1 `Pta.C04.walk_modules_exact`
  (∀ (mt : Str → Str → Bool) (base root : Str) (mp : List Str) (entries : List Entry) (o : ScanOptions),
    treeShape entries = true → mpOK entries mp = true → ∀ (x : Str),
    x ∈ (scanParsed mt base root mp entries o).allModules ↔
      ∃ e ∈ rootEntry :: entries,
        survives (toSEntries (Pta.C04.exclOf mt o) base entries) mp (toSEntry (Pta.C04.exclOf mt o) base e) = true ∧
        x = render (entryName root (toSEntry (Pta.C04.exclOf mt o) base e))) ∧
  -- 2 `Pta.C04.walk_modules_nodup`
  (∀ (mt : Str → Str → Bool) (base root : Str) (mp : List Str) (entries : List Entry) (o : ScanOptions),
    treeWFFor (Pta.C04.exclOf mt o) base mp entries = true → mpOK entries mp = true → compWF root = true →
    (scanParsed mt base root mp entries o).allModules.Nodup) ∧
  -- 3 `Pta.C04.graph_modules_explicit`
  (∀ (mt : Str → Str → Bool) (base root : Str) (mp : List Str) (entries : List Entry) (o : ScanOptions),
    treeWFFor (Pta.C04.exclOf mt o) base mp entries = true → mpOK entries mp = true → compWF root = true →
    o.excludeExternal = true → o.levelLimit = none → ∀ (g : PGraph Str),
    generateGraph mt base root mp entries o = .ok g → ∀ (s : Str),
    s ∈ g.nodes ↔
      (∃ e ∈ rootEntry :: entries,
        survives (toSEntries (Pta.C04.exclOf mt o) base entries) mp (toSEntry (Pta.C04.exclOf mt o) base e) = true ∧
        s = render (entryName root (toSEntry (Pta.C04.exclOf mt o) base e))) ∨
      (Pta.C04.exclOf mt o (pathStr base mp) = false ∧ ∃ k, 0 < k ∧ k ≤ mp.length ∧ s = render ((root :: mp).take k))) ∧
  -- 4 `Pta.C04.hierarchy_exact`
  (∀ (mt : Str → Str → Bool) (base root : Str) (mp : List Str) (entries : List Entry) (o : ScanOptions),
    treeWFFor (Pta.C04.exclOf mt o) base mp entries = true → mpOK entries mp = true → compWF root = true →
    o.excludeExternal = true → o.levelLimit = none → ∀ (g : PGraph Str),
    generateGraph mt base root mp entries o = .ok g → ∀ (s x : Str),
    x ∈ g.hierChildren s ↔
      ∃ c ∈ scanModules root (toSEntries (Pta.C04.exclOf mt o) base entries) mp,
        2 ≤ c.length ∧ s = render c.dropLast ∧ x = render c) ∧
  -- 5 `Pta.C04.submodules_exact`
  (∀ (mt : Str → Str → Bool) (base root : Str) (mp : List Str) (entries : List Entry) (o : ScanOptions),
    treeWFFor (Pta.C04.exclOf mt o) base mp entries = true → mpOK entries mp = true → compWF root = true →
    o.excludeExternal = true → o.levelLimit = none → ∀ (g : PGraph Str),
    generateGraph mt base root mp entries o = .ok g → ∀ (n : Name),
    n ∈ scanModules root (toSEntries (Pta.C04.exclOf mt o) base entries) mp →
    ∃ l, submodulesOf g (render n) = .ok l ∧
      ∀ x, x ∈ l ↔ ∃ m ∈ scanModules root (toSEntries (Pta.C04.exclOf mt o) base entries) mp, x = render m ∧ n <+: m) ∧
  -- 6 `Pta.C04.scan_wf`
  (∀ (mt : Str → Str → Bool) (base root : Str) (mp : List Str) (entries : List Entry) (o : ScanOptions),
    treeWFFor (Pta.C04.exclOf mt o) base mp entries = true → mpOK entries mp = true → compWF root = true →
    o.excludeExternal = true → o.levelLimit = none → ∀ (g : PGraph Str),
    generateGraph mt base root mp entries o = .ok g →
    (graphArch g).wf = true ∧ GraphOf (graphArch g) g) ∧
  -- 7 `Pta.C04.subscan_modules`
  (∀ (mt : Str → Str → Bool) (base root : Str) (mp : List Str) (entries : List Entry) (o : ScanOptions),
    treeWFFor (Pta.C04.exclOf mt o) base [] entries = true →
    treeWFFor (Pta.C04.exclOf mt o) base mp entries = true → mpOK entries mp = true → compWF root = true →
    (∀ k, k < mp.length → Pta.C04.exclOf mt o (pathStr base (mp.take k)) = false) → ∀ (x : Str),
    x ∈ (scanParsed mt base root mp entries o).allModules ↔
      x ∈ (scanParsed mt base root [] entries o).allModules ∧ isInternal x (internalPrefix root mp) = true) ∧
  -- 8 `Pta.C04.subscan_graph`
  (∀ (mt : Str → Str → Bool) (base root : Str) (mp : List Str) (entries : List Entry) (o : ScanOptions),
    treeWFFor (Pta.C04.exclOf mt o) base [] entries = true →
    treeWFFor (Pta.C04.exclOf mt o) base mp entries = true → mpOK entries mp = true → compWF root = true →
    (∀ k, k < mp.length → Pta.C04.exclOf mt o (pathStr base (mp.take k)) = false) →
    portable root (toSEntries (Pta.C04.exclOf mt o) base entries) mp = true →
    o.excludeExternal = true → o.levelLimit = none → o.externalExclusions.isEmpty = true →
    (∀ e ∈ entries, ∀ st ∈ e.stmts, stmtOK (toSStmt st) = true) →
    ∀ (g0 : PGraph Str), generateGraph mt base root [] entries o = .ok g0 →
    ∃ g, generateGraph mt base root mp entries o = .ok g ∧
      (∀ s, s ∈ g.nodes ↔
        (s ∈ g0.nodes ∧ isInternal s (internalPrefix root mp) = true) ∨
        (Pta.C04.exclOf mt o (pathStr base mp) = false ∧ ∃ k, 0 < k ∧ k ≤ mp.length ∧ s = render ((root :: mp).take k))) ∧
      (∀ u v, (u, v) ∈ g.importPairs ↔
        (u, v) ∈ g0.importPairs ∧ isInternal u (internalPrefix root mp) = true ∧
          isInternal v (internalPrefix root mp) = true)) ∧
  -- 9 `Pta.C04.parent_relative_graph`
  (∀ (mt : Str → Str → Bool) (base root : Str) (mp : List Str) (entries : List Entry) (o : ScanOptions),
    (∀ e ∈ entries, ∀ st ∈ e.stmts, stmtOK (toSStmt st) = true) →
    portable root (toSEntries (Pta.C04.exclOf mt o) base entries) mp = true →
    plain root (toSEntries (Pta.C04.exclOf mt o) base entries) mp = true →
    treeWFFor (Pta.C04.exclOf mt o) base mp entries = true → mpOK entries mp = true → compWF root = true →
    o.excludeExternal = true → o.levelLimit = none → o.externalExclusions.isEmpty = true →
    (generateGraph mt base root mp (parentRelative root mp entries) o = .error .lookupError ↔
      generateGraph mt base root mp entries o = .error .lookupError) ∧
    ∀ g, generateGraph mt base root mp entries o = .ok g →
      ∃ g', generateGraph mt base root mp (parentRelative root mp entries) o = .ok g' ∧
        (∀ s, s ∈ g'.nodes ↔ s ∈ g.nodes) ∧ ∀ u v, (u, v) ∈ g'.importPairs ↔ (u, v) ∈ g.importPairs) ∧
  -- 10 `Pta.C04.parent_relative_equiv`
  (∀ (mt : Str → Str → Bool) (base root : Str) (mp : List Str) (entries : List Entry) (o : ScanOptions),
    (∀ e ∈ entries, ∀ st ∈ e.stmts, stmtOK (toSStmt st) = true) →
    portable root (toSEntries (Pta.C04.exclOf mt o) base entries) mp = true →
    plain root (toSEntries (Pta.C04.exclOf mt o) base entries) mp = true →
    treeWFFor (Pta.C04.exclOf mt o) base mp entries = true → mpOK entries mp = true → compWF root = true →
    o.excludeExternal = true → o.levelLimit = none → o.externalExclusions.isEmpty = true →
    treeWFFor (Pta.C04.exclOf mt o) base [] entries = true →
    (∀ k, k < mp.length → Pta.C04.exclOf mt o (pathStr base (mp.take k)) = false) →
    ∀ (g0 : PGraph Str), generateGraph mt base root [] entries o = .ok g0 →
    ∃ g', generateGraph mt base root mp (parentRelative root mp entries) o = .ok g' ∧
      (∀ s, s ∈ g'.nodes ↔
        (s ∈ g0.nodes ∧ isInternal s (internalPrefix root mp) = true) ∨
        (Pta.C04.exclOf mt o (pathStr base mp) = false ∧ ∃ k, 0 < k ∧ k ≤ mp.length ∧ s = render ((root :: mp).take k))) ∧
      (∀ u v, (u, v) ∈ g'.importPairs ↔
        (u, v) ∈ g0.importPairs ∧ isInternal u (internalPrefix root mp) = true ∧
          isInternal v (internalPrefix root mp) = true)) ∧
  -- 11 `Pta.C04.dirname_spec`
  (∀ (d f : Str), d ≠ [] → d.getLast? ≠ some '/' → '/' ∉ f → dirname (d ++ '/' :: f) = d) ∧
  -- 12 `Pta.C04.path_entry_eq_generateGraph`
  (∀ (mt : Str → Str → Bool) (fs : Str → List Entry) (rootPath modulePath : Str) (a : EntryArgs) (base root : Str)
    (mp : List Str) (o : ScanOptions), entryOptionsError (a.flags true) = none →
    entryPaths rootPath modulePath = .ok (base, root, mp) → a.scanOptions = some o →
    getEvaluableArchitecture mt fs rootPath modulePath a =
      (generateGraph mt base root mp (fs base) o).mapError EntryErr.kind) ∧
  -- 13 `Pta.C04.entry_module_path_str`
  (∀ (rootPath modulePath base root : Str) (mp : List Str),
    entryPaths rootPath modulePath = .ok (base, root, mp) → (parsePath rootPath).parts ≠ [] →
    (parsePath modulePath).str = pathStr base mp ∧ base = (parsePath rootPath).str ∧ root = (parsePath rootPath).name) ∧
  -- 14 `Pta.C04.module_object_entry_eq_path_entry`
  (∀ (mt : Str → Str → Bool) (fs : Str → List Entry) (rdir mdir : Str) (a : EntryArgs),
    rdir ≠ [] → rdir.getLast? ≠ some '/' → mdir ≠ [] → mdir.getLast? ≠ some '/' →
    scanForModuleObjects mt fs ⟨rdir ++ "/__init__.py".toList⟩ ⟨mdir ++ "/__init__.py".toList⟩ a =
      getEvaluableArchitecture mt fs rdir mdir a) ∧
  -- 15 `Pta.C04.module_object_plain_module`
  (∀ (mt : Str → Str → Bool) (fs : Str → List Entry) (rdir dir rfile x : Str) (a : EntryArgs),
    rdir ≠ [] → rdir.getLast? ≠ some '/' → dir ≠ [] → dir.getLast? ≠ some '/' → '/' ∉ rfile → '/' ∉ x →
    dirname (dir ++ '/' :: x) = dir ∧
    scanForModuleObjects mt fs ⟨rdir ++ '/' :: rfile⟩ ⟨dir ++ '/' :: x⟩ a = getEvaluableArchitecture mt fs rdir dir a) ∧
  -- 16 `Pta.C04.module_object_modules_exact`
  (∀ (mt : Str → Str → Bool) (fs : Str → List Entry) (rdir mdir : Str) (a : EntryArgs),
    rdir ≠ [] → rdir.getLast? ≠ some '/' → mdir ≠ [] → mdir.getLast? ≠ some '/' →
    ∀ (base root : Str) (mp : List Str) (o : ScanOptions), entryOptionsError (a.flags true) = none →
    entryPaths rdir mdir = .ok (base, root, mp) → a.scanOptions = some o →
    treeWFFor (Pta.C04.exclOf mt o) base mp (fs base) = true → mpOK (fs base) mp = true → compWF root = true →
    o.excludeExternal = true → o.levelLimit = none → ∀ (g : PGraph Str),
    scanForModuleObjects mt fs ⟨rdir ++ "/__init__.py".toList⟩ ⟨mdir ++ "/__init__.py".toList⟩ a = .ok g → ∀ (s : Str),
    s ∈ g.nodes ↔ ∃ n ∈ scanModules root (toSEntries (Pta.C04.exclOf mt o) base (fs base)) mp, s = render n) ∧
  -- 17 `Pta.C04.generated_wiring_agree`
  (Generated.entryParams = Pta.Wiring.entryParams ∧
    Generated.entryDefaults = Pta.Wiring.defaults ∧
    Generated.moduleObjectsDefaults = Pta.Wiring.defaults ∧
    Generated.defaultExclusions = Pta.Wiring.defaultExclusions ∧
    Generated.moduleObjectsFlow = Pta.Wiring.moduleObjectsFlow ∧
    Generated.generateGraphFlow = Pta.Wiring.generateGraphFlow)

theorem c04 : C04_Statement :=
  ⟨@Pta.C04.walk_modules_exact, @Pta.C04.walk_modules_nodup, @Pta.C04.graph_modules_explicit,
   @Pta.C04.hierarchy_exact, @Pta.C04.submodules_exact, @Pta.C04.scan_wf, @Pta.C04.subscan_modules,
   @Pta.C04.subscan_graph, @Pta.C04.parent_relative_graph, @Pta.C04.parent_relative_equiv,
   @Pta.C04.dirname_spec, @Pta.C04.path_entry_eq_generateGraph, @Pta.C04.entry_module_path_str,
   @Pta.C04.module_object_entry_eq_path_entry, @Pta.C04.module_object_plain_module,
   @Pta.C04.module_object_modules_exact, Pta.C04.generated_wiring_agree⟩

end C04

/-! ## C05 -/
section C05
open PtaSpec

/-- C05 — Layer-rule verdicts follow the documented semantics, one unit per layer.
    English statement (verbatim): "For every layered architecture whose layers list unrelated modules (by name or by
    regex) and every LayerRule, assert_applies passes exactly when the documented layer semantics hold: a layer is the
    union of its listed modules and all their descendants; 'access' requirements need at least one import from some module
    of the subject layer into each named object layer; 'not'/'only' requirements forbid every such import; 'something
    else' means any module outside the subject layer and outside the named object layers, including modules in no layer.
    Imports between modules of the same layer never count, neither as violations nor as the required access to something
    else, and modules of layers that the rule does not mention are treated exactly like modules in no layer, however
    those layers were defined."

    Vocabulary: `larch : LArch` the layered architecture as built (name filters and regex filters); `ls : Layers` its
    layers with every regex resolved to the modules it matches (`resolves mt g.nodes larch ls`); `r : LRuleSpec`.
    Domain `layerDomain' a ls r` (PtaSpec/LayerSem.lean, relaxed after audit F6): non-empty layers listing existing
    modules, listed modules of DIFFERENT layers pairwise unrelated (inside one layer anything goes), distinct layer names,
    subject and objects defined layers, objects ≠ subject.  `layerDomainK a (ruleLayers larch ls r) r`: the same required
    only of the layers the rule works with.

    Clause map:
      (1) "For every layered architecture whose layers list unrelated modules (by name or by regex) and every LayerRule,
          assert_applies passes exactly when the documented layer semantics hold"
          — conjunct 1 (`Pta.C05.layer_verdict`): `(assertAppliesLayer …).cls = VClass.ofBool (layerVerdict a ls r)`
          (pass iff holds, fail iff not, never `LayerMismatch` or another error), for `a.wf`, `GraphOf a g`,
          `layerDomain' a ls r`, `anything` only with `should_not` (needed: `Pta.C05.any_layer_misused`), name and regex
          layers alike (`resolves`).  Conjunct 3 (`Pta.C05.layer_verdict_chain`): the same for the fluent call chain
          `based_on(larch).layers_that().are_named(…)…` followed by `assert_applies`.  Conjunct 9
          (`Pta.E2E.scan_layer_verdict`): the same on SCANNED architectures (`treeWFFor`, default options).
      (2) "a layer is the union of its listed modules and all their descendants; 'access' requirements need at least one
          import …; 'not'/'only' requirements forbid every such import; 'something else' means any module outside the
          subject layer and outside the named object layers, including modules in no layer. Imports between modules of the
          same layer never count …" — these sentences are the DEFINITION of `PtaSpec.layerVerdict` (PtaSpec/LayerSem.lean);
          carried by conjunct 1 through that definition.  The module → layer lookup they presuppose is conjunct 6
          (`Pta.C05.layerOf_correct`): on a mapping with cross-layer unrelated modules (`crossUnrelated`) the lookup
          returns the unique layer listing an ancestor-or-self, or none, never `LayerMismatch`.
      (3) "modules of layers that the rule does not mention are treated exactly like modules in no layer, however those
          layers were defined" — conjunct 2 (`Pta.C05.layer_verdict_kept`): the verdict theorem with the domain required
          only of `ruleLayers larch ls r`; conjunct 4 (`Pta.C05.unmentioned_layers_irrelevant'`): two layerings agreeing
          on the mentioned layers give the same class; conjunct 5 (`Pta.C05.unmentioned_layers_as_no_layer`): the class
          is the documented semantics of the layering that defines the mentioned layers only.  "however those layers
          were defined" holds for unmentioned REGEX layers; for unmentioned NAME layers the listed modules must still be
          unrelated to the modules of every other layer — otherwise `LayerMismatch`:
          `Pta.C05.unmentioned_related_layer_mismatch` (the English clause is FALSE without that restriction).
      (4) (report) conjunct 7 (`Pta.C05.layer_report_sound`): every reported import line is an import of the architecture
          whose two printed layer tags are the lookups of its ends and differ ("same layer never counts as violation").
      (5) (outside the domain) conjunct 8 (`Pta.C05.overlapping_layers_never_verdict`): if the layer mapping the rule uses
          assigns one module identifier to two layers, `assert_applies` raises and never returns a verdict.
    Not carried by a theorem (correspondence check only / outside the model):
      * layers listing RELATED modules in different layers: no oracle (the library raises `LayerMismatch` or gives an
        order-independent verdict, see C15.perm_layers), the documentation is silent.
      * the regex engine resolving a regex layer (`mt` is a parameter; `resolves` is a hypothesis). -/
def C05_Statement : Prop :=
  -- 1 `Pta.C05.layer_verdict`
  (∀ (mt : Str → Str → Bool) (a : Arch) (g : PGraph Str), GraphOf a g →
    a.wf = true → ∀ (ls : Layers) (r : LRuleSpec), layerDomain' a ls r = true →
    (r.anything = true → r.verb = .shouldNot) →
    ∀ (larch : LArch), resolves mt g.nodes larch ls = true →
    (assertAppliesLayer mt (compileLayerRule larch r) g).cls = VClass.ofBool (layerVerdict a ls r)) ∧
  -- 2 `Pta.C05.layer_verdict_kept`
  (∀ (mt : Str → Str → Bool) (a : Arch) (g : PGraph Str), GraphOf a g →
    a.wf = true → ∀ (ls : Layers) (r : LRuleSpec),
    (r.anything = true → r.verb = .shouldNot) →
    ∀ (larch : LArch), resolves mt g.nodes larch ls = true →
    layerDomainK a (ruleLayers larch ls r) r = true →
    (assertAppliesLayer mt (compileLayerRule larch r) g).cls = VClass.ofBool (layerVerdict a ls r)) ∧
  -- 3 `Pta.C05.layer_verdict_chain`
  (∀ (mt : Str → Str → Bool) (a : Arch) (g : PGraph Str), GraphOf a g →
    a.wf = true → ∀ (ls : Layers) (r : LRuleSpec), layerDomain' a ls r = true →
    (r.anything = true → r.verb = .shouldNot) →
    ∀ (larch : LArch), resolves mt g.nodes larch ls = true → ∀ (isList : Bool),
    (runLayerRuleOps mt (layerRuleOps larch r isList) g).1.cls = VClass.ofBool (layerVerdict a ls r)) ∧
  -- 4 `Pta.C05.unmentioned_layers_irrelevant'`
  (∀ (mt : Str → Str → Bool) (a : Arch) (g : PGraph Str), GraphOf a g →
    a.wf = true → ∀ (r : LRuleSpec), (r.anything = true → r.verb = .shouldNot) →
    ∀ (ls ls' : Layers) (larch larch' : LArch),
    resolves mt g.nodes larch ls = true → resolves mt g.nodes larch' ls' = true →
    layerDomainK a (ruleLayers larch ls r) r = true → layerDomainK a (ruleLayers larch' ls' r) r = true →
    ls.get r.subject = ls'.get r.subject → (r.anything = false → ∀ on ∈ r.objects, ls.get on = ls'.get on) →
    (assertAppliesLayer mt (compileLayerRule larch r) g).cls = (assertAppliesLayer mt (compileLayerRule larch' r) g).cls) ∧
  -- 5 `Pta.C05.unmentioned_layers_as_no_layer`
  (∀ (mt : Str → Str → Bool) (a : Arch) (g : PGraph Str), GraphOf a g →
    a.wf = true → ∀ (r : LRuleSpec), (r.anything = true → r.verb = .shouldNot) →
    ∀ (ls : Layers) (larch : LArch), resolves mt g.nodes larch ls = true →
    layerDomainK a (ruleLayers larch ls r) r = true →
    (assertAppliesLayer mt (compileLayerRule larch r) g).cls =
      VClass.ofBool (layerVerdict a (ls.filter fun l => l.1 == r.subject || (!r.anything && r.objects.contains l.1)) r)) ∧
  -- 6 `Pta.C05.layerOf_correct`
  (∀ (m : Layers), crossUnrelated m = true →
    (∀ l ∈ m, ∀ x ∈ l.2, nameWF x = true) → ∀ (n : Name), nameWF n = true →
    LayerMap.layerOf (m.map fun l => (l.1, l.2.map render)) (render n) = .ok (layerTag m n) ∧
    (∀ l ∈ m, inLayer l.2 n = true → layerTag m n = some l.1) ∧
    (∀ t, layerTag m n = some t → ∃ l ∈ m, l.1 = t ∧ inLayer l.2 n = true) ∧
    (∀ l ∈ m, ∀ l' ∈ m, inLayer l.2 n = true → inLayer l'.2 n = true → l.1 = l'.1)) ∧
  -- 7 `Pta.C05.layer_report_sound`
  (∀ (mt : Str → Str → Bool) (a : Arch) (g : PGraph Str), GraphOf a g →
    a.wf = true → ∀ (ls : Layers) (r : LRuleSpec), layerDomain' a ls r = true →
    (r.anything = true → r.verb = .shouldNot) →
    ∀ (larch : LArch), resolves mt g.nodes larch ls = true → ∀ (items : List LItem),
    assertAppliesLayer mt (compileLayerRule larch r) g = .fail items →
    ∀ u v b tu tv, LItem.imp u v b tu tv ∈ items →
      (∃ e ∈ a.imports, u = render e.1 ∧ v = render e.2) ∧ v ∈ g.importSuccs u ∧
      (ruleLayerMap mt g larch r).layerOf u = .ok tu ∧ (ruleLayerMap mt g larch r).layerOf v = .ok tv ∧ tu ≠ tv) ∧
  -- 8 `Pta.C05.overlapping_layers_never_verdict`
  (∀ (mt : Str → Str → Bool) (g : PGraph Str) (larch : LArch) (rule : RuleState)
    (l1 l2 : Str × List Str), l1 ∈ stateLayerMap mt g larch rule → l2 ∈ stateLayerMap mt g larch rule →
    ∀ (id : Str), id ∈ l1.2 → id ∈ l2.2 → l1.1 ≠ l2.1 →
    ∃ k, assertAppliesLayer mt ⟨some larch, some rule⟩ g = .err k) ∧
  -- 9 `Pta.E2E.scan_layer_verdict`
  (∀ (mt : Str → Str → Bool) (base root : Str) (mp : List Str) (entries : List Entry) (o : ScanOptions),
    treeWFFor (isExcluded mt o.exclusions) base mp entries = true → mpOK entries mp = true →
    compWF root = true →
    o.excludeExternal = true → o.levelLimit = none → o.externalExclusions.isEmpty = true →
    (∀ e ∈ entries, ∀ st ∈ e.stmts, stmtOK (toSStmt st) = true) →
    ∀ (is : List (Name × Name)),
    scanImports root (toSEntries (isExcluded mt o.exclusions) base entries) mp = some is →
    ∃ g, generateGraph mt base root mp entries o = .ok g ∧
      ∀ (mt' : Str → Str → Bool) (ls : Layers) (r : LRuleSpec) (larch : LArch),
        layerDomain' (Pta.E2E.scanArch root (toSEntries (isExcluded mt o.exclusions) base entries) mp is) ls r = true →
        (r.anything = true → r.verb = .shouldNot) →
        resolves mt' g.nodes larch ls = true →
        (assertAppliesLayer mt' (compileLayerRule larch r) g).cls =
          VClass.ofBool (layerVerdict (Pta.E2E.scanArch root (toSEntries (isExcluded mt o.exclusions) base entries) mp is) ls r))

theorem c05 : C05_Statement :=
  ⟨@Pta.C05.layer_verdict, @Pta.C05.layer_verdict_kept, @Pta.C05.layer_verdict_chain,
   @Pta.C05.unmentioned_layers_irrelevant', @Pta.C05.unmentioned_layers_as_no_layer, @Pta.C05.layerOf_correct,
   @Pta.C05.layer_report_sound, @Pta.C05.overlapping_layers_never_verdict, @Pta.E2E.scan_layer_verdict⟩

end C05

/-! ## C06 -/
section C06

/-- C06 — PlantUML diagrams parse to exactly their components, aliases and arrows.
    English statement (verbatim): "For every component diagram written in the documented subset (text outside
    @startuml/@enduml ignored; components declared as [name], component name, component [name], optionally 'as alias';
    dependencies written with -->, ->, <--, <-, -text-> or <-text- between bracketed names, bare names or aliases),
    parsing yields exactly the set of declared or referenced components, with every alias resolved to its component name,
    and exactly the dependor->dependee relation drawn, regardless of line order or of whether a component is referred to
    by alias in one line and by name in another. Component names may be single identifiers or fully qualified dotted
    module names; a file without the start/end tags is rejected with a parsing error."

    The documented subset is an abstract syntax `DLine` (Bridge/PumlRender.lean: `DeclForm` = the three declaration
    forms with optional alias; `ArrowForm` = the six arrow forms; `DRef` = bracketed name / bare name / alias) with a
    renderer `diagramText noise1 d noise2` and a meaning (`diagramComponents`, `diagramArrows`, aliases resolved).
    `diagramWF d`: names are `nameOK` (identifier characters and dots), aliases `wordOK`, arrow texts `textOK`, every
    alias used in an arrow is declared, the alias table is functional (an alias stands for one component) and no alias
    is itself written as a component name of the diagram, `component name` without brackets has no alias.

    Clause map:
      (1) "For every component diagram written in the documented subset (…) parsing yields exactly the set of declared or
          referenced components, with every alias resolved to its component name, and exactly the dependor->dependee
          relation drawn" — conjunct 1 (`Pta.C06.roundtrip`): for every `diagramWF d` and any noise (the trailing noise
          without a second `@enduml`: needed, `Pta.C06.second_end_tag_extends_body`), `pumlParse` succeeds, the module
          list is duplicate-free and is exactly `diagramComponents d`, `y ∈ deps[x]` iff `(x, y) ∈ diagramArrows d`,
          dictionary keys unique, value lists duplicate-free and non-empty.
      (2) "(text outside @startuml/@enduml ignored; …)" — conjunct 6 (`Pta.C06.body_of_text`): only the text between the
          tags survives; also the `noise1 noise2` quantifiers of conjunct 1.
      (3) "components declared as [name], component name, component [name], optionally 'as alias'" — conjunct 4
          (`Pta.C06.decl_line_modules`): each of the three forms declares exactly its component with its alias.
          "dependencies written with -->, ->, <--, <-, -text-> or <-text- between bracketed names, bare names or aliases"
          — conjunct 5 (`Pta.C06.arrow_line_dependency`): each of the six forms × nine reference-style combinations
          yields exactly one dependency in dependor → dependee orientation.
      (4) "regardless of line order or of whether a component is referred to by alias in one line and by name in another"
          — conjunct 3 (`Pta.C06.order_irrelevant`): a permutation of a well-formed diagram is well formed and parses to
          the same content (`Pta.C06.SameParse`); conjunct 2 (`Pta.C06.presentation_irrelevant`): two well-formed
          diagrams with the same meaning (whatever forms, reference styles, order, noise) parse to the same content.
      (5) "Component names may be single identifiers or fully qualified dotted module names" — `nameOK` admits dots; the
          quantifier of conjunct 1 (non-vacuity: `Pta.C06.sample`).
      (6) "a file without the start/end tags is rejected with a parsing error" — conjunct 7 (`Pta.C06.no_tags`).
      (7) (not in the English text; repaired defect) one alias declared for two components is rejected — conjunct 8
          (`Pta.C06.conflicting_alias_rejected`); and that is the only way a text with fine tags fails — conjunct 9
          (`Pta.C06.parse_error_iff`).
    Not carried by a theorem (correspondence check only / outside the model):
      * Python's `re` on the two PlantUML regexes: the line recognisers `lineModules` / `lineDependency` are hand
        transcriptions of those regexes.
      * diagrams OUTSIDE the subset (e.g. an alias written in brackets in an arrow line:
        `Pta.C06.bracketed_alias_outside_subset`; names with other characters): no claim. -/
def C06_Statement : Prop :=
  -- 1 `Pta.C06.roundtrip`
  (∀ (noise1 noise2 : Str) (d : List DLine), diagramWF d = true →
    isInfix "@enduml".toList noise2 = false →
    ∃ p, pumlParse (diagramText noise1 d noise2) = .ok p ∧
      p.modules.Nodup ∧ (∀ x, x ∈ p.modules ↔ x ∈ diagramComponents d) ∧
      (∀ x y, y ∈ p.depsOf x ↔ (x, y) ∈ diagramArrows d) ∧
      (p.dependencies.map (·.1)).Nodup ∧ (∀ kv ∈ p.dependencies, kv.2.Nodup ∧ kv.2 ≠ [])) ∧
  -- 2 `Pta.C06.presentation_irrelevant`
  (∀ (n1 n2 n1' n2' : Str) (d d' : List DLine),
    diagramWF d = true → diagramWF d' = true →
    isInfix "@enduml".toList n2 = false → isInfix "@enduml".toList n2' = false →
    (∀ x, x ∈ diagramComponents d ↔ x ∈ diagramComponents d') →
    (∀ e, e ∈ diagramArrows d ↔ e ∈ diagramArrows d') →
    ∃ p q, pumlParse (diagramText n1 d n2) = .ok p ∧ pumlParse (diagramText n1' d' n2') = .ok q ∧
      Pta.C06.SameParse p q) ∧
  -- 3 `Pta.C06.order_irrelevant`
  (∀ (n1 n2 : Str) (d d' : List DLine), d.Perm d' →
    diagramWF d = true → isInfix "@enduml".toList n2 = false →
    diagramWF d' = true ∧
    ∃ p q, pumlParse (diagramText n1 d n2) = .ok p ∧ pumlParse (diagramText n1 d' n2) = .ok q ∧
      Pta.C06.SameParse p q) ∧
  -- 4 `Pta.C06.decl_line_modules`
  (∀ (f : DeclForm) (n : Str) (al : Option Str), nameOK n = true →
    (∀ a, al = some a → wordOK a = true ∧ f ≠ .compBare) →
    lineModules (renderDecl f n al) = [⟨n, al⟩]) ∧
  -- 5 `Pta.C06.arrow_line_dependency`
  (∀ (f : ArrowForm) (a b : DRef), f.textOK = true →
    nameOK a.written = true → nameOK b.written = true →
    lineDependency (renderArrow f a b) = some (a.written, b.written)) ∧
  -- 6 `Pta.C06.body_of_text`
  (∀ (noise1 noise2 : Str) (d : List DLine), diagramWF d = true →
    isInfix "@enduml".toList noise2 = false →
    pumlBody (pyStrip (diagramText noise1 d noise2)) = .ok (diagramBody d)) ∧
  -- 7 `Pta.C06.no_tags`
  (∀ (content : Str),
    (isInfix "@startuml".toList content = false ∨ isInfix "@enduml".toList content = false) →
    pumlParse content = .error .pumlParsingError) ∧
  -- 8 `Pta.C06.conflicting_alias_rejected`
  (∀ (content body l1 l2 a x y : Str),
    pumlBody (pyStrip content) = .ok body → l1 ∈ splitLines body → l2 ∈ splitLines body →
    ⟨x, some a⟩ ∈ lineModules l1 → ⟨y, some a⟩ ∈ lineModules l2 → x ≠ y →
    pumlParse content = .error .pumlParsingError) ∧
  -- 9 `Pta.C06.parse_error_iff`
  (∀ (content body : Str), pumlBody (pyStrip content) = .ok body →
    (pumlParse content = .error .pumlParsingError ↔
      ∃ l1 ∈ splitLines body, ∃ l2 ∈ splitLines body, ∃ a x y,
        ⟨x, some a⟩ ∈ lineModules l1 ∧ ⟨y, some a⟩ ∈ lineModules l2 ∧ x ≠ y))

theorem c06 : C06_Statement :=
  ⟨@Pta.C06.roundtrip, @Pta.C06.presentation_irrelevant, @Pta.C06.order_irrelevant, @Pta.C06.decl_line_modules,
   @Pta.C06.arrow_line_dependency, @Pta.C06.body_of_text, @Pta.C06.no_tags, @Pta.C06.conflicting_alias_rejected,
   @Pta.C06.parse_error_iff⟩

end C06

/-! ## C07 -/
section C07
open PtaSpec

/-- C07 — DiagramRule passes exactly when the imports conform to the diagram.
    English statement (verbatim): "For every parsed diagram and every architecture containing its components,
    DiagramRule.assert_applies passes exactly when, for every ordered pair of distinct components (a, b), a imports b if
    the diagram draws a->b and a does not import b otherwise, and additionally (in the default should-only mode) no
    component that has outgoing arrows imports anything outside its drawn targets and itself. When it fails, the error
    aggregates the messages of all violated pairwise rules rather than stopping at the first, and with_base_module(p)
    behaves exactly like writing every component as p.name."

    Domain `diagramDomain a d` (PtaSpec/DiagramSem.lean): `a.wf`, components distinct, pairwise unrelated and present in
    the architecture, arrows between distinct components.  `conforms a d so` is the quoted condition (`so` = should-only
    mode).

    Clause map:
      (1) "For every parsed diagram and every architecture containing its components, DiagramRule.assert_applies passes
          exactly when [conforms]" — conjunct 1 (`Pta.C07.conforms_iff_of_graph`): on every `GraphOf a g`, both modes,
          `applyAll mt g (diagramRules so (parsedOf d)) = .pass ↔ conforms a d so = true`, under `diagramDomain a d`;
          conjunct 2 (`Pta.C07.fails_iff_not_conforms`): on the constructor's graph it FAILS (AssertionError, never
          another error) exactly when the imports do not conform.  From the diagram FILE (C06 ∘ C07): conjunct 7
          (`Pta.C07.diagram_file_conforms_iff`) and conjunct 8 (`Pta.C07.diagram_file_never_errs`), for every `diagramWF`
          line list rendered with any noise, with `diagramDomain a (specDiagram d)`; on SCANNED architectures: conjunct
          11 (`Pta.E2E.scan_diagram_file_conforms`).
      (2) "for every ordered pair of distinct components (a, b), a imports b if the diagram draws a->b and a does not
          import b otherwise, and additionally (in the default should-only mode) no component that has outgoing arrows
          imports anything outside its drawn targets and itself" — this is the DEFINITION of `PtaSpec.conforms`
          (PtaSpec/DiagramSem.lean); carried through it by conjunct 1.
      (3) "When it fails, the error aggregates the messages of all violated pairwise rules rather than stopping at the
          first" — conjunct 3 (`Pta.C07.aggregates_all`): if no rule errs, the items are the concatenation, in rule order,
          of the items of ALL failing rules; conjunct 4 (`Pta.C07.first_error_propagates`): a non-AssertionError
          exception of a rule propagates at once; conjunct 10 (`Pta.C07.diagram_file_report`): the report of the FILE
          check is that of the rules generated from `parsedOf (specDiagram d)` up to `sameItems` (same lines as sets, a
          "does not import" line listing its objects in any order — literal equality is not guaranteed:
          `Pta.C07.report_lists_objects_in_dict_order`).
          The aggregated message as TEXT (Props/C07Text.lean; `applyAllText` / `diagramAssertText`,
          PtaModel/DiagramText.lean, transcribe `MultipleRuleApplier.assert_applies`:
          `AssertionError("\n".join(error_messages))`) — conjunct 12 (`Pta.C07.aggregated_text_eq`): for every graph
          and every list of rule objects the outcome is the error `k` iff some rule raises `k` and no rule before it
          raises; if no rule raises: pass iff every rule passes, and `AssertionError(text)` iff some rule fails, `text`
          being the '\n'-join, in rule order, of the messages of ALL failing rules — none skipped, none added;
          conjunct 13 (`Pta.C07.aggregated_text_items`): same verdict class as the item-valued `applyAll`; the text is
          the '\n'-join of the lines `aggLines`, which are, rule by rule, the rendered report items (C03) of the failing
          rules, as a set the renderings of `applyAll`'s items, and literally `splitLines text` when no line contains a
          newline; conjunct 14 (`Pta.C07.diagram_text_is_aggregation`): `DiagramRule.assert_applies` with text: no file
          — ImproperlyConfigured, a file that does not parse — the parser's error, a component (base module prefixed)
          that is not a module of the architecture — a lookup error (repair of F-C13c, see C13), otherwise this
          aggregation over the generated rules (base module prefixed); same class as `diagramAssert`.
      (4) "with_base_module(p) behaves exactly like writing every component as p.name" — conjunct 5
          (`Pta.C07.base_module`): the rules generated after `with_base_module(q)` are the rules generated without it with
          every name `m` replaced by `q.m`, for EVERY parse result; conjunct 6 (`Pta.C07.base_module_diagram`): … which is
          the parse result of the diagram drawn with `q.name`; conjunct 9 (`Pta.C07.diagram_file_base_conforms_iff`): the
          file check with base module passes iff the imports conform to `prefixDiagram q (specDiagram d)`, never errs.
    Not carried by a theorem (correspondence check only / outside the model):
      * that `str(AssertionError)` of `MultipleRuleApplier` is `applyAllText`'s text and that `e.args[0]` of a failing
        rule is `messageText` of its lines: transcriptions, checked by the correspondence runs (the aggregation of the
        texts itself IS carried, conjuncts 12–14; the text of each single rule is C03).
      * the text is in RULE order, not globally sorted or de-duplicated (per-rule blocks; see C15 conjuncts 15–17 for
        what that means under permuted diagram lines).
      * diagrams outside `diagramDomain` (related components, components missing from the architecture — the latter
        raise a lookup error by C13 / `Pta.C15.generated_rules_raise_lookup_only`, not stated here). -/
def C07_Statement : Prop :=
  -- 1 `Pta.C07.conforms_iff_of_graph`
  (∀ (mt : Str → Str → Bool) (a : Arch) (g : PGraph Str), GraphOf a g → ∀ (d : Diagram)
    (so : Bool), diagramDomain a d = true →
    (applyAll mt g (diagramRules so (parsedOf d)) = .pass ↔ conforms a d so = true)) ∧
  -- 2 `Pta.C07.fails_iff_not_conforms`
  (∀ (mt : Str → Str → Bool) (a : Arch) (d : Diagram) (so : Bool),
    diagramDomain a d = true →
    ((∃ items, applyAll mt (archGraph a) (diagramRules so (parsedOf d)) = .fail items) ↔ conforms a d so = false)) ∧
  -- 3 `Pta.C07.aggregates_all`
  (∀ (mt : Str → Str → Bool) (g : PGraph Str) (rs : List RuleState),
    (∀ r ∈ rs, ∀ k, (assertApplies mt r g).2 ≠ .err k) →
    (applyAll mt g rs = .pass ↔ ∀ r ∈ rs, (assertApplies mt r g).2 = .pass) ∧
    (∀ items, applyAll mt g rs = .fail items ↔
      (∃ r ∈ rs, ∃ its, (assertApplies mt r g).2 = .fail its) ∧
      items = (rs.filter fun r => (assertApplies mt r g).2.isFail).flatMap fun r => (assertApplies mt r g).2.items) ∧
    (∀ k, applyAll mt g rs ≠ .err k)) ∧
  -- 4 `Pta.C07.first_error_propagates`
  (∀ (mt : Str → Str → Bool) (g : PGraph Str) (pre post : List RuleState) (r : RuleState)
    (k : ErrKind), (∀ r' ∈ pre, ∀ k', (assertApplies mt r' g).2 ≠ .err k') →
    (assertApplies mt r g).2 = .err k →
    applyAll mt g (pre ++ r :: post) = .err k) ∧
  -- 5 `Pta.C07.base_module`
  (∀ (so : Bool) (p : Parsed') (q : Str),
    diagramRules so (prefixParsed p (some q)) = (diagramRules so p).map (prefixRule q)) ∧
  -- 6 `Pta.C07.base_module_diagram`
  (∀ (q : Name) (d : Diagram), q ≠ [] →
    (∀ c ∈ d.components, c ≠ []) → (∀ e ∈ d.arrows, e.1 ≠ [] ∧ e.2 ≠ []) →
    prefixParsed (parsedOf d) (some (render q)) = parsedOf (prefixDiagram q d)) ∧
  -- 7 `Pta.C07.diagram_file_conforms_iff`
  (∀ (mt : Str → Str → Bool) (a : Arch) (noise1 noise2 : Str)
    (d : List DLine), diagramWF d = true → isInfix "@enduml".toList noise2 = false → ∀ (so : Bool),
    diagramDomain a (specDiagram d) = true →
    (diagramAssert mt (some (diagramText noise1 d noise2)) none so (archGraph a) = .pass ↔
      conforms a (specDiagram d) so = true)) ∧
  -- 8 `Pta.C07.diagram_file_never_errs`
  (∀ (mt : Str → Str → Bool) (a : Arch) (noise1 noise2 : Str)
    (d : List DLine), diagramWF d = true → isInfix "@enduml".toList noise2 = false → ∀ (so : Bool),
    diagramDomain a (specDiagram d) = true → ∀ (k : ErrKind),
    diagramAssert mt (some (diagramText noise1 d noise2)) none so (archGraph a) ≠ .err k) ∧
  -- 9 `Pta.C07.diagram_file_base_conforms_iff`
  (∀ (mt : Str → Str → Bool) (a : Arch) (noise1 noise2 : Str)
    (d : List DLine), diagramWF d = true → isInfix "@enduml".toList noise2 = false →
    ∀ (q : Name), q ≠ [] → ∀ (so : Bool), diagramDomain a (prefixDiagram q (specDiagram d)) = true →
    (diagramAssert mt (some (diagramText noise1 d noise2)) (some (render q)) so (archGraph a) = .pass ↔
      conforms a (prefixDiagram q (specDiagram d)) so = true) ∧
    (∀ k, diagramAssert mt (some (diagramText noise1 d noise2)) (some (render q)) so (archGraph a) ≠ .err k)) ∧
  -- 10 `Pta.C07.diagram_file_report`
  (∀ (mt : Str → Str → Bool) (a : Arch) (noise1 noise2 : Str)
    (d : List DLine), diagramWF d = true → isInfix "@enduml".toList noise2 = false → ∀ (so : Bool),
    diagramDomain a (specDiagram d) = true →
    (diagramAssert mt (some (diagramText noise1 d noise2)) none so (archGraph a)).cls =
      (applyAll mt (archGraph a) (diagramRules so (parsedOf (specDiagram d)))).cls ∧
    sameItems (diagramAssert mt (some (diagramText noise1 d noise2)) none so (archGraph a)).items
      (applyAll mt (archGraph a) (diagramRules so (parsedOf (specDiagram d)))).items = true) ∧
  -- 11 `Pta.E2E.scan_diagram_file_conforms`
  (∀ (mt : Str → Str → Bool) (base root : Str) (mp : List Str) (entries : List Entry) (o : ScanOptions),
    treeWFFor (isExcluded mt o.exclusions) base mp entries = true → mpOK entries mp = true →
    compWF root = true →
    o.excludeExternal = true → o.levelLimit = none → o.externalExclusions.isEmpty = true →
    (∀ e ∈ entries, ∀ st ∈ e.stmts, stmtOK (toSStmt st) = true) →
    ∀ (is : List (Name × Name)),
    scanImports root (toSEntries (isExcluded mt o.exclusions) base entries) mp = some is →
    ∃ g, generateGraph mt base root mp entries o = .ok g ∧
      ∀ (mt' : Str → Str → Bool) (noise1 noise2 : Str) (d : List DLine), diagramWF d = true →
        isInfix "@enduml".toList noise2 = false → ∀ (so : Bool),
        diagramDomain (Pta.E2E.scanArch root (toSEntries (isExcluded mt o.exclusions) base entries) mp is) (specDiagram d) = true →
        (diagramAssert mt' (some (diagramText noise1 d noise2)) none so g = .pass ↔
          conforms (Pta.E2E.scanArch root (toSEntries (isExcluded mt o.exclusions) base entries) mp is) (specDiagram d) so = true) ∧
        (∀ k, diagramAssert mt' (some (diagramText noise1 d noise2)) none so g ≠ .err k)) ∧
  -- 12 `Pta.C07.aggregated_text_eq`
  (∀ (mt : Str → Str → Bool) (g : PGraph Str) (rs : List RuleState),
    (∀ k, applyAllText mt g rs = .err k ↔
      ∃ pre r post, rs = pre ++ r :: post ∧ (∀ r' ∈ pre, ∀ k', (assertAppliesText mt r' g).2 ≠ .err k') ∧
        (assertAppliesText mt r g).2 = .err k) ∧
    ((∀ r ∈ rs, ∀ k, (assertAppliesText mt r g).2 ≠ .err k) →
      (applyAllText mt g rs = .pass ↔ ∀ r ∈ rs, (assertAppliesText mt r g).2 = .pass) ∧
      (∀ text, applyAllText mt g rs = .fail text ↔
        (∃ r ∈ rs, ∃ lines, (assertAppliesText mt r g).2 = .fail lines) ∧
        text = joinWith ['\n'] ((rs.filter fun r => (assertAppliesText mt r g).2.isFail).map fun r =>
          messageText (assertAppliesText mt r g).2.lines)))) ∧
  -- 13 `Pta.C07.aggregated_text_items`
  (∀ (mt : Str → Str → Bool) (g : PGraph Str) (rs : List RuleState),
    (applyAllText mt g rs).cls = (applyAll mt g rs).cls ∧
    ∀ text, applyAllText mt g rs = .fail text →
      text = messageText (aggLines mt g rs) ∧ aggLines mt g rs ≠ [] ∧
      aggLines mt g rs = ((rs.filter fun r => (assertApplies mt r g).2.isFail).flatMap fun r =>
        renderItems (assertApplies mt r g).2.items) ∧
      (∀ line, line ∈ aggLines mt g rs ↔ ∃ x ∈ (applyAll mt g rs).items, renderItem x = line) ∧
      ((∀ l ∈ aggLines mt g rs, '\n' ∉ l) → splitLines text = aggLines mt g rs)) ∧
  -- 14 `Pta.C07.diagram_text_is_aggregation`
  (∀ (mt : Str → Str → Bool) (g : PGraph Str) (base : Option Str) (so : Bool),
    diagramAssertText mt none base so g = .err .improperlyConfigured ∧
    (∀ c k, pumlParse c = .error k → diagramAssertText mt (some c) base so g = .err k) ∧
    (∀ c p, pumlParse c = .ok p → diagramMissing (prefixParsed p base) g = true →
      diagramAssertText mt (some c) base so g = .err .lookupError) ∧
    (∀ c p, pumlParse c = .ok p → diagramMissing (prefixParsed p base) g = false →
      diagramAssertText mt (some c) base so g = applyAllText mt g (diagramRules so (prefixParsed p base))) ∧
    (∀ content, (diagramAssertText mt content base so g).cls = (diagramAssert mt content base so g).cls))

theorem c07 : C07_Statement :=
  ⟨@Pta.C07.conforms_iff_of_graph, @Pta.C07.fails_iff_not_conforms, @Pta.C07.aggregates_all,
   @Pta.C07.first_error_propagates, @Pta.C07.base_module, @Pta.C07.base_module_diagram,
   @Pta.C07.diagram_file_conforms_iff, @Pta.C07.diagram_file_never_errs, @Pta.C07.diagram_file_base_conforms_iff,
   @Pta.C07.diagram_file_report, @Pta.E2E.scan_diagram_file_conforms,
   @Pta.C07.aggregated_text_eq, @Pta.C07.aggregated_text_items, @Pta.C07.diagram_text_is_aggregation⟩

end C07

/-! ## C08 -/
section C08
open PtaSpec

/-- C08 — Exclusions remove exactly the matching files/directories, nothing else.
    English statement (verbatim): "A file or directory whose path matches an exclusion pattern, and everything below an
    excluded directory, contributes no module and no import; every other module and every import between two remaining
    modules is exactly as in the scan without that pattern. A glob-style pattern means: literal text matched in full, with
    a leading * allowing any prefix and a trailing * allowing any suffix, all other characters (including regex
    metacharacters) taken literally; regex_exclusions are applied as regular expressions anchored at the start of the
    path."

    Setting of conjuncts 3–8: one tree scanned under two exclusion tests with `excl0 p → excl p` (the second has more
    patterns; `Pta.C08.more_patterns_exclude_more`, conjunct 9, says adding patterns gives this).  `Survives excl0 base mp
    e`: the entry was scanned before; `Clear excl base mp e`: no path from `module_path` down to `e` (its own path and
    every directory above it) matches.

    Clause map:
      (1) "A file or directory whose path matches an exclusion pattern, and everything below an excluded directory,
          contributes no module" — conjunct 7 (`Pta.C08.excluded_contributes_no_module`, under `treeWFFor excl0`, `mpOK`,
          `compWF root`: a matching path at ANY level `k` between `module_path` and the entry removes the entry's module).
      (2) "every other module … is exactly as in the scan without that pattern" — conjunct 8
          (`Pta.C08.unexcluded_module_remains`) and the equivalences conjunct 3 (`Pta.C08.exclusion_exact_modules`,
          through entries, under `treeShape`, `mpOK`), conjunct 5 (`Pta.C08.exclusion_exact_modules_opts`, through module
          names, for option records differing only in `exclusions`).
      (3) "… and no import; … every import between two remaining modules is exactly as in the scan without that pattern"
          — conjunct 4 (`Pta.C08.exclusion_exact_files`): the parsed files (the sources of imports) are exactly the `Clear`
          ones, each with its statements; conjunct 6 (`Pta.C08.exclusion_exact_imports`): default options, `stmtOK`
          statements: the import pairs of the second graph are EXACTLY the import pairs of the first between nodes of
          the second — under the carve-out `carveOut` (Bridge/ScanExcl.lean), which is NEEDED:
          `Pta.C08.carve_out_needed` (excluding `P/n.py` turns the target of `from P import n` from `P.n` into `P`, an
          import between two remaining modules that the scan without the pattern does not have; the real library
          behaves the same way).  So the English clause holds only under the carve-out.
      (4) "A glob-style pattern means: literal text matched in full, with a leading * allowing any prefix and a trailing *
          allowing any suffix, all other characters (including regex metacharacters) taken literally" — conjunct 1
          (`Pta.C08.glob_spec`): matching the converted pattern `convertPartialMatch p` against `s` (by the model's
          interpreter `matchEmitted` of the emitted regex class: escaped literal with optional `.*` ends and `$`) always
          succeeds with `globSpec p s`; conjunct 2 (`Pta.C08.glob_meaning`): `globSpec` IS the independent meaning
          `PtaSpec.globMeaning` (PtaSpec/GlobSem.lean), for ALL patterns and subjects, `"*"`, `"**"`, `""` included.
      (5) "the scan without that pattern" EXISTS (repaired defect F-C08a, fix c0bb7ac) — the reference scan of (2), (3)
          for a single pattern is the call with `exclusions=()` and no `regex_exclusions`.  Conjunct 10
          (`Pta.C08.no_type_error`): the path entry point `getEvaluableArchitecture` never ends in the `TypeError`
          branch, whatever the options, paths and file system; conjunct 11 (`Pta.C08.no_patterns_scan`): with
          `exclusions = []` and `regexExclusions = none` the scan options carry the EMPTY regex list, which excludes no
          path.  Before the repair the pattern value handed to the file filter was `None`
          (`Pta.C08.no_patterns_before_repair`: `filePatternsBeforeRepair = none`, now `some (.regexes [])`).
    Not carried by a theorem (correspondence check only / outside the model):
      * "regex_exclusions are applied as regular expressions anchored at the start of the path": `re.match` is the
        uninterpreted parameter `mt` (`isExcluded mt (.regexes rs) s = rs.any (mt · s)`); anchoring is a property of
        Python's `re.match`, not of the model.
      * that Python's `re` interprets the emitted pattern (`re.escape` output, `.*`, `$`) as `matchEmitted` does.
      * the path STRING the patterns are matched against (`str(path)`; `pathStr base rel` in the model). -/
def C08_Statement : Prop :=
  -- 1 `Pta.C08.glob_spec`
  (∀ (p s : Str), matchEmitted (convertPartialMatch p) s = some (globSpec p s)) ∧
  -- 2 `Pta.C08.glob_meaning`
  (∀ (p s : Str), globSpec p s = true ↔ globMeaning p s) ∧
  -- 3 `Pta.C08.exclusion_exact_modules`
  (∀ (excl0 excl : Str → Bool), (∀ p, excl0 p = true → excl p = true) →
    ∀ (base root : Str) (mp : List Str) (entries : List Entry),
    treeShape entries = true → mpOK entries mp = true → ∀ (x : Str),
    x ∈ (walkFrom excl base root mp entries).allModules ↔
      ∃ e ∈ rootEntry :: entries, Survives excl0 base mp e ∧ Clear excl base mp e ∧ x = moduleName root e.rel) ∧
  -- 4 `Pta.C08.exclusion_exact_files`
  (∀ (excl0 excl : Str → Bool), (∀ p, excl0 p = true → excl p = true) →
    ∀ (base root : Str) (mp : List Str) (entries : List Entry),
    treeShape entries = true → mpOK entries mp = true → ∀ (y : Str × List ImportStmt),
    y ∈ (walkFrom excl base root mp entries).files ↔
      ∃ e ∈ entries, e.isDir = false ∧ Survives excl0 base mp e ∧ Clear excl base mp e ∧
        y = (moduleName root e.rel, e.stmts)) ∧
  -- 5 `Pta.C08.exclusion_exact_modules_opts`
  (∀ (mt : Str → Str → Bool) (base root : Str) (mp : List Str) (entries : List Entry) (o0 : ScanOptions)
    (ps : Patterns), (∀ p, isExcluded mt o0.exclusions p = true → isExcluded mt ps p = true) →
    treeWFFor (isExcluded mt o0.exclusions) base mp entries = true →
    mpOK entries mp = true → compWF root = true → ∀ (x : Str),
    x ∈ (scanParsed mt base root mp entries (o0.withExclusions ps)).allModules ↔
      x ∈ (scanParsed mt base root mp entries o0).allModules ∧
      ∀ e ∈ rootEntry :: entries, Survives (isExcluded mt o0.exclusions) base mp e → moduleName root e.rel = x →
        Clear (isExcluded mt ps) base mp e) ∧
  -- 6 `Pta.C08.exclusion_exact_imports`
  (∀ (mt : Str → Str → Bool) (base root : Str) (mp : List Str) (entries : List Entry) (o0 : ScanOptions)
    (ps : Patterns), (∀ p, isExcluded mt o0.exclusions p = true → isExcluded mt ps p = true) →
    treeWFFor (isExcluded mt o0.exclusions) base mp entries = true →
    mpOK entries mp = true → compWF root = true →
    o0.excludeExternal = true → o0.levelLimit = none → o0.externalExclusions.isEmpty = true →
    (∀ e ∈ entries, ∀ st ∈ e.stmts, stmtOK (toSStmt st) = true) →
    carveOut root (toSEntries (isExcluded mt o0.exclusions) base entries)
      (toSEntries (isExcluded mt ps) base entries) mp = true →
    ∀ (g0 : PGraph Str), generateGraph mt base root mp entries o0 = .ok g0 →
    ∃ g, generateGraph mt base root mp entries (o0.withExclusions ps) = .ok g ∧
      ∀ u v, (u, v) ∈ g.importPairs ↔ (u, v) ∈ g0.importPairs ∧ u ∈ g.nodes ∧ v ∈ g.nodes) ∧
  -- 7 `Pta.C08.excluded_contributes_no_module`
  (∀ (excl0 excl : Str → Bool), (∀ p, excl0 p = true → excl p = true) →
    ∀ (base root : Str) (mp : List Str) (entries : List Entry),
    treeWFFor excl0 base mp entries = true → mpOK entries mp = true →
    compWF root = true → ∀ (e : Entry), e ∈ rootEntry :: entries → Survives excl0 base mp e →
    ∀ (k : Nat), mp.length ≤ k → k ≤ e.rel.length → excl (pathStr base (e.rel.take k)) = true →
    moduleName root e.rel ∉ (walkFrom excl base root mp entries).allModules) ∧
  -- 8 `Pta.C08.unexcluded_module_remains`
  (∀ (excl0 excl : Str → Bool), (∀ p, excl0 p = true → excl p = true) →
    ∀ (base root : Str) (mp : List Str) (entries : List Entry),
    treeShape entries = true → mpOK entries mp = true →
    ∀ (e : Entry), e ∈ rootEntry :: entries → Survives excl0 base mp e → Clear excl base mp e →
    moduleName root e.rel ∈ (walkFrom excl base root mp entries).allModules) ∧
  -- 9 `Pta.C08.more_patterns_exclude_more`
  (∀ (mt : Str → Str → Bool) (a b c : Patterns), a.add b = some c → ∀ (s : Str),
    isExcluded mt c s = (isExcluded mt a s || isExcluded mt b s)) ∧
  -- 10 `Pta.C08.no_type_error`
  (∀ (mt : Str → Str → Bool) (fs : Str → List Entry) (rootPath modulePath : Str) (a : EntryArgs),
    getEvaluableArchitecture mt fs rootPath modulePath a ≠ .error .typeError) ∧
  -- 11 `Pta.C08.no_patterns_scan`
  (∀ (mt : Str → Str → Bool) (a : EntryArgs), a.exclusions = [] → a.regexExclusions = none →
    (a.scanOptions.map (·.exclusions)) = some (.regexes []) ∧
    ∀ s, isExcluded mt (.regexes []) s = false)

theorem c08 : C08_Statement :=
  ⟨@Pta.C08.glob_spec, @Pta.C08.glob_meaning, @Pta.C08.exclusion_exact_modules, @Pta.C08.exclusion_exact_files,
   @Pta.C08.exclusion_exact_modules_opts, @Pta.C08.exclusion_exact_imports, @Pta.C08.excluded_contributes_no_module,
   @Pta.C08.unexcluded_module_remains, @Pta.C08.more_patterns_exclude_more,
   @Pta.C08.no_type_error, @Pta.C08.no_patterns_scan⟩

end C08

/-! ## C09 -/
section C09
open PtaSpec

/-- C09 — level_limit yields the quotient graph and preserves verdicts above the limit.
    English statement (verbatim): "With level_limit=k the architecture is exactly the full architecture with every module
    name truncated to k levels below module_path: modules are the truncated names, and a imports b exactly when some
    module truncating to a imports some module truncating to b and a differs from b. Consequently every rule whose named
    modules lie at or above level k (and whose 'sub modules of' parents lie strictly above it) has the same verdict on the
    flattened and on the full architecture."

    Clause map:
      (1) "With level_limit=k the architecture is exactly the full architecture with every module name truncated …:
          modules are the truncated names, and a imports b exactly when some module truncating to a imports some module
          truncating to b and a differs from b"
          — graph constructor level: conjunct 1 (`Pta.C09.quotient`): for every well-formed `a` and every limit,
          `QuotientOf a lim (archGraphLim a lim)` (Bridge/Abs.lean: nodes = truncated names, hierarchy edge between
          a truncated name and its parent, import edge exactly as quoted); conjuncts 2, 3
          (`Pta.C09.graph_of_quotient_arch`, `Pta.C09.quotient_arch_wf`): the flattened graph is a graph of the
          well-formed quotient architecture `truncArch lim a`, so C01/C05 apply to it.
          — scan level (`generate_graph(level_limit=k)` against `level_limit=None`; NO hypothesis on tree, names,
          statements; externals may be included): conjunct 6 (`Pta.C09.scan_error_indep`): the scan fails with or
          without limit alike; conjunct 7 (`Pta.C09.scan_quotient_nodes`): nodes = flattened nodes; conjunct 8
          (`Pta.C09.scan_quotient_hier`): hierarchy edges; conjunct 9 (`Pta.C09.scan_quotient_imports`): `(a, b)` is an
          import pair of the limited graph iff `a ≠ b`, `(a, b)` is not a parent→child pair (`isHierPair`: such a pair
          stays the hierarchy edge — the collision `x.py` next to a directory `x`, `Pta.C09.CollEx.collision_facts`) and
          some import pair of the full graph flattens to it; conjunct 10 (`Pta.C09.scan_quotient_imports_clean`): the
          property text VERBATIM (no `isHierPair` clause) when no import leads from a module into its own sub tree
          (`noDownwardImports g0`).  (Before the repair of `_is_import_between_known_modules` a dangling import broke
          this: `Pta.C09.scan_quotient_imports_dangling_fixed`.)
          — on SCANNED trees: conjunct 12 (`Pta.E2E.scan_quotient_of_scanArch`): with `levelLimit = some k` (other options
          default, `treeWFFor`) the scan graph is the quotient of the specification architecture of the tree.
      (2) "truncated to k levels below module_path" — conjunct 11 (`Pta.C09.flatten_is_truncation`): the constructor's
          limit is `k + len(module_path)`, so `root.mp.rest` keeps the first `k` components of `rest`.
      (3) "Consequently every rule whose named modules lie at or above level k (and whose 'sub modules of' parents lie
          strictly above it) has the same verdict on the flattened and on the full architecture" — conjunct 4
          (`Pta.C09.verdict_preserved`) and conjunct 5 (`Pta.C09.verdict_lim_spec`: both equal the documented semantics
          on the FULL architecture), for STRICT rules (`r.strict`: subjects and objects pairwise unrelated) with
          `ruleAbove k r` (`are_named x`: at most k+1 components; `are_sub_modules_of x`: at most k); on scanned trees
          conjunct 13 (`Pta.E2E.scan_rule_verdict_limit`, bound `ruleAbove (k + |mp|)`).  Strictness is NEEDED: for
          related identifiers the verdict is not preserved (`Pta.C09.verdict_not_preserved_related`) — so "every rule"
          of the English text is false; the theorem is about strict rules.
      (4) "every rule …" for LAYER rules (Props/C09Layer.lean) — conjunct 14 (`Pta.C09.layer_verdict_preserved`): for a
          well-formed `a`, a layer rule in the domain of C05 (`layerDomain' a ls r`, `ls` = `larch` resolved on the FULL
          graph; name and regex layers) and a limit `k` such that every listed module of every layer THE RULE MENTIONS
          has at most `k + 1` components (`ruleLayersAbove k ls r`; unmentioned layers may lie deeper:
          `Pta.C09.unmentioned_deep_layers`), `LayerRule.assert_applies` has the same verdict class on
          `archGraphLim a (some k)` and on `archGraph a`; conjunct 15 (`Pta.C09.layer_verdict_lim_spec`): namely the
          documented layer semantics on the FULL architecture, never an error.  Nothing is assumed about the flattened
          graph (a regex layer may resolve there in another order: `Pta.C09.regex_resolution_order_differs`).  The
          depth condition is NEEDED: `Pta.C09.layer_verdict_not_preserved_deep` (a listed module of a mentioned layer
          below the limit is no node of the flattened graph; the rule raises).  Specification side:
          `Pta.C09.layer_spec_verdict_preserved`, `layer_domain_transfers`.  On SCANNED trees: conjunct 19
          (`Pta.C09.scan_layer_verdict_preserved`, bound `ruleLayersAbove (k + |mp|)`, layers resolved on the unlimited
          scan graph).
      (5) "every rule …" for DIAGRAM rules — conjunct 16 (`Pta.C09.diagram_verdict_preserved`) and conjunct 17
          (`Pta.C09.diagram_verdict_lim_spec`): for `diagramDomain a d` with every component of at most `k + 1`
          components (`diagramAbove k d`) the generated rules applied by `MultipleRuleApplier` have the same outcome
          class on the flattened and on the full graph: pass iff the imports of the FULL architecture conform, fail
          otherwise, never an error; conjunct 18 (`Pta.C09.diagram_file_verdict_preserved`): from the diagram FILE
          (C06 ∘ C07 ∘ C09); on SCANNED trees conjunct 20 (`Pta.C09.scan_diagram_verdict_preserved`).  Needed:
          `Pta.C09.diagram_verdict_not_preserved_deep` (limit 0: the components are no nodes; lookup error).
          Specification side: `Pta.C09.conforms_preserved`, `diagram_domain_transfers`.
    Not carried by a theorem (correspondence check only / outside the model):
      * verdict preservation for non-strict `parentFree` MODULE rules (false in general for related identifiers:
        `Pta.C09.verdict_not_preserved_related`; no theorem delimits the non-strict rules for which it holds).
      * for layer / diagram rules: only the verdict CLASS is preserved (conjuncts 14–20); the report / message on the
        flattened graph names flattened modules and is not related to the full one by a theorem; `with_base_module`
        under a limit is not stated. -/
def C09_Statement : Prop :=
  -- 1 `Pta.C09.quotient`
  (∀ (a : Arch), a.wf = true → ∀ (lim : Option Nat), QuotientOf a lim (archGraphLim a lim)) ∧
  -- 2 `Pta.C09.graph_of_quotient_arch`
  (∀ (a : Arch), a.wf = true → ∀ (lim : Option Nat), GraphOf (truncArch lim a) (archGraphLim a lim)) ∧
  -- 3 `Pta.C09.quotient_arch_wf`
  (∀ (a : Arch), a.wf = true → ∀ (lim : Option Nat), (truncArch lim a).wf = true) ∧
  -- 4 `Pta.C09.verdict_preserved`
  (∀ (mt : Str → Str → Bool) (a : Arch), a.wf = true → ∀ (k : Nat)
    (r : RuleSpec), r.strict = true → r.namesIn a = true →
    r.subjects ≠ [] → (r.anything = true ∨ r.objects ≠ []) →
    (r.anything = true → r.verb = .shouldNot) →
    ruleAbove k r = true →
    verdictOf mt (archGraphLim a (some k)) (compile r) = verdictOf mt (archGraph a) (compile r)) ∧
  -- 5 `Pta.C09.verdict_lim_spec`
  (∀ (mt : Str → Str → Bool) (a : Arch), a.wf = true → ∀ (k : Nat)
    (r : RuleSpec), r.strict = true → r.namesIn a = true →
    r.subjects ≠ [] → (r.anything = true ∨ r.objects ≠ []) →
    (r.anything = true → r.verb = .shouldNot) →
    ruleAbove k r = true →
    verdictOf mt (archGraphLim a (some k)) (compile r) = VClass.ofBool (verdict a r)) ∧
  -- 6 `Pta.C09.scan_error_indep`
  (∀ (mt : Str → Str → Bool) (base rootName : Str) (mp : List Str) (entries : List Entry)
    (o : ScanOptions) (e : ErrKind),
    generateGraph mt base rootName mp entries o = .error e ↔
      generateGraph mt base rootName mp entries o.noLimit = .error e) ∧
  -- 7 `Pta.C09.scan_quotient_nodes`
  (∀ (mt : Str → Str → Bool) (base rootName : Str) (mp : List Str) (entries : List Entry)
    (o : ScanOptions) (g g0 : PGraph Str),
    generateGraph mt base rootName mp entries o = .ok g →
    generateGraph mt base rootName mp entries o.noLimit = .ok g0 → ∀ (s : Str),
    s ∈ g.nodes ↔ ∃ n ∈ g0.nodes, s = flattenNode (shiftedLimit o mp) n) ∧
  -- 8 `Pta.C09.scan_quotient_hier`
  (∀ (mt : Str → Str → Bool) (base rootName : Str) (mp : List Str) (entries : List Entry)
    (o : ScanOptions) (g g0 : PGraph Str),
    generateGraph mt base rootName mp entries o = .ok g →
    generateGraph mt base rootName mp entries o.noLimit = .ok g0 → ∀ (a b : Str),
    (a, b) ∈ g.hierPairs ↔
      ∃ u v, (u, v) ∈ g0.hierPairs ∧ a = flattenNode (shiftedLimit o mp) u ∧ b = flattenNode (shiftedLimit o mp) v ∧ a ≠ b) ∧
  -- 9 `Pta.C09.scan_quotient_imports`
  (∀ (mt : Str → Str → Bool) (base rootName : Str) (mp : List Str) (entries : List Entry)
    (o : ScanOptions) (g g0 : PGraph Str),
    generateGraph mt base rootName mp entries o = .ok g →
    generateGraph mt base rootName mp entries o.noLimit = .ok g0 → ∀ (a b : Str),
    (a, b) ∈ g.importPairs ↔
      a ≠ b ∧ isHierPair a b = false ∧
      ∃ u v, (u, v) ∈ g0.importPairs ∧ a = flattenNode (shiftedLimit o mp) u ∧ b = flattenNode (shiftedLimit o mp) v) ∧
  -- 10 `Pta.C09.scan_quotient_imports_clean`
  (∀ (mt : Str → Str → Bool) (base rootName : Str) (mp : List Str) (entries : List Entry)
    (o : ScanOptions) (g g0 : PGraph Str),
    generateGraph mt base rootName mp entries o = .ok g →
    generateGraph mt base rootName mp entries o.noLimit = .ok g0 →
    noDownwardImports g0 = true → ∀ (a b : Str),
    (a, b) ∈ g.importPairs ↔
      a ≠ b ∧ ∃ u v, (u, v) ∈ g0.importPairs ∧ a = flattenNode (shiftedLimit o mp) u ∧ b = flattenNode (shiftedLimit o mp) v) ∧
  -- 11 `Pta.C09.flatten_is_truncation`
  (∀ (o : ScanOptions) (k : Nat), o.levelLimit = some k → ∀ (root : Comp) (mp rest : List Comp),
    nameWF (root :: mp ++ rest) = true →
    flattenNode (shiftedLimit o mp) (render (root :: mp ++ rest)) = render (root :: mp ++ rest.take k)) ∧
  -- 12 `Pta.E2E.scan_quotient_of_scanArch`
  (∀ (mt : Str → Str → Bool) (base root : Str) (mp : List Str) (entries : List Entry) (o : ScanOptions) (k : Nat),
    treeWFFor (isExcluded mt o.exclusions) base mp entries = true → mpOK entries mp = true →
    compWF root = true →
    o.excludeExternal = true → o.levelLimit = some k → o.externalExclusions.isEmpty = true →
    (∀ e ∈ entries, ∀ st ∈ e.stmts, stmtOK (toSStmt st) = true) →
    ∀ (is : List (Name × Name)),
    scanImports root (toSEntries (isExcluded mt o.exclusions) base entries) mp = some is →
    ∃ g g0, generateGraph mt base root mp entries o = .ok g ∧
      generateGraph mt base root mp entries o.noLimit = .ok g0 ∧
      shiftedLimit o mp = some (k + mp.length) ∧
      (Pta.E2E.scanArch root (toSEntries (isExcluded mt o.exclusions) base entries) mp is).wf = true ∧
      GraphOf (Pta.E2E.scanArch root (toSEntries (isExcluded mt o.exclusions) base entries) mp is) g0 ∧
      QuotientOf (Pta.E2E.scanArch root (toSEntries (isExcluded mt o.exclusions) base entries) mp is) (shiftedLimit o mp) g ∧
      (truncArch (shiftedLimit o mp) (Pta.E2E.scanArch root (toSEntries (isExcluded mt o.exclusions) base entries) mp is)).wf = true ∧
      GraphOf (truncArch (shiftedLimit o mp) (Pta.E2E.scanArch root (toSEntries (isExcluded mt o.exclusions) base entries) mp is)) g) ∧
  -- 13 `Pta.E2E.scan_rule_verdict_limit`
  (∀ (mt : Str → Str → Bool) (base root : Str) (mp : List Str) (entries : List Entry) (o : ScanOptions) (k : Nat),
    treeWFFor (isExcluded mt o.exclusions) base mp entries = true → mpOK entries mp = true →
    compWF root = true →
    o.excludeExternal = true → o.levelLimit = some k → o.externalExclusions.isEmpty = true →
    (∀ e ∈ entries, ∀ st ∈ e.stmts, stmtOK (toSStmt st) = true) →
    ∀ (is : List (Name × Name)),
    scanImports root (toSEntries (isExcluded mt o.exclusions) base entries) mp = some is →
    ∃ g g0, generateGraph mt base root mp entries o = .ok g ∧
      generateGraph mt base root mp entries o.noLimit = .ok g0 ∧
      ∀ (mt' : Str → Str → Bool) (r : RuleSpec), r.strict = true →
        r.namesIn (Pta.E2E.scanArch root (toSEntries (isExcluded mt o.exclusions) base entries) mp is) = true →
        r.subjects ≠ [] → (r.anything = true ∨ r.objects ≠ []) → (r.anything = true → r.verb = .shouldNot) →
        ruleAbove (k + mp.length) r = true →
        verdictOf mt' g (compile r) = verdictOf mt' g0 (compile r) ∧
        verdictOf mt' g (compile r) =
          VClass.ofBool (verdict (Pta.E2E.scanArch root (toSEntries (isExcluded mt o.exclusions) base entries) mp is) r)) ∧
  -- 14 `Pta.C09.layer_verdict_preserved`
  (∀ (mt : Str → Str → Bool) (a : Arch), a.wf = true → ∀ (k : Nat)
    (ls : Layers) (r : LRuleSpec), layerDomain' a ls r = true →
    (r.anything = true → r.verb = .shouldNot) → ruleLayersAbove k ls r = true →
    ∀ (larch : LArch), resolves mt (archGraph a).nodes larch ls = true →
    (assertAppliesLayer mt (compileLayerRule larch r) (archGraphLim a (some k))).cls =
      (assertAppliesLayer mt (compileLayerRule larch r) (archGraph a)).cls) ∧
  -- 15 `Pta.C09.layer_verdict_lim_spec`
  (∀ (mt : Str → Str → Bool) (a : Arch), a.wf = true → ∀ (k : Nat)
    (ls : Layers) (r : LRuleSpec), layerDomain' a ls r = true →
    (r.anything = true → r.verb = .shouldNot) → ruleLayersAbove k ls r = true →
    ∀ (larch : LArch), resolves mt (archGraph a).nodes larch ls = true →
    (assertAppliesLayer mt (compileLayerRule larch r) (archGraphLim a (some k))).cls =
      VClass.ofBool (layerVerdict a ls r)) ∧
  -- 16 `Pta.C09.diagram_verdict_preserved`
  (∀ (mt : Str → Str → Bool) (a : Arch) (k : Nat) (d : Diagram) (so : Bool),
    diagramDomain a d = true → diagramAbove k d = true →
    (applyAll mt (archGraphLim a (some k)) (diagramRules so (parsedOf d))).cls =
      (applyAll mt (archGraph a) (diagramRules so (parsedOf d))).cls) ∧
  -- 17 `Pta.C09.diagram_verdict_lim_spec`
  (∀ (mt : Str → Str → Bool) (a : Arch) (k : Nat) (d : Diagram) (so : Bool),
    diagramDomain a d = true → diagramAbove k d = true →
    (applyAll mt (archGraphLim a (some k)) (diagramRules so (parsedOf d))).cls = VClass.ofBool (conforms a d so)) ∧
  -- 18 `Pta.C09.diagram_file_verdict_preserved`
  (∀ (mt : Str → Str → Bool) (a : Arch) (k : Nat) (noise1 noise2 : Str)
    (d : List DLine), diagramWF d = true → isInfix "@enduml".toList noise2 = false → ∀ (so : Bool),
    diagramDomain a (specDiagram d) = true → diagramAbove k (specDiagram d) = true →
    (diagramAssert mt (some (diagramText noise1 d noise2)) none so (archGraphLim a (some k))).cls =
      (diagramAssert mt (some (diagramText noise1 d noise2)) none so (archGraph a)).cls ∧
    (diagramAssert mt (some (diagramText noise1 d noise2)) none so (archGraphLim a (some k))).cls =
      VClass.ofBool (conforms a (specDiagram d) so)) ∧
  -- 19 `Pta.C09.scan_layer_verdict_preserved`
  (∀ (mt : Str → Str → Bool) (base root : Str) (mp : List Str) (entries : List Entry) (o : ScanOptions) (k : Nat),
    treeWFFor (isExcluded mt o.exclusions) base mp entries = true → mpOK entries mp = true →
    compWF root = true →
    o.excludeExternal = true → o.levelLimit = some k → o.externalExclusions.isEmpty = true →
    (∀ e ∈ entries, ∀ st ∈ e.stmts, stmtOK (toSStmt st) = true) →
    ∀ (is : List (Name × Name)),
    scanImports root (toSEntries (isExcluded mt o.exclusions) base entries) mp = some is →
    ∃ g g0, generateGraph mt base root mp entries o = .ok g ∧
      generateGraph mt base root mp entries o.noLimit = .ok g0 ∧
      ∀ (mt' : Str → Str → Bool) (ls : Layers) (r : LRuleSpec) (larch : LArch),
        layerDomain' (Pta.E2E.scanArch root (toSEntries (isExcluded mt o.exclusions) base entries) mp is) ls r = true →
        (r.anything = true → r.verb = .shouldNot) →
        ruleLayersAbove (k + mp.length) ls r = true →
        resolves mt' g0.nodes larch ls = true →
        (assertAppliesLayer mt' (compileLayerRule larch r) g).cls =
          (assertAppliesLayer mt' (compileLayerRule larch r) g0).cls ∧
        (assertAppliesLayer mt' (compileLayerRule larch r) g).cls =
          VClass.ofBool (layerVerdict
            (Pta.E2E.scanArch root (toSEntries (isExcluded mt o.exclusions) base entries) mp is) ls r)) ∧
  -- 20 `Pta.C09.scan_diagram_verdict_preserved`
  (∀ (mt : Str → Str → Bool) (base root : Str) (mp : List Str) (entries : List Entry) (o : ScanOptions) (k : Nat),
    treeWFFor (isExcluded mt o.exclusions) base mp entries = true → mpOK entries mp = true →
    compWF root = true →
    o.excludeExternal = true → o.levelLimit = some k → o.externalExclusions.isEmpty = true →
    (∀ e ∈ entries, ∀ st ∈ e.stmts, stmtOK (toSStmt st) = true) →
    ∀ (is : List (Name × Name)),
    scanImports root (toSEntries (isExcluded mt o.exclusions) base entries) mp = some is →
    ∃ g g0, generateGraph mt base root mp entries o = .ok g ∧
      generateGraph mt base root mp entries o.noLimit = .ok g0 ∧
      ∀ (mt' : Str → Str → Bool) (D : Diagram) (so : Bool),
        diagramDomain (Pta.E2E.scanArch root (toSEntries (isExcluded mt o.exclusions) base entries) mp is) D = true →
        diagramAbove (k + mp.length) D = true →
        (applyAll mt' g (diagramRules so (parsedOf D))).cls = (applyAll mt' g0 (diagramRules so (parsedOf D))).cls ∧
        (applyAll mt' g (diagramRules so (parsedOf D))).cls =
          VClass.ofBool (conforms
            (Pta.E2E.scanArch root (toSEntries (isExcluded mt o.exclusions) base entries) mp is) D so))

theorem c09 : C09_Statement :=
  ⟨Pta.C09.quotient, Pta.C09.graph_of_quotient_arch, Pta.C09.quotient_arch_wf, @Pta.C09.verdict_preserved, @Pta.C09.verdict_lim_spec,
   @Pta.C09.scan_error_indep, @Pta.C09.scan_quotient_nodes, @Pta.C09.scan_quotient_hier,
   @Pta.C09.scan_quotient_imports, @Pta.C09.scan_quotient_imports_clean, @Pta.C09.flatten_is_truncation,
   @Pta.E2E.scan_quotient_of_scanArch, @Pta.E2E.scan_rule_verdict_limit,
   @Pta.C09.layer_verdict_preserved, @Pta.C09.layer_verdict_lim_spec, @Pta.C09.diagram_verdict_preserved,
   @Pta.C09.diagram_verdict_lim_spec, @Pta.C09.diagram_file_verdict_preserved,
   @Pta.C09.scan_layer_verdict_preserved, @Pta.C09.scan_diagram_verdict_preserved⟩

end C09

/-! ## C10 -/
section C10

/-- C10 — External-library options affect only external modules, never internal ones.
    English statement (verbatim): "With external libraries excluded (the default) the architecture contains no module
    outside module_path and no import to one. With them included, every imported external module appears together with all
    of its ancestor packages and with the import from the importing module, except externals that match an external
    exclusion pattern or have a matching ancestor, which disappear together with their imports. In every configuration the
    internal modules and the imports among them are identical: external options and external exclusion patterns never add,
    remove or alter anything internal."

    Vocabulary (Bridge/ExtAbs.lean): `internalNodes / internalImports / internalHier pre g` (the part of `g` among nodes
    with `isInternal · pre`), `withParents m` (m and its dotted parents), `retained mt o pre i` (no external exclusion
    pattern matches the importee of `i` or one of its parents), `ScanOptions.admissible` (external exclusion patterns
    only when externals are included; the other combination is rejected by the entry point, C13).

    Clause map:
      (1) "With external libraries excluded (the default) the architecture contains no module outside module_path and no
          import to one" — conjunct 3 (`Pta.C10.externals_excluded`): the nodes are exactly the parsed modules with their
          dotted parents (flattened to the level limit) and every import edge joins two nodes and points to (the
          flattening of) an internal module.  ("no module outside module_path" is read as: parsed modules and their
          ancestor packages only — the ancestor packages of `module_path` ARE nodes, C04.)
      (2) "With them included, every imported external module appears together with all of its ancestor packages and with
          the import from the importing module, except externals that match an external exclusion pattern or have a
          matching ancestor, which disappear together with their imports" — conjunct 4 (`Pta.C10.externals_included`, no
          level limit): for a converted import `i` with external importee: retained → importee and all dotted parents
          are nodes and the edge exists (with no side condition `isInfix base importee = false`: until the repair of
          F-C10e, library commit 4ee40c9, the library skipped importees whose dotted name CONTAINS the string
          `str(root_path)`; see (4)); not retained → the importee is not a node and no edge touches it,
          provided it is not itself a parsed module or a parent of one.  Conjunct 5
          (`Pta.C10.externals_included_limit`): the retained half under ANY level limit, for dot-free directory names.
          The NOT-retained half under a level limit (Props/C10Limit.lean; `L = shiftedLimit o mp`) — conjunct 6
          (`Pta.C10.nodes_included_limit`): the complete node set with externals included, for ANY limit: a node is (a
          dotted parent of) a flattened parsed module, or (a dotted parent of) the flattened importee of a RETAINED
          external import; conjunct 7 (`Pta.C10.externals_not_retained_limit`): if an external exclusion pattern hits a
          member of the importee's chain that SURVIVES the flattening (`withParents (flattenNode L importee)`), the
          flattened importee is not a node and no edge of any kind touches it — unless it is (a parent of) a flattened
          parsed module; conjunct 8 (`Pta.C10.externals_not_retained_uncut`): when the flattening does not cut the
          importee, "not retained" alone suffices — the statement of conjunct 4 verbatim; conjunct 9
          (`Pta.C10.externals_not_retained_iff`): in general (the pattern may hit BELOW the cut only) the flattened
          importee is a node exactly when it is (a parent of) the flattening of a parsed module or of a retained
          external importee, and if it is not a node no edge touches it (`Pta.C10.edges_between_nodes`).  The naive
          transfer of conjunct 4 with every name flattened is FALSE of the model:
          `Pta.C10.not_retained_limit_naive_counterexample` (`import scipy.sparse.linalg` removed by
          `scipy.sparse.linalg*`, `import scipy.sparse.csgraph` retained; with limit 1 both flatten to `scipy.sparse`,
          a node carrying the edge) — so "disappear together with their imports" holds under a limit only in the
          forms of conjuncts 7–9.
      (3) "In every configuration the internal modules and the imports among them are identical: external options and
          external exclusion patterns never add, remove or alter anything internal" — conjunct 1
          (`Pta.C10.internal_invariant_perm`): for option records agreeing on `exclusions` and `levelLimit`, successful
          scans have internal nodes / internal imports / internal hierarchy edges that are permutations of one another
          (identical as sets; list order is not specified) — for EVERY level limit, no well-formedness assumption;
          conjunct 2 (`Pta.C10.internal_invariant_errors`): and the scans fail alike, with the same error.
      (4) (the repair of F-C10e; not a clause of the English text, but the reason conjuncts 4–9 carry no hypothesis
          about the root path string `base`) `generateGraph` uses the REPAIRED `moduleList`; the code before the
          repair is kept in the model as `moduleListBeforeRepair` (PtaModel/Scan.lean).  Witness (cited, not
          conjoined): `Pta.C10.relative_root_before_repair` — root path given as the relative string `proj`,
          externals included, `proj/m.py` with `import projx, proj_ext.m, os.path`: the import records are external
          and retained, the OLD module list lacks `projx`, `proj_ext.m`, `proj_ext` (their names contain `proj`) so
          that before the repair `projx` was not a node and the edge `proj.m → projx` was missing (clause (2)
          violated); the repaired scan has both.  Conjunct 10 (`Pta.C10.moduleList_eq_before_repair_of_absolute`): for
          ABSOLUTE root paths the repair changes nothing — if the root path string contains a `/` and no importee
          does (dotted module names never do), the old and the repaired code compute the same module list; more
          generally whenever the substring test fires on no external importee
          (`Pta.C10.moduleList_eq_before_repair_of_no_infix`).
    Not carried by a theorem (correspondence check only / outside the model):
      * which imported names are "external" in Python's sense (stdlib / site-packages): in the model external = not
        `isInternal · (internalPrefix rootName mp)`.
      * that `moduleListBeforeRepair` / `moduleList` transcribe the library before / after commit 4ee40c9
        (correspondence runs on both versions).
      * under a level limit, an excluded external whose pattern hits only BELOW the cut does not disappear when a
        retained external (or a parsed module) flattens onto the same name: that is the model's (and the library's)
        behaviour (`not_retained_limit_naive_counterexample`), stated exactly by conjunct 9, not a gap of the proof.
      * the retained half under a limit (conjunct 5) for directory names containing dots. -/
def C10_Statement : Prop :=
  -- 1 `Pta.C10.internal_invariant_perm`
  (∀ (mt : Str → Str → Bool) (base rootName : Str) (mp : List Str) (entries : List Entry)
    (o o' : ScanOptions), o.exclusions = o'.exclusions → o.levelLimit = o'.levelLimit →
    ∀ (g g' : PGraph Str),
    generateGraph mt base rootName mp entries o = .ok g →
    generateGraph mt base rootName mp entries o' = .ok g' →
    (internalNodes (internalPrefix rootName mp) g).Perm (internalNodes (internalPrefix rootName mp) g') ∧
    (internalImports (internalPrefix rootName mp) g).Perm (internalImports (internalPrefix rootName mp) g') ∧
    (internalHier (internalPrefix rootName mp) g).Perm (internalHier (internalPrefix rootName mp) g')) ∧
  -- 2 `Pta.C10.internal_invariant_errors`
  (∀ (mt : Str → Str → Bool) (base rootName : Str) (mp : List Str) (entries : List Entry)
    (o o' : ScanOptions), o.exclusions = o'.exclusions → o.levelLimit = o'.levelLimit → ∀ (e : ErrKind),
    generateGraph mt base rootName mp entries o = .error e ↔ generateGraph mt base rootName mp entries o' = .error e) ∧
  -- 3 `Pta.C10.externals_excluded`
  (∀ (mt : Str → Str → Bool) (base rootName : Str) (mp : List Str) (entries : List Entry)
    (o : ScanOptions) (g : PGraph Str), o.excludeExternal = true → o.admissible = true →
    generateGraph mt base rootName mp entries o = .ok g →
    (∀ s, s ∈ g.nodes ↔ ∃ m ∈ (scanParsed mt base rootName mp entries o).allModules,
        s ∈ withParents (flattenNode (shiftedLimit o mp) m)) ∧
    (∀ a b, (a, b) ∈ g.importPairs → a ∈ g.nodes ∧ b ∈ g.nodes ∧
        ∃ y, isInternal y (internalPrefix rootName mp) = true ∧ b = flattenNode (shiftedLimit o mp) y)) ∧
  -- 4 `Pta.C10.externals_included`
  (∀ (mt : Str → Str → Bool) (base rootName : Str) (mp : List Str) (entries : List Entry)
    (o : ScanOptions) (g : PGraph Str), o.excludeExternal = false → o.levelLimit = none →
    generateGraph mt base rootName mp entries o = .ok g → ∀ (I : List ImportRec),
    convertAll (scanParsed mt base rootName mp entries o) (absolutePrefix rootName mp)
      ((scanParsed mt base rootName mp entries o).allModules.filter fun m => isInternal m (internalPrefix rootName mp)) = .ok I →
    ∀ (i : ImportRec), i ∈ I → isInternal i.importee (internalPrefix rootName mp) = false →
    (retained mt o (internalPrefix rootName mp) i = true →
      (∀ s ∈ withParents i.importee, s ∈ g.nodes) ∧
      (isInternal i.importer (internalPrefix rootName mp) = true → (i.importer, i.importee) ∈ g.importPairs)) ∧
    (retained mt o (internalPrefix rootName mp) i = false →
      (∀ m ∈ (scanParsed mt base rootName mp entries o).allModules, i.importee ∉ withParents m) →
      i.importee ∉ g.nodes ∧ ∀ x ∈ g.edges, x.src ≠ i.importee ∧ x.dst ≠ i.importee)) ∧
  -- 5 `Pta.C10.externals_included_limit`
  (∀ (mt : Str → Str → Bool) (base rootName : Str) (mp : List Str) (entries : List Entry)
    (o : ScanOptions) (g : PGraph Str), o.excludeExternal = false →
    generateGraph mt base rootName mp entries o = .ok g → ∀ (I : List ImportRec),
    convertAll (scanParsed mt base rootName mp entries o) (absolutePrefix rootName mp)
      ((scanParsed mt base rootName mp entries o).allModules.filter fun m => isInternal m (internalPrefix rootName mp)) = .ok I →
    ∀ (i : ImportRec), i ∈ I → isInternal i.importee (internalPrefix rootName mp) = false →
    retained mt o (internalPrefix rootName mp) i = true →
    '.' ∉ rootName → (∀ c ∈ mp, '.' ∉ c) →
    (∀ s ∈ withParents (flattenNode (shiftedLimit o mp) i.importee), s ∈ g.nodes) ∧
    (isInternal i.importer (internalPrefix rootName mp) = true →
      (flattenNode (shiftedLimit o mp) i.importer, flattenNode (shiftedLimit o mp) i.importee) ∈ g.importPairs)) ∧
  -- 6 `Pta.C10.nodes_included_limit`
  (∀ (mt : Str → Str → Bool) (base rootName : Str) (mp : List Str) (entries : List Entry)
    (o : ScanOptions) (g : PGraph Str), o.excludeExternal = false →
    generateGraph mt base rootName mp entries o = .ok g → ∀ (I : List ImportRec),
    convertAll (scanParsed mt base rootName mp entries o) (absolutePrefix rootName mp)
      ((scanParsed mt base rootName mp entries o).allModules.filter fun m => isInternal m (internalPrefix rootName mp)) = .ok I →
    ∀ (s : Str),
    s ∈ g.nodes ↔
      (∃ m ∈ (scanParsed mt base rootName mp entries o).allModules, s ∈ withParents (flattenNode (shiftedLimit o mp) m)) ∨
      (∃ j ∈ I, isInternal j.importee (internalPrefix rootName mp) = false ∧
        retained mt o (internalPrefix rootName mp) j = true ∧
        s ∈ withParents (flattenNode (shiftedLimit o mp) j.importee))) ∧
  -- 7 `Pta.C10.externals_not_retained_limit`
  (∀ (mt : Str → Str → Bool) (base rootName : Str) (mp : List Str) (entries : List Entry)
    (o : ScanOptions) (g : PGraph Str), o.excludeExternal = false →
    generateGraph mt base rootName mp entries o = .ok g → ∀ (I : List ImportRec),
    convertAll (scanParsed mt base rootName mp entries o) (absolutePrefix rootName mp)
      ((scanParsed mt base rootName mp entries o).allModules.filter fun m => isInternal m (internalPrefix rootName mp)) = .ok I →
    ∀ (i : ImportRec), i ∈ I → isInternal i.importee (internalPrefix rootName mp) = false →
    retained mt o (internalPrefix rootName mp) i = false →
    (∃ p ∈ withParents (flattenNode (shiftedLimit o mp) i.importee), isExcluded mt o.externalExclusions p = true) →
    (∀ m ∈ (scanParsed mt base rootName mp entries o).allModules,
      flattenNode (shiftedLimit o mp) i.importee ∉ withParents (flattenNode (shiftedLimit o mp) m)) →
    flattenNode (shiftedLimit o mp) i.importee ∉ g.nodes ∧
      ∀ x ∈ g.edges, x.src ≠ flattenNode (shiftedLimit o mp) i.importee ∧
        x.dst ≠ flattenNode (shiftedLimit o mp) i.importee) ∧
  -- 8 `Pta.C10.externals_not_retained_uncut`
  (∀ (mt : Str → Str → Bool) (base rootName : Str) (mp : List Str) (entries : List Entry)
    (o : ScanOptions) (g : PGraph Str), o.excludeExternal = false →
    generateGraph mt base rootName mp entries o = .ok g → ∀ (I : List ImportRec),
    convertAll (scanParsed mt base rootName mp entries o) (absolutePrefix rootName mp)
      ((scanParsed mt base rootName mp entries o).allModules.filter fun m => isInternal m (internalPrefix rootName mp)) = .ok I →
    ∀ (i : ImportRec), i ∈ I → isInternal i.importee (internalPrefix rootName mp) = false →
    retained mt o (internalPrefix rootName mp) i = false →
    flattenNode (shiftedLimit o mp) i.importee = i.importee →
    (∀ m ∈ (scanParsed mt base rootName mp entries o).allModules,
      i.importee ∉ withParents (flattenNode (shiftedLimit o mp) m)) →
    i.importee ∉ g.nodes ∧ ∀ x ∈ g.edges, x.src ≠ i.importee ∧ x.dst ≠ i.importee) ∧
  -- 9 `Pta.C10.externals_not_retained_iff`
  (∀ (mt : Str → Str → Bool) (base rootName : Str) (mp : List Str) (entries : List Entry)
    (o : ScanOptions) (g : PGraph Str), o.excludeExternal = false →
    generateGraph mt base rootName mp entries o = .ok g → ∀ (I : List ImportRec),
    convertAll (scanParsed mt base rootName mp entries o) (absolutePrefix rootName mp)
      ((scanParsed mt base rootName mp entries o).allModules.filter fun m => isInternal m (internalPrefix rootName mp)) = .ok I →
    ∀ (i : ImportRec), i ∈ I → isInternal i.importee (internalPrefix rootName mp) = false →
    retained mt o (internalPrefix rootName mp) i = false →
    (flattenNode (shiftedLimit o mp) i.importee ∈ g.nodes ↔
      (∃ m ∈ (scanParsed mt base rootName mp entries o).allModules,
        flattenNode (shiftedLimit o mp) i.importee ∈ withParents (flattenNode (shiftedLimit o mp) m)) ∨
      (∃ j ∈ I, isInternal j.importee (internalPrefix rootName mp) = false ∧
        retained mt o (internalPrefix rootName mp) j = true ∧
        flattenNode (shiftedLimit o mp) i.importee ∈ withParents (flattenNode (shiftedLimit o mp) j.importee))) ∧
    (flattenNode (shiftedLimit o mp) i.importee ∉ g.nodes →
      ∀ x ∈ g.edges, x.src ≠ flattenNode (shiftedLimit o mp) i.importee ∧
        x.dst ≠ flattenNode (shiftedLimit o mp) i.importee)) ∧
  -- 10 `Pta.C10.moduleList_eq_before_repair_of_absolute`
  (∀ (mt : Str → Str → Bool) (base : Str) (o : ScanOptions) (pre : Str)
    (parsedModules : List Str) (imports : List ImportRec),
    '/' ∈ base → (∀ i ∈ imports, '/' ∉ i.importee) →
    moduleListBeforeRepair mt base o pre parsedModules imports = moduleList mt base o pre parsedModules imports)

theorem c10 : C10_Statement :=
  ⟨@Pta.C10.internal_invariant_perm, @Pta.C10.internal_invariant_errors, @Pta.C10.externals_excluded,
   @Pta.C10.externals_included, @Pta.C10.externals_included_limit,
   @Pta.C10.nodes_included_limit, @Pta.C10.externals_not_retained_limit, @Pta.C10.externals_not_retained_uncut,
   @Pta.C10.externals_not_retained_iff, @Pta.C10.moduleList_eq_before_repair_of_absolute⟩

end C10

/-! ## C11 -/
section C11

/-- C11 — Regex, partial-name and batched specifications equal their expansions.
    English statement (verbatim): "A subject or object given by have_name_matching(regex) yields the same verdict as naming
    the list of all modules whose name the regex matches, and raises a no-match error (never a verdict) when nothing
    matches; the deprecated partial-name form equals its regex translation. A rule with several subjects and explicitly
    given objects has the verdict of the conjunction of the single-subject rules, and for plain should / should_not rules
    several objects likewise equal the conjunction over objects."

    All conjuncts hold on EVERY graph (no well-formedness unless stated), every regex interpretation `mt`, every rule
    shape `mkRule should shouldOnly shouldNot dir exc subjects objects`; related names allowed.

    Clause map:
      (1) "A subject or object given by have_name_matching(regex) yields the same verdict as naming the list of all modules
          whose name the regex matches" — conjunct 1 (`Pta.C11.regex_expansion_subject`) and conjunct 2
          (`Pta.C11.regex_expansion_object`): the same OUTCOME (verdict and report items), for a graph with duplicate-free
          node list (`g.nodes.Nodup`, true of every constructed graph: `Pta.C09.nodes_nodup`) and a regex matching at
          least one module; for the `anything` aliases: conjunct 3 (`Pta.C11.regex_expansion_anything_verdict`), same
          verdict class on `HierClosed` graphs (every graph `buildGraph` constructs: `Pta.C11.hierClosed_buildGraph`;
          needed: `Pta.C11.anything_dedup_needs_hierarchy_witness`).
      (2) "and raises a no-match error (never a verdict) when nothing matches" — conjunct 4 (`Pta.C11.regex_no_match`):
          never a verdict, whatever else the rule says; conjunct 5 (`Pta.C11.regex_no_match_exact`): on a complete,
          consistent, non-`anything` rule state the error is exactly the no-match error, the regex in subject OR object
          position, next to any other filters (the completeness hypotheses are needed: a configuration error comes first).
      (3) "the deprecated partial-name form equals its regex translation" — holds by DEFINITION of the model's builder step
          (`Pta.C11.partial_name`, proved by `rfl`: `have_name_containing(p)` is `have_name_matching(glob p)`), therefore
          not a conjunct; what the translation `glob` (`convertPartialMatch`) means is C08 (`Pta.C08.glob_spec`,
          `glob_meaning`).
      (4) "A rule with several subjects and explicitly given objects has the verdict of the conjunction of the
          single-subject rules" — conjunct 6 (`Pta.C11.batch_subjects`, all 12 shapes: passes iff every member passes),
          made three-valued by conjunct 8 (`Pta.C11.batch_subjects_err`: which error the batch raises — NOT "the first
          member that raises": the no-match error of any member wins over a lookup error) and conjunct 9
          (`Pta.C11.batch_subjects_fail`: fails iff no member raises and some member fails).
      (5) "for plain should / should_not rules several objects likewise equal the conjunction over objects" — conjuncts 7,
          10, 11 (`Pta.C11.batch_objects`, `batch_objects_err`, `batch_objects_fail`).
    Not carried by a theorem (correspondence check only / outside the model):
      * what a given regex matches (`re.match`): `mt` is a parameter.
      * batching of the `anything` aliases (subjects only, no explicit objects) is not a conjunction law: see C12
        (`alias_anything_verdict_api`). -/
def C11_Statement : Prop :=
  -- 1 `Pta.C11.regex_expansion_subject`
  (∀ (mt : Str → Str → Bool) (g : PGraph Str), g.nodes.Nodup →
    ∀ (s o n dir exc : Bool) (p : Str) (objs : List Filter), (∃ m ∈ g.nodes, mt p m = true) →
    (assertApplies mt (mkRule s o n dir exc [.regex p] objs) g).2 =
    (assertApplies mt (mkRule s o n dir exc ((g.nodes.filter (mt p)).map .name) objs) g).2) ∧
  -- 2 `Pta.C11.regex_expansion_object`
  (∀ (mt : Str → Str → Bool) (g : PGraph Str), g.nodes.Nodup →
    ∀ (s o n dir exc : Bool) (p : Str) (subs : List Filter), (∃ m ∈ g.nodes, mt p m = true) →
    (assertApplies mt (mkRule s o n dir exc subs [.regex p]) g).2 =
    (assertApplies mt (mkRule s o n dir exc subs ((g.nodes.filter (mt p)).map .name)) g).2) ∧
  -- 3 `Pta.C11.regex_expansion_anything_verdict`
  (∀ (mt : Str → Str → Bool) (g : PGraph Str), g.nodes.Nodup →
    HierClosed g → ∀ (dir : Bool) (p : Str), (∃ m ∈ g.nodes, mt p m = true) →
    verdictOf mt g { cfg := { subjects := some [.regex p], shouldNot := true, importDir := some dir, anything := true }, next := some false } =
    verdictOf mt g { cfg := { subjects := some ((g.nodes.filter (mt p)).map .name), shouldNot := true, importDir := some dir, anything := true }, next := some false }) ∧
  -- 4 `Pta.C11.regex_no_match`
  (∀ (mt : Str → Str → Bool) (g : PGraph Str) (s o n dir exc : Bool) (p : Str) (objs : List Filter),
    (∀ m ∈ g.nodes, mt p m = false) →
    ∃ k, (assertApplies mt (mkRule s o n dir exc [.regex p] objs) g).2 = .err k) ∧
  -- 5 `Pta.C11.regex_no_match_exact`
  (∀ (mt : Str → Str → Bool) (g : PGraph Str) (st : RuleState) (ss os : List Filter),
    st.cfg.anything = false → configMissing st.cfg = false → droppedAbsent g st.cfg = false →
    st.cfg.behavior.inconsistent = false →
    st.cfg.subjects = some ss → st.cfg.objects = some os →
    (∃ f ∈ ss ++ os, f.isRegex = true ∧ ∀ m ∈ g.nodes, mt f.id m = false) →
    (assertApplies mt st g).2 = .err .impossibleMatch) ∧
  -- 6 `Pta.C11.batch_subjects`
  (∀ (mt : Str → Str → Bool) (g : PGraph Str) (s o n dir exc : Bool) (subs objs : List Filter),
    subs ≠ [] →
    (verdictOf mt g (mkRule s o n dir exc subs objs) = .pass ↔
    ∀ x ∈ subs, verdictOf mt g (mkRule s o n dir exc [x] objs) = .pass)) ∧
  -- 7 `Pta.C11.batch_objects`
  (∀ (mt : Str → Str → Bool) (g : PGraph Str) (neg dir : Bool) (subs objs : List Filter),
    objs ≠ [] →
    (verdictOf mt g (mkRule (!neg) false neg dir false subs objs) = .pass ↔
    ∀ y ∈ objs, verdictOf mt g (mkRule (!neg) false neg dir false subs [y]) = .pass)) ∧
  -- 8 `Pta.C11.batch_subjects_err`
  (∀ (mt : Str → Str → Bool) (g : PGraph Str) (s o n dir exc : Bool) (subs objs : List Filter),
    subs ≠ [] → ∀ (k : ErrKind),
    (verdictOf mt g (mkRule s o n dir exc subs objs) = .err k ↔
      (∃ x ∈ subs, verdictOf mt g (mkRule s o n dir exc [x] objs) = .err k) ∧
      (k = .lookupError → ∀ x ∈ subs, verdictOf mt g (mkRule s o n dir exc [x] objs) ≠ .err .impossibleMatch))) ∧
  -- 9 `Pta.C11.batch_subjects_fail`
  (∀ (mt : Str → Str → Bool) (g : PGraph Str) (s o n dir exc : Bool) (subs objs : List Filter),
    subs ≠ [] →
    (verdictOf mt g (mkRule s o n dir exc subs objs) = .fail ↔
      (∀ x ∈ subs, ∀ k, verdictOf mt g (mkRule s o n dir exc [x] objs) ≠ .err k) ∧
      ∃ x ∈ subs, verdictOf mt g (mkRule s o n dir exc [x] objs) = .fail)) ∧
  -- 10 `Pta.C11.batch_objects_err`
  (∀ (mt : Str → Str → Bool) (g : PGraph Str) (neg dir : Bool) (subs objs : List Filter),
    objs ≠ [] → ∀ (k : ErrKind),
    (verdictOf mt g (mkRule (!neg) false neg dir false subs objs) = .err k ↔
      (∃ y ∈ objs, verdictOf mt g (mkRule (!neg) false neg dir false subs [y]) = .err k) ∧
      (k = .lookupError → ∀ y ∈ objs, verdictOf mt g (mkRule (!neg) false neg dir false subs [y]) ≠ .err .impossibleMatch))) ∧
  -- 11 `Pta.C11.batch_objects_fail`
  (∀ (mt : Str → Str → Bool) (g : PGraph Str) (neg dir : Bool) (subs objs : List Filter),
    objs ≠ [] →
    (verdictOf mt g (mkRule (!neg) false neg dir false subs objs) = .fail ↔
      (∀ y ∈ objs, ∀ k, verdictOf mt g (mkRule (!neg) false neg dir false subs [y]) ≠ .err k) ∧
      ∃ y ∈ objs, verdictOf mt g (mkRule (!neg) false neg dir false subs [y]) = .fail))

theorem c11 : C11_Statement :=
  ⟨@Pta.C11.regex_expansion_subject, @Pta.C11.regex_expansion_object, @Pta.C11.regex_expansion_anything_verdict,
   @Pta.C11.regex_no_match, @Pta.C11.regex_no_match_exact, @Pta.C11.batch_subjects, @Pta.C11.batch_objects,
   @Pta.C11.batch_subjects_err, @Pta.C11.batch_subjects_fail, @Pta.C11.batch_objects_err, @Pta.C11.batch_objects_fail⟩

end C11

/-! ## C12 -/
section C12
open PtaSpec

/-- C12 — Rule algebra: duality, negation, decomposition and monotonicity laws.
    English statement (verbatim): "On every architecture: 'A should (not) import B' and 'B should (not) be imported by A'
    have the same verdict; for one subject and one object, 'should' passes exactly when 'should not' fails (likewise for
    the two 'except' forms); 'should only' passes exactly when both 'should' and 'should not ... except' pass, and 'should
    only ... except' exactly when both 'should ... except' and 'should not' pass; 'should not import anything' equals 'should
    not import modules except' the subject itself. Adding an import to the architecture never turns a passing 'should' rule
    (with or without 'except') into a failing one nor a failing 'should not' rule into a passing one."

    All conjuncts are about `Pta.assertApplies` on EVERY graph (no well-formedness, related identifiers included)
    and every regex interpretation, unless stated.  `verdictOf` is three-valued; `VClass.both` / `VClass.neg` are the
    three-valued conjunction / negation (errors kept).

    Clause map:
      (1) "'A should (not) import B' and 'B should (not) be imported by A' have the same verdict" — conjunct 1
          (`Pta.C12.duality`): equal verdict CLASSES (pass, fail and every error alike); no hypothesis.
      (2) "for one subject and one object, 'should' passes exactly when 'should not' fails (likewise for the two 'except'
          forms)" — conjunct 2 (`Pta.C12.negation`) and conjunct 3 (`Pta.C12.negation_eq`: the whole truth table, errors
          included), both directions, plain and `except`; hypothesis: subject and object are not REGEX filters (a regex
          stands for several subjects) — needed: `Pta.C12.negation_counterexample_regex`.
      (3) "'should only' passes exactly when both 'should' and 'should not ... except' pass, and 'should only ... except'
          exactly when both 'should ... except' and 'should not' pass" — conjuncts 4, 5 (`Pta.C12.decomposition`,
          `decomposition_except`), and the full three-valued tables conjuncts 6, 7 (`Pta.C12.decomposition_eq`,
          `decomposition_except_eq`); any subject / object lists; no hypothesis.
      (4) "'should not import anything' equals 'should not import modules except' the subject itself" — conjunct 8
          (`Pta.C12.alias_anything`): the SAME outcome (verdict, report, rewritten rule object) for every subject batch
          the parent/sub-module de-duplication leaves unchanged (`dedupSubjects S = S`: a single subject, unrelated
          subjects, any batch of `sub modules of` filters); conjunct 9 (`Pta.C12.alias_anything_verdict_api`): the same
          verdict CLASS for EVERY batch one naming call of the fluent API builds (names — related, absent included —,
          `sub modules of` lists, one regex) on `HierClosed` graphs (every graph `buildGraph` constructs).  The law
          does NOT extend to value-level batches mixing named and `sub modules of` filters:
          `Pta.C12.alias_mixed_counterexample`; before the repair of F-C12a it failed for related `sub modules of`
          batches: `Pta.C12.alias_parents_regression_witness`.
      (5) "Adding an import to the architecture never turns a passing 'should' rule (with or without 'except') into a
          failing one nor a failing 'should not' rule into a passing one"
          — adding an import EDGE to a graph value: conjuncts 10, 11 (`Pta.C12.monotone_should`,
          `monotone_should_not`): for ANY pair `u v` (`addImportEdge g u v` appends the import edge `u → v` and adds no
          module; the former hypothesis `g.hasEdge u v = false` was unused and has been dropped); conjunct 12
          (`Pta.C12.monotone_err`): and the error a rule raises does not change; for a finite LIST of added import
          edges: conjuncts 18, 19, 20 (`Pta.C12.monotone_should_edges`, `monotone_should_not_edges`,
          `monotone_err_edges`; between any two graphs with the same nodes and hierarchy, the second with more
          imports: `Pta.C12.monotone_should_le`, `monotone_should_not_le`, `monotone_err_le`).
          — adding an import STATEMENT to a FILE (Props/C12Scan.lean; scan model `generateGraph`, external libraries
          excluded — the default —, ANY exclusion patterns, ANY level limit, `treeWFFor` trees, `stmtOK` statements;
          `addStmtAt entries i k st` inserts `st` at position `k` of the statement list of the `i`-th entry, i.e.
          anywhere in the file, nested blocks included): conjunct 14 (`Pta.C12.scan_add_statement_nodes`): if both
          scans succeed the graphs have the same nodes (as sets and up to a permutation) and hierarchy edges, and every
          import pair of the first is one of the second; conjunct 15 (`Pta.C12.scan_add_statement_monotone`): a
          passing `should` (plain / `except`, both directions, any subject and object filters, regexes included, any
          regex matcher) passes on the second, a failing `should_not` fails on the second, and a rule raises error `k`
          on the one iff on the other; conjunct 16 (`Pta.C12.scan_add_statement_error`): the second scan raises — always
          a lookup error — exactly when the first raises or the changed entry is a surviving `.py` file and the new
          statement reaches above the root (`aboveRoot`); success of the second scan implies success of the first
          (`Pta.C12.scan_add_statement_succeeds`); conjunct 17 (`Pta.C12.scan_more_statements_monotone`): the same for
          ANY number of statements added to any files (`MoreStmts entries entries'`).
      (6) (table provenance) conjunct 13 (`Pta.C12.generated_flags_agree`, Props/Tables.lean): the ten derived behaviour
          flags translated from behavior_requirement.py on every run equal the model's tables on all 16 flag combinations.
    Not carried by a theorem (correspondence check only / outside the model):
      * "On every architecture" is "on every graph value of the model" — a superset of the graphs the library can build.
      * file-level monotonicity with external libraries INCLUDED (`exclude_external_libraries=False`): outside
        conjuncts 14–17, and there the property is FALSE for regex subjects — an import of a library adds a MODULE,
        which a regex subject may match: `Pta.C12.ScanEx.external_modules_not_monotone` (rule "modules matching `.*s`
        should import r.c" passes, fails after `import os` is added to another file).  For name / `sub modules of`
        subjects with externals included no theorem is stated.
      * file-level monotonicity on trees outside `treeWFFor` (`x.py` next to `x/` inside the scanned part): the
        hypothesis is forced by the proof route; no counterexample to the conclusion is known (example in
        Props/C12Scan.lean).  `should only` rules are not monotone and not claimed.
      * source text → statement list (`ast.parse`, the walk is C02): the AST is a parameter of the model. -/
def C12_Statement : Prop :=
  -- 1 `Pta.C12.duality`
  (∀ (mt : Str → Str → Bool) (g : PGraph Str) (A B : List Filter) (neg : Bool),
    verdictOf mt g (mkRule (!neg) false neg true false A B) = verdictOf mt g (mkRule (!neg) false neg false false B A)) ∧
  -- 2 `Pta.C12.negation`
  (∀ (mt : Str → Str → Bool) (g : PGraph Str) (s o : Filter) (dir exc : Bool),
    s.isRegex = false → o.isRegex = false →
    (verdictOf mt g (mkRule true false false dir exc [s] [o]) = .pass ↔
    verdictOf mt g (mkRule false false true dir exc [s] [o]) = .fail)) ∧
  -- 3 `Pta.C12.negation_eq`
  (∀ (mt : Str → Str → Bool) (g : PGraph Str) (s o : Filter) (dir exc : Bool),
    s.isRegex = false → o.isRegex = false →
    verdictOf mt g (mkRule false false true dir exc [s] [o]) = VClass.neg (verdictOf mt g (mkRule true false false dir exc [s] [o]))) ∧
  -- 4 `Pta.C12.decomposition`
  (∀ (mt : Str → Str → Bool) (g : PGraph Str) (A B : List Filter) (dir : Bool),
    verdictOf mt g (mkRule false true false dir false A B) = .pass ↔
    (verdictOf mt g (mkRule true false false dir false A B) = .pass ∧
     verdictOf mt g (mkRule false false true dir true A B) = .pass)) ∧
  -- 5 `Pta.C12.decomposition_except`
  (∀ (mt : Str → Str → Bool) (g : PGraph Str) (A B : List Filter) (dir : Bool),
    verdictOf mt g (mkRule false true false dir true A B) = .pass ↔
    (verdictOf mt g (mkRule true false false dir true A B) = .pass ∧
     verdictOf mt g (mkRule false false true dir false A B) = .pass)) ∧
  -- 6 `Pta.C12.decomposition_eq`
  (∀ (mt : Str → Str → Bool) (g : PGraph Str) (A B : List Filter) (dir : Bool),
    verdictOf mt g (mkRule false true false dir false A B) =
      VClass.both (verdictOf mt g (mkRule true false false dir false A B)) (verdictOf mt g (mkRule false false true dir true A B))) ∧
  -- 7 `Pta.C12.decomposition_except_eq`
  (∀ (mt : Str → Str → Bool) (g : PGraph Str) (A B : List Filter) (dir : Bool),
    verdictOf mt g (mkRule false true false dir true A B) =
      VClass.both (verdictOf mt g (mkRule true false false dir true A B)) (verdictOf mt g (mkRule false false true dir false A B))) ∧
  -- 8 `Pta.C12.alias_anything`
  (∀ (mt : Str → Str → Bool) (g : PGraph Str) (S : List Filter) (dir : Bool),
    dedupSubjects S = S →
    assertApplies mt { cfg := { subjects := some S, shouldNot := true, importDir := some dir, anything := true }, next := some false } g
      = assertApplies mt (mkRule false false true dir true S S) g) ∧
  -- 9 `Pta.C12.alias_anything_verdict_api`
  (∀ (mt : Str → Str → Bool) (g : PGraph Str), HierClosed g → ∀ (S : List Filter) (dir : Bool),
    (namesOnly S = true ∨ S.all Filter.isParent = true ∨ (∃ p, S = [.regex p])) →
    verdictOf mt g { cfg := { subjects := some S, shouldNot := true, importDir := some dir, anything := true }, next := some false }
      = verdictOf mt g (mkRule false false true dir true S S)) ∧
  -- 10 `Pta.C12.monotone_should`
  (∀ (mt : Str → Str → Bool) (g : PGraph Str) (u v : Str) (A B : List Filter) (dir exc : Bool),
    verdictOf mt g (mkRule true false false dir exc A B) = .pass →
    verdictOf mt (addImportEdge g u v) (mkRule true false false dir exc A B) = .pass) ∧
  -- 11 `Pta.C12.monotone_should_not`
  (∀ (mt : Str → Str → Bool) (g : PGraph Str) (u v : Str) (A B : List Filter) (dir exc : Bool),
    verdictOf mt g (mkRule false false true dir exc A B) = .fail →
    verdictOf mt (addImportEdge g u v) (mkRule false false true dir exc A B) = .fail) ∧
  -- 12 `Pta.C12.monotone_err`
  (∀ (mt : Str → Str → Bool) (g : PGraph Str) (u v : Str) (A B : List Filter) (neg dir exc : Bool) (k : ErrKind),
    verdictOf mt (addImportEdge g u v) (mkRule (!neg) false neg dir exc A B) = .err k ↔
    verdictOf mt g (mkRule (!neg) false neg dir exc A B) = .err k) ∧
  -- 13 `Pta.C12.generated_flags_agree`
  (∀ s o n x : Bool, Pta.C12.generatedRow s o n x = Pta.C12.modelRow ⟨s, o, n, x⟩) ∧
  -- 14 `Pta.C12.scan_add_statement_nodes`
  (∀ (mt : Str → Str → Bool) (base root : Str) (mp : List Str) (entries : List Entry) (o : ScanOptions),
    treeWFFor (isExcluded mt o.exclusions) base mp entries = true → mpOK entries mp = true →
    compWF root = true →
    o.excludeExternal = true → o.externalExclusions.isEmpty = true →
    (∀ e ∈ entries, ∀ st ∈ e.stmts, stmtOK (toSStmt st) = true) →
    ∀ (i k : Nat) (st : ImportStmt), stmtOK (toSStmt st) = true → ∀ (g g' : PGraph Str),
    generateGraph mt base root mp entries o = .ok g →
    generateGraph mt base root mp (addStmtAt entries i k st) o = .ok g' →
    (∀ s, s ∈ g.nodes ↔ s ∈ g'.nodes) ∧ g.nodes.Perm g'.nodes ∧
    (∀ p, p ∈ g.hierPairs ↔ p ∈ g'.hierPairs) ∧ (∀ p ∈ g.importPairs, p ∈ g'.importPairs)) ∧
  -- 15 `Pta.C12.scan_add_statement_monotone`
  (∀ (mt : Str → Str → Bool) (base root : Str) (mp : List Str) (entries : List Entry) (o : ScanOptions),
    treeWFFor (isExcluded mt o.exclusions) base mp entries = true → mpOK entries mp = true →
    compWF root = true →
    o.excludeExternal = true → o.externalExclusions.isEmpty = true →
    (∀ e ∈ entries, ∀ st ∈ e.stmts, stmtOK (toSStmt st) = true) →
    ∀ (i k : Nat) (st : ImportStmt), stmtOK (toSStmt st) = true → ∀ (g g' : PGraph Str),
    generateGraph mt base root mp entries o = .ok g →
    generateGraph mt base root mp (addStmtAt entries i k st) o = .ok g' →
    ∀ (mt' : Str → Str → Bool) (A B : List Filter) (dir exc : Bool),
    (verdictOf mt' g (mkRule true false false dir exc A B) = .pass →
      verdictOf mt' g' (mkRule true false false dir exc A B) = .pass) ∧
    (verdictOf mt' g (mkRule false false true dir exc A B) = .fail →
      verdictOf mt' g' (mkRule false false true dir exc A B) = .fail) ∧
    (∀ (neg : Bool) (k : ErrKind), verdictOf mt' g' (mkRule (!neg) false neg dir exc A B) = .err k ↔
      verdictOf mt' g (mkRule (!neg) false neg dir exc A B) = .err k)) ∧
  -- 16 `Pta.C12.scan_add_statement_error`
  (∀ (mt : Str → Str → Bool) (base root : Str) (mp : List Str) (entries : List Entry) (o : ScanOptions),
    treeWFFor (isExcluded mt o.exclusions) base mp entries = true → mpOK entries mp = true →
    compWF root = true →
    o.excludeExternal = true → o.externalExclusions.isEmpty = true →
    (∀ e ∈ entries, ∀ st ∈ e.stmts, stmtOK (toSStmt st) = true) →
    ∀ (i k : Nat) (st : ImportStmt), stmtOK (toSStmt st) = true → ∀ (e : Entry), entries[i]? = some e →
    (generateGraph mt base root mp (addStmtAt entries i k st) o = .error .lookupError ↔
      generateGraph mt base root mp entries o = .error .lookupError ∨
      (e.isDir = false ∧
        survives (toSEntries (isExcluded mt o.exclusions) base entries) mp
          (toSEntry (isExcluded mt o.exclusions) base e) = true ∧
        aboveRoot (entryName root (toSEntry (isExcluded mt o.exclusions) base e)) (toSStmt st) = true)) ∧
    (∀ x, generateGraph mt base root mp (addStmtAt entries i k st) o = .error x → x = .lookupError)) ∧
  -- 17 `Pta.C12.scan_more_statements_monotone`
  (∀ (mt : Str → Str → Bool) (base root : Str) (mp : List Str) (entries entries' : List Entry) (o : ScanOptions),
    MoreStmts entries entries' →
    treeWFFor (isExcluded mt o.exclusions) base mp entries = true → mpOK entries mp = true →
    compWF root = true →
    o.excludeExternal = true → o.externalExclusions.isEmpty = true →
    (∀ e ∈ entries', ∀ st ∈ e.stmts, stmtOK (toSStmt st) = true) → ∀ (g g' : PGraph Str),
    generateGraph mt base root mp entries o = .ok g →
    generateGraph mt base root mp entries' o = .ok g' →
    ∀ (mt' : Str → Str → Bool) (A B : List Filter) (dir exc : Bool),
    (verdictOf mt' g (mkRule true false false dir exc A B) = .pass →
      verdictOf mt' g' (mkRule true false false dir exc A B) = .pass) ∧
    (verdictOf mt' g (mkRule false false true dir exc A B) = .fail →
      verdictOf mt' g' (mkRule false false true dir exc A B) = .fail) ∧
    (∀ (neg : Bool) (k : ErrKind), verdictOf mt' g' (mkRule (!neg) false neg dir exc A B) = .err k ↔
      verdictOf mt' g (mkRule (!neg) false neg dir exc A B) = .err k)) ∧
  -- 18 `Pta.C12.monotone_should_edges`
  (∀ (mt : Str → Str → Bool) (g : PGraph Str) (ps : List (Str × Str)) (A B : List Filter) (dir exc : Bool),
    verdictOf mt g (mkRule true false false dir exc A B) = .pass →
    verdictOf mt (addImportEdges g ps) (mkRule true false false dir exc A B) = .pass) ∧
  -- 19 `Pta.C12.monotone_should_not_edges`
  (∀ (mt : Str → Str → Bool) (g : PGraph Str) (ps : List (Str × Str)) (A B : List Filter) (dir exc : Bool),
    verdictOf mt g (mkRule false false true dir exc A B) = .fail →
    verdictOf mt (addImportEdges g ps) (mkRule false false true dir exc A B) = .fail) ∧
  -- 20 `Pta.C12.monotone_err_edges`
  (∀ (mt : Str → Str → Bool) (g : PGraph Str) (ps : List (Str × Str)) (A B : List Filter)
    (neg dir exc : Bool) (k : ErrKind),
    verdictOf mt (addImportEdges g ps) (mkRule (!neg) false neg dir exc A B) = .err k ↔
    verdictOf mt g (mkRule (!neg) false neg dir exc A B) = .err k)

theorem c12 : C12_Statement :=
  ⟨@Pta.C12.duality, @Pta.C12.negation, @Pta.C12.negation_eq, @Pta.C12.decomposition, @Pta.C12.decomposition_except,
   @Pta.C12.decomposition_eq, @Pta.C12.decomposition_except_eq, @Pta.C12.alias_anything,
   @Pta.C12.alias_anything_verdict_api, @Pta.C12.monotone_should, @Pta.C12.monotone_should_not,
   @Pta.C12.monotone_err, Pta.C12.generated_flags_agree,
   @Pta.C12.scan_add_statement_nodes, @Pta.C12.scan_add_statement_monotone, @Pta.C12.scan_add_statement_error,
   @Pta.C12.scan_more_statements_monotone,
   @Pta.C12.monotone_should_edges, @Pta.C12.monotone_should_not_edges, @Pta.C12.monotone_err_edges⟩

end C12

/-! ## C13 -/
section C13
open PtaSpec Pta.C13M

/-- C13 — Undefined or incomplete specifications never produce a verdict.
    English statement (verbatim): "A rule that mentions a module name absent from the architecture, a regex matching
    nothing, or a layer that was never defined, and any rule, layer rule, diagram rule or architecture request that is
    incomplete or contradictory (missing subject, verb, import type or object; 'anything' with a verb other than
    should_not; should_not combined with another verb; object given before a subject; mutually exclusive exclusion
    options; external patterns while externals are excluded; module_path outside root_path; diagram without file or
    without start/end tags) raises a configuration or lookup error. It never returns normally and never raises the
    AssertionError that signals an architectural violation."

    "raises a configuration or lookup error … never returns normally and never raises AssertionError" is, in the model,
    "the outcome is `.err k`" (`VClass` / `Verdict` have exactly pass | fail | err).  Call histories (`List RuleOp`,
    `List LayerRuleOp`) are classified by the independent specification automata of PtaSpec/BuilderSpec.lean
    (`classifyRule`, `classifyLayerRule`); the theorems quantify over ALL call sequences of any length.

    Clause map:
      (1) "A rule that mentions a module name absent from the architecture" — conjunct 4 (`Pta.C13.unknown_name`):
          `matchRule … = .err .lookupError` for every regex-free rule with a verb, non-empty sides and a filter whose
          identifier is not a node, on every graph; for the `anything` aliases conjunct 6
          (`Pta.C13.anything_unknown_name`) — also when `_convert_aliases` drops that subject (repair of F-C13b,
          `Pta.C13.unknown_name_anything_rejected`); for layer rules with `any layer` conjunct 7
          (`Pta.C13.layer_anything_unknown_name`).  (Specification-level form: `Pta.C01.unknown_name_no_verdict`.)
          Absent modules BEHIND A LAYER (Props/C13More.lean; `compileLayerRule larch r`, Bridge/LayerAbs.lean: the
          LayerRule object after the complete builder chain of `r : LRuleSpec`, all 12 shapes and the two `any layer`
          forms; `mentionedLayers r`: the subject layer and, unless `any layer`, the object layers; `mentioned larch r`:
          the filters these layers list) — conjunct 21 (`Pta.C13.layer_unknown_module`): if a layer the rule MENTIONS
          lists by name an identifier that is not a node, `assert_applies` raises the lookup error, on every graph,
          for every regex engine, provided the regexes of the mentioned layers all have a match (otherwise the no-match
          error wins, conjunct 23) and the subject layer / the object layers list something (through the fluent
          chain, with the index of the raising call: `Pta.C13.layer_unknown_module_chain`; next to regexes in a module
          rule: `Pta.C13.unknown_name_with_regex`).  Conjunct 22 (`Pta.C13.layer_unmentioned_irrelevant`): layers the
          rule does NOT mention are irrelevant for the lookup error and the no-match error — two layered architectures
          that define the mentioned layers alike raise them together; in particular an absent module listed only by an
          unmentioned layer is NOT an error (`Pta.C13.layer_unmentioned_absent_no_lookup_error`; the matcher looks
          nothing up for such layers — stage description: `Pta.C13.layer_matcher_error_stages`).
          Absent modules BEHIND A DIAGRAM (`withBase base m`: the name `with_base_module` gives the component `m`;
          `Checked p m`: `m` is drawn together with another component, or is an end of an arrow) — conjunct 25
          (`Pta.C13.diagram_unknown_component`): a checked component that is, after prefixing, not a node makes the
          generated rule batch raise the lookup error, both modes, any base module, for every parse result without a
          dependor with an empty dependee list (`hne`; every parser output is one, `Pta.C13.parse_result_shape`);
          conjunct 26 (`Pta.C13.diagram_lookup_error_iff`): EXACTLY then, and the batch never raises anything else;
          conjunct 27 (`Pta.C13.diagram_single_component`): the BOUNDARY of the batch — a diagram with ONE isolated
          component generates no rule at all, the batch looks nothing up and passes on every graph whether the component
          exists or not ("exactly the checked components" of conjunct 26 is the true statement about the BATCH).  Before
          the repair of finding F-C13c this was the outcome of `DiagramRule.assert_applies`
          (`Pta.C13.diagram_single_component_before_repair`, on the model `diagramAssertBeforeRepair`; exact statement
          `Pta.C13.diagram_file_lookup_error_iff_before_repair`), so the English clause did not hold of the library for
          that diagram.  The repaired `assert_applies` (`diagramAssert`) checks, after prefixing and before the rules are
          generated, that EVERY component is a module of the architecture, else a lookup error (`KeyError`) —
          conjunct 28 (`Pta.C13.diagram_file_lookup_error_iff`): on every file that parses, `DiagramRule.assert_applies`
          raises the lookup error EXACTLY when some component (base module prefixed) is not a node of the graph — no
          `Checked`, no "at least two components", no `hne` — and it raises no other error (sufficient form
          `Pta.C13.diagram_file_unknown_component`; for every builder history supplying that file last:
          `Pta.C13.diagram_history_unknown_component`; the one isolated absent component now raises:
          `Pta.C13.diagram_single_component_repaired`).  In the domain of C07 / C09 / C14 / C15 / E2E (all components
          are nodes) the new check finds nothing (`Pta.C07.domain_nothing_missing`,
          `Pta.Repair.diagramAssert_eq_beforeRepair`).
          TOO-DEEP NAMES against level-limited architectures — conjunct 29 (`Pta.C13.too_deep_not_node`): on the graph
          built with `level_limit = k` no well-formed name with more than `k+1` components is a node; conjunct 30
          (`Pta.C13.too_deep_name`): hence a complete regex-free module rule naming (`are_named` or
          `are_sub_modules_of`) a module of the architecture below the limit raises the lookup error on the limited
          graph (with matching regexes elsewhere in the rule: `Pta.C13.too_deep_name_with_regex`); conjunct 31
          (`Pta.C13.too_deep_layer`): the same behind a mentioned layer.  (For what happens to verdicts of layer /
          diagram rules under a limit see `Pta.C09.layer_verdict_not_preserved_deep`,
          `diagram_verdict_not_preserved_deep`.)
      (2) "a regex matching nothing" — conjunct 5 (`Pta.C13.no_match_wins_over_unknown_name`): a regex without a match in
          subject or object position raises the no-match error, whatever else the rule says (even next to an absent name).
          REGEX LAYERS — conjunct 23 (`Pta.C13.layer_regex_no_match`, the 12 shapes): some mentioned layer contains a
          regex filter matching no node — `ImpossibleMatch`, never a verdict, NO hypothesis about the names (the
          no-match error wins over the lookup error of an absent module in the same or another mentioned layer);
          conjunct 24 (`Pta.C13.layer_regex_no_match_any`): the two `any layer` forms with the subject layer defined by
          `have_modules_with_names_matching(p)` (the only way the builder puts a regex into a layer).  On ARBITRARY
          layers (names and regexes mixed, not definable through the builder) `_convert_aliases` runs first:
          `Pta.C13.layer_regex_no_match_any_converted` (the regex must survive the alias conversion and no absent name
          may be dropped by it) and, the other way round, `Pta.C13.layer_any_dropped_absent_wins` (an absent module
          dropped by the alias conversion is reported first — lookup error).
      (3) "or a layer that was never defined" and "layer rule … incomplete or contradictory" — conjunct 8
          (`Pta.C13.layer_rule_history`): a LayerRule history the automaton rejects raises ImproperlyConfigured at
          exactly that call; an undefined layer raises a lookup error at the call that names it (`.lookupAt i`); a
          history without `based_on` raises; a final state the inner rule automaton classifies as must-raise never
          yields a verdict.
      (4) "any rule … that is incomplete or contradictory (missing subject, verb, import type or object; 'anything' with a
          verb other than should_not; should_not combined with another verb; object given before a subject; …)"
          — conjunct 1 (`Pta.C13.rule_history_raises`): every Rule history classified `mustRaise` (incomplete,
          contradictory, or an error at some call) ends in `.err k`; conjunct 2 (`Pta.C13.rule_history_error_at`): a
          naming call before a subject/object position raises ImproperlyConfigured at exactly that call; conjunct 3
          (`Pta.C13.rule_history_complete`): conversely a complete history is never rejected as a configuration
          problem.  Which histories ARE incomplete / contradictory is the definition of `classifyRule`.
      (5) "mutually exclusive exclusion options; external patterns while externals are excluded; module_path outside
          root_path" — conjunct 9 (`Pta.C13.options`): `entryOptionsError` is an error exactly for these combinations,
          "module_path outside root_path" being the Boolean `modulePathInsideRoot`.  That Boolean is computed IN
          the model: conjunct 20 (`Pta.C04.path_entry_option_error`): with `modulePathInsideRoot` :=
          "`module_path.relative_to(root_path)` succeeds" (`(entryPaths rootPath modulePath).toBool`; `entryPaths` /
          `PPath.relativeTo`, PtaModel/Scan.lean: same root and the components of `root_path` a prefix of those of
          `module_path`) every combination `entryOptionsError` lists makes the path entry point
          `getEvaluableArchitecture` raise the listed error — for every file system and regex engine; through
          `Pta.C04.module_object_entry_eq_path_entry` the same holds of the module-object entry point for package
          module objects.  (With options that pass the check the entry point returns what the scan returns, graph or
          the scan's error: `Pta.C04.path_entry_eq_generateGraph`.)
          PATH CONTAINMENT spelled out (Props/C13More.lean) — conjunct 32 (`Pta.C13.module_path_outside_root`): the
          option checks pass (`entryOptionsError (a.flags true) = none`) and `module_path.relative_to(root_path)`
          raises (`PPath.relativeTo … = .error .lookupError`; by `Pta.C13.relative_to_error_iff` exactly when the roots
          differ or the components of `root_path` are not a prefix of those of `module_path`) — the path entry point
          raises that error (`ValueError`, kind `lookupError`) for every file system; conjunct 33
          (`Pta.C13.options_before_paths`): ORDER of the checks — a contradictory option set is ImproperlyConfigured
          whatever the two paths are, in particular it wins over the path error; conjunct 34
          (`Pta.C13.module_objects_outside_root`): the same through the module-object entry point, the two paths being
          the `dirname`s of the two `__file__`s (in terms of the two directories:
          `Pta.C13.module_objects_outside_root_dirs`; order of the checks there:
          `Pta.C13.module_objects_options_before_paths`).
      (6) "diagram without file or without start/end tags" — conjunct 10 (`Pta.C13.diagram_without_file`, holds by
          evaluation of `diagramAssert … none …`) and conjunct 11 (`Pta.C13.diagram_without_tags`; the parser-level
          statement is `Pta.C06.no_tags`).
          "diagram rule … that is incomplete" as a BUILDER HISTORY — `DiagramRule(should_only_rule)` followed by ANY
          sequence of `from_file` / `with_base_module` / `base_module_included_in_module_names` calls
          (`List DiagramRuleOp`, `runDiagramOps`, PtaModel/Puml.lean) and `assert_applies`, classified by the
          specification classifier `classifyDiagram` (PtaSpec/BuilderSpec.lean: was a file ever supplied; which file /
          base module were supplied LAST — `Pta.C13.diagram_last_file`, `diagram_last_base`): conjunct 13
          (`Pta.C13.diagram_history_raises`): a history that never calls `from_file` raises ImproperlyConfigured, for
          every graph, regex engine and mode — never a verdict; conjunct 14 (`Pta.C13.diagram_incomplete_iff`): these
          are exactly the histories the classifier calls incomplete (through the classifier: conjunct 19,
          `Pta.C13.diagram_history_incomplete`); conjunct 15 (`Pta.C13.diagram_history_complete`):
          every other history IS the one-shot check `diagramAssert` on the last file with the last base module
          (`with_base_module` before `from_file` included; `base_module_included_in_module_names` undoes nothing), so
          conjuncts 10, 11 and C07 apply; conjunct 16 (`Pta.C13.diagram_history_no_tags`): last file without tags —
          parsing error; conjuncts 17, 18 (`Pta.C13.diagram_history_conforms_iff`,
          `diagram_history_base_conforms_iff`): conversely a complete history over a diagram of the documented subset
          in the domain of C07 never raises and passes exactly when the imports conform.
      (7) (guard provenance) conjunct 12 (`Pta.C13.generated_config_agree`, Props/Tables.lean): the configuration guards
          translated from pytestarch.py / rule.py on every run equal the model's guards on all argument combinations.
    Not carried by a theorem (correspondence check only / outside the model):
      * the Python exception CLASSES (ImproperlyConfigured, KeyError / NetworkXError for lookups, ImpossibleMatch,
        PumlParsingError, ValueError from `Path.relative_to`): `ErrKind` is a naming convention of the harness.
      * absent modules: the cases in which the library gives a VERDICT although an absent name was written down are
        part of the theorems, not gaps — a module listed only by a layer the rule does not mention (conjunct 22), one
        isolated diagram component (conjunct 27) — and one observation outside the builder's typed API (an `example`
        of Props/C13More.lean): the alias conversion compares identifiers of REGEX filters like module names, so of
        the two patterns `p`, `p.zz` passed as a list to `have_name_matching` the second is dropped and never
        converted; that it matches nothing goes unnoticed.  Too-deep names behind a DIAGRAM on a level-limited
        graph are instances of conjuncts 25–28 with `too_deep_not_node` (conjunct 29); no separate theorem.
      * too-deep names on level-limited graphs of a SCAN: conjuncts 29–31 are about `archGraphLim a (some k)`; the link
        to scanned trees is C09 (`Pta.C09`, level limit at scan level), not composed here.
      * of path containment: that `pathlib.Path.relative_to` behaves as the transcription `PPath.relativeTo` (pure
        POSIX path arithmetic on the two strings: no `resolve()`, `..` kept, no symlinks, no Windows paths) — the
        containment test itself and the order of the entry-point checks are in the model (conjuncts 20, 32–34).
      * DiagramRule histories: a `DiagramRule` object re-used for a second `assert_applies`, and `from_file` on a path
        that cannot be read (the file CONTENT is the argument of `fromFile` in the model). -/
def C13_Statement : Prop :=
  -- 1 `Pta.C13.rule_history_raises`
  (∀ (glob : Str → Str) (mt : Str → Str → Bool) (ops : List RuleOp) (g : PGraph Str),
    (classifyRule (ops.map toRCall)).mustRaise = true → ∃ k, (runRuleOps glob mt ops g).1 = .err k) ∧
  -- 2 `Pta.C13.rule_history_error_at`
  (∀ (glob : Str → Str) (mt : Str → Str → Bool) (ops : List RuleOp) (g : PGraph Str) (i : Nat),
    classifyRule (ops.map toRCall) = .errorAtCall i → runRuleOps glob mt ops g = (.err .improperlyConfigured, i)) ∧
  -- 3 `Pta.C13.rule_history_complete`
  (∀ (glob : Str → Str) (mt : Str → Str → Bool) (ops : List RuleOp) (g : PGraph Str),
    classifyRule (ops.map toRCall) = .complete →
    (runRuleOps glob mt ops g).1 ≠ .err .improperlyConfigured ∧ (runRuleOps glob mt ops g).1 ≠ .err .ruleInconsistency) ∧
  -- 4 `Pta.C13.unknown_name`
  (∀ (mt : Str → Str → Bool) (g : PGraph Str) (b : Behavior) (dir : Bool) (subs objs : List Filter),
    (b.should = true ∨ b.shouldOnly = true ∨ b.shouldNot = true) →
    subs ≠ [] → objs ≠ [] →
    (∀ f ∈ subs ++ objs, f.isRegex = false) →
    (∃ f ∈ subs ++ objs, g.hasNode f.id = false) →
    matchRule mt g b dir subs objs = .err .lookupError) ∧
  -- 5 `Pta.C13.no_match_wins_over_unknown_name`
  (∀ (mt : Str → Str → Bool) (g : PGraph Str) (b : Behavior) (dir : Bool)
    (subs objs : List Filter),
    (∃ f ∈ subs ++ objs, f.isRegex = true ∧ ∀ m ∈ g.nodes, mt f.id m = false) →
    matchRule mt g b dir subs objs = .err .impossibleMatch) ∧
  -- 6 `Pta.C13.anything_unknown_name`
  (∀ (mt : Str → Str → Bool) (g : PGraph Str) (dir : Bool) (S : List Filter),
    (∀ f ∈ S, f.isRegex = false) →
    (∃ f ∈ S, g.hasNode f.id = false) →
    (assertApplies mt { cfg := { subjects := some S, shouldNot := true, importDir := some dir, anything := true },
                        next := some false } g).2 = .err .lookupError) ∧
  -- 7 `Pta.C13.layer_anything_unknown_name`
  (∀ (mt : Str → Str → Bool) (g : PGraph Str) (a : LArch) (dir : Bool) (S : List Filter),
    (∀ f ∈ S, f.isRegex = false) →
    (∃ f ∈ S, g.hasNode f.id = false) →
    assertAppliesLayer mt ⟨some a, some { cfg := { subjects := some S, shouldNot := true, importDir := some dir,
                                                    anything := true }, next := some false }⟩ g = .err .lookupError) ∧
  -- 8 `Pta.C13.layer_rule_history`
  (∀ (mt : Str → Str → Bool) (a : LArch) (ops : List LayerRuleOp) (g : PGraph Str),
    (∀ op ∈ ops, ∀ a', op = LayerRuleOp.basedOn a' → a' = a) →
    match classifyLayerRule (ops.map (toLRCall a)) with
    | .rejectedAt i => runLayerRuleOps mt ops g = (.err .improperlyConfigured, i)
    | .lookupAt i => runLayerRuleOps mt ops g = (.err .lookupError, i)
    | .notStarted => (runLayerRuleOps mt ops g).1 = .err .improperlyConfigured
    | .final c => c.mustRaise = true → ∃ k, (runLayerRuleOps mt ops g).1 = .err k) ∧
  -- 9 `Pta.C13.options`
  (∀ (o : EntryOptions),
    ((o.regexExclusions && o.exclusions) || (o.regexExternalExclusions && o.externalExclusions) ||
     (o.excludeExternal && (o.externalExclusions || o.regexExternalExclusions)) || !o.modulePathInsideRoot) = true ↔
    (entryOptionsError o).isSome = true) ∧
  -- 10 `Pta.C13.diagram_without_file`
  (∀ (mt : Str → Str → Bool) (base : Option Str) (only : Bool) (g : PGraph Str),
    ∃ k, diagramAssert mt none base only g = .err k) ∧
  -- 11 `Pta.C13.diagram_without_tags`
  (∀ (mt : Str → Str → Bool) (content : Str) (base : Option Str) (only : Bool) (g : PGraph Str),
    pumlBody (pyStrip content) = .error .pumlParsingError →
    ∃ k, diagramAssert mt (some content) base only g = .err k) ∧
  -- 12 `Pta.C13.generated_config_agree`
  ((∀ ex rex eex reex xx : Bool,
      Generated.entryImproper ex rex eex reex xx =
        (entryOptionsError ⟨ex, rex, eex, reex, xx, true⟩ == some ErrKind.improperlyConfigured)) ∧
    (∀ a n : Bool, Generated.anythingMisused a n = anythingMisused { anything := a, shouldNot := n }) ∧
    (∀ s o n : Bool, ∀ d ∈ [none, some true, some false], ∀ ss ∈ Pta.C13.listShapes, ∀ os ∈ Pta.C13.listShapes,
      Generated.configMissing s o n d.isNone
          (match ss with | none => true | some l => l.isEmpty) (match os with | none => true | some l => l.isEmpty) =
        configMissing { should := s, shouldOnly := o, shouldNot := n, importDir := d, subjects := ss, objects := os })) ∧
  -- 13 `Pta.C13.diagram_history_raises`
  (∀ (only : Bool) (ops : List DiagramRuleOp) (mt : Str → Str → Bool) (g : PGraph Str),
    (∀ c, DiagramRuleOp.fromFile c ∉ ops) → runDiagramOps only ops mt g = .err .improperlyConfigured) ∧
  -- 14 `Pta.C13.diagram_incomplete_iff`
  (∀ (ops : List DiagramRuleOp),
    classifyDiagram (ops.map toDCall) = .incomplete ↔ ∀ c, DiagramRuleOp.fromFile c ∉ ops) ∧
  -- 15 `Pta.C13.diagram_history_complete`
  (∀ (only : Bool) (ops : List DiagramRuleOp) (mt : Str → Str → Bool) (g : PGraph Str)
    (f : Str) (b : Option Str), classifyDiagram (ops.map toDCall) = .complete f b →
    runDiagramOps only ops mt g = diagramAssert mt (some f) b only g) ∧
  -- 16 `Pta.C13.diagram_history_no_tags`
  (∀ (only : Bool) (ops : List DiagramRuleOp) (mt : Str → Str → Bool) (g : PGraph Str)
    (f : Str) (b : Option Str), classifyDiagram (ops.map toDCall) = .complete f b →
    pumlBody (pyStrip f) = .error .pumlParsingError →
    runDiagramOps only ops mt g = .err .pumlParsingError) ∧
  -- 17 `Pta.C13.diagram_history_conforms_iff`
  (∀ (only : Bool) (ops : List DiagramRuleOp) (mt : Str → Str → Bool) (a : Arch)
    (noise1 noise2 : Str) (d : List DLine), diagramWF d = true → isInfix "@enduml".toList noise2 = false →
    classifyDiagram (ops.map toDCall) = .complete (diagramText noise1 d noise2) none →
    diagramDomain a (specDiagram d) = true →
    (runDiagramOps only ops mt (archGraph a) = .pass ↔ conforms a (specDiagram d) only = true) ∧
    (∀ k, runDiagramOps only ops mt (archGraph a) ≠ .err k)) ∧
  -- 18 `Pta.C13.diagram_history_base_conforms_iff`
  (∀ (only : Bool) (ops : List DiagramRuleOp) (mt : Str → Str → Bool) (a : Arch)
    (noise1 noise2 : Str) (d : List DLine), diagramWF d = true → isInfix "@enduml".toList noise2 = false →
    ∀ (q : Name), q ≠ [] →
    classifyDiagram (ops.map toDCall) = .complete (diagramText noise1 d noise2) (some (render q)) →
    diagramDomain a (prefixDiagram q (specDiagram d)) = true →
    (runDiagramOps only ops mt (archGraph a) = .pass ↔ conforms a (prefixDiagram q (specDiagram d)) only = true) ∧
    (∀ k, runDiagramOps only ops mt (archGraph a) ≠ .err k)) ∧
  -- 19 `Pta.C13.diagram_history_incomplete`
  (∀ (only : Bool) (ops : List DiagramRuleOp) (mt : Str → Str → Bool) (g : PGraph Str),
    classifyDiagram (ops.map toDCall) = .incomplete → runDiagramOps only ops mt g = .err .improperlyConfigured) ∧
  -- 20 `Pta.C04.path_entry_option_error`
  (∀ (mt : Str → Str → Bool) (fs : Str → List Entry) (rootPath modulePath : Str) (a : EntryArgs) (k : ErrKind),
    entryOptionsError (a.flags (entryPaths rootPath modulePath).toBool) = some k →
    getEvaluableArchitecture mt fs rootPath modulePath a = .error (.kind k)) ∧
  -- 21 `Pta.C13.layer_unknown_module`
  (∀ (mt : Str → Str → Bool) (g : PGraph Str) (larch : LArch) (r : LRuleSpec),
    (r.anything = true → r.verb = .shouldNot) →
    larch.getD r.subject ≠ [] → (r.anything = true ∨ r.objects.flatMap larch.getD ≠ []) →
    (∀ f ∈ mentioned larch r, f.isRegex = true → ∃ m ∈ g.nodes, mt f.id m = true) →
    ∀ (L : Str), L ∈ mentionedLayers r → ∀ (f : Filter), f ∈ larch.getD L →
    f.isRegex = false → g.hasNode f.id = false →
    assertAppliesLayer mt (compileLayerRule larch r) g = .err .lookupError) ∧
  -- 22 `Pta.C13.layer_unmentioned_irrelevant`
  (∀ (mt : Str → Str → Bool) (g : PGraph Str) (larch larch' : LArch) (r : LRuleSpec),
    (r.anything = true → r.verb = .shouldNot) →
    larch.getD r.subject ≠ [] → (r.anything = true ∨ r.objects.flatMap larch.getD ≠ []) →
    (∀ L ∈ mentionedLayers r, larch'.getD L = larch.getD L) →
    (assertAppliesLayer mt (compileLayerRule larch r) g = .err .lookupError ↔
      assertAppliesLayer mt (compileLayerRule larch' r) g = .err .lookupError) ∧
    (assertAppliesLayer mt (compileLayerRule larch r) g = .err .impossibleMatch ↔
      assertAppliesLayer mt (compileLayerRule larch' r) g = .err .impossibleMatch)) ∧
  -- 23 `Pta.C13.layer_regex_no_match`
  (∀ (mt : Str → Str → Bool) (g : PGraph Str) (larch : LArch) (r : LRuleSpec),
    r.anything = false →
    larch.getD r.subject ≠ [] → r.objects.flatMap larch.getD ≠ [] →
    ∀ (L : Str), L ∈ mentionedLayers r → ∀ (f : Filter), f ∈ larch.getD L →
    f.isRegex = true → (∀ m ∈ g.nodes, mt f.id m = false) →
    assertAppliesLayer mt (compileLayerRule larch r) g = .err .impossibleMatch) ∧
  -- 24 `Pta.C13.layer_regex_no_match_any`
  (∀ (mt : Str → Str → Bool) (g : PGraph Str) (larch : LArch) (r : LRuleSpec),
    r.anything = true → r.verb = .shouldNot → ∀ (p : Str), larch.getD r.subject = [.regex p] →
    (∀ m ∈ g.nodes, mt p m = false) →
    assertAppliesLayer mt (compileLayerRule larch r) g = .err .impossibleMatch) ∧
  -- 25 `Pta.C13.diagram_unknown_component`
  (∀ (mt : Str → Str → Bool) (g : PGraph Str) (so : Bool) (p : Parsed') (base : Option Str),
    (∀ kv ∈ p.dependencies, kv.2 ≠ []) → ∀ (m : Str),
    ((m ∈ p.modules ∧ ∃ x ∈ p.modules, x ≠ m) ∨ ∃ kv ∈ p.dependencies, m = kv.1 ∨ m ∈ kv.2) →
    g.hasNode (withBase base m) = false →
    applyAll mt g (diagramRules so (prefixParsed p base)) = .err .lookupError) ∧
  -- 26 `Pta.C13.diagram_lookup_error_iff`
  (∀ (mt : Str → Str → Bool) (g : PGraph Str) (so : Bool) (p : Parsed') (base : Option Str),
    (∀ kv ∈ p.dependencies, kv.2 ≠ []) →
    (applyAll mt g (diagramRules so (prefixParsed p base)) = .err .lookupError ↔
      ∃ m, Checked p m ∧ g.hasNode (withBase base m) = false) ∧
    (∀ k, applyAll mt g (diagramRules so (prefixParsed p base)) = .err k → k = .lookupError)) ∧
  -- 27 `Pta.C13.diagram_single_component`
  (∀ (mt : Str → Str → Bool) (g : PGraph Str) (so : Bool) (m : Str) (base : Option Str),
    diagramRules so (prefixParsed ⟨[m], []⟩ base) = [] ∧
    applyAll mt g (diagramRules so (prefixParsed ⟨[m], []⟩ base)) = .pass) ∧
  -- 28 `Pta.C13.diagram_file_lookup_error_iff`
  (∀ (mt : Str → Str → Bool) (g : PGraph Str) (so : Bool) (c : Str) (base : Option Str)
    (p : Parsed'), pumlParse c = .ok p →
    (diagramAssert mt (some c) base so g = .err .lookupError ↔ ∃ m ∈ p.modules, g.hasNode (withBase base m) = false) ∧
    (∀ k, diagramAssert mt (some c) base so g = .err k → k = .lookupError)) ∧
  -- 29 `Pta.C13.too_deep_not_node`
  (∀ (a : Arch), a.wf = true → ∀ (k : Nat) (n : Name), nameWF n = true →
    k + 1 < n.length → (archGraphLim a (some k)).hasNode (render n) = false) ∧
  -- 30 `Pta.C13.too_deep_name`
  (∀ (mt : Str → Str → Bool) (a : Arch), a.wf = true → ∀ (k : Nat) (b : Behavior) (dir : Bool)
    (subs objs : List Filter),
    (b.should = true ∨ b.shouldOnly = true ∨ b.shouldNot = true) →
    subs ≠ [] → objs ≠ [] →
    (∀ f ∈ subs ++ objs, f.isRegex = false) →
    ∀ (n : Name), n ∈ a.nodes → k + 1 < n.length →
    ∀ (f : Filter), f ∈ subs ++ objs → f.id = render n →
    matchRule mt (archGraphLim a (some k)) b dir subs objs = .err .lookupError) ∧
  -- 31 `Pta.C13.too_deep_layer`
  (∀ (mt : Str → Str → Bool) (a : Arch), a.wf = true → ∀ (k : Nat) (larch : LArch) (r : LRuleSpec),
    (r.anything = true → r.verb = .shouldNot) →
    larch.getD r.subject ≠ [] → (r.anything = true ∨ r.objects.flatMap larch.getD ≠ []) →
    (∀ f ∈ mentioned larch r, f.isRegex = true → ∃ m ∈ (archGraphLim a (some k)).nodes, mt f.id m = true) →
    ∀ (L : Str), L ∈ mentionedLayers r → ∀ (f : Filter), f ∈ larch.getD L → f.isRegex = false →
    ∀ (n : Name), n ∈ a.nodes → k + 1 < n.length → f.id = render n →
    assertAppliesLayer mt (compileLayerRule larch r) (archGraphLim a (some k)) = .err .lookupError) ∧
  -- 32 `Pta.C13.module_path_outside_root`
  (∀ (mt : Str → Str → Bool) (fs : Str → List Entry) (rootPath modulePath : Str) (a : EntryArgs),
    entryOptionsError (a.flags true) = none →
    (parsePath modulePath).relativeTo (parsePath rootPath) = .error .lookupError →
    getEvaluableArchitecture mt fs rootPath modulePath a = .error (.kind .lookupError)) ∧
  -- 33 `Pta.C13.options_before_paths`
  (∀ (mt : Str → Str → Bool) (fs : Str → List Entry) (rootPath modulePath : Str) (a : EntryArgs)
    (k : ErrKind), entryOptionsError (a.flags true) = some k →
    k = .improperlyConfigured ∧
    getEvaluableArchitecture mt fs rootPath modulePath a = .error (.kind .improperlyConfigured)) ∧
  -- 34 `Pta.C13.module_objects_outside_root`
  (∀ (mt : Str → Str → Bool) (fs : Str → List Entry) (rootModule module : ModuleObj)
    (a : EntryArgs), entryOptionsError (a.flags true) = none →
    (parsePath (dirname module.file)).relativeTo (parsePath (dirname rootModule.file)) = .error .lookupError →
    scanForModuleObjects mt fs rootModule module a = .error (.kind .lookupError))

theorem c13 : C13_Statement :=
  ⟨@Pta.C13.rule_history_raises, @Pta.C13.rule_history_error_at, @Pta.C13.rule_history_complete,
   @Pta.C13.unknown_name, @Pta.C13.no_match_wins_over_unknown_name, @Pta.C13.anything_unknown_name,
   @Pta.C13.layer_anything_unknown_name, @Pta.C13.layer_rule_history, @Pta.C13.options,
   @Pta.C13.diagram_without_file, @Pta.C13.diagram_without_tags, Pta.C13.generated_config_agree,
   @Pta.C13.diagram_history_raises, @Pta.C13.diagram_incomplete_iff, @Pta.C13.diagram_history_complete,
   @Pta.C13.diagram_history_no_tags, @Pta.C13.diagram_history_conforms_iff,
   @Pta.C13.diagram_history_base_conforms_iff, @Pta.C13.diagram_history_incomplete,
   @Pta.C04.path_entry_option_error,
   @Pta.C13.layer_unknown_module, @Pta.C13.layer_unmentioned_irrelevant, @Pta.C13.layer_regex_no_match,
   @Pta.C13.layer_regex_no_match_any, @Pta.C13.diagram_unknown_component, @Pta.C13.diagram_lookup_error_iff,
   @Pta.C13.diagram_single_component, @Pta.C13.diagram_file_lookup_error_iff, @Pta.C13.too_deep_not_node,
   @Pta.C13.too_deep_name, @Pta.C13.too_deep_layer, @Pta.C13.module_path_outside_root,
   @Pta.C13.options_before_paths, @Pta.C13.module_objects_outside_root⟩

end C13

/-! ## C14 -/
section C14
open PtaSpec

/-- C14 — Module identity follows dotted-name boundaries, never raw string prefixes.
    English statement (verbatim): "Whether one module is a sub module of, belongs to the layer of, shares the alias of, or
    is internal like another is decided by whole dotted components only: a module 'pkg.ab' is never treated as part of
    'pkg.a'. Consequently every verdict, violation message, layer attribution and plot label is invariant, up to the
    renaming itself, under any injective renaming of path components, including renamings that make one sibling's name a
    string prefix or substring of another's."

    `ρ : Comp → Comp` with `GoodRen ρ` (injective, preserves `compWF`: non-empty, dot-free components) is the renaming;
    `renName`, `renArch`, `renRule`, `renLayers`, `renDiagram`, `renAliases` apply it component-wise; `renDotted ρ` /
    `renStr ρ` are its action on dotted strings.  An adversarial instance (`x ↦ a`, `y ↦ ab`) is `Pta.C14.advRen_good`.

    Clause map:
      (1) "Whether one module is a sub module of, … shares the alias of, or is internal like another is decided by whole
          dotted components only: a module 'pkg.ab' is never treated as part of 'pkg.a'" — conjunct 1
          (`Pta.C14.raw_test_is_prefix`): the raw-string tests the (repaired) code performs on rendered well-formed names
          — `isModuleOrSub`, `isStrictSub`, `isInternal` — equal the component-prefix relations `desc` / `sdesc`
          (what a raw `startswith` would get wrong: `Pta.C14.raw_prefix_counterexample`); conjunct 2
          (`Pta.C14.desc_ren`): those relations are invariant under `ρ`; conjunct 12 (`Pta.C14.isInternal_ren`).
          "belongs to the layer of" — conjunct 7 (`Pta.C14.layerOf_ren`): the layer lookup on rendered names is invariant.
      (2) "Consequently every verdict, violation message … is invariant, up to the renaming itself" (module rules)
          — specification side: conjuncts 3, 4 (`Pta.C14.verdict_ren`, `violating_ren`; all rules);
          — the CODE MODEL: conjunct 5 (`Pta.C14.model_verdict_ren_all`): same verdict class (which error included) for
          EVERY rule with well-formed identifiers (`ruleWF r`; related names, batches, `anything`, absent names) on every
          well-formed architecture; conjunct 6 (`Pta.C14.model_report_ren`): the whole outcome is the original one with
          every module name in every report line renamed (same lines, same order).
          — the message TEXT (Props/C14Text.lean): conjunct 13 (`Pta.C14.text_ren_items`): the outcome WITH text on the
          renamed inputs is the rendering of the renamed report items (pass stays pass, an error stays the same
          error), no hypothesis about `"`; conjunct 14 (`Pta.C14.text_ren`): if moreover no path component contains
          `"` before or after the renaming (`archNoQuote a`, `ruleNoQuote r`, `QuoteFree ρ`; Python module names never
          do), the lines of the renamed message are, as a multiset (`List.Perm`), the renamed lines of the original
          message (`renLine ρ`, Bridge/RenameText.lean: parse the line, rename the names, render again), and literally
          those lines sorted again (`sortStr`).  Literal equality of the line LISTS is false, because sorting does not
          commute with renaming: `Pta.C14.text_ren_order_changes` (line order), `text_ren_object_order_changes` (order
          of the objects inside a `does not import` line).
      (3) "layer attribution" (layer rules) — conjunct 8 (`Pta.C14.layer_report_ren`): the outcome of a layer rule on the
          renamed architecture with the renamed layers (`layersWF ls`: well-formed listed names; related modules,
          duplicates, absent modules, undefined layers all allowed) is the original outcome with module names renamed;
          conjunct 9 (`Pta.C14.layer_verdict_ren_cls`): same class (`LayerMismatch` included) and the SAME layer tags.
      (4) (diagram rules) conjunct 10 (`Pta.C14.diagram_spec_ren`): same verdict class and the report items are the renamed
          items as a MULTISET (`Perm`; `sorted(...)` reorders the generated rules, so list equality fails), with or
          without base module.
      (5) "plot label" — conjunct 11 (`Pta.C14.labels_ren`): labels of the renamed modules under the renamed alias table:
          alias text kept, remaining components renamed (hypotheses of C17: well-formed names, distinct aliased
          modules that exist).
      (6) SCAN LEVEL — "invariant … under any injective renaming of path components" read as a renaming of the
          directories and files ON DISK (Props/C14Scan.lean; Bridge/RenameScan.lean).  The renamed inputs: every path
          component of every `Entry.rel` (`renFile ρ`: the stem is renamed, the suffix kept — `x ↦ ρ x`,
          `x.py ↦ (ρ x).py`; `Pta.C14.renFile_spec`), the root directory's name (`ρ root`), the components of
          `module_path` (`mp.map (renFile ρ)`), every dotted name in every import statement (`renStmt ρ`; for AST
          nodes `Pta.C14.collect_ren`); the path string of the root directory (`base'`) is arbitrary; the renamed scan
          may use any exclusion patterns `ps'` / matcher `mt'` whose test agrees with the original one on the paths of
          the listing (`ExclTransported`; trivially so without patterns, `Pta.C14.exclTransported_noPatterns`).
          Domain: trees well-formed as far as the scan can see them (`treeWFFor`, `mpOK`, `compWF root`),
          parser-producible statements (`stmtOK`), external modules excluded without external patterns (the
          default), ANY level limit.  (These hypotheses are preserved by the renaming: `Pta.C14.scan_hyps_ren`.)
          Conjunct 15 (`Pta.C14.scan_arch_ren`): the specification architecture of the renamed tree is the renamed
          specification architecture (`scanModules`, `scanImports`; "no answer" stays "no answer"); conjunct 16
          (`Pta.C14.scan_ren`): the scan of the renamed tree has the outcome class of the original scan (a relative
          import above the root stays a `LookupError`), and on success its graph has exactly the nodes, hierarchy
          pairs and import pairs of the image of the original graph (`GraphEquiv g' (mapGraph (renDotted ρ) g)`, and
          likewise for the guarded, injective string renaming `renStr ρ`); conjunct 17 (`Pta.C14.scan_error_ren`):
          errors correspond in both directions; conjunct 18 (`Pta.C14.scan_verdict_ren`): EVERY module rule with
          well-formed identifiers (`ruleWF r`: strict or not, `parentFree` or not, names scanned or not) has on the
          renamed scan, with the renamed names, the verdict class it has on the original scan; conjunct 19
          (`Pta.C14.scan_report_ren`): and the message text is the rendering of the original report with every module
          name renamed; conjunct 20 (`Pta.C14.scan_labels_ren`, no level limit): plot labels under the renamed alias
          table (keys distinct scanned modules): alias texts kept, components below the aliased ancestor renamed.
          Externals INCLUDED — conjunct 21 (`Pta.C14.scan_ren_ext`; `exclude_external_libraries=False`, no external
          exclusion patterns, no level limit; `ρ` acts on the names of external modules too, a renaming meant to
          leave the libraries alone has `ρ c = c` on their components): same outcome class, graph = image under
          `renStr ρ`, external nodes, their dotted parents and all import edges included (verdicts and messages of
          module rules on such scans: `Pta.C14.scan_verdict_ren_ext`, `scan_report_ren_ext`).
          The hypotheses are needed (witnesses, cited): `Pta.C14.ScanNeeds.scan_ren_needs_injective` (`y ↦ x` puts
          `x.py` next to `x/`: an import pair of the image is only a hierarchy edge of the renamed scan),
          `Pta.C14.ScanNeeds.scan_ren_needs_dotfree` (`x ↦ a.py`: the directory `r/a.py` is the module `r.a` with the
          package `r.a.py` below it), `Pta.C14.ScanNeeds.scan_ren_needs_transport` (the same glob `*x` on both sides
          no longer excludes the renamed directory).  `treeWFFor` comes from the route through the specification; it
          is not known to be needed (an `example` of Props/C14Scan.lean: on the collision tree of
          `Pta.E2E.collision_needs_treeWF` the statement still holds).
    Not carried by a theorem (correspondence check only / outside the model):
      * the message TEXT under renamings that INTRODUCE `"` into a path component (or for names that contain `"`):
        conjunct 14 needs quote-free names, and the hypothesis cannot be dropped —
        `Pta.C14.text_ren_needs_quoteFree` (a good renaming under which two different lines are rendered as the same
        string, and `sorted(set(...))` keeps one: the message shrinks from two lines to one).  Conjunct 13 (items,
        rendered) holds without it.
      * the message text under renaming for LAYER rules and DIAGRAM rules: conjuncts 8–10 rename report items / tags;
        their texts (`assertAppliesLayerText`, `applyAllText`) are not related by a theorem.
      * regex specifications (excluded by the property's quantifier; `mt` is not renamed).
      * scan-level invariance (6), what is still missing: scans with externals included AND external exclusion
        patterns, or externals included AND a level limit (conjunct 21 needs `externalExclusions` empty and
        `levelLimit = none`; a pattern is a raw-string test on the external's name and would have to be transported
        like `ExclTransported`); LAYER rules and DIAGRAM rules on the renamed scan (conjuncts 8–10 are stated on
        `archGraph (renArch ρ a)`; their composition with conjunct 16 — from `GraphEquiv g' (mapGraph … g)` to the
        layer / diagram outcome — is not proved; module rules: conjuncts 18, 19); plot labels under a level limit or
        with externals included (conjunct 20 has `levelLimit = none`, externals excluded); the message text of
        conjunct 19 as renamed LINES (it is the rendering of the renamed report items, the scan-level analogue of
        conjunct 13, not of conjunct 14); trees outside `treeWFFor` (not known to be needed, see (6)).
      * that renaming a directory on disk changes the listing as `renEntries ρ` says (`os.walk` / `Path` behaviour) —
        the file system is the argument `entries` of the model. -/
def C14_Statement : Prop :=
  -- 1 `Pta.C14.raw_test_is_prefix`
  (∀ (p n : Name), nameWF p = true → nameWF n = true →
    isModuleOrSub (render p) (render n) = desc p n ∧ isStrictSub (render p) (render n) = sdesc p n ∧
    isInternal (render n) (render p) = desc p n) ∧
  -- 2 `Pta.C14.desc_ren`
  (∀ (ρ : Comp → Comp), GoodRen ρ → ∀ (x n : Name),
    desc (renName ρ x) (renName ρ n) = desc x n ∧ sdesc (renName ρ x) (renName ρ n) = sdesc x n ∧
    related (renName ρ x) (renName ρ n) = related x n) ∧
  -- 3 `Pta.C14.verdict_ren`
  (∀ (ρ : Comp → Comp), GoodRen ρ → ∀ (a : Arch) (r : RuleSpec),
    verdict (renArch ρ a) (renRule ρ r) = verdict a r) ∧
  -- 4 `Pta.C14.violating_ren`
  (∀ (ρ : Comp → Comp), GoodRen ρ → ∀ (a : Arch) (r : RuleSpec),
    violating (renArch ρ a) (renRule ρ r) = (violating a r).map (renSItem ρ)) ∧
  -- 5 `Pta.C14.model_verdict_ren_all`
  (∀ (mt : Str → Str → Bool) (ρ : Comp → Comp), GoodRen ρ → ∀ (a : Arch), a.wf = true →
    ∀ (r : RuleSpec), ruleWF r = true →
    verdictOf mt (archGraph (renArch ρ a)) (compile (renRule ρ r)) = verdictOf mt (archGraph a) (compile r)) ∧
  -- 6 `Pta.C14.model_report_ren`
  (∀ (mt : Str → Str → Bool) (ρ : Comp → Comp), GoodRen ρ → ∀ (a : Arch), a.wf = true →
    ∀ (r : RuleSpec), ruleWF r = true →
    (assertApplies mt (compile (renRule ρ r)) (archGraph (renArch ρ a))).2 =
      (assertApplies mt (compile r) (archGraph a)).2.mapId (renDotted ρ)) ∧
  -- 7 `Pta.C14.layerOf_ren`
  (∀ (ρ : Comp → Comp), GoodRen ρ → ∀ (m : List (Str × List Name)) (n : Name),
    (∀ l ∈ m, ∀ x ∈ l.2, nameWF x = true) → nameWF n = true →
    LayerMap.layerOf (m.map fun l => (l.1, l.2.map fun x => render (renName ρ x))) (render (renName ρ n)) =
    LayerMap.layerOf (m.map fun l => (l.1, l.2.map render)) (render n)) ∧
  -- 8 `Pta.C14.layer_report_ren`
  (∀ (mt : Str → Str → Bool) (ρ : Comp → Comp), GoodRen ρ → ∀ (a : Arch), a.wf = true →
    ∀ (ls : Layers), layersWF ls = true → ∀ (r : LRuleSpec),
    assertAppliesLayer mt (compileLayerRule (compileLArch (renLayers ρ ls)) r) (archGraph (renArch ρ a)) =
      (assertAppliesLayer mt (compileLayerRule (compileLArch ls) r) (archGraph a)).mapId (renDotted ρ)) ∧
  -- 9 `Pta.C14.layer_verdict_ren_cls`
  (∀ (mt : Str → Str → Bool) (ρ : Comp → Comp), GoodRen ρ → ∀ (a : Arch), a.wf = true →
    ∀ (ls : Layers), layersWF ls = true → ∀ (r : LRuleSpec),
    (assertAppliesLayer mt (compileLayerRule (compileLArch (renLayers ρ ls)) r) (archGraph (renArch ρ a))).cls =
      (assertAppliesLayer mt (compileLayerRule (compileLArch ls) r) (archGraph a)).cls ∧
    (assertAppliesLayer mt (compileLayerRule (compileLArch (renLayers ρ ls)) r) (archGraph (renArch ρ a))).tags =
      (assertAppliesLayer mt (compileLayerRule (compileLArch ls) r) (archGraph a)).tags) ∧
  -- 10 `Pta.C14.diagram_spec_ren`
  (∀ (mt : Str → Str → Bool) (ρ : Comp → Comp), GoodRen ρ → ∀ (a : Arch), a.wf = true →
    ∀ (so : Bool) (d : Diagram), specDiagramWF d = true → ∀ (base : Option Name),
    (∀ q, base = some q → nameWF q = true) →
    (applyAll mt (archGraph (renArch ρ a))
        (diagramRules so (prefixParsed (parsedOf (renDiagram ρ d)) ((base.map (renName ρ)).map render)))).cls =
      (applyAll mt (archGraph a) (diagramRules so (prefixParsed (parsedOf d) (base.map render)))).cls ∧
    (applyAll mt (archGraph (renArch ρ a))
        (diagramRules so (prefixParsed (parsedOf (renDiagram ρ d)) ((base.map (renName ρ)).map render)))).items.Perm
      ((applyAll mt (archGraph a) (diagramRules so (prefixParsed (parsedOf d) (base.map render)))).items.map
        (Item.mapId (renStr ρ)))) ∧
  -- 11 `Pta.C14.labels_ren`
  (∀ (ρ : Comp → Comp), GoodRen ρ → ∀ (nodes : List Name) (al : Aliases),
    (∀ n ∈ nodes, nameWF n = true) → (al.map (·.1)).Nodup → (∀ a ∈ al, a.1 ∈ nodes) →
    plotLabels ((nodes.map (renName ρ)).map render) ((renAliases ρ al).map fun a => (render a.1, a.2)) =
      .ok (nodes.map fun n => (render (renName ρ n), labelWith (renName ρ) al n)) ∧
    plotLabels (nodes.map render) (al.map fun a => (render a.1, a.2)) =
      .ok (nodes.map fun n => (render n, labelWith id al n))) ∧
  -- 12 `Pta.C14.isInternal_ren`
  (∀ (ρ : Comp → Comp), GoodRen ρ → ∀ (n p : Name), nameWF n = true → nameWF p = true →
    isInternal (render (renName ρ n)) (render (renName ρ p)) = isInternal (render n) (render p)) ∧
  -- 13 `Pta.C14.text_ren_items`
  (∀ (mt : Str → Str → Bool) (ρ : Comp → Comp), GoodRen ρ → ∀ (a : Arch), a.wf = true →
    ∀ (r : RuleSpec), ruleWF r = true →
    (assertAppliesText mt (compile (renRule ρ r)) (archGraph (renArch ρ a))).2 =
      ((assertApplies mt (compile r) (archGraph a)).2.mapId (renDotted ρ)).toText ∧
    (assertAppliesText mt (compile r) (archGraph a)).2 = (assertApplies mt (compile r) (archGraph a)).2.toText) ∧
  -- 14 `Pta.C14.text_ren`
  (∀ (mt : Str → Str → Bool) (ρ : Comp → Comp), GoodRen ρ → QuoteFree ρ → ∀ (a : Arch),
    a.wf = true → archNoQuote a = true → ∀ (r : RuleSpec), ruleWF r = true → ruleNoQuote r = true →
    ((assertAppliesText mt (compile r) (archGraph a)).2 = .pass →
      (assertAppliesText mt (compile (renRule ρ r)) (archGraph (renArch ρ a))).2 = .pass) ∧
    (∀ k, (assertAppliesText mt (compile r) (archGraph a)).2 = .err k →
      (assertAppliesText mt (compile (renRule ρ r)) (archGraph (renArch ρ a))).2 = .err k) ∧
    (∀ lines, (assertAppliesText mt (compile r) (archGraph a)).2 = .fail lines →
      ∃ lines', (assertAppliesText mt (compile (renRule ρ r)) (archGraph (renArch ρ a))).2 = .fail lines' ∧
        lines'.Perm (lines.map (renLine ρ)) ∧ lines' = sortStr (lines.map (renLine ρ)))) ∧
  -- 15 `Pta.C14.scan_arch_ren`
  (∀ (mt mt' : Str → Str → Bool) (base base' root : Str) (mp : List Str) (entries : List Entry) (o : ScanOptions)
    (ps' : Patterns) (ρ : Comp → Comp), GoodRen ρ →
    treeWFFor (isExcluded mt o.exclusions) base mp entries = true → mpOK entries mp = true →
    compWF root = true →
    (∀ e ∈ entries, ∀ st ∈ e.stmts, stmtOK (toSStmt st) = true) →
    ExclTransported ρ (isExcluded mt o.exclusions) (isExcluded mt' ps') base base' entries →
    scanModules (ρ root) (toSEntries (isExcluded mt' ps') base' (renEntries ρ entries)) (mp.map (renFile ρ)) =
      (scanModules root (toSEntries (isExcluded mt o.exclusions) base entries) mp).map (renName ρ) ∧
    scanImports (ρ root) (toSEntries (isExcluded mt' ps') base' (renEntries ρ entries)) (mp.map (renFile ρ)) =
      (scanImports root (toSEntries (isExcluded mt o.exclusions) base entries) mp).map
        (List.map fun e => (renName ρ e.1, renName ρ e.2))) ∧
  -- 16 `Pta.C14.scan_ren`
  (∀ (mt mt' : Str → Str → Bool) (base base' root : Str) (mp : List Str) (entries : List Entry) (o : ScanOptions)
    (ps' : Patterns) (ρ : Comp → Comp), GoodRen ρ →
    treeWFFor (isExcluded mt o.exclusions) base mp entries = true → mpOK entries mp = true →
    compWF root = true →
    (∀ e ∈ entries, ∀ st ∈ e.stmts, stmtOK (toSStmt st) = true) →
    ExclTransported ρ (isExcluded mt o.exclusions) (isExcluded mt' ps') base base' entries →
    o.excludeExternal = true → o.externalExclusions.isEmpty = true →
    match generateGraph mt base root mp entries o with
    | .ok g => ∃ g', generateGraph mt' base' (ρ root) (mp.map (renFile ρ)) (renEntries ρ entries)
          (o.withExclusions ps') = .ok g' ∧
        GraphEquiv g' (mapGraph (renDotted ρ) g) ∧ GraphEquiv g' (mapGraph (renStr ρ) g)
    | .error k => generateGraph mt' base' (ρ root) (mp.map (renFile ρ)) (renEntries ρ entries)
          (o.withExclusions ps') = .error k) ∧
  -- 17 `Pta.C14.scan_error_ren`
  (∀ (mt mt' : Str → Str → Bool) (base base' root : Str) (mp : List Str) (entries : List Entry) (o : ScanOptions)
    (ps' : Patterns) (ρ : Comp → Comp), GoodRen ρ →
    treeWFFor (isExcluded mt o.exclusions) base mp entries = true → mpOK entries mp = true →
    compWF root = true →
    (∀ e ∈ entries, ∀ st ∈ e.stmts, stmtOK (toSStmt st) = true) →
    ExclTransported ρ (isExcluded mt o.exclusions) (isExcluded mt' ps') base base' entries →
    o.excludeExternal = true → o.externalExclusions.isEmpty = true →
    ∀ (k : ErrKind),
    generateGraph mt' base' (ρ root) (mp.map (renFile ρ)) (renEntries ρ entries) (o.withExclusions ps') = .error k ↔
      generateGraph mt base root mp entries o = .error k) ∧
  -- 18 `Pta.C14.scan_verdict_ren`
  (∀ (mt mt' : Str → Str → Bool) (base base' root : Str) (mp : List Str) (entries : List Entry) (o : ScanOptions)
    (ps' : Patterns) (ρ : Comp → Comp), GoodRen ρ →
    treeWFFor (isExcluded mt o.exclusions) base mp entries = true → mpOK entries mp = true →
    compWF root = true →
    (∀ e ∈ entries, ∀ st ∈ e.stmts, stmtOK (toSStmt st) = true) →
    ExclTransported ρ (isExcluded mt o.exclusions) (isExcluded mt' ps') base base' entries →
    o.excludeExternal = true → o.externalExclusions.isEmpty = true →
    ∀ (g g' : PGraph Str), generateGraph mt base root mp entries o = .ok g →
    generateGraph mt' base' (ρ root) (mp.map (renFile ρ)) (renEntries ρ entries) (o.withExclusions ps') = .ok g' →
    ∀ (mt'' : Str → Str → Bool) (r : RuleSpec), ruleWF r = true →
    verdictOf mt'' g' (compile (renRule ρ r)) = verdictOf mt'' g (compile r)) ∧
  -- 19 `Pta.C14.scan_report_ren`
  (∀ (mt mt' : Str → Str → Bool) (base base' root : Str) (mp : List Str) (entries : List Entry) (o : ScanOptions)
    (ps' : Patterns) (ρ : Comp → Comp), GoodRen ρ →
    treeWFFor (isExcluded mt o.exclusions) base mp entries = true → mpOK entries mp = true →
    compWF root = true →
    (∀ e ∈ entries, ∀ st ∈ e.stmts, stmtOK (toSStmt st) = true) →
    ExclTransported ρ (isExcluded mt o.exclusions) (isExcluded mt' ps') base base' entries →
    o.excludeExternal = true → o.externalExclusions.isEmpty = true →
    ∀ (g g' : PGraph Str), generateGraph mt base root mp entries o = .ok g →
    generateGraph mt' base' (ρ root) (mp.map (renFile ρ)) (renEntries ρ entries) (o.withExclusions ps') = .ok g' →
    ∀ (mt'' : Str → Str → Bool) (r : RuleSpec), ruleWF r = true →
    (assertAppliesText mt'' (compile (renRule ρ r)) g').2 =
      ((assertApplies mt'' (compile r) g).2.mapId (renStr ρ)).toText) ∧
  -- 20 `Pta.C14.scan_labels_ren`
  (∀ (mt mt' : Str → Str → Bool) (base base' root : Str) (mp : List Str) (entries : List Entry) (o : ScanOptions)
    (ps' : Patterns) (ρ : Comp → Comp), GoodRen ρ →
    treeWFFor (isExcluded mt o.exclusions) base mp entries = true → mpOK entries mp = true →
    compWF root = true →
    (∀ e ∈ entries, ∀ st ∈ e.stmts, stmtOK (toSStmt st) = true) →
    ExclTransported ρ (isExcluded mt o.exclusions) (isExcluded mt' ps') base base' entries →
    o.excludeExternal = true → o.externalExclusions.isEmpty = true →
    ∀ (g g' : PGraph Str), generateGraph mt base root mp entries o = .ok g →
    generateGraph mt' base' (ρ root) (mp.map (renFile ρ)) (renEntries ρ entries) (o.withExclusions ps') = .ok g' →
    o.levelLimit = none → ∀ (al : Aliases), (al.map (·.1)).Nodup →
    (∀ a ∈ al, a.1 ∈ scanModules root (toSEntries (isExcluded mt o.exclusions) base entries) mp) →
    ∃ ls ls', plotLabels g.nodes (al.map fun a => (render a.1, a.2)) = .ok ls ∧
      plotLabels g'.nodes ((renAliases ρ al).map fun a => (render a.1, a.2)) = .ok ls' ∧
      ls.map (·.1) = g.nodes ∧ ls'.map (·.1) = g'.nodes ∧
      ls.Perm ((scanModules root (toSEntries (isExcluded mt o.exclusions) base entries) mp).map
        fun n => (render n, labelWith id al n)) ∧
      ls'.Perm ((scanModules root (toSEntries (isExcluded mt o.exclusions) base entries) mp).map
        fun n => (render (renName ρ n), labelWith (renName ρ) al n))) ∧
  -- 21 `Pta.C14.scan_ren_ext`
  (∀ (mt mt' : Str → Str → Bool) (base base' root : Str) (mp : List Str) (entries : List Entry) (o : ScanOptions)
    (ps' : Patterns) (ρ : Comp → Comp), GoodRen ρ →
    treeWFFor (isExcluded mt o.exclusions) base mp entries = true → mpOK entries mp = true →
    compWF root = true →
    (∀ e ∈ entries, ∀ st ∈ e.stmts, stmtOK (toSStmt st) = true) →
    ExclTransported ρ (isExcluded mt o.exclusions) (isExcluded mt' ps') base base' entries →
    o.excludeExternal = false → o.externalExclusions.isEmpty = true → o.levelLimit = none →
    match generateGraph mt base root mp entries o with
    | .ok g => ∃ g', generateGraph mt' base' (ρ root) (mp.map (renFile ρ)) (renEntries ρ entries)
          (o.withExclusions ps') = .ok g' ∧ GraphEquiv g' (mapGraph (renStr ρ) g)
    | .error k => generateGraph mt' base' (ρ root) (mp.map (renFile ρ)) (renEntries ρ entries)
          (o.withExclusions ps') = .error k)

theorem c14 : C14_Statement :=
  ⟨@Pta.C14.raw_test_is_prefix, @Pta.C14.desc_ren, @Pta.C14.verdict_ren, @Pta.C14.violating_ren,
   @Pta.C14.model_verdict_ren_all, @Pta.C14.model_report_ren, @Pta.C14.layerOf_ren, @Pta.C14.layer_report_ren,
   @Pta.C14.layer_verdict_ren_cls, @Pta.C14.diagram_spec_ren, @Pta.C14.labels_ren, @Pta.C14.isInternal_ren,
   @Pta.C14.text_ren_items, @Pta.C14.text_ren,
   @Pta.C14.scan_arch_ren, @Pta.C14.scan_ren, @Pta.C14.scan_error_ren, @Pta.C14.scan_verdict_ren,
   @Pta.C14.scan_report_ren, @Pta.C14.scan_labels_ren, @Pta.C14.scan_ren_ext⟩

end C14

/-! ## C15 -/
section C15
open PtaSpec

/-- C15 — Evaluation is pure and independent of order, history and hash seed.
    English statement (verbatim): "Evaluating any number of rules, layer rules or diagram rules leaves the evaluable
    architecture unchanged, and the verdict and message of a rule do not depend on which rules were evaluated before it,
    on how often the same rule object is re-applied or to how many architectures, on the order in which subjects, objects,
    layers or exclusion patterns were listed, on the order in which the file system enumerates directory entries, or on
    the interpreter's hash seed. Two scans of the same tree always build architectures with equal sets of modules and
    imports."

    `GraphEquiv g g'`: same node set and the same three edge sets.  `SameRuleUpToOrder r r'`: the same subject / object
    filters as sets, the same flags.  `assertAppliesText` returns the rewritten rule object and the outcome WITH the
    literal list of message lines, so the conjuncts below are about verdict AND message.

    The history machine (Bridge/History.lean): a `World` holds any number of `Rule` objects (`RuleState`), `LayerRule`
    objects (`LayerRuleState`), `DiagramRule` objects (`DiagramRuleState`) and evaluable architectures (`PGraph Str`);
    an event `Ev` is one call `object_i.assert_applies(architecture_j)` (`.rule i j`, `.layerRule i j`,
    `.diagramRule i j`); `step` makes the call with the model's functions and WRITES THE OBJECT THE CALL LEAVES BEHIND
    BACK INTO ITS SLOT (`Rule._configuration` is rewritten in place by `_convert_aliases`), so that later events see the
    rewritten object; `exec mt w h` is the world after the history `h`, `run mt w h` its outcomes in order,
    `outcomeIn mt w e` the outcome of `e` in `w`, `trace mt w h` the (event, outcome) pairs; `Outcome` is pass / the
    literal message lines (for a diagram rule: report items and aggregated text) / the exception, or `none` when an index
    is out of range (no call is made).

    Clause map:
      (0) "Evaluating any number of rules, layer rules or diagram rules leaves the evaluable architecture unchanged" —
          conjunct 18 (`Pta.C15.history_archs_unchanged`): for every world and EVERY history (any length, any mixture of
          the three object kinds, any objects, any architectures) the list of architectures after the history is
          literally the list before it (also the diagram-rule objects: `Pta.C15.history_diagram_rules_unchanged`).
          "the verdict and message of a rule do not depend on which rules were evaluated before it, on how often the
          same rule object is re-applied or to how many architectures" — conjunct 19
          (`Pta.C15.history_outcome_fresh`): for every history `h` and event `e`, the outcome of `e` after `h` —
          verdict, message lines, exception — is its outcome in the INITIAL world; conjunct 20
          (`Pta.C15.history_outcomes`): hence the outcomes of a history are the outcomes of its events in the initial
          world; what that outcome is — conjunct 25 (`Pta.C15.outcome_initial`): the model's function
          (`assertAppliesText`, `assertAppliesLayerText`, `DiagramRuleState.assertApplies` / `assertAppliesText`)
          applied to the INITIAL object in slot `i` and architecture `j`; conjuncts 21, 22
          (`Pta.C15.history_rule_outcome`, `history_layer_rule_outcome`): whatever was evaluated before, rule object /
          layer-rule object `i` applied to architecture `j` gives what the object ORIGINALLY in slot `i` gives on it
          (the general form of conjunct 1).  Order of the evaluations — conjunct 23 (`Pta.C15.history_perm`): the
          multiset of (event, outcome) pairs is invariant under permuting the history; conjunct 24
          (`Pta.C15.history_final`): the world left behind in closed form (`World.after`: an object that was really
          called at least once is in `_convert_aliases`-normal form, every other object and every architecture is
          untouched), so the objects left behind do not depend on the order either
          (`Pta.C15.history_final_perm`).  The invariant behind these is `World.Equiv` (slot-wise the same normal
          form): `Pta.C15.history_equiv`, `world_equiv_congr`, `rule_equiv_congr`, `layer_rule_equiv_congr`,
          `rule_step_normalForm`.  The history is NOT a no-op on the objects (an `example` of Props/C15Hist.lean: slot
          0 is rewritten by the first call and the later events run on the rewritten object).
      (1) "on how often the same rule object is re-applied or to how many architectures" — conjunct 1
          (`Pta.C15.report_reapply`): applying the rule object left behind by a first application (to any graph) gives the
          outcome and message lines a fresh rule object gives (the only in-place rewrite, `_convert_aliases`, is idempotent
          and keeps the subjects it removed).  For arbitrary histories: (0), conjuncts 19–22.
      (2) "on the order in which subjects, objects … were listed" — conjunct 2 (`Pta.C15.report_congr`, master statement:
          every rule state, any order and multiplicity of subjects / objects, two graphs with the same node and edge sets);
          conjunct 3 (`Pta.C15.report_perm_anything`): the `anything` aliases; conjunct 10 (`Pta.C15.run_report_perm`): the
          same for fluent `Rule` call chains (names permuted inside the naming calls), the index of a raising call
          included.
      (3) "… layers …" — conjunct 8 (`Pta.C15.report_layer_congr`): layers DEFINED in another order, rule filters in another
          order, graph with the same sets: same outcome, same message lines — no hypothesis (if the mapping assigns a
          module to two layers, every order raises `LayerMismatch`: `Pta.C15.perm_layers_overlap_rejected`); conjunct 11
          (`Pta.C15.run_layer_report_perm`): for `LayerRule` call chains.
      (4) "… or exclusion patterns were listed" — conjunct 7 (`Pta.C15.perm_patterns`): `isExcluded` is invariant under
          permutation of the pattern list (glob and regex kind).
      (5) "on the order in which the file system enumerates directory entries" and "Two scans of the same tree always build
          architectures with equal sets of modules and imports" — conjunct 5 (`Pta.C15.scan_graph_perm`): two scans whose
          entry lists are permutations of one another raise the same error or build graphs with the same nodes, hierarchy
          edges and import edges (`SameScan`); NO hypothesis on tree, options, limit, statements; conjunct 6
          (`Pta.C15.scan_report_perm`): hence every rule has the same outcome and message on both; conjunct 9
          (`Pta.C15.scan_report_layer_perm`): and so has every layer rule; conjunct 4
          (`Pta.C15.report_perm_modules_imports`): the same at the graph constructor (module / import lists permuted,
          any level limit).
      (6) (diagram rules) conjunct 12 (`Pta.C15.applyAll_perm`): if no generated rule raises, pass / fail and the collected
          items (as a multiset) do not depend on the order of the rules; conjunct 13 (`Pta.C15.applyAll_perm_err`): if
          some rule raises, every order raises the error of one of the raising rules (the KIND may depend on the
          order: `Pta.C15.applyAll_error_kind_counterexample`); conjunct 14 (`Pta.C15.diagram_text_perm`): permuting the
          lines of a diagram file gives the parsing error for both orders or the same module set and dependency relation.
          The diagram MESSAGE (text-valued model `diagramAssertText`, Props/C15Text.lean) — conjunct 15
          (`Pta.C15.diagram_rules_text_perm`): two parse results with the same module SET and dependency RELATION
          (`SameDiagram`; `Pta.C07.DepsOK`: unique keys, non-empty value lists — the parser guarantees them), any
          graph, both modes: one check raises `k` iff the other raises `k`, and `k` can only be the lookup error (so
          the order dependence of the error KIND cannot show for a diagram: `Pta.C15.generated_rules_raise_lookup_only`);
          same class; the per-rule messages and the message lines are the same MULTISETS (`List.Perm`); conjunct 16
          (`Pta.C15.diagram_message_lines_perm`): the same for two FILES whose line lists are permutations of one another
          (raw lines without newline and `@`), any base module, any graph; conjunct 17
          (`Pta.C15.diagram_message_text_lines_perm`): if both checks fail with texts `t`, `t'` and no message line
          contains a newline, `splitLines t'` is a permutation of `splitLines t`.  This is the strongest true
          statement: literal equality of the two texts is FALSE (`Pta.C15.diagram_message_order_counterexample`: the
          per-rule blocks follow the order of the arrow lines); the dictionary order of the objects inside one
          `does not import` item (C07, `report_lists_objects_in_dict_order`) does NOT reach the text, which sorts them
          (`Pta.C15.diagram_message_objects_sorted`).
    Not carried by a theorem (correspondence check only / outside the model):
      * "leaves the evaluable architecture unchanged" / "do not depend on which rules were evaluated before it … how
        often … to how many architectures" are statements about the history machine ((0), conjuncts 18–25).  What
        the machine does NOT contain: (a) BUILDER calls interleaved with applications on the same object (a history
        is a list of `assert_applies` events on finished objects; `Rule` chains continued after an application,
        `DiagramRule.from_file` between applications — the latter only as the one-shot statements of C13 / C16).
        For `Rule` objects this is treated in `Props/C15Build.lean` (not conjoined here): the conjecture that applications are
        transparent for later builder calls is REFUTED (`Pta.C15.ApplicationsTransparent_Statement_false`,
        `apply_changes_later_calls_counterexample_six`: an application of a still incomplete `anything` rule rewrites the
        object — open finding F-C15c, replayed on the library), and proved under `syncAtUnsafe`
        (`Pta.C15.applications_transparent_sync`, `applications_transparent_no_rewrite`);
        (b) two slots ALIASING one Python object (slots are values: a call on slot `i` rewrites slot `i` only; by
        conjunct 19 an alias could not change an outcome, since the rewritten object is equivalent to the original,
        but the aliasing itself is not modelled); (c) that the model's functions cannot touch the graph is true by
        their TYPE (`step` copies `archs`); that the Python objects behave so (frozen networkx graph, matcher
        caches) is observed by the snapshot runs only.
      * "the interpreter's hash seed" (set / dict iteration order): outside the model; the theorems above show the
        outcome depends on lists only as sets, which is the reason the seed cannot matter, but the seed itself is only
        exercised by the 8-seed correspondence run.
      * literal equality of the diagram message TEXT for permuted diagram lines: false
        (`diagram_message_order_counterexample`); carried as equality of the multisets of blocks / lines (conjuncts
        15–17), of the class and of the error.  For diagrams outside the raw-line hypotheses of conjunct 16 (a line
        containing `@` or a newline) nothing is stated. -/
def C15_Statement : Prop :=
  -- 1 `Pta.C15.report_reapply`
  (∀ (mt : Str → Str → Bool) (s : RuleState) (g g' : PGraph Str),
    (assertAppliesText mt (assertAppliesText mt s g).1 g').2 = (assertAppliesText mt s g').2) ∧
  -- 2 `Pta.C15.report_congr`
  (∀ (mt : Str → Str → Bool) (g g' : PGraph Str), GraphEquiv g g' → ∀ (r r' : RuleState),
    SameRuleUpToOrder r r' → (assertAppliesText mt r g).2 = (assertAppliesText mt r' g').2) ∧
  -- 3 `Pta.C15.report_perm_anything`
  (∀ (mt : Str → Str → Bool) (g : PGraph Str) (S S' : List Filter) (dir : Bool), S.Perm S' →
    (assertAppliesText mt (anythingRule dir S) g).2 = (assertAppliesText mt (anythingRule dir S') g).2) ∧
  -- 4 `Pta.C15.report_perm_modules_imports`
  (∀ (mt : Str → Str → Bool) (a a' : Arch), a.wf = true →
    a.nodes.Perm a'.nodes → a.imports.Perm a'.imports → ∀ (lim : Option Nat) (r : RuleState),
    (assertAppliesText mt r (archGraphLim a lim)).2 = (assertAppliesText mt r (archGraphLim a' lim)).2) ∧
  -- 5 `Pta.C15.scan_graph_perm`
  (∀ (mt : Str → Str → Bool) (base rootName : Str) (mp : List Str) (entries entries' : List Entry)
    (o : ScanOptions), entries.Perm entries' →
    SameScan (generateGraph mt base rootName mp entries o) (generateGraph mt base rootName mp entries' o)) ∧
  -- 6 `Pta.C15.scan_report_perm`
  (∀ (mt mt' : Str → Str → Bool) (base rootName : Str) (mp : List Str) (entries entries' : List Entry)
    (o : ScanOptions), entries.Perm entries' → ∀ (g g' : PGraph Str),
    generateGraph mt base rootName mp entries o = .ok g → generateGraph mt base rootName mp entries' o = .ok g' →
    ∀ (r : RuleState), (assertAppliesText mt' r g).2 = (assertAppliesText mt' r g').2) ∧
  -- 7 `Pta.C15.perm_patterns`
  (∀ (mt : Str → Str → Bool) (ps ps' : List Str), ps.Perm ps' → ∀ (s : Str),
    isExcluded mt (.globs ps) s = isExcluded mt (.globs ps') s ∧ isExcluded mt (.regexes ps) s = isExcluded mt (.regexes ps') s) ∧
  -- 8 `Pta.C15.report_layer_congr`
  (∀ (mt : Str → Str → Bool) (g g' : PGraph Str), GraphEquiv g g' → ∀ (a a' : LArch), a.Perm a' →
    ∀ (r r' : RuleState), SameRuleUpToOrder r r' →
    assertAppliesLayerText mt ⟨some a, some r⟩ g = assertAppliesLayerText mt ⟨some a', some r'⟩ g') ∧
  -- 9 `Pta.C15.scan_report_layer_perm`
  (∀ (mt mt' : Str → Str → Bool) (base rootName : Str) (mp : List Str) (entries entries' : List Entry)
    (o : ScanOptions), entries.Perm entries' → ∀ (g g' : PGraph Str),
    generateGraph mt base rootName mp entries o = .ok g → generateGraph mt base rootName mp entries' o = .ok g' →
    ∀ (s : LayerRuleState), assertAppliesLayerText mt' s g = assertAppliesLayerText mt' s g') ∧
  -- 10 `Pta.C15.run_report_perm`
  (∀ (glob : Str → Str) (mt : Str → Str → Bool) (g g' : PGraph Str), GraphEquiv g g' →
    ∀ (ops ops' : List RuleOp), RuleOpsUpToOrder ops ops' →
    runRuleOpsText glob mt ops g = runRuleOpsText glob mt ops' g') ∧
  -- 11 `Pta.C15.run_layer_report_perm`
  (∀ (mt : Str → Str → Bool) (g g' : PGraph Str), GraphEquiv g g' →
    ∀ (ops ops' : List LayerRuleOp), LayerRuleOpsUpToOrder ops ops' →
    runLayerRuleOpsText mt ops g = runLayerRuleOpsText mt ops' g') ∧
  -- 12 `Pta.C15.applyAll_perm`
  (∀ (mt : Str → Str → Bool) (g : PGraph Str) (rules rules' : List RuleState), rules.Perm rules' →
    (∀ r ∈ rules, ∀ k, (assertApplies mt r g).2 ≠ .err k) →
    (applyAll mt g rules).cls = (applyAll mt g rules').cls ∧ (∀ k, (applyAll mt g rules).cls ≠ .err k) ∧
    (applyAll mt g rules).items.Perm (applyAll mt g rules').items) ∧
  -- 13 `Pta.C15.applyAll_perm_err`
  (∀ (mt : Str → Str → Bool) (g : PGraph Str) (rules rules' : List RuleState), rules.Perm rules' →
    (∃ r ∈ rules, ∃ k, (assertApplies mt r g).2 = .err k) →
    ∃ k k', applyAll mt g rules = .err k ∧ applyAll mt g rules' = .err k' ∧
      (∃ r ∈ rules, (assertApplies mt r g).2 = .err k) ∧ (∃ r ∈ rules, (assertApplies mt r g).2 = .err k')) ∧
  -- 14 `Pta.C15.diagram_text_perm`
  (∀ (noise1 noise2 : Str) (lines lines' : List Str), lines.Perm lines' →
    (∀ l ∈ lines, '\n' ∉ l ∧ '@' ∉ l) → isInfix "@enduml".toList noise2 = false →
    SameDiagram (pumlParse (linesText noise1 lines noise2)) (pumlParse (linesText noise1 lines' noise2))) ∧
  -- 15 `Pta.C15.diagram_rules_text_perm`
  (∀ (mt : Str → Str → Bool) (g : PGraph Str) (so : Bool) (p q : Parsed'),
    SameDiagram (.ok p) (.ok q) → Pta.C07.DepsOK p → Pta.C07.DepsOK q →
    (∀ k, applyAllText mt g (diagramRules so p) = .err k ↔ applyAllText mt g (diagramRules so q) = .err k) ∧
    (∀ k, applyAllText mt g (diagramRules so p) = .err k → k = .lookupError) ∧
    (applyAllText mt g (diagramRules so p)).cls = (applyAllText mt g (diagramRules so q)).cls ∧
    (aggMessages mt g (diagramRules so p)).Perm (aggMessages mt g (diagramRules so q)) ∧
    (aggLines mt g (diagramRules so p)).Perm (aggLines mt g (diagramRules so q))) ∧
  -- 16 `Pta.C15.diagram_message_lines_perm`
  (∀ (mt : Str → Str → Bool) (g : PGraph Str) (so : Bool) (base : Option Str)
    (noise1 noise2 : Str) (lines lines' : List Str), lines.Perm lines' →
    (∀ l ∈ lines, '\n' ∉ l ∧ '@' ∉ l) → isInfix "@enduml".toList noise2 = false →
    (∀ k, diagramAssertText mt (some (linesText noise1 lines noise2)) base so g = .err k ↔
      diagramAssertText mt (some (linesText noise1 lines' noise2)) base so g = .err k) ∧
    (diagramAssertText mt (some (linesText noise1 lines noise2)) base so g).cls =
      (diagramAssertText mt (some (linesText noise1 lines' noise2)) base so g).cls ∧
    (aggMessages mt g (diagramRulesOf (linesText noise1 lines noise2) base so)).Perm
      (aggMessages mt g (diagramRulesOf (linesText noise1 lines' noise2) base so)) ∧
    (aggLines mt g (diagramRulesOf (linesText noise1 lines noise2) base so)).Perm
      (aggLines mt g (diagramRulesOf (linesText noise1 lines' noise2) base so))) ∧
  -- 17 `Pta.C15.diagram_message_text_lines_perm`
  (∀ (mt : Str → Str → Bool) (g : PGraph Str) (so : Bool) (base : Option Str)
    (noise1 noise2 : Str) (lines lines' : List Str), lines.Perm lines' →
    (∀ l ∈ lines, '\n' ∉ l ∧ '@' ∉ l) → isInfix "@enduml".toList noise2 = false → ∀ (t t' : Str),
    diagramAssertText mt (some (linesText noise1 lines noise2)) base so g = .fail t →
    diagramAssertText mt (some (linesText noise1 lines' noise2)) base so g = .fail t' →
    (∀ l ∈ aggLines mt g (diagramRulesOf (linesText noise1 lines noise2) base so), '\n' ∉ l) →
    (splitLines t).Perm (splitLines t')) ∧
  -- 18 `Pta.C15.history_archs_unchanged`
  (∀ (mt : Str → Str → Bool) (w : World) (h : List Ev), (exec mt w h).archs = w.archs) ∧
  -- 19 `Pta.C15.history_outcome_fresh`
  (∀ (mt : Str → Str → Bool) (w : World) (h : List Ev) (e : Ev),
    outcomeIn mt (exec mt w h) e = outcomeIn mt w e) ∧
  -- 20 `Pta.C15.history_outcomes`
  (∀ (mt : Str → Str → Bool) (w : World) (h : List Ev), run mt w h = h.map (outcomeIn mt w)) ∧
  -- 21 `Pta.C15.history_rule_outcome`
  (∀ (mt : Str → Str → Bool) (w : World) (h : List Ev) (i j : Nat) (r : RuleState) (g : PGraph Str),
    w.rules[i]? = some r → w.archs[j]? = some g →
    outcomeIn mt (exec mt w h) (.rule i j) = .rule (assertAppliesText mt r g).2) ∧
  -- 22 `Pta.C15.history_layer_rule_outcome`
  (∀ (mt : Str → Str → Bool) (w : World) (h : List Ev) (i j : Nat) (s : LayerRuleState)
    (g : PGraph Str), w.layerRules[i]? = some s → w.archs[j]? = some g →
    outcomeIn mt (exec mt w h) (.layerRule i j) = .layerRule (assertAppliesLayerText mt s g)) ∧
  -- 23 `Pta.C15.history_perm`
  (∀ (mt : Str → Str → Bool) (w : World) (h h' : List Ev), h.Perm h' →
    (trace mt w h).Perm (trace mt w h')) ∧
  -- 24 `Pta.C15.history_final`
  (∀ (mt : Str → Str → Bool) (w : World) (h : List Ev), exec mt w h = w.after h) ∧
  -- 25 `Pta.C15.outcome_initial`
  (∀ (mt : Str → Str → Bool) (w : World) (i j : Nat) (g : PGraph Str), w.archs[j]? = some g →
    (∀ r, w.rules[i]? = some r → outcomeIn mt w (.rule i j) = .rule (assertAppliesText mt r g).2) ∧
    (∀ s, w.layerRules[i]? = some s → outcomeIn mt w (.layerRule i j) = .layerRule (assertAppliesLayerText mt s g)) ∧
    (∀ d, w.diagramRules[i]? = some d →
      outcomeIn mt w (.diagramRule i j) = .diagramRule (d.assertApplies mt g) (d.assertAppliesText mt g)))

theorem c15 : C15_Statement :=
  ⟨@Pta.C15.report_reapply, @Pta.C15.report_congr, @Pta.C15.report_perm_anything,
   @Pta.C15.report_perm_modules_imports, @Pta.C15.scan_graph_perm, @Pta.C15.scan_report_perm, @Pta.C15.perm_patterns,
   @Pta.C15.report_layer_congr, @Pta.C15.scan_report_layer_perm, @Pta.C15.run_report_perm,
   @Pta.C15.run_layer_report_perm, @Pta.C15.applyAll_perm, @Pta.C15.applyAll_perm_err, @Pta.C15.diagram_text_perm,
   @Pta.C15.diagram_rules_text_perm, @Pta.C15.diagram_message_lines_perm, @Pta.C15.diagram_message_text_lines_perm,
   @Pta.C15.history_archs_unchanged, @Pta.C15.history_outcome_fresh, @Pta.C15.history_outcomes,
   @Pta.C15.history_rule_outcome, @Pta.C15.history_layer_rule_outcome, @Pta.C15.history_perm,
   @Pta.C15.history_final, @Pta.C15.outcome_initial⟩

end C15

/-! ## C16 -/
section C16
open PtaSpec

/-- C16 — Layer definitions are well-formed: one layer per module, unique names.
    English statement (verbatim): "For every sequence of LayeredArchitecture and LayerRule builder calls, a module name can
    be assigned to at most one layer no matter whether it is passed as a string or inside a list, a layer name can be
    defined once, a layer must receive its modules before the next layer is opened, and a layer rule needs an architecture
    first and exactly one subject layer; every violating sequence is rejected with a configuration error at the offending
    call. Every accepted definition lists exactly the layers and modules that were supplied, in order."

    Histories are `List LArchOp` (`layer n`, `containingModules ms`, `matching regex`, `withLayer`), classified by the
    independent specification automaton `classifyLArch` (PtaSpec/BuilderSpec.lean) whose states `LTrack` record the
    finished layers with their supplied identifiers, in order, and the layer currently open.

    Clause map:
      (1) "a module name can be assigned to at most one layer …, a layer name can be defined once, a layer must receive its
          modules before the next layer is opened …; every violating sequence is rejected with a configuration error at the
          offending call" — conjunct 1 (`Pta.C16.larch_refines`), branch `.rejectedAt i`: whenever the automaton rejects a
          history at call `i`, the builder raises ImproperlyConfigured at exactly call `i`, for EVERY history.  Which
          sequences are violating is the definition of `classifyLArch` (a module identifier already supplied to an
          EARLIER layer, a layer name already defined, `layer` while a layer is open, modules / regex without an open
          layer).  Branch
          `.unspecified` (a regex textually equal to a module name given elsewhere) is a declared don't-care.
          Conjunct 2 (`Pta.C16.larch_invariant`): every reachable architecture has unique layer names, at most one
          pending layer, and no (non-regex) module identifier in two different layers.
      (2) "Every accepted definition lists exactly the layers and modules that were supplied, in order" — conjunct 1,
          branch `.accepted t`: the builder succeeds and the identifiers per layer (`Pta.C16.ids`) are exactly the
          automaton's record `t.closed` (+ the open layer, empty).
      (3) "a layer must receive its modules before the next layer is opened" for the EMPTY list — conjuncts 3, 4, 5
          (`Pta.C16.empty_module_list_keeps_layer_open`, `empty_module_list_is_noop`, `empty_module_list_without_layer`):
          `containing_modules([])` supplies nothing: the layer stays open and the next `layer` call is rejected.
      (4) "a layer rule needs an architecture first and exactly one subject layer" — conjunct 6
          (`Pta.C16.layer_rule_guards`): a LayerRule history the automaton `classifyLayerRule` rejects at call `i` raises
          ImproperlyConfigured at exactly call `i` (shared with C13).
      (5) "no matter whether it is passed as a string or inside a list" — the argument FORM is part of the model
          (`LArchCall`, `ModArg` = `.str s` | `.list l`, `runLArchCalls`; PtaModel/Layer.lean: `ModArg.toList` transcribes
          `modules_list = modules if isinstance(modules, list) else [modules]`; the specification call of either form
          is `LCall.modules` with the names supplied, `callToLCall`, Bridge/BuilderCalls.lean).  Conjunct 7
          (`Pta.C16.string_form_eq_list_form`): two histories that become equal when every `containing_modules("m")`
          is written `containing_modules(["m"])` (`LArchCall.listForm`) — i.e. that differ, at any number of positions,
          in the FORM of that argument only — have the same result: the same accepted architecture or the same error
          at the same call (`Pta.C16.calls_eq_list_form_run`: the run is the list-form run, so conjuncts 1–5 apply;
          `string_form_eq_list_form_all`, `string_form_eq_list_form_one`).  Conjuncts 8, 9
          (`Pta.C16.larch_calls_refine`, `larch_calls_invariant`): refinement of the specification automaton and the
          invariant (unique layer names, at most one pending layer, no module identifier in two layers) for histories
          with BOTH forms.  Conjunct 10 (`Pta.C16.module_in_one_layer`): a module passed to `containing_modules`
          twice, in whatever forms: EVERY history `pre, containing_modules(y), mid, containing_modules(x), rest` is
          rejected with a configuration error, at the second of the two calls when the calls before it were accepted
          and earlier otherwise; conjunct 11 (`Pta.C16.string_form_one_layer`): after an accepted history in which `m`
          was passed as a STRING, passing `m` again — as a string or inside a list, to the same or another layer — is
          rejected AT that call (`Pta.C16.string_form_never_twice`).  The repaired defect F-C16 (fix 1df0d8a;
          `module_set = set(modules)` is, for a `str`, the set of its CHARACTERS) on the model of the pre-repair code
          `runLArchCharset`: `Pta.C16.charset_counterexample_accepts` (`layer A, "mod", layer B, "mod"` was ACCEPTED: two
          layers own `mod`) and `Pta.C16.charset_counterexample_rejects` (`layer A, ["m"], layer B, "mod"` was REJECTED
          although no module is shared).
    Not carried by a theorem (correspondence check only / outside the model):
      * argument forms other than `str` and `list[str]` (a tuple, a set, a generator: `isinstance(modules, list)` is
        false for them and the whole object becomes ONE list element) are not values of `ModArg`.
      * the string form of `have_modules_with_names_matching` (a regex is a single string in the API; no list form).
      * `str(architecture)` / `architecture[layer]` as observation of accepted definitions. -/
def C16_Statement : Prop :=
  -- 1 `Pta.C16.larch_refines`
  (∀ (ops : List LArchOp),
    match classifyLArch (ops.map toLCall) with
    | .accepted t => ∃ a, runLArch ops = .ok a ∧
        Pta.C16.ids a = t.closed ++ (match t.opened with | some n => [(n, [])] | none => [])
    | .rejectedAt i => runLArch ops = .error (.improperlyConfigured, i)
    | .unspecified => True) ∧
  -- 2 `Pta.C16.larch_invariant`
  (∀ (ops : List LArchOp) (a : LArch), runLArch ops = .ok a →
    (a.map (·.1)).Nodup ∧ a.pending.length ≤ 1 ∧
    ∀ l₁ ∈ a, ∀ l₂ ∈ a, ∀ f₁ ∈ l₁.2, ∀ f₂ ∈ l₂.2, f₁.isRegex = false → f₂.isRegex = false → f₁.id = f₂.id → l₁.1 = l₂.1) ∧
  -- 3 `Pta.C16.empty_module_list_keeps_layer_open`
  (∀ (h : List LArchOp) (t : LTrack) (n m : Str),
    classifyLArch (h.map toLCall) = .accepted t → t.opened = some n →
    classifyLArch ((h ++ [LArchOp.containingModules [], LArchOp.layer m]).map toLCall) = .rejectedAt (h.length + 1) ∧
    runLArch (h ++ [LArchOp.containingModules [], LArchOp.layer m]) = .error (.improperlyConfigured, h.length + 1)) ∧
  -- 4 `Pta.C16.empty_module_list_is_noop`
  (∀ (h : List LArchOp) (t : LTrack) (n : Str),
    classifyLArch (h.map toLCall) = .accepted t → t.opened = some n →
    classifyLArch ((h ++ [LArchOp.containingModules []]).map toLCall) = .accepted t ∧
    ∃ a, runLArch (h ++ [LArchOp.containingModules []]) = .ok a ∧ runLArch h = .ok a ∧ a.pending = [n]) ∧
  -- 5 `Pta.C16.empty_module_list_without_layer`
  (∀ (h rest : List LArchOp) (t : LTrack),
    classifyLArch (h.map toLCall) = .accepted t → t.opened = none →
    classifyLArch ((h ++ LArchOp.containingModules [] :: rest).map toLCall) = .rejectedAt h.length ∧
    runLArch (h ++ LArchOp.containingModules [] :: rest) = .error (.improperlyConfigured, h.length)) ∧
  -- 6 `Pta.C16.layer_rule_guards`
  (∀ (mt : Str → Str → Bool) (a : LArch) (ops : List LayerRuleOp) (g : PGraph Str) (i : Nat),
    (∀ op ∈ ops, ∀ a', op = LayerRuleOp.basedOn a' → a' = a) →
    classifyLayerRule (ops.map (toLRCall a)) = .rejectedAt i → runLayerRuleOps mt ops g = (.err .improperlyConfigured, i)) ∧
  -- 7 `Pta.C16.string_form_eq_list_form`
  (∀ (cs cs' : List LArchCall),
    cs.map LArchCall.listForm = cs'.map LArchCall.listForm → runLArchCalls cs = runLArchCalls cs') ∧
  -- 8 `Pta.C16.larch_calls_refine`
  (∀ (cs : List LArchCall),
    match classifyLArch (cs.map callToLCall) with
    | .accepted t => ∃ a, runLArchCalls cs = .ok a ∧
        a.idsPerLayer = t.closed ++ (match t.opened with | some n => [(n, [])] | none => [])
    | .rejectedAt i => runLArchCalls cs = .error (.improperlyConfigured, i)
    | .unspecified => True) ∧
  -- 9 `Pta.C16.larch_calls_invariant`
  (∀ (cs : List LArchCall) (a : LArch), runLArchCalls cs = .ok a →
    (a.map (·.1)).Nodup ∧ a.pending.length ≤ 1 ∧
    ∀ l₁ ∈ a, ∀ l₂ ∈ a, ∀ f₁ ∈ l₁.2, ∀ f₂ ∈ l₂.2, f₁.isRegex = false → f₂.isRegex = false → f₁.id = f₂.id → l₁.1 = l₂.1) ∧
  -- 10 `Pta.C16.module_in_one_layer`
  (∀ (pre mid rest : List LArchCall) (y x : ModArg) (m : Str),
    m ∈ y.toList → m ∈ x.toList →
    ∃ i, i ≤ pre.length + 1 + mid.length ∧
      runLArchCalls (pre ++ .containing y :: mid ++ .containing x :: rest) = .error (.improperlyConfigured, i) ∧
      ((∃ a, runLArchCalls (pre ++ .containing y :: mid) = .ok a) → i = pre.length + 1 + mid.length)) ∧
  -- 11 `Pta.C16.string_form_one_layer`
  (∀ (pre mid rest : List LArchCall) (m : Str) (x : ModArg), m ∈ x.toList → ∀ (a : LArch),
    runLArchCalls (pre ++ .containing (.str m) :: mid) = .ok a →
    runLArchCalls (pre ++ .containing (.str m) :: mid ++ .containing x :: rest)
      = .error (.improperlyConfigured, pre.length + 1 + mid.length))

theorem c16 : C16_Statement :=
  ⟨@Pta.C16.larch_refines, @Pta.C16.larch_invariant, @Pta.C16.empty_module_list_keeps_layer_open,
   @Pta.C16.empty_module_list_is_noop, @Pta.C16.empty_module_list_without_layer, @Pta.C16.layer_rule_guards,
   @Pta.C16.string_form_eq_list_form, @Pta.C16.larch_calls_refine, @Pta.C16.larch_calls_invariant,
   @Pta.C16.module_in_one_layer, @Pta.C16.string_form_one_layer⟩

end C16

/-! ## C17 -/
section C17
open PtaSpec

/-- C17 — Plot labels: aliases replace the nearest aliased ancestor, all modules labelled.
    English statement (verbatim): "visualize(aliases=...) labels every module of the architecture exactly once: a module
    whose name equals, or extends by whole dotted components, an aliased module name gets that name part replaced by the
    alias of the most specific such aliased module, and every other module keeps its full name. An alias given for a
    module that does not exist is rejected with an error naming it, and remaining drawing options are passed through to
    the drawing backend unchanged."

    Clause map:
      (1) "labels every module of the architecture exactly once" — conjunct 2 (`Pta.C17.labels_cover`): whenever
          `plotLabels nodes aliases` succeeds, the labelled modules are exactly `nodes`, in module order (every node list
          and alias list, no hypothesis).
      (2) "a module whose name equals, or extends by whole dotted components, an aliased module name gets that name part
          replaced by the alias of the most specific such aliased module, and every other module keeps its full name"
          — conjunct 1 (`Pta.C17.labels_spec`): the computed labels are `PtaSpec.label al n` (PtaSpec/LabelSem.lean, the
          quoted rule: nearest aliased ancestor-or-self by components), for well-formed module names, an alias map with
          distinct keys that all exist; on SCANNED architectures conjunct 6 (`Pta.E2E.scan_labels`): the labelling of the
          scan graph is the documented one on the modules of the directory tree (as a permutation, in the graph's node
          order).  Boundary safety (`p.ab` keeps its name although `p.a` has an alias) is C14.
      (3) "An alias given for a module that does not exist is rejected with an error naming it" — conjunct 3
          (`Pta.C17.unknown_alias`): lookup error carrying a name `who` that is an alias key and not a module.
      (4) "remaining drawing options are passed through to the drawing backend unchanged" — conjunct 4
          (`Pta.C17.kwargs_exact`): the argument list handed to the backend is the given keywords without `spacing` /
          `aliases`, in their order, followed by `pos` iff `spacing` was given and `labels` iff `aliases` was given;
          conjunct 5 (`Pta.C17.kwargs_passthrough_ordered`): the (key, value) pairs of the remaining options arrive in the
          same order with the same values and multiplicities.
    Not carried by a theorem (correspondence check only / outside the model):
      * option VALUES are opaque tokens (`KwArg.other k v`): that Python passes the very objects is observed at the
        intercepted backend call only; the computed `pos` layout and matplotlib are outside the model.
      * alias STRINGS containing dots or regex metacharacters: the alias text is opaque in the model (kept verbatim). -/
def C17_Statement : Prop :=
  -- 1 `Pta.C17.labels_spec`
  (∀ (nodes : List Name) (al : Aliases),
    (∀ n ∈ nodes, nameWF n = true) → (al.map (·.1)).Nodup → (∀ a ∈ al, a.1 ∈ nodes) →
    plotLabels (nodes.map render) (al.map fun a => (render a.1, a.2)) =
      .ok (nodes.map fun n => (render n, PtaSpec.label al n))) ∧
  -- 2 `Pta.C17.labels_cover`
  (∀ (nodes : List Str) (aliases : List (Str × Str)) (ls : List (Str × Str)),
    plotLabels nodes aliases = .ok ls → ls.map (·.1) = nodes) ∧
  -- 3 `Pta.C17.unknown_alias`
  (∀ (nodes : List Str) (aliases : List (Str × Str)), (∃ a ∈ aliases, a.1 ∉ nodes) →
    ∃ who, plotLabels nodes aliases = .error (.lookupError, who) ∧ who ∉ nodes ∧ who ∈ aliases.map (·.1)) ∧
  -- 4 `Pta.C17.kwargs_exact`
  (∀ (kw : List KwArg),
    drawKwargs kw = kw.filter KwArg.kept ++ (if KwArg.spacing ∈ kw then [KwArg.pos] else []) ++
      (if KwArg.aliases ∈ kw then [KwArg.labels] else [])) ∧
  -- 5 `Pta.C17.kwargs_passthrough_ordered`
  (∀ (kw : List KwArg), (drawKwargs kw).filterMap KwArg.pair? = kw.filterMap KwArg.pair?) ∧
  -- 6 `Pta.E2E.scan_labels`
  (∀ (mt : Str → Str → Bool) (base root : Str) (mp : List Str) (entries : List Entry) (o : ScanOptions),
    treeWFFor (isExcluded mt o.exclusions) base mp entries = true → mpOK entries mp = true →
    compWF root = true →
    o.excludeExternal = true → o.levelLimit = none → ∀ (g : PGraph Str),
    generateGraph mt base root mp entries o = .ok g →
    ∀ (al : Aliases), (al.map (·.1)).Nodup →
    (∀ a ∈ al, a.1 ∈ scanModules root (toSEntries (isExcluded mt o.exclusions) base entries) mp) →
    ∃ ls, plotLabels g.nodes (al.map fun a => (render a.1, a.2)) = .ok ls ∧
      ls.map (·.1) = g.nodes ∧
      ls.Perm ((scanModules root (toSEntries (isExcluded mt o.exclusions) base entries) mp).map
        fun n => (render n, PtaSpec.label al n)))

theorem c17 : C17_Statement :=
  ⟨@Pta.C17.labels_spec, @Pta.C17.labels_cover, @Pta.C17.unknown_alias, @Pta.C17.kwargs_exact,
   @Pta.C17.kwargs_passthrough_ordered, @Pta.E2E.scan_labels⟩

end C17

end Pta.Headline

/-
  Axiom check (run with a scratch file `import PtaProofs.Props.Headline` + the 17 commands below; result recorded
  here, NOT live commands; re-run after the conjuncts of Props/C07Text, C09Layer, C10Limit, C12Scan, C14Text, C15Text,
  E2EWide, TablesWiring and the appended sections of Props/C04, C08, C13, C16 were added).  Every headline theorem
  depends on exactly [propext, Classical.choice, Quot.sound]:

  #print axioms Pta.Headline.c01   -- 'Pta.Headline.c01' depends on axioms: [propext, Classical.choice, Quot.sound]
  #print axioms Pta.Headline.c02   -- 'Pta.Headline.c02' depends on axioms: [propext, Classical.choice, Quot.sound]
  #print axioms Pta.Headline.c03   -- 'Pta.Headline.c03' depends on axioms: [propext, Classical.choice, Quot.sound]
  #print axioms Pta.Headline.c04   -- 'Pta.Headline.c04' depends on axioms: [propext, Classical.choice, Quot.sound]
  #print axioms Pta.Headline.c05   -- 'Pta.Headline.c05' depends on axioms: [propext, Classical.choice, Quot.sound]
  #print axioms Pta.Headline.c06   -- 'Pta.Headline.c06' depends on axioms: [propext, Classical.choice, Quot.sound]
  #print axioms Pta.Headline.c07   -- 'Pta.Headline.c07' depends on axioms: [propext, Classical.choice, Quot.sound]
  #print axioms Pta.Headline.c08   -- 'Pta.Headline.c08' depends on axioms: [propext, Classical.choice, Quot.sound]
  #print axioms Pta.Headline.c09   -- 'Pta.Headline.c09' depends on axioms: [propext, Classical.choice, Quot.sound]
  #print axioms Pta.Headline.c10   -- 'Pta.Headline.c10' depends on axioms: [propext, Classical.choice, Quot.sound]
  #print axioms Pta.Headline.c11   -- 'Pta.Headline.c11' depends on axioms: [propext, Classical.choice, Quot.sound]
  #print axioms Pta.Headline.c12   -- 'Pta.Headline.c12' depends on axioms: [propext, Classical.choice, Quot.sound]
  #print axioms Pta.Headline.c13   -- 'Pta.Headline.c13' depends on axioms: [propext, Classical.choice, Quot.sound]
  #print axioms Pta.Headline.c14   -- 'Pta.Headline.c14' depends on axioms: [propext, Classical.choice, Quot.sound]
  #print axioms Pta.Headline.c15   -- 'Pta.Headline.c15' depends on axioms: [propext, Classical.choice, Quot.sound]
  #print axioms Pta.Headline.c16   -- 'Pta.Headline.c16' depends on axioms: [propext, Classical.choice, Quot.sound]
  #print axioms Pta.Headline.c17   -- 'Pta.Headline.c17' depends on axioms: [propext, Classical.choice, Quot.sound]
-/
