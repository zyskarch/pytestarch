/-
  PtaProofs.Props.TablesWiring — third proof obligation regenerated from the source on every run (harness/translate_wiring.py):
  the data flow of the options through the two entry points of src/pytestarch/pytestarch.py.
-/
import Generated.Wiring
import PtaModel.Wiring

namespace Pta.C04

/-- the option plumbing of the two entry points, extracted as data flow from /repo's pytestarch.py on every run
    (Generated/Wiring.lean), is the plumbing the scan model assumes (PtaModel/Wiring.lean): every option of the
    module-object entry point reaches the path entry point from the parameter of the same name, the two paths come from the
    two module objects, both entry points have the same defaults, and every argument of `generate_graph` (one per field of
    `ScanOptions`) is computed from the option(s) of that name. A dropped, swapped or re-defaulted option breaks this. -/
theorem generated_wiring_agree :
    Generated.entryParams = Pta.Wiring.entryParams ∧
    Generated.entryDefaults = Pta.Wiring.defaults ∧
    Generated.moduleObjectsDefaults = Pta.Wiring.defaults ∧
    Generated.defaultExclusions = Pta.Wiring.defaultExclusions ∧
    Generated.moduleObjectsFlow = Pta.Wiring.moduleObjectsFlow ∧
    Generated.generateGraphFlow = Pta.Wiring.generateGraphFlow := by
  decide +kernel

end Pta.C04
