/-
  PtaProofs.Props.Tables — the proof obligation regenerated from the source on every run:
  the boolean tables translated from /repo's behavior_requirement.py and
  `_get_dependency_expectations` (Generated/Flags.lean) equal the model's tables (PtaModel/Flags.lean)
  on all 16 flag combinations. A change of either table in the Python source breaks this theorem.
-/
import PtaModel.Flags
import PtaModel.Scan
import PtaModel.Rule
import Generated.Flags
import Generated.Config
namespace Pta.C12

/-- all eleven derived flags, model side -/
def modelRow (b : Behavior) : List Bool :=
  [b.explReq, b.otherReq, b.explForb, b.otherForb, b.inconsistent,
   b.expOtherNotPresent, b.expExplNotPresent, b.expExplAndNoOther, b.expExplNotButOthers,
   b.expAtLeastOneOther, b.expExplPresent]

/-- all eleven derived flags, as translated from the Python source -/
def generatedRow (s o n x : Bool) : List Bool :=
  [Generated.explReq s o n x, Generated.otherReq s o n x, Generated.explForb s o n x,
   Generated.otherForb s o n x, Generated.inconsistent s o n x,
   Generated.expOtherNotPresent s o n x, Generated.expExplNotPresent s o n x,
   Generated.expExplAndNoOther s o n x, Generated.expExplNotButOthers s o n x,
   Generated.expAtLeastOneOther s o n x, Generated.expExplPresent s o n x]

theorem generated_flags_agree :
    ∀ s o n x : Bool, generatedRow s o n x = modelRow ⟨s, o, n, x⟩ := by
  decide +kernel

end Pta.C12

namespace Pta.C13
open Pta

/-- the three shapes of an optional filter list as Python's truthiness sees them: `None`, `[]`, non-empty -/
def listShapes : List (Option (List Filter)) := [none, some [], some [.name []]]

/-- the configuration guards translated from /repo's pytestarch.py (`get_evaluable_architecture`) and rule.py
    (`_assert_anything_only_used_with_should_not`, `_assert_required_configuration_present`) on every run equal the
    model's guards, on all argument combinations -/
theorem generated_config_agree :
    (∀ ex rex eex reex xx : Bool,
      Generated.entryImproper ex rex eex reex xx =
        (entryOptionsError ⟨ex, rex, eex, reex, xx, true⟩ == some ErrKind.improperlyConfigured)) ∧
    (∀ a n : Bool, Generated.anythingMisused a n = anythingMisused { anything := a, shouldNot := n }) ∧
    (∀ s o n : Bool, ∀ d ∈ [none, some true, some false], ∀ ss ∈ listShapes, ∀ os ∈ listShapes,
      Generated.configMissing s o n d.isNone
          (match ss with | none => true | some l => l.isEmpty) (match os with | none => true | some l => l.isEmpty) =
        configMissing { should := s, shouldOnly := o, shouldNot := n, importDir := d, subjects := ss, objects := os }) := by
  decide +kernel

end Pta.C13
