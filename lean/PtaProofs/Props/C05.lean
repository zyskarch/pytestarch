/-
  PtaProofs.Props.C05 — layer-rule verdicts follow the documented semantics, one unit per layer (property C05).

  For EVERY well-formed architecture `a`, EVERY graph `g` representing it, EVERY layered architecture `larch` whose
  layers are name lists or regex layers (`ls` = the layers with every regex resolved to the modules it matches),
  and EVERY layer rule `r` in the oracle's domain (`layerDomain'`, audit finding F6: non-empty layers
  listing existing modules, modules of DIFFERENT layers pairwise unrelated — inside one layer anything goes: a regex layer
  may match a package and its sub modules, a name layer may list a module, one of its sub modules, or the same module
  twice —, distinct layer names, subject and objects defined layers, objects different from the subject but possibly
  repeated; all 12 shapes and the two `any layer` aliases; any number of object layers; any number of layers of either
  kind that the rule does not mention):
  the model of `LayerRule(...).assert_applies` returns pass exactly when `layerVerdict a ls r` holds and fail
  (AssertionError) exactly when it does not; in particular it never raises `LayerMismatch` or any other error.

  Layers the rule does not mention (`layer_verdict_kept`, `unmentioned_layers_irrelevant'`): the domain is needed only of
  the layers the rule works with (`ruleLayers`: regex layers whose pattern the rule does not convert list nothing for
  this rule, whatever they match). Of the layers the rule does not mention nothing is required about existence, but
  listed modules of an unmentioned NAME layer must still be unrelated to the listed modules of every other layer:
  otherwise looking up a common descendant raises `LayerMismatch` (`unmentioned_related_layer_mismatch`).

  Outside that domain, since the repair of `LayerRuleMatcher._update_layer_mapping`: if the layer mapping the rule uses
  (regexes of the rule resolved) assigns one module identifier to two layers with different names, the rule raises
  `LayerMismatch` and never returns a verdict (`overlapping_layers_*`); on `layerDomain'` that check passes
  (`layer_map_consistent`).
-/
import Bridge.Abs
import Bridge.LayerAbs
import Bridge.LayerKept
import PtaProofs.Lemmas.LayerRegex
import PtaProofs.Lemmas.BuildScan
import PtaProofs.Lemmas.LayerRuleSim
namespace Pta.C05
open PtaSpec

/-- `layerDomain'` contains the stricter `layerDomain` (all listed modules pairwise unrelated, objects listed once) -/
theorem layerDomain_imp (a : Arch) (ls : Layers) (r : LRuleSpec) (h : layerDomain a ls r = true) :
    layerDomain' a ls r = true := by
  unfold layerDomain at h
  unfold layerDomain'
  simp only [Bool.and_eq_true, Bool.or_eq_true] at h ⊢
  obtain ⟨⟨⟨⟨⟨h1, h2⟩, h3⟩, h4⟩, h5⟩, h6⟩ := h
  exact ⟨⟨⟨⟨⟨h1, h2⟩, cross_of_pairwiseUnrelated ls h3⟩, h4⟩, h5⟩, h6.imp id (·.1)⟩

/-- … and is contained in the domain of `layer_verdict_kept` -/
theorem layerDomain'_imp (mt : Str → Str → Bool) (nodes : List Str) (a : Arch) (hwf : a.wf = true) (ls : Layers)
    (r : LRuleSpec) (h : layerDomain' a ls r = true) (larch : LArch) (hres : resolves mt nodes larch ls = true) :
    layerDomainK a ls r = true ∧
    (∀ l' ∈ ruleLayers larch ls r, ∃ l ∈ ls, l.1 = l'.1 ∧ (l'.2 = l.2 ∨ l'.2 = [])) ∧
    (ruleLayers larch ls r).get r.subject = ls.get r.subject ∧
    (r.anything = false → ∀ on ∈ r.objects, (ruleLayers larch ls r).get on = ls.get on) :=
  ⟨Pta.layerDomainK_of_layerDomain' a hwf ls r h, Pta.kept_sub _ larch ls,
   Pta.kept_get mt nodes _ larch ls hres r.subject (Pta.ruleConv_subj larch r),
   fun hany on hon => Pta.kept_get mt nodes _ larch ls hres on (Pta.ruleConv_obj larch r hany on hon)⟩

/-- C05, main statement: name layers and regex layers, the LayerRule object after the complete builder chain -/
theorem layer_verdict (mt : Str → Str → Bool) (a : Arch) (g : PGraph Str) (hg : GraphOf a g)
    (hwf : a.wf = true) (ls : Layers) (r : LRuleSpec) (hdom : layerDomain' a ls r = true)
    (hany : r.anything = true → r.verb = .shouldNot)
    (larch : LArch) (hres : resolves mt g.nodes larch ls = true) :
    (assertAppliesLayer mt (compileLayerRule larch r) g).cls = VClass.ofBool (layerVerdict a ls r) :=
  Pta.layer_verdict_lemma mt a g hg hwf ls r hdom hany larch hres

/-- C05 with the domain required only of the layers the rule works with (`ruleLayers larch ls r`: the resolved layers,
    except that a regex layer whose pattern is not a pattern of a layer the rule mentions lists nothing). Of layers the
    rule does not mention `layerDomainK` requires no existence and no non-emptiness, only well-formed names, distinct
    layer names and unrelatedness to the modules of every OTHER layer -/
theorem layer_verdict_kept (mt : Str → Str → Bool) (a : Arch) (g : PGraph Str) (hg : GraphOf a g)
    (hwf : a.wf = true) (ls : Layers) (r : LRuleSpec)
    (hany : r.anything = true → r.verb = .shouldNot)
    (larch : LArch) (hres : resolves mt g.nodes larch ls = true)
    (hdom : layerDomainK a (ruleLayers larch ls r) r = true) :
    (assertAppliesLayer mt (compileLayerRule larch r) g).cls = VClass.ofBool (layerVerdict a ls r) :=
  layer_verdict_ldom mt a g hg hwf ls r hany larch hres (ldom_of_layerDomainK a _ r hdom)

/-- C05 through the fluent API: `compileLayerRule larch r` is the state after the complete call chain
    `based_on(larch).layers_that().are_named(subject).<verb>().<access…>().are_named(objects)`, so the statement holds
    for the run of the chain followed by `assert_applies` -/
theorem layer_verdict_chain (mt : Str → Str → Bool) (a : Arch) (g : PGraph Str) (hg : GraphOf a g)
    (hwf : a.wf = true) (ls : Layers) (r : LRuleSpec) (hdom : layerDomain' a ls r = true)
    (hany : r.anything = true → r.verb = .shouldNot)
    (larch : LArch) (hres : resolves mt g.nodes larch ls = true) (isList : Bool) :
    (runLayerRuleOps mt (layerRuleOps larch r isList) g).1.cls = VClass.ofBool (layerVerdict a ls r) :=
  by
  have hd := ldom_of_ldom' (archWF_of_wf a hwf) (ldom'_of_layerDomain' a ls r hdom)
  rw [runLayerRuleOps_chain_lemma mt g larch r isList]
  · exact layer_verdict_lemma mt a g hg hwf ls r hdom hany larch hres
  · rw [resolves_hasLayer mt g.nodes larch ls hres]; exact hd.subj
  · exact layerRes_ne_nil (resolves_getD mt g.nodes larch ls hres r.subject hd.subj) hd.subjNe
  · intro hanyB
    rw [List.all_eq_true]
    intro on hon
    rw [resolves_hasLayer mt g.nodes larch ls hres]
    exact (hd.obj hanyB on hon).1

/-- the builder chain reaches `compileLayerRule larch r` (no domain hypotheses beyond "the layers exist") -/
theorem chain_state (mt : Str → Str → Bool) (g : PGraph Str) (larch : LArch) (r : LRuleSpec) (isList : Bool)
    (hS : larch.hasLayer r.subject = true) (hSne : larch.getD r.subject ≠ [])
    (hO : r.anything = false → r.objects.all larch.hasLayer = true) :
    runLayerRuleOps mt (layerRuleOps larch r isList) g =
      (assertAppliesLayer mt (compileLayerRule larch r) g, (layerRuleOps larch r isList).length) :=
  Pta.runLayerRuleOps_chain_lemma mt g larch r isList hS hSne hO

theorem resolves_names (mt : Str → Str → Bool) (nodes : List Str) (ls : Layers) :
    resolves mt nodes (compileLArch ls) ls = true :=
  Pta.resolves_compileLArch mt nodes ls

/-- C05 for layered architectures whose layers all list modules by name (instance of `layer_verdict`;
    `compileLArch ls` resolves to `ls`, see `resolves_names`) -/
theorem layer_verdict_names (mt : Str → Str → Bool) (a : Arch) (g : PGraph Str) (hg : GraphOf a g)
    (hwf : a.wf = true) (ls : Layers) (r : LRuleSpec) (hdom : layerDomain' a ls r = true)
    (hany : r.anything = true → r.verb = .shouldNot) :
    (assertAppliesLayer mt (compileLayerRule (compileLArch ls) r) g).cls = VClass.ofBool (layerVerdict a ls r) :=
  layer_verdict_lemma mt a g hg hwf ls r hdom hany _ (resolves_names mt g.nodes ls)

/-- C05 on the graph the constructor builds -/
theorem layer_verdict_archGraph (mt : Str → Str → Bool) (a : Arch)
    (hwf : a.wf = true) (ls : Layers) (r : LRuleSpec) (hdom : layerDomain' a ls r = true)
    (hany : r.anything = true → r.verb = .shouldNot)
    (larch : LArch) (hres : resolves mt (archGraph a).nodes larch ls = true) :
    (assertAppliesLayer mt (compileLayerRule larch r) (archGraph a)).cls = VClass.ofBool (layerVerdict a ls r) :=
  Pta.layer_verdict_lemma mt a (archGraph a) (Pta.archGraph_graphOf a hwf) hwf ls r hdom hany larch hres

/-- layers the rule does not mention are irrelevant: two layered architectures that agree on the rule's subject and
    object layers give the same verdict class (both layerings in the relaxed domain) -/
theorem unmentioned_layers_irrelevant (mt : Str → Str → Bool) (a : Arch) (g : PGraph Str) (hg : GraphOf a g)
    (hwf : a.wf = true) (r : LRuleSpec) (hany : r.anything = true → r.verb = .shouldNot)
    (ls ls' : Layers) (hdom : layerDomain' a ls r = true) (hdom' : layerDomain' a ls' r = true)
    (larch larch' : LArch) (hres : resolves mt g.nodes larch ls = true) (hres' : resolves mt g.nodes larch' ls' = true)
    (hs : ls.get r.subject = ls'.get r.subject) (ho : r.anything = false → ∀ on ∈ r.objects, ls.get on = ls'.get on) :
    (assertAppliesLayer mt (compileLayerRule larch r) g).cls = (assertAppliesLayer mt (compileLayerRule larch' r) g).cls := by
  rw [Pta.layer_verdict_lemma mt a g hg hwf ls r hdom hany larch hres,
    Pta.layer_verdict_lemma mt a g hg hwf ls' r hdom' hany larch' hres', Pta.layerVerdict_congr a ls ls' r hs ho]

/-- the same with the domain required only of the layers the rule works with: the layers the rule mentions must be in
    the domain; unmentioned regex layers may be defined in any way (they list nothing for this rule, unless they repeat
    a pattern of a mentioned layer); unmentioned name layers may list modules that do not exist, or nothing, but their
    listed modules must be unrelated to the listed modules of all other layers (see
    `unmentioned_related_layer_mismatch`: otherwise `LayerMismatch`) -/
theorem unmentioned_layers_irrelevant' (mt : Str → Str → Bool) (a : Arch) (g : PGraph Str) (hg : GraphOf a g)
    (hwf : a.wf = true) (r : LRuleSpec) (hany : r.anything = true → r.verb = .shouldNot)
    (ls ls' : Layers) (larch larch' : LArch)
    (hres : resolves mt g.nodes larch ls = true) (hres' : resolves mt g.nodes larch' ls' = true)
    (hdom : layerDomainK a (ruleLayers larch ls r) r = true) (hdom' : layerDomainK a (ruleLayers larch' ls' r) r = true)
    (hs : ls.get r.subject = ls'.get r.subject) (ho : r.anything = false → ∀ on ∈ r.objects, ls.get on = ls'.get on) :
    (assertAppliesLayer mt (compileLayerRule larch r) g).cls = (assertAppliesLayer mt (compileLayerRule larch' r) g).cls := by
  rw [layer_verdict_kept mt a g hg hwf ls r hany larch hres hdom,
    layer_verdict_kept mt a g hg hwf ls' r hany larch' hres' hdom', Pta.layerVerdict_congr a ls ls' r hs ho]

/-- in particular the layers the rule does not mention can be dropped: the verdict class is the one of the layered
    architecture that defines the mentioned layers only, where it is the documented semantics -/
theorem unmentioned_layers_as_no_layer (mt : Str → Str → Bool) (a : Arch) (g : PGraph Str) (hg : GraphOf a g)
    (hwf : a.wf = true) (r : LRuleSpec) (hany : r.anything = true → r.verb = .shouldNot)
    (ls : Layers) (larch : LArch) (hres : resolves mt g.nodes larch ls = true)
    (hdom : layerDomainK a (ruleLayers larch ls r) r = true) :
    (assertAppliesLayer mt (compileLayerRule larch r) g).cls =
      VClass.ofBool (layerVerdict a (ls.filter fun l => l.1 == r.subject || (!r.anything && r.objects.contains l.1)) r) := by
  rw [layer_verdict_kept mt a g hg hwf ls r hany larch hres hdom]
  congr 1
  apply Pta.layerVerdict_congr
  · exact (Pta.get_filter_mentioned ls _ r.subject (fun l h => by simp [h])).symm
  · intro hanyB on hon
    exact (Pta.get_filter_mentioned ls _ on (fun l h => by simp [h, hanyB, hon])).symm

/-- key lemma `layerOf_correct`: on a mapping in which listed modules of DIFFERENT layers are unrelated, the layer of a
    module is the layer whose listed modules contain an ancestor of the module or the module itself — unique by
    cross-layer unrelatedness, however many listed modules of that layer are such ancestors —, or none; never
    `.error layerMismatch` -/
theorem layerOf_correct (m : Layers) (hunrel : crossUnrelated m = true)
    (hm : ∀ l ∈ m, ∀ x ∈ l.2, nameWF x = true) (n : Name) (hn : nameWF n = true) :
    LayerMap.layerOf (m.map fun l => (l.1, l.2.map render)) (render n) = .ok (layerTag m n) ∧
    (∀ l ∈ m, inLayer l.2 n = true → layerTag m n = some l.1) ∧
    (∀ t, layerTag m n = some t → ∃ l ∈ m, l.1 = t ∧ inLayer l.2 n = true) ∧
    (∀ l ∈ m, ∀ l' ∈ m, inLayer l.2 n = true → inLayer l'.2 n = true → l.1 = l'.1) :=
  have hU := unrelMap_of_cross m hunrel
  ⟨Pta.layerOf_correct m hU hm n hn, fun _ hl hin => layerTag_of_mem hU hl hin, fun _ ht => layerTag_some ht,
   fun _ hl _ hl' hin hin' => Option.some.inj ((layerTag_of_mem hU hl hin).symm.trans (layerTag_of_mem hU hl' hin'))⟩

/-- C03-style soundness of the layer report: every reported import line is an import edge of the graph (an import of
    the architecture), and the two layer tags printed with it are the successful lookups of its ends in the rule's layer
    mapping and differ -/
theorem layer_report_sound (mt : Str → Str → Bool) (a : Arch) (g : PGraph Str) (hg : GraphOf a g)
    (hwf : a.wf = true) (ls : Layers) (r : LRuleSpec) (hdom : layerDomain' a ls r = true)
    (hany : r.anything = true → r.verb = .shouldNot)
    (larch : LArch) (hres : resolves mt g.nodes larch ls = true) (items : List LItem)
    (h : assertAppliesLayer mt (compileLayerRule larch r) g = .fail items) :
    ∀ u v b tu tv, LItem.imp u v b tu tv ∈ items →
      (∃ e ∈ a.imports, u = render e.1 ∧ v = render e.2) ∧ v ∈ g.importSuccs u ∧
      (ruleLayerMap mt g larch r).layerOf u = .ok tu ∧ (ruleLayerMap mt g larch r).layerOf v = .ok tv ∧ tu ≠ tv := by
  intro u v b tu tv hmem
  obtain ⟨⟨e, he, hu, hv, _, _⟩, hrest⟩ := layer_report_sound_kept_lemma mt a g hg hwf ls r hany larch hres
    (ldom_of_layerDomain' mt g.nodes a hwf ls r hdom larch hres) items h u v b tu tv hmem
  exact ⟨⟨e, he, hu, hv⟩, hrest⟩

/-- the same on name layers, with the tags in the specification's vocabulary -/
theorem layer_report_sound_names (mt : Str → Str → Bool) (a : Arch) (g : PGraph Str) (hg : GraphOf a g)
    (hwf : a.wf = true) (ls : Layers) (r : LRuleSpec) (hdom : layerDomain' a ls r = true)
    (hany : r.anything = true → r.verb = .shouldNot) (items : List LItem)
    (h : assertAppliesLayer mt (compileLayerRule (compileLArch ls) r) g = .fail items) :
    ∀ u v b tu tv, LItem.imp u v b tu tv ∈ items →
      ∃ e ∈ a.imports, u = render e.1 ∧ v = render e.2 ∧ tu = layerTag ls e.1 ∧ tv = layerTag ls e.2 ∧ tu ≠ tv := by
  intro u v b tu tv hmem
  have hres := resolves_names mt g.nodes ls
  obtain ⟨⟨e, he, hu, hv, htu, htv⟩, _, _, _, hne⟩ := layer_report_sound_kept_lemma mt a g hg hwf ls r hany _ hres
    (ldom_of_layerDomain' mt g.nodes a hwf ls r hdom _ hres) items h u v b tu tv hmem
  rw [show ruleLayers (compileLArch ls) ls r = ls from keptLayers_names _ ls] at htu htv
  exact ⟨e, he, hu, hv, htu, htv, hne⟩

/-! ### a module assigned to two layers -/

/-- on the domain of `layer_verdict` the check of the repaired `_update_layer_mapping` passes: listed modules of
    different layers are unrelated, in particular distinct (a module listed twice in ONE layer is not an error) -/
theorem layer_map_consistent (mt : Str → Str → Bool) (a : Arch) (g : PGraph Str) (hg : GraphOf a g)
    (hwf : a.wf = true) (ls : Layers) (r : LRuleSpec) (hdom : layerDomain' a ls r = true)
    (hany : r.anything = true → r.verb = .shouldNot)
    (larch : LArch) (hres : resolves mt g.nodes larch ls = true) :
    (ruleLayerMap mt g larch r).consistent = true := by
  obtain ⟨_, _, c, _⟩ := Pta.layer_reduce mt a g hg hwf ls r hany larch hres
    (Pta.ldom_of_layerDomain' mt g.nodes a hwf ls r hdom larch hres)
  exact c.cons

/-- what the check says: it fails exactly when some identifier is listed by two entries with different layer names
    (listing an identifier twice in the SAME layer is not an error) -/
theorem consistent_false_iff (m : LayerMap) :
    m.consistent = false ↔ ∃ l1 ∈ m, ∃ l2 ∈ m, ∃ id, id ∈ l1.2 ∧ id ∈ l2.2 ∧ l1.1 ≠ l2.1 := by
  rw [← Bool.not_eq_true, consistent_iff]
  simp only [ConsP, Classical.not_forall, exists_prop]

/-- the matcher: if after resolution (`ruleMap` = `_update_layer_mapping`: the regexes occurring in the rule expanded
    over the modules of the graph) some module identifier belongs to two different layers, and regex conversion and
    graph queries succeed, the rule raises `LayerMismatch` — whatever the detector would have said -/
theorem overlapping_layers_rejected (mt : Str → Str → Bool) (g : PGraph Str) (larch : LArch) (b : Behavior) (d : Bool)
    (subjects objects subs objs : List Filter) (q : Option ExplDeps × Option OtherDeps)
    (h1 : convertFilters mt g.nodes subjects = .ok subs) (h2 : convertFilters mt g.nodes objects = .ok objs)
    (h3 : runQueries g b d subs objs = .ok q)
    (l1 l2 : Str × List Str) (hl1 : l1 ∈ ruleMap mt g larch subjects objects) (hl2 : l2 ∈ ruleMap mt g larch subjects objects)
    (id : Str) (hid1 : id ∈ l1.2) (hid2 : id ∈ l2.2) (hne : l1.1 ≠ l2.1) :
    matchLayerRule mt g larch b d subjects objects = .err .layerMismatch :=
  Pta.matchLayerRule_inconsistent mt g larch b d subjects objects subs objs q h1 h2 h3
    ((consistent_false_iff _).2 ⟨l1, hl1, l2, hl2, id, hid1, hid2, hne⟩)

/-- … and never a verdict: `assert_applies` of ANY layer rule object (finished or not, in the domain of C05 or not) whose
    layer mapping has such an identifier raises — `LayerMismatch`, or an error that comes earlier (configuration, regex
    conversion, graph queries) -/
theorem overlapping_layers_never_verdict (mt : Str → Str → Bool) (g : PGraph Str) (larch : LArch) (rule : RuleState)
    (l1 l2 : Str × List Str) (hl1 : l1 ∈ stateLayerMap mt g larch rule) (hl2 : l2 ∈ stateLayerMap mt g larch rule)
    (id : Str) (hid1 : id ∈ l1.2) (hid2 : id ∈ l2.2) (hne : l1.1 ≠ l2.1) :
    ∃ k, assertAppliesLayer mt ⟨some larch, some rule⟩ g = .err k :=
  Pta.assertAppliesLayer_err_of_inconsistent mt g larch rule
    ((consistent_false_iff _).2 ⟨l1, hl1, l2, hl2, id, hid1, hid2, hne⟩)

/-- conversely a verdict (pass or fail) is only ever returned on a mapping that passes the check -/
theorem verdict_only_if_consistent (mt : Str → Str → Bool) (g : PGraph Str) (larch : LArch) (b : Behavior) (d : Bool)
    (subjects objects : List Filter)
    (h : matchLayerRule mt g larch b d subjects objects = .pass ∨
      ∃ items, matchLayerRule mt g larch b d subjects objects = .fail items) :
    (ruleMap mt g larch subjects objects).consistent = true := by
  cases hc : (ruleMap mt g larch subjects objects).consistent with
  | true => rfl
  | false =>
    obtain ⟨k, hk⟩ := matchLayerRule_err_of_inconsistent mt g larch b d subjects objects hc
    rw [hk] at h
    rcases h with h | ⟨_, h⟩ <;> cases h

/-- the same for the LayerRule object of a specification rule (`ruleLayerMap` is the mapping of `layer_report_sound`) -/
theorem overlapping_layers_rejected_rule (mt : Str → Str → Bool) (g : PGraph Str) (larch : LArch) (r : LRuleSpec)
    (hs : larch.getD r.subject ≠ []) (ho : r.anything = true ∨ r.objects.flatMap larch.getD ≠ [])
    (hany : r.anything = true → r.verb = .shouldNot)
    (hdd : r.anything = true → dedupSubjects (larch.getD r.subject) = larch.getD r.subject)
    (subs objs : List Filter) (q : Option ExplDeps × Option OtherDeps)
    (h1 : convertFilters mt g.nodes (larch.getD r.subject) = .ok subs)
    (h2 : convertFilters mt g.nodes
      (if r.anything = true then larch.getD r.subject else r.objects.flatMap larch.getD) = .ok objs)
    (h3 : runQueries g (behL r) r.importDir subs objs = .ok q)
    (l1 l2 : Str × List Str) (hl1 : l1 ∈ ruleLayerMap mt g larch r) (hl2 : l2 ∈ ruleLayerMap mt g larch r)
    (id : Str) (hid1 : id ∈ l1.2) (hid2 : id ∈ l2.2) (hne : l1.1 ≠ l2.1) :
    assertAppliesLayer mt (compileLayerRule larch r) g = .err .layerMismatch := by
  rw [assertAppliesLayer_compile mt g larch r hs ho hany hdd]
  rw [ruleLayerMap_eq_ruleMap] at hl1 hl2
  exact matchLayerRule_inconsistent mt g larch _ _ _ _ subs objs q h1 h2 h3
    ((consistent_false_iff _).2 ⟨l1, hl1, l2, hl2, id, hid1, hid2, hne⟩)

/-- why `hany` is a hypothesis: the `any layer` aliases exist only for `should_not`
    (`_assert_anything_only_used_with_should_not`); with another verb `assert_applies` raises ImproperlyConfigured -/
theorem any_layer_misused (mt : Str → Str → Bool) (g : PGraph Str) (larch : LArch) (r : LRuleSpec)
    (hany : r.anything = true) (hv : r.verb ≠ .shouldNot) :
    assertAppliesLayer mt (compileLayerRule larch r) g = .err .improperlyConfigured := by
  exact assertAppliesLayer_err_of_front mt g larch (if_pos (by simp [anythingMisused, hany, hv]))

/-! non-vacuity: an 8-node architecture, three layers (one of them not mentioned by the rule), name layers and regex
    layers, passing and failing rules; all hypotheses and both sides evaluate -/
def nm (s : String) : Name := splitDots s.toList
def exA : Arch :=
  { nodes := ["p", "p.a", "p.a.x", "p.a.y", "p.b", "p.c", "q", "q.z"].map nm,
    imports := [(nm "p.a.x", nm "p.b"), (nm "p.a.x", nm "p.a.y"), (nm "p.b", nm "q.z"), (nm "p.c", nm "p.a")] }
def exLs : Layers := [("top".toList, [nm "p.a"]), ("mid".toList, [nm "p.b", nm "q"]), ("low".toList, [nm "p.c"])]
def exR : LRuleSpec := { verb := .shouldOnly, importDir := true, exc := false, subject := "top".toList, objects := ["mid".toList] }
def exR' : LRuleSpec := { verb := .shouldNot, importDir := false, exc := false, subject := "mid".toList, objects := ["top".toList] }
def exRany : LRuleSpec := { verb := .shouldNot, importDir := true, exc := false, subject := "mid".toList, objects := [], anything := true }
example : exA.wf = true ∧ layerDomain exA exLs exR = true ∧ layerDomain exA exLs exR' = true ∧
    layerDomain exA exLs exRany = true ∧ layerDomain' exA exLs exR = true ∧ layerDomain' exA exLs exR' = true ∧
    layerDomain' exA exLs exRany = true := by decide +kernel
set_option maxRecDepth 8000 in
example : (assertAppliesLayer (fun _ _ => false) (compileLayerRule (compileLArch exLs) exR) (archGraph exA)).cls = .pass ∧
    layerVerdict exA exLs exR = true := by decide +kernel
set_option maxRecDepth 8000 in
example : (assertAppliesLayer (fun _ _ => false) (compileLayerRule (compileLArch exLs) exR') (archGraph exA)).cls = .fail ∧
    layerVerdict exA exLs exR' = false := by decide +kernel
set_option maxRecDepth 8000 in
example : (assertAppliesLayer (fun _ _ => false) (compileLayerRule (compileLArch exLs) exRany) (archGraph exA)).cls = .pass ∧
    layerVerdict exA exLs exRany = true := by decide +kernel

example : GraphOf exA (archGraph exA) := Pta.archGraph_graphOf exA (by decide +kernel)
example : (exR.anything = true → exR.verb = .shouldNot) ∧ (exRany.anything = true → exRany.verb = .shouldNot) := by decide
/-- hypotheses of `unmentioned_layers_irrelevant`: dropping the layer the rule does not mention -/
def exLs2 : Layers := [("top".toList, [nm "p.a"]), ("mid".toList, [nm "p.b", nm "q"])]
example : layerDomain' exA exLs2 exR = true ∧ exLs.get exR.subject = exLs2.get exR.subject ∧
    (exR.anything = false → ∀ on ∈ exR.objects, exLs.get on = exLs2.get on) := by decide +kernel
/-- hypotheses of `layerOf_correct` -/
example : crossUnrelated exLs = true ∧ (∀ l ∈ exLs, ∀ x ∈ l.2, nameWF x = true) ∧
    nameWF (nm "p.a.x") = true ∧ layerTag exLs (nm "p.a.x") = some "top".toList ∧ layerTag exLs (nm "q.z") = some "mid".toList ∧
    layerTag exLs (nm "p") = none := by decide +kernel
/-- hypotheses of `chain_state` -/
example : (compileLArch exLs).hasLayer exR.subject = true ∧ (compileLArch exLs).getD exR.subject ≠ [] ∧
    (exR.anything = false → exR.objects.all (compileLArch exLs).hasLayer = true) := by decide +kernel

/-- regex layers: the matcher is "starts with" (a stand-in for the regex engine, which is a parameter) -/
def exMt : Str → Str → Bool := fun p s => startsWith p s
def exLarch : LArch :=
  [("top".toList, [.regex "p.a.".toList]), ("mid".toList, [.name "p.b".toList, .name "q".toList]),
   ("low".toList, [.regex "p.c".toList])]
def exLsR : Layers := [("top".toList, [nm "p.a.x", nm "p.a.y"]), ("mid".toList, [nm "p.b", nm "q"]), ("low".toList, [nm "p.c"])]
set_option maxRecDepth 8000 in
example : resolves exMt (archGraph exA).nodes exLarch exLsR = true ∧ layerDomain' exA exLsR exR = true ∧
    layerDomain' exA exLsR exR' = true := by decide +kernel
set_option maxRecDepth 8000 in
example : (assertAppliesLayer exMt (compileLayerRule exLarch exR) (archGraph exA)).cls = .pass ∧
    layerVerdict exA exLsR exR = true := by decide +kernel
set_option maxRecDepth 8000 in
example : (assertAppliesLayer exMt (compileLayerRule exLarch exR') (archGraph exA)).cls = .fail ∧
    layerVerdict exA exLsR exR' = false := by decide +kernel
set_option maxRecDepth 8000 in
example : (runLayerRuleOps exMt (layerRuleOps exLarch exR true) (archGraph exA)).1.cls = .pass := by decide +kernel

/-! ### the relaxed domain (audit finding F6): related modules inside one layer

    (a) a regex layer matching a package and its sub modules (`p.a`, `p.a.x`, `p.a.y`), (b) a name layer listing a module,
    one of its sub modules and the module again, (c) an object layer named twice; all hypotheses of `layer_verdict`
    hold, the stricter `layerDomain` does not, and both sides evaluate to the same verdict -/
def exLarchW : LArch :=
  [("top".toList, [.regex "p.a".toList]), ("mid".toList, [.name "p.b".toList, .name "q".toList]),
   ("low".toList, [.regex "p.c".toList])]
/-- the regex layers resolved: `top` lists a package and its two sub modules -/
def exLsRW : Layers :=
  [("top".toList, [nm "p.a", nm "p.a.x", nm "p.a.y"]), ("mid".toList, [nm "p.b", nm "q"]), ("low".toList, [nm "p.c"])]
/-- name layers: `top` lists `p.a`, its sub module `p.a.x`, and `p.a` again -/
def exLsW : Layers :=
  [("top".toList, [nm "p.a", nm "p.a.x", nm "p.a"]), ("mid".toList, [nm "p.b", nm "q"]), ("low".toList, [nm "p.c"])]
def exRtop : LRuleSpec := { verb := .shouldNot, importDir := true, exc := true, subject := "top".toList, objects := ["mid".toList] }
def exRtopAny : LRuleSpec := { verb := .shouldNot, importDir := true, exc := false, subject := "top".toList, objects := [], anything := true }
def exRtwice : LRuleSpec := { verb := .should, importDir := false, exc := false, subject := "mid".toList, objects := ["top".toList, "low".toList, "top".toList] }
set_option maxRecDepth 8000 in
example : resolves exMt (archGraph exA).nodes exLarchW exLsRW = true ∧
    layerDomain' exA exLsRW exR = true ∧ layerDomain' exA exLsRW exR' = true ∧ layerDomain' exA exLsRW exRtop = true ∧
    layerDomain' exA exLsRW exRtopAny = true ∧ layerDomain' exA exLsRW exRtwice = true ∧
    layerDomain exA exLsRW exR = false ∧ layerDomain exA exLsRW exRtwice = false := by decide +kernel
example : layerDomain' exA exLsW exR = true ∧ layerDomain' exA exLsW exR' = true ∧ layerDomain' exA exLsW exRtop = true ∧
    layerDomain' exA exLsW exRtopAny = true ∧ layerDomain' exA exLsW exRtwice = true ∧
    layerDomain exA exLsW exR = false ∧ layerDomain exA exLsW exRtopAny = false := by decide +kernel
example : (exRtop.anything = true → exRtop.verb = .shouldNot) ∧ (exRtopAny.anything = true → exRtopAny.verb = .shouldNot) ∧
    (exRtwice.anything = true → exRtwice.verb = .shouldNot) := by decide
/- (a) regex layer matching a package and its sub modules -/
set_option maxRecDepth 8000 in
example : (assertAppliesLayer exMt (compileLayerRule exLarchW exR) (archGraph exA)).cls = .pass ∧
    layerVerdict exA exLsRW exR = true := by decide +kernel
set_option maxRecDepth 8000 in
example : (assertAppliesLayer exMt (compileLayerRule exLarchW exR') (archGraph exA)).cls = .fail ∧
    layerVerdict exA exLsRW exR' = false := by decide +kernel
set_option maxRecDepth 8000 in
example : (assertAppliesLayer exMt (compileLayerRule exLarchW exRtop) (archGraph exA)).cls = .pass ∧
    layerVerdict exA exLsRW exRtop = true := by decide +kernel
set_option maxRecDepth 8000 in
example : (assertAppliesLayer exMt (compileLayerRule exLarchW exRtopAny) (archGraph exA)).cls = .fail ∧
    layerVerdict exA exLsRW exRtopAny = false := by decide +kernel
set_option maxRecDepth 8000 in
example : (assertAppliesLayer exMt (compileLayerRule exLarchW exRtwice) (archGraph exA)).cls = .fail ∧
    layerVerdict exA exLsRW exRtwice = false := by decide +kernel
/- (b) name layer listing a module, its sub module, and the module again; with the `any layer` alias the sub module is
    dropped from the rule's subjects by `_convert_aliases` and still belongs to the layer -/
set_option maxRecDepth 8000 in
example : (assertAppliesLayer (fun _ _ => false) (compileLayerRule (compileLArch exLsW) exR) (archGraph exA)).cls = .pass ∧
    layerVerdict exA exLsW exR = true := by decide +kernel
set_option maxRecDepth 8000 in
example : (assertAppliesLayer (fun _ _ => false) (compileLayerRule (compileLArch exLsW) exR') (archGraph exA)).cls = .fail ∧
    layerVerdict exA exLsW exR' = false := by decide +kernel
set_option maxRecDepth 8000 in
example : (assertAppliesLayer (fun _ _ => false) (compileLayerRule (compileLArch exLsW) exRtop) (archGraph exA)).cls = .pass ∧
    layerVerdict exA exLsW exRtop = true := by decide +kernel
set_option maxRecDepth 8000 in
example : (assertAppliesLayer (fun _ _ => false) (compileLayerRule (compileLArch exLsW) exRtopAny) (archGraph exA)).cls = .fail ∧
    layerVerdict exA exLsW exRtopAny = false := by decide +kernel
set_option maxRecDepth 8000 in
example : (assertAppliesLayer (fun _ _ => false) (compileLayerRule (compileLArch exLsW) exRtwice) (archGraph exA)).cls = .fail ∧
    layerVerdict exA exLsW exRtwice = false := by decide +kernel
example : dedupSubjects ((compileLArch exLsW).getD "top".toList) = [.name "p.a".toList, .name "p.a".toList] := by decide +kernel
/-- hypotheses of `layerOf_correct` on a mapping with related modules inside one layer -/
example : crossUnrelated exLsW = true ∧ pairwiseUnrelated (exLsW.flatMap (·.2)) = false ∧
    (∀ l ∈ exLsW, ∀ x ∈ l.2, nameWF x = true) ∧ layerTag exLsW (nm "p.a.x") = some "top".toList ∧
    layerTag exLsW (nm "p.a.y") = some "top".toList ∧ layerTag exLsW (nm "p") = none := by decide +kernel

/-! ### layers the rule does not mention

    An unmentioned REGEX layer may be defined in any way: `X` matches `p.a.x`, a sub module of the listed module of `top`;
    the resolved layers are outside `layerDomain'`, but the rule does not convert the pattern, the layer lists nothing
    for this rule (`ruleLayers`), and `layer_verdict_kept` / `unmentioned_layers_irrelevant'` apply. An unmentioned NAME
    layer may list a module that does not exist. -/
def exLarchU : LArch :=
  [("top".toList, [.name "p.a".toList]), ("mid".toList, [.name "p.b".toList, .name "q".toList]),
   ("X".toList, [.regex "p.a.x".toList]), ("Y".toList, [.name "r.s".toList])]
def exLsU : Layers :=
  [("top".toList, [nm "p.a"]), ("mid".toList, [nm "p.b", nm "q"]), ("X".toList, [nm "p.a.x"]), ("Y".toList, [nm "r.s"])]
set_option maxRecDepth 8000 in
example : resolves exMt (archGraph exA).nodes exLarchU exLsU = true ∧ layerDomain' exA exLsU exR = false ∧
    ruleLayers exLarchU exLsU exR =
      [("top".toList, [nm "p.a"]), ("mid".toList, [nm "p.b", nm "q"]), ("X".toList, []), ("Y".toList, [nm "r.s"])] ∧
    layerDomainK exA (ruleLayers exLarchU exLsU exR) exR = true ∧
    layerDomainK exA (ruleLayers exLarchU exLsU exR') exR' = true := by decide +kernel
/-- the second layering of `unmentioned_layers_irrelevant'`: the mentioned layers only -/
example : resolves exMt (archGraph exA).nodes (compileLArch exLs2) exLs2 = true ∧
    layerDomainK exA (ruleLayers (compileLArch exLs2) exLs2 exR) exR = true ∧
    exLsU.get exR.subject = exLs2.get exR.subject ∧
    (exR.anything = false → ∀ on ∈ exR.objects, exLsU.get on = exLs2.get on) := by decide +kernel
set_option maxRecDepth 8000 in
example : (assertAppliesLayer exMt (compileLayerRule exLarchU exR) (archGraph exA)).cls = .pass ∧
    layerVerdict exA exLsU exR = true ∧
    (assertAppliesLayer exMt (compileLayerRule (compileLArch exLs2) exR) (archGraph exA)).cls = .pass := by decide +kernel
set_option maxRecDepth 8000 in
example : (assertAppliesLayer exMt (compileLayerRule exLarchU exR') (archGraph exA)).cls = .fail ∧
    layerVerdict exA exLsU exR' = false := by decide +kernel

/-- why unrelatedness is required even of unmentioned NAME layers: `X` lists `p.a.x`, a sub module of the listed module
    `p.a` of `top`; the rule "top should not access mid" does not mention `X`, the specification (which treats the
    modules of `X` as modules of no layer, i.e. `p.a.x` as a module of `top`) says fail, but looking up the layer of
    `p.a.x.z` (below `p.a` of `top` and below `p.a.x` of `X`) raises `LayerMismatch`. The same happens when two layers
    that the rule does not mention list related modules (`X`: `p.c`, `Y`: `p.c.z`) and a module below both is looked up. -/
def exB : Arch :=
  { nodes := ["p", "p.a", "p.a.x", "p.a.x.z", "p.a.y", "p.b", "p.c", "p.c.z", "p.c.z.w"].map nm,
    imports := [(nm "p.a.x.z", nm "p.b"), (nm "p.a.y", nm "p.c.z.w")] }
def exLsB0 : Layers := [("top".toList, [nm "p.a"]), ("mid".toList, [nm "p.b"])]
def exLsB1 : Layers := [("top".toList, [nm "p.a"]), ("mid".toList, [nm "p.b"]), ("X".toList, [nm "p.a.x"])]
def exLsB2 : Layers := [("top".toList, [nm "p.a"]), ("mid".toList, [nm "p.b"]), ("X".toList, [nm "p.c"]), ("Y".toList, [nm "p.c.z"])]
def exRB : LRuleSpec := { verb := .shouldNot, importDir := true, exc := false, subject := "top".toList, objects := ["mid".toList] }
def exRB' : LRuleSpec := { verb := .shouldNot, importDir := true, exc := true, subject := "top".toList, objects := ["mid".toList] }
theorem unmentioned_related_layer_mismatch :
    exB.wf = true ∧ layerDomain' exB exLsB0 exRB = true ∧
    exLsB1.get exRB.subject = exLsB0.get exRB.subject ∧ (∀ on ∈ exRB.objects, exLsB1.get on = exLsB0.get on) ∧
    exLsB2.get exRB.subject = exLsB0.get exRB.subject ∧ (∀ on ∈ exRB.objects, exLsB2.get on = exLsB0.get on) ∧
    layerVerdict exB exLsB0 exRB = false ∧ layerVerdict exB exLsB1 exRB = false ∧
    layerVerdict exB exLsB0 exRB' = false ∧ layerVerdict exB exLsB2 exRB' = false ∧
    (assertAppliesLayer (fun _ _ => false) (compileLayerRule (compileLArch exLsB0) exRB) (archGraph exB)).cls = .fail ∧
    (assertAppliesLayer (fun _ _ => false) (compileLayerRule (compileLArch exLsB1) exRB) (archGraph exB)).cls =
      .err .layerMismatch ∧
    (assertAppliesLayer (fun _ _ => false) (compileLayerRule (compileLArch exLsB0) exRB') (archGraph exB)).cls = .fail ∧
    (assertAppliesLayer (fun _ _ => false) (compileLayerRule (compileLArch exLsB2) exRB') (archGraph exB)).cls =
      .err .layerMismatch ∧
    layerDomainK exB (ruleLayers (compileLArch exLsB1) exLsB1 exRB) exRB = false ∧
    layerDomainK exB (ruleLayers (compileLArch exLsB2) exLsB2 exRB') exRB' = false := by decide +kernel

/-! non-vacuity of `overlapping_layers_*`: module `x` is listed in layer A and matched by the regex of layer B (the
    builder accepts this definition); "A should not access B" -/
namespace Ov
def g : PGraph Str := buildGraph ["x".toList, "y".toList] [absImport "x".toList "y".toList] none
/-- a regex engine for the example: the pattern "x|y" matches x and y, every other pattern matches itself only -/
def mt : Str → Str → Bool := fun r m => if r == "x|y".toList then (m == "x".toList || m == "y".toList) else r == m
def larch : LArch := [("A".toList, [.name "x".toList]), ("B".toList, [.regex "x|y".toList])]
def r : LRuleSpec := { verb := .shouldNot, importDir := true, exc := false, subject := "A".toList, objects := ["B".toList] }
def subs : List Filter := [.name "x".toList]
def objs : List Filter := [.name "x".toList, .name "y".toList]
def lA : Str × List Str := ("A".toList, ["x".toList])
def lB : Str × List Str := ("B".toList, ["x".toList, "y".toList])
end Ov
example : runLArch [.layer "A".toList, .containingModules ["x".toList], .layer "B".toList, .matching "x|y".toList] = .ok Ov.larch := by
  rfl
set_option maxRecDepth 8000 in
example : Ov.larch.getD Ov.r.subject ≠ [] ∧ (Ov.r.anything = true ∨ Ov.r.objects.flatMap Ov.larch.getD ≠ []) ∧
    (Ov.r.anything = true → Ov.r.verb = .shouldNot) ∧
    (Ov.r.anything = true → dedupSubjects (Ov.larch.getD Ov.r.subject) = Ov.larch.getD Ov.r.subject) ∧
    convertFilters Ov.mt Ov.g.nodes (Ov.larch.getD Ov.r.subject) = .ok Ov.subs ∧
    convertFilters Ov.mt Ov.g.nodes
      (if Ov.r.anything = true then Ov.larch.getD Ov.r.subject else Ov.r.objects.flatMap Ov.larch.getD) = .ok Ov.objs ∧
    (∃ q, runQueries Ov.g (behL Ov.r) Ov.r.importDir Ov.subs Ov.objs = .ok q) ∧
    Ov.lA ∈ ruleLayerMap Ov.mt Ov.g Ov.larch Ov.r ∧ Ov.lB ∈ ruleLayerMap Ov.mt Ov.g Ov.larch Ov.r ∧
    "x".toList ∈ Ov.lA.2 ∧ "x".toList ∈ Ov.lB.2 ∧ Ov.lA.1 ≠ Ov.lB.1 :=
  ⟨by decide, by decide, by decide, by decide, by rfl, by rfl, ⟨_, rfl⟩, by decide, by decide, by decide, by decide,
    by decide⟩
set_option maxRecDepth 8000 in
example : assertAppliesLayer Ov.mt (compileLayerRule Ov.larch Ov.r) Ov.g = .err .layerMismatch := by decide +kernel
/-- hypotheses of `overlapping_layers_never_verdict` on the same rule object -/
example : Ov.lA ∈ stateLayerMap Ov.mt Ov.g Ov.larch (mkRule false false true true false [.name "x".toList] [.regex "x|y".toList]) ∧
    Ov.lB ∈ stateLayerMap Ov.mt Ov.g Ov.larch (mkRule false false true true false [.name "x".toList] [.regex "x|y".toList]) := by
  decide +kernel

end Pta.C05
