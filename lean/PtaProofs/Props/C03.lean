/-
  PtaProofs.Props.C03 — violation reports (property C03). Part 1 (this file, every graph and every rule, related
  names and regexes included): each reported `X imports Y` / `X is imported by Y` line is a real import edge of the
  graph, and one of its ends lies in the sub tree of a rule subject — no import unrelated to the rule's subject is
  ever reported. Part 2 (set equality with the specification's violating set on the strict domain) is
  `Pta.C01.report_spec` in Props/C01.lean.
  Part 3 (message TEXT, second half of this file): the literal lines of the message (`PtaModel/Message.lean`, transcribed
  from message_generator.py) are the report items rendered by the four line shapes of `Bridge/Message.lean`, sorted and
  without duplicates (`line_of_item`, `assert_text_eq`); a parser inverts the renderer on names without `"`
  (`parse_render`); and the item-level theorems carry over to literal lines (`text_lines_are_imports`, `text_lines_shape`).
-/
import Bridge.Message
import PtaProofs.Lemmas.SearchChar
import PtaProofs.Lemmas.MessageText
import PtaProofs.Lemmas.MessageTextLayer
import Bridge.ReportQueries
import PtaProofs.Lemmas.MissingLines
import PtaProofs.Lemmas.Expansion
namespace Pta.C03

/-- every reported import is an import edge of the graph (importer → importee) -/
theorem reported_imports_are_imports (mt : Str → Str → Bool) (g : PGraph Str) (r : RuleState) (items : List Item)
    (h : (assertApplies mt r g).2 = .fail items) :
    ∀ u v d, Item.imp u v d ∈ items → v ∈ g.importSuccs u := by
  obtain ⟨_, ss, _, subs, _, _, _, _, hss, _, hconv, _⟩ := Pta.assertApplies_fail mt g r items h
  exact fun u v d hi => (Pta.fail_imp_spec mt g r items h ss subs hss hconv u v d hi).1

/-- every reported import has an end inside the sub tree of one of the rule's (expanded) subjects -/
theorem reported_imports_touch_subject (mt : Str → Str → Bool) (g : PGraph Str) (r : RuleState) (items : List Item)
    (h : (assertApplies mt r g).2 = .fail items) (ss subs : List Filter)
    (hss : (convertAliases r.cfg).subjects = some ss) (hconv : convertFilters mt g.nodes ss = .ok subs) :
    ∀ u v d, Item.imp u v d ∈ items → ∃ s ∈ subs, Reach g s.id u ∨ Reach g s.id v :=
  fun u v d hi => (Pta.fail_imp_spec mt g r items h ss subs hss hconv u v d hi).2

/-- every `does not import` line names a rule subject and objects of the rule -/
theorem missing_lines_name_subjects (mt : Str → Str → Bool) (g : PGraph Str) (r : RuleState) (items : List Item)
    (h : (assertApplies mt r g).2 = .fail items) (ss subs os objs : List Filter)
    (hss : (convertAliases r.cfg).subjects = some ss) (hconv : convertFilters mt g.nodes ss = .ok subs)
    (hos : (convertAliases r.cfg).objects = some os) (hconvo : convertFilters mt g.nodes os = .ok objs) :
    ∀ any s objsM d, Item.miss any s objsM d ∈ items → s ∈ subs.map Filter.toMod ∧ ∀ o ∈ objsM, o ∈ objs.map Filter.toMod := by
  obtain ⟨dir, _, _, _, _, _, _, hd, _⟩ := Pta.assertApplies_fail mt g r items h
  obtain ⟨D, hitems, hF, hT⟩ := Pta.fail_miss_iff mt g r items h dir ss subs os objs hd hss hconv hos hconvo
  intro a s objsM d hi
  obtain ⟨hflag, _, ⟨x, hx, rfl⟩, rfl⟩ := (hitems a _ _ _).1 hi
  -- the pairs behind the line are pairs (rule subject, rule object)
  have key : ∀ y ∈ D a, y.1.toFilter ∈ subs ∧ y.2 ∈ objs.map Filter.toMod := by
    intro y hy
    cases a
    · obtain ⟨h1, h2, _⟩ := (hF hflag y).1 hy
      exact ⟨h1, List.mem_map.2 ⟨_, h2, Miss.toMod_toFilter _⟩⟩
    · obtain ⟨h1, h2, _⟩ := ((hT hflag).1 y).1 hy
      exact ⟨h1, h2⟩
  refine ⟨List.mem_map.2 ⟨_, (key x hx).1, Miss.toMod_toFilter _⟩, fun o ho => ?_⟩
  exact (key _ ((Miss.mem_lineObjs _ _ o).1 ho)).2

/-! ## Part 1b (audit finding F10): the `does not import` / `is not imported by` lines are exactly the missing imports

Every graph, every rule (related names, parent filters, regexes, the `anything` aliases included).  `dir`, `subs`, `objs` are
the rule's direction and its subject / object filters after alias conversion and regex expansion; `pairQuery g dir s o` is
the query the library asks for the pair (subject `s`, object `o`) and `otherQuery g dir s objs` the query it asks for the
subject `s` of an `except` rule (Bridge/ReportQueries.lean); `Mod.toFilter` reads a reported module back as a filter. -/

/-- `missing_lines_are_missing`: a `does not import` line (plain form) appears only for a `should` / `should_only` rule
    without `except`; it names ONE rule subject, and its object list is non-empty, free of duplicates and consists of EXACTLY
    the rule objects `o` for which the pair (subject, `o`) is realised by no import (the query result is empty) -/
theorem missing_lines_are_missing (mt : Str → Str → Bool) (g : PGraph Str) (r : RuleState) (items : List Item)
    (h : (assertApplies mt r g).2 = .fail items) (dir : Bool) (ss subs os objs : List Filter)
    (hd : (convertAliases r.cfg).importDir = some dir)
    (hss : (convertAliases r.cfg).subjects = some ss) (hconv : convertFilters mt g.nodes ss = .ok subs)
    (hos : (convertAliases r.cfg).objects = some os) (hconvo : convertFilters mt g.nodes os = .ok objs) :
    ∀ s objsM d, Item.miss false s objsM d ∈ items →
      (((convertAliases r.cfg).behavior.should || (convertAliases r.cfg).behavior.shouldOnly) &&
        !(convertAliases r.cfg).behavior.exc) = true ∧ d = !dir ∧
      s.toFilter ∈ subs ∧ objsM ≠ [] ∧ objsM.Nodup ∧
      ∀ o, o ∈ objsM ↔ (o.toFilter ∈ objs ∧ pairQuery g dir s.toFilter o.toFilter = .ok []) := by
  obtain ⟨D, hitems, hD, _⟩ := Pta.fail_miss_iff mt g r items h dir ss subs os objs hd hss hconv hos hconvo
  intro s objsM d hi
  obtain ⟨hflag, rfl, ⟨x, hx, rfl⟩, rfl⟩ := (hitems false _ _ _).1 hi
  have hs := ((hD hflag x).1 hx).1
  exact ⟨hflag, rfl, hs, List.ne_nil_of_mem ((Miss.mem_lineObjs _ x.1 x.2).2 hx), Pta.nodup_dedup _, fun o =>
    (Miss.mem_lineObjs _ _ o).trans ((hD hflag (x.1, o)).trans (and_iff_right hs))⟩

/-- the `any module that is not …` form appears only for a `should` / `should_only` rule WITH `except`; it names one rule
    subject whose "other" query found no import at all, and lists ALL rule objects (in rule order, without duplicates) -/
theorem missing_any_lines_are_missing (mt : Str → Str → Bool) (g : PGraph Str) (r : RuleState) (items : List Item)
    (h : (assertApplies mt r g).2 = .fail items) (dir : Bool) (ss subs os objs : List Filter)
    (hd : (convertAliases r.cfg).importDir = some dir)
    (hss : (convertAliases r.cfg).subjects = some ss) (hconv : convertFilters mt g.nodes ss = .ok subs)
    (hos : (convertAliases r.cfg).objects = some os) (hconvo : convertFilters mt g.nodes os = .ok objs) :
    ∀ s objsM d, Item.miss true s objsM d ∈ items →
      (((convertAliases r.cfg).behavior.should || (convertAliases r.cfg).behavior.shouldOnly) &&
        (convertAliases r.cfg).behavior.exc) = true ∧ d = !dir ∧
      s.toFilter ∈ subs ∧ objsM = dedup (objs.map Filter.toMod) ∧ otherQuery g dir s.toFilter objs = .ok [] := by
  obtain ⟨D, hitems, _, hD⟩ := Pta.fail_miss_iff mt g r items h dir ss subs os objs hd hss hconv hos hconvo
  intro s objsM d hi
  obtain ⟨hflag, rfl, ⟨x, hx, rfl⟩, rfl⟩ := (hitems true _ _ _).1 hi
  obtain ⟨hmem, hobjs⟩ := hD hflag
  have hxD := (hmem x).1 hx
  exact ⟨(Bool.and_comm _ _).trans hflag, rfl, hxD.1, hobjs _ ⟨x, hx, rfl⟩, hxD.2.2⟩

/-- `one_missing_line_per_subject`: two `does not import` lines of the same form for the same subject are the same line
    (same objects, same wording) … -/
theorem one_missing_line_per_subject (mt : Str → Str → Bool) (g : PGraph Str) (r : RuleState) (items : List Item)
    (h : (assertApplies mt r g).2 = .fail items) :
    ∀ any s os₁ d₁ os₂ d₂, Item.miss any s os₁ d₁ ∈ items → Item.miss any s os₂ d₂ ∈ items → os₁ = os₂ ∧ d₁ = d₂ := by
  obtain ⟨d, ss, os, subs, objs, _, _, hd, hss, hos, hconv, hconvo, _, _⟩ := Pta.assertApplies_fail mt g r items h
  obtain ⟨D, hitems, _, _⟩ := Pta.fail_miss_iff mt g r items h d ss subs os objs hd hss hconv hos hconvo
  intro a s os₁ d₁ os₂ d₂ h1 h2
  obtain ⟨_, rfl, _, rfl⟩ := (hitems _ _ _ _).1 h1
  obtain ⟨_, rfl, _, rfl⟩ := (hitems _ _ _ _).1 h2
  exact ⟨rfl, rfl⟩

/-- … and the report holds at most ONE such item per (form, subject) for a rule with a single verb.  A rule object that
    carries both `should()` and `should_only()` (accepted by the library: not contradictory) produces the identical item
    twice — see `missing_line_twice_witness`; the message text is de-duplicated (`line_of_item`), so the text has one line -/
theorem missing_line_count (mt : Str → Str → Bool) (g : PGraph Str) (r : RuleState) (items : List Item)
    (h : (assertApplies mt r g).2 = .fail items) (any : Bool) (s : Mod) :
    items.countP (Item.isMissFor any s) ≤
      if ((convertAliases r.cfg).behavior.should && (convertAliases r.cfg).behavior.shouldOnly) = true then 2 else 1 := by
  obtain ⟨d, ss, os, F⟩ := Pta.assertApplies_failed mt g r items h
  obtain ⟨_, rfl, -, hitems⟩ := F.report
  rw [hitems]
  exact Miss.countP_report_le _ _ _ _ _ _ _

/-- `missing_lines_complete`: for a `should` / `should_only` rule without `except`, every pair (rule subject, rule object)
    that no import realises is reported, on the line of that subject -/
theorem missing_lines_complete (mt : Str → Str → Bool) (g : PGraph Str) (r : RuleState) (items : List Item)
    (h : (assertApplies mt r g).2 = .fail items) (dir : Bool) (ss subs os objs : List Filter)
    (hd : (convertAliases r.cfg).importDir = some dir)
    (hss : (convertAliases r.cfg).subjects = some ss) (hconv : convertFilters mt g.nodes ss = .ok subs)
    (hos : (convertAliases r.cfg).objects = some os) (hconvo : convertFilters mt g.nodes os = .ok objs)
    (hverb : (((convertAliases r.cfg).behavior.should || (convertAliases r.cfg).behavior.shouldOnly) &&
        !(convertAliases r.cfg).behavior.exc) = true) :
    ∀ s ∈ subs, ∀ o ∈ objs, pairQuery g dir s o = .ok [] →
      ∃ objsM, Item.miss false s.toMod objsM (!dir) ∈ items ∧ o.toMod ∈ objsM := by
  obtain ⟨D, hitems, hD, _⟩ := Pta.fail_miss_iff mt g r items h dir ss subs os objs hd hss hconv hos hconvo
  intro s hs o ho hp
  have hx : (s.toMod, o.toMod) ∈ D false := by
    rw [hD hverb, toFilter_toMod_of_conv hconv s hs, toFilter_toMod_of_conv hconvo o ho]
    exact ⟨hs, ho, hp⟩
  exact ⟨_, (hitems false _ _ _).2 ⟨hverb, rfl, ⟨_, hx, rfl⟩, rfl⟩, (Miss.mem_lineObjs _ _ _).2 hx⟩

/-- … and for a `should` / `should_only` rule with `except`, every rule subject without any other import is reported -/
theorem missing_any_lines_complete (mt : Str → Str → Bool) (g : PGraph Str) (r : RuleState) (items : List Item)
    (h : (assertApplies mt r g).2 = .fail items) (dir : Bool) (ss subs os objs : List Filter)
    (hd : (convertAliases r.cfg).importDir = some dir)
    (hss : (convertAliases r.cfg).subjects = some ss) (hconv : convertFilters mt g.nodes ss = .ok subs)
    (hos : (convertAliases r.cfg).objects = some os) (hconvo : convertFilters mt g.nodes os = .ok objs)
    (hverb : (((convertAliases r.cfg).behavior.should || (convertAliases r.cfg).behavior.shouldOnly) &&
        (convertAliases r.cfg).behavior.exc) = true) :
    ∀ s ∈ subs, otherQuery g dir s objs = .ok [] →
      Item.miss true s.toMod (dedup (objs.map Filter.toMod)) (!dir) ∈ items := by
  obtain ⟨D, hitems, _, hD⟩ := Pta.fail_miss_iff mt g r items h dir ss subs os objs hd hss hconv hos hconvo
  have hreq := (Bool.and_comm _ _).trans hverb
  obtain ⟨hmem, hobjs⟩ := hD hreq
  intro s hs hp
  -- the rule has an object, so the subject has a pair in `D true`
  obtain ⟨o, ho⟩ := List.exists_mem_of_ne_nil objs
    (conv_ne_nil mt g.nodes os objs (Pta.Failed.of_eq h hd hss hos).objects_ne hconvo)
  have hx : (s.toMod, o.toMod) ∈ D true := by
    rw [hmem, toFilter_toMod_of_conv hconv s hs]
    exact ⟨hs, List.mem_map_of_mem ho, hp⟩
  exact (hitems true _ _ _).2 ⟨hreq, rfl, ⟨_, hx, rfl⟩, (hobjs _ ⟨_, hx, rfl⟩).symm⟩

/-- what "the query for the pair is empty" means on the graph: both modules exist and NO import runs from the sub tree of
    the importer into the sub tree of the importee (`dir = true`: the subject imports; the parent identifiers of
    `are_sub_modules_of` filters themselves are not counted) -/
theorem pair_query_empty_iff (g : PGraph Str) (dir : Bool) (s o : Filter) :
    pairQuery g dir s o = .ok [] ↔
      g.hasNode s.id = true ∧ g.hasNode o.id = true ∧
      ∀ u v, Reach g s.id u → Reach g o.id v → u ∉ parentIds [s, o] → v ∉ parentIds [s, o] →
        ¬ (if dir = true then v ∈ g.importSuccs u else u ∈ g.importSuccs v) := by
  rw [(pairQuery_lookup g dir s o).ok_nil_iff, and_assoc]
  refine and_congr_right fun _ => and_congr_right fun _ => ?_
  cases dir
  · exact ⟨fun h u v h1 h2 h3 h4 h5 => h v u ⟨h2, h5, h1, h4, h3⟩, fun h u v ⟨h1, h5, h2, h3, h4⟩ => h v u h2 h1 h4 h3 h5⟩
  · exact ⟨fun h u v h1 h2 h3 h4 h5 => h u v ⟨h1, h5, h2, h3, h4⟩, fun h u v ⟨h1, h5, h2, h3, h4⟩ => h u v h1 h2 h3 h4 h5⟩

/-- what "the other query is empty" means: every import leaving (`dir = true`) the sub tree of the subject ends inside
    that sub tree or inside the sub tree of a rule object -/
theorem other_query_empty_from (g : PGraph Str) (s : Filter) (objs : List Filter)
    (h : otherQuery g true s objs = .ok []) :
    ∀ u v, Reach g s.id u → (s.isParent = true → u ≠ s.id) → v ∈ g.importSuccs u →
      Reach g s.id v ∨ ((∃ o ∈ objs, o ≠ s ∧ Reach g o.id v) ∧ v ∉ parentIds objs) := by
  simp only [otherQuery, if_true] at h
  obtain ⟨-, hno⟩ := (otherFrom_lookup g s (dedup objs)).ok_nil_iff.1 h
  intro u v h1 h2 h3
  apply Classical.byContradiction
  intro hc
  rw [not_or] at hc
  refine hno u v ⟨h1, h2, h3, hc.1, ?_⟩
  simpa only [mem_dedup, mem_parentIds_dedup] using hc.2

/-- … and every import entering it (`dir = false`) starts inside it or inside the sub tree of a rule object -/
theorem other_query_empty_to (g : PGraph Str) (s : Filter) (objs : List Filter)
    (h : otherQuery g false s objs = .ok []) :
    ∀ p n, Reach g s.id n → (s.isParent = true → n ≠ s.id) → n ∈ g.importSuccs p →
      (Reach g s.id p ∧ (s.isParent = true → p ≠ s.id)) ∨
        ((∃ o ∈ objs, o ≠ s ∧ Reach g o.id p) ∧ p ∉ parentIds objs) := by
  simp only [otherQuery, Bool.false_eq_true, if_false] at h
  obtain ⟨-, hno⟩ := (otherTo_lookup g (dedup objs) s).ok_nil_iff.1 h
  intro p n h1 h2 h3
  apply Classical.byContradiction
  intro hc
  rw [not_or] at hc
  refine hno p n ⟨h1, h2, (mem_importPreds_iff g p n).2 h3, hc.1, ?_⟩
  simpa only [mem_dedup, mem_parentIds_dedup] using hc.2

/-! non-vacuity: `p.a`, `p.c` should only import `q.r`, `p.b` — `p.c` imports both, `p.a` neither (and `p.a.x` imports `q`) -/
def mG : PGraph Str :=
  buildGraph ["p".toList, "p.a".toList, "p.a.x".toList, "p.b".toList, "p.c".toList, "q".toList, "q.r".toList]
    [absImport "p.a.x".toList "q".toList, absImport "p.c".toList "p.b".toList, absImport "p.c".toList "q.r".toList] none
def mSubs : List Filter := [.name "p.a".toList, .name "p.c".toList]
def mObjs : List Filter := [.name "q.r".toList, .name "p.b".toList]
def mRule (should only exc : Bool) : RuleState :=
  { cfg := { subjects := some mSubs, objects := some mObjs, should := should, shouldOnly := only, exceptPresent := exc,
             importDir := some true } }
def mNone : Str → Str → Bool := fun _ _ => false

set_option maxRecDepth 8000 in
example : (assertApplies mNone (mRule false true false) mG).2 = .fail
    [.imp "p.a.x".toList "q".toList false,
     .miss false ⟨false, "p.a".toList⟩ [⟨false, "q.r".toList⟩, ⟨false, "p.b".toList⟩] false] := by decide +kernel
set_option maxRecDepth 8000 in
example : (convertAliases (mRule false true false).cfg).importDir = some true ∧
    (convertAliases (mRule false true false).cfg).subjects = some mSubs ∧ convertFilters mNone mG.nodes mSubs = .ok mSubs ∧
    (convertAliases (mRule false true false).cfg).objects = some mObjs ∧ convertFilters mNone mG.nodes mObjs = .ok mObjs :=
  ⟨rfl, rfl, rfl, rfl, rfl⟩
set_option maxRecDepth 8000 in
example : pairQuery mG true (.name "p.a".toList) (.name "q.r".toList) = .ok [] ∧
    pairQuery mG true (.name "p.c".toList) (.name "q.r".toList) = .ok [("p.c".toList, "q.r".toList)] := ⟨rfl, rfl⟩
-- the `except` form: `p.c` imports nothing but the objects `q.r` and `p.b`
set_option maxRecDepth 8000 in
example : (assertApplies mNone (mRule true false true) mG).2 = .fail
    [.miss true ⟨false, "p.c".toList⟩ [⟨false, "q.r".toList⟩, ⟨false, "p.b".toList⟩] false] := by decide +kernel
set_option maxRecDepth 8000 in
example : otherQuery mG true (.name "p.c".toList) mObjs = .ok [] := rfl
-- the verb hypotheses of `missing_lines_complete` (rule `should only`) and `missing_any_lines_complete` (rule `should … except`)
example : (((convertAliases (mRule false true false).cfg).behavior.should || (convertAliases (mRule false true false).cfg).behavior.shouldOnly) &&
    !(convertAliases (mRule false true false).cfg).behavior.exc) = true := rfl
example : (((convertAliases (mRule true false true).cfg).behavior.should || (convertAliases (mRule true false true).cfg).behavior.shouldOnly) &&
    (convertAliases (mRule true false true).cfg).behavior.exc) = true ∧
    (convertAliases (mRule true false true).cfg).importDir = some true ∧
    (convertAliases (mRule true false true).cfg).subjects = some mSubs ∧
    (convertAliases (mRule true false true).cfg).objects = some mObjs := ⟨rfl, rfl, rfl, rfl⟩
/-- a rule object carrying both `should()` and `should_only()` lists the identical `does not import` item twice -/
theorem missing_line_twice_witness :
    (assertApplies mNone (mRule true true false) mG).2 = .fail
      [.miss false ⟨false, "p.a".toList⟩ [⟨false, "q.r".toList⟩, ⟨false, "p.b".toList⟩] false,
       .imp "p.a.x".toList "q".toList false,
       .miss false ⟨false, "p.a".toList⟩ [⟨false, "q.r".toList⟩, ⟨false, "p.b".toList⟩] false] := by decide +kernel

/-! ## Part 3: the message text -/

/-- `line_of_item`: the lines of the message (`create_rule_violation_messages`, a sorted list without duplicates) are
    exactly the renderings of the report items; the two determine each other as sets -/
theorem line_of_item (importRule : Bool) (v : Violations) :
    messageLines importRule v = renderItems (reportItems importRule v) ∧
    ∀ line, line ∈ messageLines importRule v ↔ ∃ x ∈ reportItems importRule v, renderItem x = line :=
  ⟨Pta.messageLines_eq_lemma importRule v, fun line => by
    rw [Pta.messageLines_eq_lemma]; exact Pta.mem_renderItems _ line⟩

/-- `assert_applies` with the message text is `assert_applies` with the report items, the items rendered
    (same rule state, same outcome class, same error) -/
theorem assert_text_eq (mt : Str → Str → Bool) (r : RuleState) (g : PGraph Str) :
    assertAppliesText mt r g = ((assertApplies mt r g).1, (assertApplies mt r g).2.toText) :=
  Pta.assertAppliesText_eq_lemma mt r g

/-- the same for a whole call chain (what the driver prints as `M=` and `T=`) -/
theorem run_text_eq (glob : Str → Str) (mt : Str → Str → Bool) (ops : List RuleOp) (g : PGraph Str) :
    runRuleOpsText glob mt ops g = ((runRuleOps glob mt ops g).1.toText, (runRuleOps glob mt ops g).2) :=
  Pta.runRuleOpsTextGo_eq glob mt g ops {} 0

/-- `parse_render`: the parser inverts the renderer on every item whose names contain no `"` and, for a
    `does not import` item, that has at least one object (`Item.parsable`) -/
theorem parse_render (x : Item) (h : x.parsable = true) : parseLine (renderLine x) = some x :=
  Pta.parseLine_renderLine_lemma x h

/-- for a report item: its message line parses to the item, the objects in the order the line lists them -/
theorem parse_render_item (x : Item) (h : x.canon.parsable = true) : parseLine (renderItem x) = some x.canon :=
  Pta.parseLine_renderLine_lemma x.canon h

/-- `text_lines_are_imports`: every line `"X" imports "Y".` and every line `"X" is imported by "Y".` of the message
    (X, Y without `"`) names an import edge of the graph, one end of which lies in the sub tree of a rule subject -/
theorem text_lines_are_imports (mt : Str → Str → Bool) (g : PGraph Str) (r : RuleState) (lines : List Str)
    (h : (assertAppliesText mt r g).2 = .fail lines) (ss subs : List Filter)
    (hss : (convertAliases r.cfg).subjects = some ss) (hconv : convertFilters mt g.nodes ss = .ok subs)
    (X Y : Str) (hX : noQuote X = true) (hY : noQuote Y = true) :
    (quoted X ++ " imports ".toList ++ quoted Y ++ ".".toList ∈ lines →
      Y ∈ g.importSuccs X ∧ ∃ s ∈ subs, Reach g s.id X ∨ Reach g s.id Y) ∧
    (quoted X ++ " is imported by ".toList ++ quoted Y ++ ".".toList ∈ lines →
      X ∈ g.importSuccs Y ∧ ∃ s ∈ subs, Reach g s.id Y ∨ Reach g s.id X) := by
  obtain ⟨items, hi, rfl⟩ := Pta.assertAppliesText_fail_lemma mt r g lines h
  have hne := Pta.assertApplies_fail_objs_ne_nil mt g r items hi
  have key : ∀ u v d, noQuote u = true → noQuote v = true → renderLine (.imp u v d) ∈ renderItems items →
      v ∈ g.importSuccs u ∧ ∃ s ∈ subs, Reach g s.id u ∨ Reach g s.id v := by
    intro u v d hu hv hl
    exact Pta.fail_imp_spec mt g r items hi ss subs hss hconv u v d (Pta.imp_line_mem_lemma items hne u v d hu hv hl)
  constructor
  · intro hl
    refine key X Y false hX hY ?_
    rw [renderLine, ← List.append_assoc, ← List.append_assoc]
    exact hl
  · intro hl
    refine key Y X true hY hX ?_
    rw [renderLine, ← List.append_assoc, ← List.append_assoc]
    exact hl

/-- `text_lines_shape`: EVERY line of the message has one of the four shapes and says something true — it is
    `"u" imports "v".` / `"v" is imported by "u".` for an import edge u → v of the graph with an end in a subject's sub tree,
    or a `does not import` / `is not imported by` line that names one rule subject and a non-empty list of rule objects -/
theorem text_lines_shape (mt : Str → Str → Bool) (g : PGraph Str) (r : RuleState) (lines : List Str)
    (h : (assertAppliesText mt r g).2 = .fail lines) (ss subs os objs : List Filter)
    (hss : (convertAliases r.cfg).subjects = some ss) (hconv : convertFilters mt g.nodes ss = .ok subs)
    (hos : (convertAliases r.cfg).objects = some os) (hconvo : convertFilters mt g.nodes os = .ok objs) :
    ∀ line ∈ lines,
      (∃ u v d, line = renderLine (.imp u v d) ∧ v ∈ g.importSuccs u ∧ ∃ s ∈ subs, Reach g s.id u ∨ Reach g s.id v) ∨
      (∃ any s objsM d, line = renderLine (.miss any s objsM d) ∧ s ∈ subs.map Filter.toMod ∧ objsM ≠ [] ∧
        ∀ o ∈ objsM, o ∈ objs.map Filter.toMod) := by
  obtain ⟨items, hi, rfl⟩ := Pta.assertAppliesText_fail_lemma mt r g lines h
  have hne := Pta.assertApplies_fail_objs_ne_nil mt g r items hi
  intro line hl
  obtain ⟨x, hx, rfl⟩ := (Pta.mem_renderItems items line).1 hl
  cases x with
  | imp u v d =>
    exact .inl ⟨u, v, d, rfl, Pta.fail_imp_spec mt g r items hi ss subs hss hconv u v d hx⟩
  | miss any s objsM d =>
    obtain ⟨h1, h2⟩ := missing_lines_name_subjects mt g r items hi ss subs os objs hss hconv hos hconvo _ _ _ _ hx
    refine .inr ⟨any, s, sortObjs objsM, d, rfl, h1, Pta.sortBy_ne_nil _ _ (hne _ hx _ _ _ _ rfl), ?_⟩
    intro o ho
    exact h2 o ((Pta.sortBy_perm _ objsM).mem_iff.1 ho)

/-! non-vacuity: a graph, a `should only import` rule with two subjects, the literal message, its parse -/
def S (s : String) : Str := s.toList
def exG : PGraph Str :=
  buildGraph [S "p", S "p.a", S "p.a.x", S "p.b", S "p.c", S "q", S "q.r"]
    [absImport (S "p.a.x") (S "q"), absImport (S "p.c") (S "p.b"), absImport (S "p.c") (S "q.r")] none
def exRule : RuleState :=
  { cfg := { subjects := some [.name (S "p.a"), .name (S "p.c")], objects := some [.name (S "q.r"), .name (S "p.b")],
             shouldOnly := true, importDir := some true } }
set_option maxRecDepth 8000 in
example : (assertAppliesText (fun _ _ => false) exRule exG).2 = .fail
    [S "\"p.a\" does not import \"p.b\", \"q.r\".", S "\"p.a.x\" imports \"q\"."] := by decide +kernel
example : messageText [S "\"p.a\" does not import \"p.b\", \"q.r\".", S "\"p.a.x\" imports \"q\"."] =
    S "\"p.a\" does not import \"p.b\", \"q.r\".\n\"p.a.x\" imports \"q\"." := by decide +kernel
set_option maxRecDepth 8000 in
example : (convertAliases exRule.cfg).subjects = some [.name (S "p.a"), .name (S "p.c")] ∧
    convertFilters (fun _ _ => false) exG.nodes [.name (S "p.a"), .name (S "p.c")] = .ok [.name (S "p.a"), .name (S "p.c")] ∧
    (convertAliases exRule.cfg).objects = some [.name (S "q.r"), .name (S "p.b")] ∧
    convertFilters (fun _ _ => false) exG.nodes [.name (S "q.r"), .name (S "p.b")] = .ok [.name (S "q.r"), .name (S "p.b")] :=
  ⟨rfl, rfl, rfl, rfl⟩
example : noQuote (S "p.a.x") = true ∧ noQuote (S "q") = true ∧
    quoted (S "p.a.x") ++ " imports ".toList ++ quoted (S "q") ++ ".".toList ∈
      [S "\"p.a\" does not import \"p.b\", \"q.r\".", S "\"p.a.x\" imports \"q\"."] := by decide +kernel
example : parseLine (S "\"p.a\" does not import \"p.b\", \"q.r\".") =
    some (.miss false ⟨false, S "p.a"⟩ [⟨false, S "p.b"⟩, ⟨false, S "q.r"⟩] false) := by decide +kernel
example : (Item.miss true ⟨true, S "p.a"⟩ [⟨true, S "q"⟩, ⟨false, S "p b"⟩] true).parsable = true ∧
    renderLine (.miss true ⟨true, S "p.a"⟩ [⟨true, S "q"⟩, ⟨false, S "p b"⟩] true) =
      S "Sub modules of \"p.a\" are not imported by any module that is not a sub module of \"q\", \"p b\"." := by decide +kernel
/-- the hypothesis of `text_lines_are_imports` (X, Y free of `"`) cannot be dropped: with a module whose name is
    ` imports ` a `does not import` line also has the shape `"X" imports "Y".` for an X that is no module at all -/
example : renderLine (.miss false ⟨false, S "a"⟩ [⟨false, S " imports "⟩, ⟨false, S "y"⟩] false) =
    quoted (S "a\" does not import ") ++ " imports ".toList ++ quoted (S ", \"y") ++ ".".toList := by decide +kernel

/-! ## Part 3, layer rules -/

/-- `line_of_item` for layer rules: the text generator raises `LayerMismatch` exactly when the item generator does,
    and otherwise the message lines are the renderings of the layer report items, sorted and without duplicates -/
theorem layer_line_of_item (m : LayerMap) (importRule : Bool) (v : Violations) :
    messageLinesL m importRule v = (reportItemsL m importRule v).map renderLItems :=
  Pta.messageLinesL_eq_lemma m importRule v

/-- `LayerRule.assert_applies` with the message text is the item-valued one, the items rendered -/
theorem layer_assert_text_eq (mt : Str → Str → Bool) (s : LayerRuleState) (g : PGraph Str) :
    assertAppliesLayerText mt s g = (assertAppliesLayer mt s g).toText :=
  Pta.assertAppliesLayerText_eq_lemma mt s g

/-- the same for a whole call chain (what the driver prints as `M=` and `T=` of a `layer` request) -/
theorem layer_run_text_eq (mt : Str → Str → Bool) (ops : List LayerRuleOp) (g : PGraph Str) :
    runLayerRuleOpsText mt ops g = ((runLayerRuleOps mt ops g).1.toText, (runLayerRuleOps mt ops g).2) :=
  Pta.runLayerRuleOpsTextGo_eq mt g ops {} 0

/-! non-vacuity: three layers, `layers that are named "A" should only access layers that are named "C"` -/
def exLG : PGraph Str :=
  buildGraph [S "p", S "p.a", S "p.a.x", S "q", S "s", S "r"]
    [absImport (S "p.a.x") (S "q"), absImport (S "p.a") (S "s")] none
def exLRule : LayerRuleState :=
  { arch := some [(S "A", [.name (S "p.a")]), (S "B", [.name (S "q")]), (S "C", [.name (S "r")])],
    rule := some { cfg := { subjects := some [.name (S "p.a")], objects := some [.name (S "r")],
                            shouldOnly := true, importDir := some true } } }
set_option maxRecDepth 8000 in
example : assertAppliesLayerText (fun _ _ => false) exLRule exLG = .fail
    [S "\"p.a\" (layer \"A\") imports \"s\" (no layer).", S "\"p.a.x\" (layer \"A\") imports \"q\" (layer \"B\").",
     S "Layer \"A\" does not import layer \"C\"."] := by decide +kernel
example : renderLItem (.miss true (some (S "A!")) [some (S "A!"), some (S "A"), some (S "a b")] true) =
    S "Layer \"A!\" is not imported by any layer that is not layer \"A\", layer \"A!\", layer \"a b\"." := by decide +kernel

end Pta.C03
