/-
  PtaProofs.Props.C11 — regex, partial-name and batched specifications equal their expansions (property C11).
  The regex engine is the uninterpreted relation `mt` (`re.match(pattern, name) is not None`): the theorems hold
  for EVERY interpretation, every graph, every rule shape; related (ancestor/descendant) names are allowed.
-/
import Bridge.Abs
import PtaProofs.Lemmas.Expansion
import PtaProofs.Lemmas.AnythingDedup
import PtaProofs.Lemmas.BatchThree
import PtaProofs.Lemmas.RuleAlgebra
namespace Pta.C11

/-- a regex subject yields the same outcome (verdict AND report) as naming all modules the regex matches -/
theorem regex_expansion_subject (mt : Str → Str → Bool) (g : PGraph Str) (hnd : g.nodes.Nodup)
    (s o n dir exc : Bool) (p : Str) (objs : List Filter) (hm : ∃ m ∈ g.nodes, mt p m = true) :
    (assertApplies mt (mkRule s o n dir exc [.regex p] objs) g).2 =
    (assertApplies mt (mkRule s o n dir exc ((g.nodes.filter (mt p)).map .name) objs) g).2 :=
  assertApplies_mkRule_congr mt g s o n dir exc _ _ _ _
    (by rw [convertFilters_regex mt g.nodes hnd p hm, convertFilters_names]) rfl
    (names_isEmpty_of_match mt g.nodes p hm).symm rfl

/-- the same on the object side -/
theorem regex_expansion_object (mt : Str → Str → Bool) (g : PGraph Str) (hnd : g.nodes.Nodup)
    (s o n dir exc : Bool) (p : Str) (subs : List Filter) (hm : ∃ m ∈ g.nodes, mt p m = true) :
    (assertApplies mt (mkRule s o n dir exc subs [.regex p]) g).2 =
    (assertApplies mt (mkRule s o n dir exc subs ((g.nodes.filter (mt p)).map .name)) g).2 :=
  assertApplies_mkRule_congr mt g s o n dir exc _ _ _ _ rfl
    (by rw [convertFilters_regex mt g.nodes hnd p hm, convertFilters_names]) rfl
    (names_isEmpty_of_match mt g.nodes p hm).symm

/-- the `anything` aliases with a regex subject equal the alias on the expansion -/
theorem regex_expansion_anything (mt : Str → Str → Bool) (g : PGraph Str) (hnd : g.nodes.Nodup) (dir : Bool) (p : Str)
    (hm : ∃ m ∈ g.nodes, mt p m = true)
    (hdd : dedupSubjects ((g.nodes.filter (mt p)).map Filter.name) = (g.nodes.filter (mt p)).map Filter.name) :
    (assertApplies mt { cfg := { subjects := some [.regex p], shouldNot := true, importDir := some dir, anything := true }, next := some false } g).2 =
    (assertApplies mt { cfg := { subjects := some ((g.nodes.filter (mt p)).map .name), shouldNot := true, importDir := some dir, anything := true }, next := some false } g).2 := by
  apply anything_congr mt g dir _ _ (dedupSubjects_single _) hdd rfl (names_isEmpty_of_match mt g.nodes p hm)
  rw [convertFilters_regex mt g.nodes hnd p hm, convertFilters_names]

/-- a regex that matches nothing never yields a verdict -/
theorem regex_no_match (mt : Str → Str → Bool) (g : PGraph Str) (s o n dir exc : Bool) (p : Str) (objs : List Filter)
    (h : ∀ m ∈ g.nodes, mt p m = false) :
    ∃ k, (assertApplies mt (mkRule s o n dir exc [.regex p] objs) g).2 = .err k := by
  rw [assertApplies_mkRule]
  split
  · exact ⟨_, rfl⟩
  · split
    · exact ⟨_, rfl⟩
    · exact ⟨_, no_match_either_lemma mt g _ dir _ objs ⟨_, List.mem_append_left _ (List.mem_singleton_self _), rfl, h⟩⟩

/-- … and on a complete and consistent rule (a verb, a direction, subjects and objects given; no contradictory verbs; not the
    `anything` alias; no subject removed by an earlier alias conversion is absent) the error is exactly the no-match error —
    the regex may stand in subject OR object position, accompanied by any other filters (names, parents, further regexes,
    names absent from the graph included) -/
theorem regex_no_match_exact (mt : Str → Str → Bool) (g : PGraph Str) (st : RuleState) (ss os : List Filter)
    (hany : st.cfg.anything = false) (hcm : configMissing st.cfg = false) (hda : droppedAbsent g st.cfg = false)
    (hinc : st.cfg.behavior.inconsistent = false)
    (hs : st.cfg.subjects = some ss) (ho : st.cfg.objects = some os)
    (h : ∃ f ∈ ss ++ os, f.isRegex = true ∧ ∀ m ∈ g.nodes, mt f.id m = false) :
    (assertApplies mt st g).2 = .err .impossibleMatch := by
  cases hd : st.cfg.importDir with
  | none => simp [configMissing, hd] at hcm
  | some d =>
    rw [assertApplies_complete mt g st d ss os hany hcm hda hinc hd hs ho]
    exact no_match_either_lemma mt g _ d ss os h

/-- subject position, finished rule of any of the 12 shapes -/
theorem regex_no_match_subject (mt : Str → Str → Bool) (g : PGraph Str) (s o n dir exc : Bool) (p : Str) (subs objs : List Filter)
    (hverb : (s || o || n) = true) (hobj : objs ≠ []) (hinc : (Behavior.mk s o n exc).inconsistent = false)
    (hp : .regex p ∈ subs) (h : ∀ m ∈ g.nodes, mt p m = false) :
    (assertApplies mt (mkRule s o n dir exc subs objs) g).2 = .err .impossibleMatch := by
  rw [assertApplies_mkRule_of_ok mt g dir exc hverb (List.ne_nil_of_mem hp) hobj hinc]
  exact no_match_either_lemma mt g _ dir subs objs ⟨.regex p, List.mem_append_left _ hp, rfl, h⟩

/-- object position -/
theorem regex_no_match_object (mt : Str → Str → Bool) (g : PGraph Str) (s o n dir exc : Bool) (p : Str) (subs objs : List Filter)
    (hverb : (s || o || n) = true) (hsub : subs ≠ []) (hinc : (Behavior.mk s o n exc).inconsistent = false)
    (hp : .regex p ∈ objs) (h : ∀ m ∈ g.nodes, mt p m = false) :
    (assertApplies mt (mkRule s o n dir exc subs objs) g).2 = .err .impossibleMatch := by
  rw [assertApplies_mkRule_of_ok mt g dir exc hverb hsub (List.ne_nil_of_mem hp) hinc]
  exact no_match_either_lemma mt g _ dir subs objs ⟨.regex p, List.mem_append_right _ hp, rfl, h⟩

/-! non-vacuity: `should only … except` with an absent name next to the regex, both positions -/
example : (true || false || false) = true ∧ (Behavior.mk false true false true).inconsistent = false ∧
    (Filter.regex "x.*".toList) ∈ [Filter.name "zz".toList, .regex "x.*".toList] ∧
    ∀ m ∈ (buildGraph ["p".toList, "q".toList] [] none).nodes, (fun _ _ => false) "x.*".toList m = false := by decide
example : (assertApplies (fun _ _ => false) (mkRule false true false true true [.name "zz".toList, .regex "x.*".toList] [.name "q".toList])
    (buildGraph ["p".toList, "q".toList] [] none)).2 = .err .impossibleMatch := by decide
/-- the completeness hypotheses are needed: without a verb the configuration error comes first -/
example : (assertApplies (fun _ _ => false) (mkRule false false false true false [.regex "x.*".toList] [.name "q".toList])
    (buildGraph ["p".toList, "q".toList] [] none)).2 = .err .improperlyConfigured := by decide

/-- the deprecated partial-name form is its regex translation -/
theorem partial_name (glob : Str → Str) (st : RuleState) (p : Str) :
    st.step glob (.haveNameContaining [p]) = st.step glob (.haveNameMatching (glob p)) := rfl

/-- several subjects with explicitly given objects: the conjunction of the single-subject rules (all 12 shapes) -/
theorem batch_subjects (mt : Str → Str → Bool) (g : PGraph Str) (s o n dir exc : Bool) (subs objs : List Filter)
    (hne : subs ≠ []) :
    verdictOf mt g (mkRule s o n dir exc subs objs) = .pass ↔
    ∀ x ∈ subs, verdictOf mt g (mkRule s o n dir exc [x] objs) = .pass := by
  obtain ⟨x0, hx0⟩ := List.exists_mem_of_ne_nil subs hne
  simp only [verdictOf_pass_iff, allMatch_batch mt g.nodes subs, mem_expand_batch mt g.nodes subs, ne_eq, hne,
    not_false_eq_true, List.cons_ne_nil, true_and]
  exact ⟨fun ⟨h1, h3, h4, h5, h6, h⟩ x hx => ⟨h1, h3, h4, h5 x hx, h6, fun y hy => h y ⟨x, hx, hy⟩⟩,
    fun h => ⟨(h x0 hx0).1, (h x0 hx0).2.1, (h x0 hx0).2.2.1, fun x hx => (h x hx).2.2.2.1, (h x0 hx0).2.2.2.2.1,
      fun y ⟨x, hx, hy⟩ => (h x hx).2.2.2.2.2 y hy⟩⟩

/-- several objects, plain should / should_not: the conjunction over objects -/
theorem batch_objects (mt : Str → Str → Bool) (g : PGraph Str) (neg dir : Bool) (subs objs : List Filter)
    (hne : objs ≠ []) :
    verdictOf mt g (mkRule (!neg) false neg dir false subs objs) = .pass ↔
    ∀ y ∈ objs, verdictOf mt g (mkRule (!neg) false neg dir false subs [y]) = .pass := by
  -- the objects are the subjects of the converse rule
  simp only [duality_dir mt g subs _ neg dir]
  exact batch_subjects mt g (!neg) false neg (!dir) false objs subs hne

/-! ### three-valued batching (audit finding F13)

`batch_subjects` / `batch_objects` speak about `= .pass` only.  The theorems below settle the two other outcomes.  The batch does
NOT behave like "evaluate the members in list order and stop at the first that raises": `RuleMatcher.match` converts the
regexes of ALL subjects and objects before any module is looked up, so
* a configuration error (`ImproperlyConfigured`, `RuleInconsistency`) is raised by the batch iff it is raised by every member;
* the batch raises the no-match error iff SOME member raises it (wherever that member stands in the list);
* the batch raises a lookup error iff some member raises a lookup error and NO member raises the no-match error;
* the batch raises iff some member raises; it fails iff no member raises and some member fails.
(When one member raises a lookup error and another fails, the batch raises the lookup error.) -/

/-- several subjects, all 12 shapes: the error the batch raises -/
theorem batch_subjects_err (mt : Str → Str → Bool) (g : PGraph Str) (s o n dir exc : Bool) (subs objs : List Filter)
    (hne : subs ≠ []) (k : ErrKind) :
    verdictOf mt g (mkRule s o n dir exc subs objs) = .err k ↔
      (∃ x ∈ subs, verdictOf mt g (mkRule s o n dir exc [x] objs) = .err k) ∧
      (k = .lookupError → ∀ x ∈ subs, verdictOf mt g (mkRule s o n dir exc [x] objs) ≠ .err .impossibleMatch) := by
  simp only [Batch.verdictOf_eq_wrap, List.isEmpty_eq_false_iff.2 hne, List.isEmpty_cons, Bool.or_false]
  exact Batch.err_wrap (fun L => (matchRule mt g ⟨s, o, n, exc⟩ dir L objs).cls) subs hne _ _
    (Batch.matchRule_batch_subjects_err mt g _ dir subs objs hne) k

/-- the batch raises iff some member raises -/
theorem batch_subjects_raises (mt : Str → Str → Bool) (g : PGraph Str) (s o n dir exc : Bool) (subs objs : List Filter)
    (hne : subs ≠ []) :
    (∃ k, verdictOf mt g (mkRule s o n dir exc subs objs) = .err k) ↔
      ∃ x ∈ subs, ∃ k, verdictOf mt g (mkRule s o n dir exc [x] objs) = .err k :=
  (Pta.Batch.fail_generic (fun L => verdictOf mt g (mkRule s o n dir exc L objs)) subs
    (batch_subjects mt g s o n dir exc subs objs hne) (batch_subjects_err mt g s o n dir exc subs objs hne)).1

/-- the batch fails iff no member raises and some member fails -/
theorem batch_subjects_fail (mt : Str → Str → Bool) (g : PGraph Str) (s o n dir exc : Bool) (subs objs : List Filter)
    (hne : subs ≠ []) :
    verdictOf mt g (mkRule s o n dir exc subs objs) = .fail ↔
      (∀ x ∈ subs, ∀ k, verdictOf mt g (mkRule s o n dir exc [x] objs) ≠ .err k) ∧
      ∃ x ∈ subs, verdictOf mt g (mkRule s o n dir exc [x] objs) = .fail :=
  (Pta.Batch.fail_generic (fun L => verdictOf mt g (mkRule s o n dir exc L objs)) subs
    (batch_subjects mt g s o n dir exc subs objs hne) (batch_subjects_err mt g s o n dir exc subs objs hne)).2

/-- several objects, plain should / should_not: the error the batch raises -/
theorem batch_objects_err (mt : Str → Str → Bool) (g : PGraph Str) (neg dir : Bool) (subs objs : List Filter)
    (hne : objs ≠ []) (k : ErrKind) :
    verdictOf mt g (mkRule (!neg) false neg dir false subs objs) = .err k ↔
      (∃ y ∈ objs, verdictOf mt g (mkRule (!neg) false neg dir false subs [y]) = .err k) ∧
      (k = .lookupError → ∀ y ∈ objs, verdictOf mt g (mkRule (!neg) false neg dir false subs [y]) ≠ .err .impossibleMatch) := by
  simp only [duality_dir mt g subs _ neg dir]
  exact batch_subjects_err mt g (!neg) false neg (!dir) false objs subs hne k

theorem batch_objects_raises (mt : Str → Str → Bool) (g : PGraph Str) (neg dir : Bool) (subs objs : List Filter)
    (hne : objs ≠ []) :
    (∃ k, verdictOf mt g (mkRule (!neg) false neg dir false subs objs) = .err k) ↔
      ∃ y ∈ objs, ∃ k, verdictOf mt g (mkRule (!neg) false neg dir false subs [y]) = .err k :=
  (Pta.Batch.fail_generic (fun L => verdictOf mt g (mkRule (!neg) false neg dir false subs L)) objs
    (batch_objects mt g neg dir subs objs hne) (batch_objects_err mt g neg dir subs objs hne)).1

theorem batch_objects_fail (mt : Str → Str → Bool) (g : PGraph Str) (neg dir : Bool) (subs objs : List Filter)
    (hne : objs ≠ []) :
    verdictOf mt g (mkRule (!neg) false neg dir false subs objs) = .fail ↔
      (∀ y ∈ objs, ∀ k, verdictOf mt g (mkRule (!neg) false neg dir false subs [y]) ≠ .err k) ∧
      ∃ y ∈ objs, verdictOf mt g (mkRule (!neg) false neg dir false subs [y]) = .fail :=
  (Pta.Batch.fail_generic (fun L => verdictOf mt g (mkRule (!neg) false neg dir false subs L)) objs
    (batch_objects mt g neg dir subs objs hne) (batch_objects_err mt g neg dir subs objs hne)).2

/-! non-vacuity and the order question, on the graph `p → q` with modules `p`, `q`, `r`: as single subjects of
    `should import q`, `p` passes, `r` fails, the absent name `zz` raises the lookup error and the regex `x.*` (no match)
    raises the no-match error -/
def bG : PGraph Str := buildGraph ["p".toList, "q".toList, "r".toList] [absImport "p".toList "q".toList] none
def bRule (subs : List Filter) : RuleState := mkRule true false false true false subs [.name "q".toList]
def bNone : Str → Str → Bool := fun _ _ => false
example : verdictOf bNone bG (bRule [.name "p".toList]) = .pass ∧ verdictOf bNone bG (bRule [.name "r".toList]) = .fail ∧
    verdictOf bNone bG (bRule [.name "zz".toList]) = .err .lookupError ∧
    verdictOf bNone bG (bRule [.regex "x.*".toList]) = .err .impossibleMatch := by decide +kernel
/-- a failing member in front of a raising one: the batch raises -/
example : verdictOf bNone bG (bRule [.name "r".toList, .name "zz".toList]) = .err .lookupError := by decide +kernel
/-- a member raising the lookup error in front of a member raising the no-match error: the batch raises the no-match error
    (not "the error of the first member that raises") -/
example : verdictOf bNone bG (bRule [.name "zz".toList, .regex "x.*".toList]) = .err .impossibleMatch := by decide +kernel
example : verdictOf bNone bG (bRule [.name "p".toList, .name "r".toList]) = .fail := by decide +kernel
/-- objects: `p should import [q, zz, x.*]` -/
example : verdictOf bNone bG (mkRule true false false true false [.name "p".toList]
    [.name "q".toList, .name "zz".toList, .regex "x.*".toList]) = .err .impossibleMatch ∧
    verdictOf bNone bG (mkRule true false false true false [.name "p".toList] [.name "r".toList, .name "zz".toList]) =
      .err .lookupError ∧
    verdictOf bNone bG (mkRule true false false true false [.name "p".toList] [.name "q".toList, .name "r".toList]) = .fail := by
  decide +kernel

/-! ### the `anything` aliases without the de-duplication hypothesis (verdict class)

`_convert_aliases` removes from the subjects of an `import_anything` / `be_imported_by_anything` rule every name that is
a strict dotted sub module of another subject that is not a `sub modules of` filter (`dedupSubjects`; the restriction
is the repair of F-C12a), BEFORE a regex subject is expanded.  The theorems below
show that this never changes the verdict class (pass / fail / error kind), on every graph whose hierarchy edges cover
the dotted nesting of its nodes (`HierClosed`, a property of every graph `buildGraph` constructs — see
`hierClosed_buildGraph`) and for subject names that are nodes of the graph.  (The REPORT may differ in duplicate lines.) -/

/-- every graph built by `NetworkxGraph(all_modules, imports, level_limit)` from absolute imports whose importers are
    among the modules satisfies `HierClosed` (arbitrary module strings, with or without level limit) -/
theorem hierClosed_buildGraph (mods : List Str) (imps : List ImportRec) (lim : Option Nat)
    (himp : ∀ i ∈ imps, ExtBuild.NodeOf lim mods (flattenNode lim i.importer) ∧
      i.importeeParents = parentModules i.importee) :
    HierClosed (buildGraph mods imps lim) :=
  Pta.buildGraph_hierClosed mods imps lim himp

/-- so does every graph representing a well-formed architecture (the interface C01 is stated for) -/
theorem hierClosed_graphOf (a : PtaSpec.Arch) (g : PGraph Str) (hwf : a.wf = true) (hg : GraphOf a g) : HierClosed g :=
  (Pta.graphOf_dottedHier (Pta.archWF_of_wf a hwf) hg).hierClosed

/-- the de-duplication of the subjects is irrelevant to the verdict class of
    `S should not import / be imported by modules except S` (what `_convert_aliases` produces) -/
theorem anything_dedup_irrelevant (mt : Str → Str → Bool) (g : PGraph Str) (hc : HierClosed g) (dir : Bool)
    (S : List Filter) (hS : namesOnly S = true) (hn : ∀ f ∈ S, g.hasNode f.id = true) :
    verdictOf mt g (mkRule false false true dir true S S) =
    verdictOf mt g (mkRule false false true dir true (dedupSubjects S) (dedupSubjects S)) :=
  Pta.anything_dedup_irrelevant mt g hc dir S hS hn

/-- the same under "the rule on `S` raises no lookup error" instead of "all names exist" -/
theorem anything_dedup_irrelevant_of_no_lookup_error (mt : Str → Str → Bool) (g : PGraph Str) (hc : HierClosed g)
    (dir : Bool) (S : List Filter) (hS : namesOnly S = true)
    (hok : verdictOf mt g (mkRule false false true dir true S S) ≠ .err .lookupError) :
    verdictOf mt g (mkRule false false true dir true S S) =
    verdictOf mt g (mkRule false false true dir true (dedupSubjects S) (dedupSubjects S)) :=
  anything_dedup_irrelevant mt g hc dir S hS fun f hf =>
    eq_true_of_ne_false fun h => hok (anything_lookup_error mt g dir S hS ⟨f, hf, h⟩)

/-- the ALIAS form, for ALL name batches `S` — the names need not exist: through `assert_applies` the rule
    `S should not import / be imported by anything` (which de-duplicates `S`) has the verdict class of
    `S should not import / be imported by modules except S` on the full batch. When all names exist this is
    `anything_dedup_irrelevant`; an absent name makes BOTH sides raise a lookup error — since the repair of F-C13b also when
    the de-duplication drops that name (`Rule._assert_modules_removed_by_alias_conversion_exist`). -/
theorem anything_alias_dedup_irrelevant (mt : Str → Str → Bool) (g : PGraph Str) (hc : HierClosed g) (dir : Bool)
    (S : List Filter) (hS : namesOnly S = true) :
    verdictOf mt g { cfg := { subjects := some S, shouldNot := true, importDir := some dir, anything := true }, next := some false } =
    verdictOf mt g (mkRule false false true dir true S S) :=
  Pta.alias_anything_verdict_lemma mt g hc S dir hS

/-- the `anything` aliases with a regex subject have the verdict class of the alias on the expansion — no
    de-duplication hypothesis -/
theorem regex_expansion_anything_verdict (mt : Str → Str → Bool) (g : PGraph Str) (hnd : g.nodes.Nodup)
    (hc : HierClosed g) (dir : Bool) (p : Str) (hm : ∃ m ∈ g.nodes, mt p m = true) :
    verdictOf mt g { cfg := { subjects := some [.regex p], shouldNot := true, importDir := some dir, anything := true }, next := some false } =
    verdictOf mt g { cfg := { subjects := some ((g.nodes.filter (mt p)).map .name), shouldNot := true, importDir := some dir, anything := true }, next := some false } := by
  rw [alias_anything_verdict_lemma mt g hc _ dir (namesOnly_map_name _)]
  unfold verdictOf
  rw [anything_alias_dedup_of_nodes mt g [.regex p] dir (fun f hf hr => by
        rw [List.mem_singleton.1 hf] at hr; cases hr),
    dedupSubjects_single,
    regex_expansion_subject mt g hnd false false true dir true p _ hm,
    regex_expansion_object mt g hnd false false true dir true p _ hm]

/-! non-vacuity and necessity of the hypotheses -/

def exG : PGraph Str :=
  buildGraph ["p".toList, "p.a".toList, "p.a.x".toList, "q".toList]
    [absImport "p.a.x".toList "q".toList, absImport "q".toList "p.a.x".toList] none
def exS : List Filter := [.name "p.a".toList, .name "p.a.x".toList]
/-- a regex interpretation matching `p.a` and `p.a.x` -/
def exMt : Str → Str → Bool := fun _ m => m == "p.a".toList || m == "p.a.x".toList

example : HierClosed exG := hierClosed_buildGraph _ _ _ (by simp only [ExtBuild.NodeOf]; decide +kernel)
example : exG.nodes.Nodup := by decide +kernel
example : namesOnly exS = true := by decide
example : ∀ f ∈ exS, exG.hasNode f.id = true := by decide +kernel
example : dedupSubjects exS = [.name "p.a".toList] := by decide +kernel          -- the de-duplication is NOT the identity
example : (exG.nodes.filter (exMt "p[.]a.*".toList)).map Filter.name = exS := by decide +kernel
example : ∃ m ∈ exG.nodes, exMt "p[.]a.*".toList m = true := by decide +kernel
example : verdictOf exMt exG (mkRule false false true true true exS exS) = .fail := by decide +kernel
example : verdictOf exMt exG (mkRule false false true false true exS exS) = .fail := by decide +kernel
/-! non-vacuity of `anything_alias_dedup_irrelevant` beyond `anything_dedup_irrelevant`: a batch with an absent name -/
example : namesOnly [.name "p.a".toList, .name "p.a.y".toList] = true := by decide
example : exG.hasNode "p.a.y".toList = false := by decide +kernel

/-- why the names must exist in `anything_dedup_irrelevant` (finding F-C13b): an absent name that is a dotted extension
    of another subject is dropped by the de-duplication, so the rule on `S` raises a lookup error while the rule on the
    explicitly de-duplicated batch yields a verdict -/
theorem anything_dedup_absent_name_witness :
    let S : List Filter := [.name "p.a".toList, .name "p.a.y".toList]
    verdictOf exMt exG (mkRule false false true true true S S) = .err .lookupError ∧
    verdictOf exMt exG (mkRule false false true true true (dedupSubjects S) (dedupSubjects S)) = .fail := by
  decide +kernel

/-- … but through the ALIAS form (what a user can write: `are_named([p.a, p.a.y]).should_not().import_anything()`) the
    repaired library no longer returns that verdict: the alias and the reference rule on `S` both raise the lookup
    error, in both directions (an instance of `anything_alias_dedup_irrelevant`) -/
theorem anything_dedup_absent_name_alias_witness :
    let S : List Filter := [.name "p.a".toList, .name "p.a.y".toList]
    (∀ dir : Bool,
      verdictOf exMt exG { cfg := { subjects := some S, shouldNot := true, importDir := some dir, anything := true },
                           next := some false } = .err .lookupError ∧
      verdictOf exMt exG (mkRule false false true dir true S S) = .err .lookupError) := by
  decide +kernel

/-- why `HierClosed` is needed: on a hand-made graph with nodes `p`, `p.a` but no hierarchy edge between them the
    de-duplication turns a failing rule into a passing one (such a graph is never built by `buildGraph`) -/
theorem anything_dedup_needs_hierarchy_witness :
    let g : PGraph Str := ⟨["p".toList, "p.a".toList, "q".toList], [⟨"p.a".toList, "q".toList, false⟩]⟩
    let S : List Filter := [.name "p".toList, .name "p.a".toList]
    verdictOf exMt g (mkRule false false true true true S S) = .fail ∧
    verdictOf exMt g (mkRule false false true true true (dedupSubjects S) (dedupSubjects S)) = .pass := by
  decide +kernel

end Pta.C11
