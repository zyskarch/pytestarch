/-
  PtaProofs.Props.C09Layer — property C09, second sentence, for LAYER rules and DIAGRAM rules:
  "every rule whose named modules lie at or above level k has the same verdict on the flattened and on the full
  architecture".  (`PtaProofs/Props/C09.lean` proves this for strict MODULE rules, `verdict_preserved`.)

  LAYER rules.  For every well-formed architecture `a`, every layered architecture `larch` (name layers and regex
  layers; `ls` = its layers resolved on the FULL graph), every layer rule `r` in the domain of C05 (`layerDomain'`)
  and every limit `k` such that every listed module of every layer THE RULE MENTIONS has at most `k + 1` components
  (`ruleLayersAbove k ls r`, the convention of `ruleAbove` for `are_named`; implied by `layersAbove k ls`: every
  listed module of every layer; layers the rule does not mention may list modules below the limit):
    * `layer_spec_verdict_preserved`: `layerVerdict (truncArch (some k) a) ls r = layerVerdict a ls r` — imports
      inside one layer never count, so the self imports dropped by the quotient are harmless; a collapsing import
      cannot lead from the subject layer into an object layer, because layers of different names share no module.
    * `layer_domain_transfers`: if ALL layers lie at or above the limit (`layersAbove`), `layerDomain'` holds of the
      quotient architecture as well (otherwise a listed module of an unmentioned layer does not exist there; the
      model-level theorem then goes through the domain of the layers the rule works with, as `C05.layer_verdict_kept`).
    * `layer_verdict_preserved`: the model of `LayerRule.assert_applies` returns the same verdict class on
      `archGraphLim a (some k)` and on `archGraph a`, namely pass / fail according to the documented semantics on the
      FULL architecture (`layer_verdict_lim_spec`); never an error.  No hypothesis on the flattened graph is needed:
      a regex layer resolves on the flattened graph to the same modules, possibly in another order
      (`regex_resolution_order_differs`), and neither the domain nor the semantics depend on that order.
    * without the depth condition the statement fails: `layer_verdict_not_preserved_deep` (a listed module of a
      MENTIONED layer below the limit is not a node of the flattened graph; the rule raises instead of returning a
      verdict); for unmentioned layers see `unmentioned_deep_layers`.

  DIAGRAM rules.  For `diagramDomain a d` with every component of at most `k + 1` components (`diagramAbove k d`):
  `conforms_preserved`, `diagram_domain_transfers`, `diagram_verdict_preserved`, `diagram_verdict_lim_spec`,
  `diagram_file_verdict_preserved` (from the diagram FILE), and `diagram_verdict_not_preserved_deep`.

  SCANS.  `scan_layer_verdict_preserved`, `scan_diagram_verdict_preserved`: `generate_graph(level_limit = k)` against
  `generate_graph(level_limit = None)` on a directory tree (E2E style), the bound counted from `module_path`.
-/
import Bridge.Abs
import Bridge.Quotient
import Bridge.QuotientLayer
import PtaProofs.Lemmas.QuotientLayer
import PtaProofs.Props.C07
import PtaProofs.Props.C09
import PtaProofs.Props.E2E
namespace Pta.C09
open PtaSpec

/-! ## 1. layer rules -/

/-- `layersAbove`, spelled out: every listed module of every layer has at most `k + 1` components -/
theorem layersAbove_iff (k : Nat) (ls : Layers) :
    layersAbove k ls = true ↔ ∀ l ∈ ls, ∀ x ∈ l.2, x.length ≤ k + 1 :=
  Pta.QL.layersAbove_iff k ls

/-- `ruleLayersAbove`, spelled out: the same, of the layers the rule mentions only -/
theorem ruleLayersAbove_iff (k : Nat) (ls : Layers) (r : LRuleSpec) :
    ruleLayersAbove k ls r = true ↔
      (∀ x ∈ ls.get r.subject, x.length ≤ k + 1) ∧
      (r.anything = false → ∀ on ∈ r.objects, ∀ x ∈ ls.get on, x.length ≤ k + 1) :=
  Pta.QL.ruleLayersAbove_iff k ls r

theorem ruleLayersAbove_of_layersAbove (k : Nat) (ls : Layers) (r : LRuleSpec) (h : layersAbove k ls = true) :
    ruleLayersAbove k ls r = true :=
  Pta.QL.ruleLayersAbove_of_layersAbove k ls r h

/-- on the specification side, layer rules whose MENTIONED layers lie at or above the limit do not see the truncation
    (no well-formedness of `a` is needed; of the domain only cross-layer unrelatedness and "objects ≠ subject") -/
theorem layer_spec_verdict_preserved (a : Arch) (k : Nat) (ls : Layers) (r : LRuleSpec)
    (hdom : layerDomain' a ls r = true) (habove : ruleLayersAbove k ls r = true) :
    layerVerdict (truncArch (some k) a) ls r = layerVerdict a ls r :=
  Pta.QL.layerVerdict_trunc_dom k a ls r (Pta.ldom'_of_layerDomain' a ls r hdom) habove

/-- the same with exactly what the proof uses: depth of the mentioned layers, and no listed module of the subject layer
    related to a listed module of an object layer -/
theorem layer_spec_verdict_preserved' (a : Arch) (k : Nat) (ls : Layers) (r : LRuleSpec)
    (hS : ∀ x ∈ ls.get r.subject, x.length ≤ k + 1)
    (hO : r.anything = false → ∀ on ∈ r.objects, ∀ x ∈ ls.get on, x.length ≤ k + 1)
    (hun : r.anything = false → ∀ on ∈ r.objects, ∀ x ∈ ls.get r.subject, ∀ y ∈ ls.get on, related x y = false) :
    layerVerdict (truncArch (some k) a) ls r = layerVerdict a ls r :=
  Pta.QL.layerVerdict_trunc k a ls r hS hO hun

/-- the domain of C05 transfers to the quotient architecture -/
theorem layer_domain_transfers (a : Arch) (k : Nat) (ls : Layers) (r : LRuleSpec)
    (hdom : layerDomain' a ls r = true) (habove : layersAbove k ls = true) :
    layerDomain' (truncArch (some k) a) ls r = true := by
  rw [Pta.QL.layersAbove_iff] at habove
  unfold layerDomain' at hdom ⊢
  simp only [Bool.and_eq_true, List.all_eq_true, List.contains_iff_mem] at hdom ⊢
  obtain ⟨⟨⟨⟨⟨h1, h2⟩, h3⟩, h4⟩, h5⟩, h6⟩ := hdom
  refine ⟨⟨⟨⟨⟨h1, fun x hx => ?_⟩, h3⟩, h4⟩, h5⟩, h6⟩
  obtain ⟨l, hl, hxl⟩ := List.mem_flatMap.1 hx
  exact Pta.QL.mem_truncArch_nodes_of_le k a (h2 x hx) (habove l hl x hxl)

/-- layer rules on ANY graph `g0` of the architecture and ANY graph `g` of its quotient (e.g. the two scan graphs): the same
    verdict class, and it is the documented layer semantics evaluated on the FULL architecture -/
theorem layer_verdict_preserved_of_graphs (mt : Str → Str → Bool) (a : Arch) (hwf : a.wf = true) (k : Nat)
    (g0 g : PGraph Str) (hg0 : GraphOf a g0) (hg : GraphOf (truncArch (some k) a) g)
    (ls : Layers) (r : LRuleSpec) (hdom : layerDomain' a ls r = true)
    (hany : r.anything = true → r.verb = .shouldNot) (hdepth : ruleLayersAbove k ls r = true)
    (larch : LArch) (hres : resolves mt g0.nodes larch ls = true) :
    (assertAppliesLayer mt (compileLayerRule larch r) g).cls = (assertAppliesLayer mt (compileLayerRule larch r) g0).cls ∧
    (assertAppliesLayer mt (compileLayerRule larch r) g).cls = VClass.ofBool (layerVerdict a ls r) := by
  obtain ⟨h1, h2⟩ := Pta.QL.layer_verdict_quotient_lemma' mt a hwf k g0 g hg0 hg ls r hdom hany hdepth larch hres
  exact ⟨h1.trans h2.symm, h1⟩

/-- C09, second sentence, LAYER rules: same verdict class on the flattened and on the full graph.
    `ls` is the resolution of `larch` on the FULL graph; nothing is assumed about the flattened graph. -/
theorem layer_verdict_preserved (mt : Str → Str → Bool) (a : Arch) (hwf : a.wf = true) (k : Nat)
    (ls : Layers) (r : LRuleSpec) (hdom : layerDomain' a ls r = true)
    (hany : r.anything = true → r.verb = .shouldNot) (hdepth : ruleLayersAbove k ls r = true)
    (larch : LArch) (hres : resolves mt (archGraph a).nodes larch ls = true) :
    (assertAppliesLayer mt (compileLayerRule larch r) (archGraphLim a (some k))).cls =
      (assertAppliesLayer mt (compileLayerRule larch r) (archGraph a)).cls :=
  (layer_verdict_preserved_of_graphs mt a hwf k _ _ (graph_of_arch a hwf) (graph_of_quotient_arch a hwf (some k))
    ls r hdom hany hdepth larch hres).1

/-- … and both are the documented layer semantics evaluated on the FULL architecture (never an error) -/
theorem layer_verdict_lim_spec (mt : Str → Str → Bool) (a : Arch) (hwf : a.wf = true) (k : Nat)
    (ls : Layers) (r : LRuleSpec) (hdom : layerDomain' a ls r = true)
    (hany : r.anything = true → r.verb = .shouldNot) (hdepth : ruleLayersAbove k ls r = true)
    (larch : LArch) (hres : resolves mt (archGraph a).nodes larch ls = true) :
    (assertAppliesLayer mt (compileLayerRule larch r) (archGraphLim a (some k))).cls =
      VClass.ofBool (layerVerdict a ls r) :=
  (layer_verdict_preserved_of_graphs mt a hwf k _ _ (graph_of_arch a hwf) (graph_of_quotient_arch a hwf (some k))
    ls r hdom hany hdepth larch hres).2

/-- layers that list modules by name -/
theorem layer_verdict_preserved_names (mt : Str → Str → Bool) (a : Arch) (hwf : a.wf = true) (k : Nat)
    (ls : Layers) (r : LRuleSpec) (hdom : layerDomain' a ls r = true)
    (hany : r.anything = true → r.verb = .shouldNot) (hdepth : ruleLayersAbove k ls r = true) :
    (assertAppliesLayer mt (compileLayerRule (compileLArch ls) r) (archGraphLim a (some k))).cls =
      (assertAppliesLayer mt (compileLayerRule (compileLArch ls) r) (archGraph a)).cls :=
  layer_verdict_preserved mt a hwf k ls r hdom hany hdepth (compileLArch ls) (Pta.resolves_compileLArch mt _ ls)

/-- the statement with the depth condition on ALL layers (then the domain of C05 holds of the quotient as well) -/
theorem layer_verdict_preserved_all (mt : Str → Str → Bool) (a : Arch) (hwf : a.wf = true) (k : Nat)
    (ls : Layers) (r : LRuleSpec) (hdom : layerDomain' a ls r = true)
    (hany : r.anything = true → r.verb = .shouldNot) (hdepth : layersAbove k ls = true)
    (larch : LArch) (hres : resolves mt (archGraph a).nodes larch ls = true) :
    layerDomain' (truncArch (some k) a) ls r = true ∧
    (assertAppliesLayer mt (compileLayerRule larch r) (archGraphLim a (some k))).cls =
      (assertAppliesLayer mt (compileLayerRule larch r) (archGraph a)).cls :=
  ⟨layer_domain_transfers a k ls r hdom hdepth,
   layer_verdict_preserved mt a hwf k ls r hdom hany (ruleLayersAbove_of_layersAbove k ls r hdepth) larch hres⟩

/-! ### non-vacuity

`top` lists the package `p` AND its sub module `p.a`; limit 1.  `p.a.x → p.a.y` collapses to a self import of `p.a`
(dropped by the quotient), `p.a.x → p.b.z` becomes `p.a → p.b` (still inside `top`), `p.b.z → q.c.w` becomes
`p.b → q.c` (top → mid), `q.c.w → q.c` collapses (inside `mid`), `r → q` leads from `low` to a module of no layer. -/
namespace LEx
def lA : Arch :=
  { nodes := ["p.a.x", "p", "p.a", "p.a.y", "p.b", "p.b.z", "q", "q.c", "q.c.w", "r"].map nm,
    imports := [(nm "p.a.x", nm "p.a.y"), (nm "p.a.x", nm "p.b.z"), (nm "p.b.z", nm "q.c.w"), (nm "q.c.w", nm "r"),
      (nm "q.c.w", nm "q.c"), (nm "r", nm "q")] }
def lLs : Layers := [("top".toList, [nm "p", nm "p.a"]), ("mid".toList, [nm "q.c"]), ("low".toList, [nm "r"])]
def mt0 : Str → Str → Bool := fun _ _ => false

/-- all 12 shapes and the two aliases, every subject, every admissible object list over the three layers -/
def lRules : List LRuleSpec :=
  (([Verb.should, .shouldOnly, .shouldNot].flatMap fun v => [true, false].flatMap fun d => [true, false].flatMap fun e =>
    ["top", "mid", "low"].flatMap fun s =>
      ([["top"], ["mid"], ["low"], ["top", "mid"], ["mid", "low"], ["top", "low"], ["low", "low"]].filter
        fun o => !o.contains s).map fun o =>
          ({ verb := v, importDir := d, exc := e, subject := s.toList, objects := o.map String.toList } : LRuleSpec))) ++
  ([true, false].flatMap fun d => ["top", "mid", "low"].map fun s =>
    ({ verb := .shouldNot, importDir := d, exc := false, subject := s.toList, objects := [], anything := true } : LRuleSpec))

/-- a regex engine for the example: the pattern `P` matches `p` and `p.a`, nothing else matches anything -/
def mtP : Str → Str → Bool := fun p s => p == "P".toList && (s == "p".toList || s == "p.a".toList)
def lLarchRe : LArch := [("top".toList, [.regex "P".toList]), ("mid".toList, [.name "q.c".toList]), ("low".toList, [.name "r".toList])]
end LEx
open LEx

example : lRules.length = 138 := by decide +kernel
set_option maxRecDepth 100000 in
/-- every hypothesis of `layer_verdict_preserved` / `layer_spec_verdict_preserved` holds for all 138 rules at limit 1 -/
example : lA.wf = true ∧ layersAbove 1 lLs = true ∧
    ∀ r ∈ lRules, layerDomain' lA lLs r = true ∧ (r.anything = true → r.verb = .shouldNot) ∧
      ruleLayersAbove 1 lLs r = true := by decide +kernel
example (nodes : List Str) : resolves mt0 nodes (compileLArch lLs) lLs = true := Pta.resolves_compileLArch mt0 nodes lLs
/-- the quotient architecture: two imports collapse to self imports and are dropped -/
example : (truncArch (some 1) lA).imports =
    [(nm "p.a", nm "p.b"), (nm "p.b", nm "q.c"), (nm "q.c", nm "r"), (nm "r", nm "q")] := by decide +kernel
set_option maxRecDepth 100000 in
/-- both sides of the specification-level statement, evaluated (55 of the 138 rules hold) -/
example : lRules.map (layerVerdict (truncArch (some 1) lA) lLs) = lRules.map (layerVerdict lA lLs) ∧
    (lRules.filter (layerVerdict lA lLs)).length = 55 := by decide +kernel
set_option maxRecDepth 100000 in
/-- both sides of the model-level statement, evaluated, and the specification -/
example :
    lRules.map (fun r => (assertAppliesLayer mt0 (compileLayerRule (compileLArch lLs) r) (archGraphLim lA (some 1))).cls) =
      lRules.map (fun r => (assertAppliesLayer mt0 (compileLayerRule (compileLArch lLs) r) (archGraph lA)).cls) ∧
    lRules.map (fun r => (assertAppliesLayer mt0 (compileLayerRule (compileLArch lLs) r) (archGraph lA)).cls) =
      lRules.map (fun r => VClass.ofBool (layerVerdict lA lLs r)) := by decide +kernel

/-- a regex layer: `top` is the pattern `P`; on the full graph (node order `p.a.x, p, p.a, …`) it resolves to `[p, p.a]`,
    on the flattened graph (node order `p.a, p, …`: `p.a.x` is flattened to `p.a` first) to `[p.a, p]`: the resolution
    on the flattened graph is NOT `lLs`, only the same layers up to the order of the listed modules.
    `layer_verdict_preserved` asks for the resolution on the full graph only. -/
theorem regex_resolution_order_differs :
    resolves mtP (archGraph lA).nodes lLarchRe lLs = true ∧
    resolves mtP (archGraphLim lA (some 1)).nodes lLarchRe lLs = false ∧
    resolves mtP (archGraphLim lA (some 1)).nodes lLarchRe
      [("top".toList, [nm "p.a", nm "p"]), ("mid".toList, [nm "q.c"]), ("low".toList, [nm "r"])] = true := by
  decide +kernel
set_option maxRecDepth 100000 in
example :
    lRules.map (fun r => (assertAppliesLayer mtP (compileLayerRule lLarchRe r) (archGraphLim lA (some 1))).cls) =
      lRules.map (fun r => (assertAppliesLayer mtP (compileLayerRule lLarchRe r) (archGraph lA)).cls) ∧
    lRules.map (fun r => (assertAppliesLayer mtP (compileLayerRule lLarchRe r) (archGraph lA)).cls) =
      lRules.map (fun r => VClass.ofBool (layerVerdict lA lLs r)) := by decide +kernel

/-- the theorem applied to an instance (all hypotheses discharged by evaluation) -/
example : (assertAppliesLayer mtP (compileLayerRule lLarchRe
      { verb := .shouldOnly, importDir := true, exc := false, subject := "top".toList, objects := ["mid".toList] })
      (archGraphLim lA (some 1))).cls = .pass :=
  (layer_verdict_lim_spec mtP lA (by decide +kernel) 1 lLs _ (by decide +kernel) (by decide +kernel) (by decide +kernel) lLarchRe
    regex_resolution_order_differs.1).trans (by decide +kernel)

/-! ### why the depth condition is a hypothesis

`deep` lists `p.a.x`, two levels below the top; with limit 1 the module is not a node of the flattened graph. Every
other hypothesis of `layer_verdict_preserved` holds; on the full graph the rule "`deep` should not access `mid`" passes,
on the flattened graph it raises (the query for `p.a.x` fails) — no verdict. -/
def lLsDeep : Layers := [("deep".toList, [nm "p.a.x"]), ("mid".toList, [nm "q.c"])]
def lRDeep : LRuleSpec :=
  { verb := .shouldNot, importDir := true, exc := false, subject := "deep".toList, objects := ["mid".toList] }

theorem layer_verdict_not_preserved_deep :
    lA.wf = true ∧ layerDomain' lA lLsDeep lRDeep = true ∧ (lRDeep.anything = true → lRDeep.verb = .shouldNot) ∧
    layersAbove 1 lLsDeep = false ∧ ruleLayersAbove 1 lLsDeep lRDeep = false ∧ layersAbove 2 lLsDeep = true ∧
    layerDomain' (truncArch (some 1) lA) lLsDeep lRDeep = false ∧
    (assertAppliesLayer mt0 (compileLayerRule (compileLArch lLsDeep) lRDeep) (archGraph lA)).cls = .pass ∧
    (assertAppliesLayer mt0 (compileLayerRule (compileLArch lLsDeep) lRDeep) (archGraphLim lA (some 1))).cls =
      .err .lookupError ∧
    (assertAppliesLayer mt0 (compileLayerRule (compileLArch lLsDeep) lRDeep) (archGraphLim lA (some 2))).cls = .pass := by
  decide +kernel

/-! ### layers the rule does not mention may lie below the limit

`X` (a name layer) lists `q.c.w`, `Y` (a regex layer, pattern `W`) matches `p.b.z` on the full graph and nothing on the
flattened one; both are two levels below the top, limit 1.  `layersAbove 1` fails and the domain of C05 does NOT hold of
the quotient architecture with these layers, but the rules that mention `low` and `hi` only satisfy `ruleLayersAbove 1`
and keep their verdict (`layer_verdict_preserved`). -/
namespace UEx
def uA : Arch :=
  { nodes := ["p", "p.a", "p.a.x", "p.b", "p.b.z", "q", "q.c", "q.c.w", "r"].map nm,
    imports := [(nm "p.a.x", nm "p.b.z"), (nm "p.b.z", nm "q.c.w"), (nm "q.c.w", nm "r"), (nm "r", nm "p.a")] }
/-- `W` matches `p.b.z` -/
def mtW : Str → Str → Bool := fun p s => p == "W".toList && s == "p.b.z".toList
def uLarch : LArch :=
  [("hi".toList, [.name "p.a".toList]), ("low".toList, [.name "r".toList]), ("X".toList, [.name "q.c.w".toList]),
   ("Y".toList, [.regex "W".toList])]
/-- resolved on the full graph -/
def uLs : Layers :=
  [("hi".toList, [nm "p.a"]), ("low".toList, [nm "r"]), ("X".toList, [nm "q.c.w"]), ("Y".toList, [nm "p.b.z"])]
def uRules : List LRuleSpec :=
  ([Verb.should, .shouldOnly, .shouldNot].flatMap fun v => [true, false].flatMap fun d => [true, false].flatMap fun e =>
    [("hi", "low"), ("low", "hi")].map fun so =>
      ({ verb := v, importDir := d, exc := e, subject := so.1.toList, objects := [so.2.toList] } : LRuleSpec)) ++
  ([true, false].flatMap fun d => ["hi", "low"].map fun s =>
    ({ verb := .shouldNot, importDir := d, exc := false, subject := s.toList, objects := [], anything := true } : LRuleSpec))
end UEx
open UEx

theorem unmentioned_deep_layers :
    uA.wf = true ∧ resolves mtW (archGraph uA).nodes uLarch uLs = true ∧ layersAbove 1 uLs = false ∧
    (∀ r ∈ uRules, layerDomain' uA uLs r = true ∧ (r.anything = true → r.verb = .shouldNot) ∧
      ruleLayersAbove 1 uLs r = true ∧ layerDomain' (truncArch (some 1) uA) uLs r = false) ∧
    uRules.map (fun r => (assertAppliesLayer mtW (compileLayerRule uLarch r) (archGraphLim uA (some 1))).cls) =
      uRules.map (fun r => (assertAppliesLayer mtW (compileLayerRule uLarch r) (archGraph uA)).cls) ∧
    uRules.map (fun r => (assertAppliesLayer mtW (compileLayerRule uLarch r) (archGraph uA)).cls) =
      uRules.map (fun r => VClass.ofBool (layerVerdict uA uLs r)) ∧
    (uRules.filter (layerVerdict uA uLs)).length = 12 := by
  decide +kernel

/-! ## 2. diagram rules -/

/-- `diagramAbove`, spelled out -/
theorem diagramAbove_iff (k : Nat) (d : Diagram) :
    diagramAbove k d = true ↔ ∀ c ∈ d.components, c.length ≤ k + 1 :=
  Pta.QL.diagramAbove_iff k d

/-- on the specification side, conformance to a diagram whose components lie at or above the limit does not see the
    truncation (both modes) -/
theorem conforms_preserved (a : Arch) (k : Nat) (d : Diagram) (so : Bool) (hdom : diagramDomain a d = true)
    (hdepth : diagramAbove k d = true) :
    conforms (truncArch (some k) a) d so = conforms a d so :=
  Pta.QL.conforms_trunc k a d so (Pta.Dg.dom_of a d hdom) hdepth

/-- the domain of C07 transfers to the quotient architecture -/
theorem diagram_domain_transfers (a : Arch) (k : Nat) (d : Diagram) (hdom : diagramDomain a d = true)
    (hdepth : diagramAbove k d = true) : diagramDomain (truncArch (some k) a) d = true :=
  Pta.QL.diagramDomain_trunc k a d hdom hdepth

/-- C09, second sentence, DIAGRAM rules: the rules `DependencyToRuleConverter` generates from the diagram, applied by
    `MultipleRuleApplier`, have the same outcome class on the flattened and on the full graph -/
theorem diagram_verdict_preserved (mt : Str → Str → Bool) (a : Arch) (k : Nat) (d : Diagram) (so : Bool)
    (hdom : diagramDomain a d = true) (hdepth : diagramAbove k d = true) :
    (applyAll mt (archGraphLim a (some k)) (diagramRules so (parsedOf d))).cls =
      (applyAll mt (archGraph a) (diagramRules so (parsedOf d))).cls := by
  have hwf := (Pta.Dg.dom_of a d hdom).wf
  rw [Pta.QL.diagram_verdict_quotient_lemma mt a k _ (graph_of_quotient_arch a hwf (some k)) d so hdom hdepth,
    Pta.Dg.diagram_cls mt a _ (graph_of_arch a hwf) d so hdom]

/-- … namely pass exactly when the imports of the FULL architecture conform to the diagram, fail otherwise; never an error -/
theorem diagram_verdict_lim_spec (mt : Str → Str → Bool) (a : Arch) (k : Nat) (d : Diagram) (so : Bool)
    (hdom : diagramDomain a d = true) (hdepth : diagramAbove k d = true) :
    (applyAll mt (archGraphLim a (some k)) (diagramRules so (parsedOf d))).cls = VClass.ofBool (conforms a d so) :=
  Pta.QL.diagram_verdict_quotient_lemma mt a k _ (graph_of_quotient_arch a (Pta.Dg.dom_of a d hdom).wf (some k)) d so hdom hdepth

/-- on ANY graph `g0` of the architecture and ANY graph `g` of its quotient -/
theorem diagram_verdict_preserved_of_graphs (mt : Str → Str → Bool) (a : Arch) (k : Nat) (g0 g : PGraph Str)
    (hg0 : GraphOf a g0) (hg : GraphOf (truncArch (some k) a) g) (d : Diagram) (so : Bool)
    (hdom : diagramDomain a d = true) (hdepth : diagramAbove k d = true) :
    (applyAll mt g (diagramRules so (parsedOf d))).cls = (applyAll mt g0 (diagramRules so (parsedOf d))).cls ∧
    (applyAll mt g (diagramRules so (parsedOf d))).cls = VClass.ofBool (conforms a d so) := by
  have h1 := Pta.QL.diagram_verdict_quotient_lemma mt a k g hg d so hdom hdepth
  exact ⟨h1.trans (Pta.Dg.diagram_cls mt a g0 hg0 d so hdom).symm, h1⟩

/-- for a diagram of the C07 domain whose components lie at or above the limit, the batch of generated rules passes on
    the level-limited graph iff it passes on the full graph: the two outcome classes agree (`diagram_verdict_preserved`) -/
theorem diagram_pass_iff (mt : Str → Str → Bool) (a : Arch) (k : Nat) (d : Diagram) (so : Bool)
    (hdom : diagramDomain a d = true) (hdepth : diagramAbove k d = true) :
    applyAll mt (archGraphLim a (some k)) (diagramRules so (parsedOf d)) = .pass ↔
      applyAll mt (archGraph a) (diagramRules so (parsedOf d)) = .pass := by
  rw [← Pta.Dg.cls_pass_iff, ← Pta.Dg.cls_pass_iff, diagram_verdict_preserved mt a k d so hdom hdepth]

/-- from the diagram FILE (C06 ∘ C07 ∘ C09): `DiagramRule.assert_applies` on a rendered diagram of the documented
    subset, any noise around the tags -/
theorem diagram_file_verdict_preserved (mt : Str → Str → Bool) (a : Arch) (k : Nat) (noise1 noise2 : Str)
    (d : List DLine) (hwf : diagramWF d = true) (hn : isInfix "@enduml".toList noise2 = false) (so : Bool)
    (hdom : diagramDomain a (specDiagram d) = true) (hdepth : diagramAbove k (specDiagram d) = true) :
    (diagramAssert mt (some (diagramText noise1 d noise2)) none so (archGraphLim a (some k))).cls =
      (diagramAssert mt (some (diagramText noise1 d noise2)) none so (archGraph a)).cls ∧
    (diagramAssert mt (some (diagramText noise1 d noise2)) none so (archGraphLim a (some k))).cls =
      VClass.ofBool (conforms a (specDiagram d) so) := by
  have hawf := (Pta.Dg.dom_of a _ hdom).wf
  have h1 := Pta.QL.diagram_file_quotient_lemma mt a k _ (graph_of_quotient_arch a hawf (some k)) noise1 noise2 d hwf
    hn (specDiagram d) (Pta.E2E.means_specDiagram d) so hdom hdepth
  exact ⟨h1.trans (Pta.E2E.file_conforms_lemma mt a _ (graph_of_arch a hawf) noise1 noise2 d hwf hn _
    (Pta.E2E.means_specDiagram d) so hdom).1.symm, h1⟩

/-! ### non-vacuity: the diagram of C07 on an architecture with modules below the components, limit 1 -/
namespace DEx
/-- components `app.ui`, `app.core`, `app.db` (two components each); arrows ui → core → db -/
def dD : Diagram := Pta.C07.exD
/-- conforming: `app.ui.view → app.core.model.m` (becomes ui → core), `app.core.model.m → app.db.x` (core → db),
    `app.core.model.m → app.core.util` (collapses to a self import of `app.core`), `app.ui.view → app.ui` (collapses) -/
def dGood : Arch :=
  { nodes := ["app", "app.ui", "app.ui.view", "app.core", "app.core.model", "app.core.model.m", "app.core.util", "app.db",
      "app.db.x", "app.util"].map nm,
    imports := [(nm "app.ui.view", nm "app.core.model.m"), (nm "app.core.model.m", nm "app.db.x"),
      (nm "app.core.model.m", nm "app.core.util"), (nm "app.ui.view", nm "app.ui")] }
/-- not conforming: additionally `app.db.x → app.ui.view` (not drawn) and `app.ui.view → app.util` (outside ui's targets) -/
def dBad : Arch :=
  { dGood with imports := dGood.imports ++ [(nm "app.db.x", nm "app.ui.view"), (nm "app.ui.view", nm "app.util")] }
end DEx
open DEx

example : diagramDomain dGood dD = true ∧ diagramDomain dBad dD = true ∧ diagramAbove 1 dD = true ∧
    diagramAbove 0 dD = false := by decide +kernel
example : (truncArch (some 1) dGood).imports = [(nm "app.ui", nm "app.core"), (nm "app.core", nm "app.db")] := by decide +kernel
example : ∀ so, conforms (truncArch (some 1) dGood) dD so = true ∧ conforms dGood dD so = true ∧
    conforms (truncArch (some 1) dBad) dD so = false ∧ conforms dBad dD so = false := by decide +kernel
example :
    (applyAll mt0 (archGraphLim dGood (some 1)) (diagramRules true (parsedOf dD))).cls = .pass ∧
    (applyAll mt0 (archGraph dGood) (diagramRules true (parsedOf dD))).cls = .pass ∧
    (applyAll mt0 (archGraphLim dGood (some 1)) (diagramRules false (parsedOf dD))).cls = .pass ∧
    (applyAll mt0 (archGraph dGood) (diagramRules false (parsedOf dD))).cls = .pass ∧
    (applyAll mt0 (archGraphLim dBad (some 1)) (diagramRules true (parsedOf dD))).cls = .fail ∧
    (applyAll mt0 (archGraph dBad) (diagramRules true (parsedOf dD))).cls = .fail ∧
    (applyAll mt0 (archGraphLim dBad (some 1)) (diagramRules false (parsedOf dD))).cls = .fail ∧
    (applyAll mt0 (archGraph dBad) (diagramRules false (parsedOf dD))).cls = .fail := by decide +kernel
/-- the file of C07 (`exLines` means `exD`): hypotheses of `diagram_file_verdict_preserved` and both sides -/
example : diagramWF Pta.C07.exLines = true ∧ isInfix "@enduml".toList Pta.C07.exNoise2 = false ∧
    diagramDomain dGood (specDiagram Pta.C07.exLines) = true ∧ diagramAbove 1 (specDiagram Pta.C07.exLines) = true ∧
    (diagramAssert mt0 (some (diagramText Pta.C07.exNoise1 Pta.C07.exLines Pta.C07.exNoise2)) none true
      (archGraphLim dGood (some 1))).cls = .pass ∧
    (diagramAssert mt0 (some (diagramText Pta.C07.exNoise1 Pta.C07.exLines Pta.C07.exNoise2)) none true
      (archGraph dGood)).cls = .pass := by decide +kernel
/-- the theorem applied to an instance -/
example : (applyAll mt0 (archGraphLim dBad (some 1)) (diagramRules true (parsedOf dD))).cls = .fail :=
  (diagram_verdict_lim_spec mt0 dBad 1 dD true (by decide +kernel) (by decide +kernel)).trans (by decide +kernel)

/-- why the depth condition is a hypothesis: with limit 0 the components `app.ui`, … are not nodes of the flattened
    graph (everything is flattened to `app`); the domain holds on the full architecture, the check passes on the full
    graph and raises on the flattened one -/
theorem diagram_verdict_not_preserved_deep :
    diagramDomain dGood dD = true ∧ diagramAbove 0 dD = false ∧ diagramDomain (truncArch (some 0) dGood) dD = false ∧
    (applyAll mt0 (archGraph dGood) (diagramRules true (parsedOf dD))).cls = .pass ∧
    (applyAll mt0 (archGraphLim dGood (some 0)) (diagramRules true (parsedOf dD))).cls = .err .lookupError := by
  decide +kernel

/-! ## 3. scans: `generate_graph(level_limit = k)` against `generate_graph(level_limit = None)` -/

section scan
variable (mt : Str → Str → Bool) (base root : Str) (mp : List Str) (entries : List Entry) (o : ScanOptions) (k : Nat)
  (hwf : treeWFFor (isExcluded mt o.exclusions) base mp entries = true) (hmp : mpOK entries mp = true)
  (hroot : compWF root = true)
  (hxx : o.excludeExternal = true) (hlim : o.levelLimit = some k) (hext : o.externalExclusions.isEmpty = true)
  (hst : ∀ e ∈ entries, ∀ st ∈ e.stmts, stmtOK (toSStmt st) = true)
  (is : List (Name × Name))
  (his : scanImports root (toSEntries (isExcluded mt o.exclusions) base entries) mp = some is)
include hwf hmp hroot hxx hlim hext hst his

/-- END-TO-END with a level limit, LAYER rules (C04 ∘ C02 ∘ C09 ∘ C05): both scans succeed, and every layer rule in the
    domain of C05 over the scanned modules — layers resolved on the UNLIMITED scan graph — whose listed modules lie at
    most `k` levels below `module_path` (`layersAbove (k + |mp|)`) has the same verdict class on the limited and on the
    unlimited scan graph: the documented layer semantics on the full specification architecture of the tree -/
theorem scan_layer_verdict_preserved :
    ∃ g g0, generateGraph mt base root mp entries o = .ok g ∧
      generateGraph mt base root mp entries o.noLimit = .ok g0 ∧
      ∀ (mt' : Str → Str → Bool) (ls : Layers) (r : LRuleSpec) (larch : LArch),
        layerDomain' (Pta.E2E.scanArch root (toSEntries (isExcluded mt o.exclusions) base entries) mp is) ls r = true →
        (r.anything = true → r.verb = .shouldNot) →
        ruleLayersAbove (k + mp.length) ls r = true →
        resolves mt' g0.nodes larch ls = true →
        (assertAppliesLayer mt' (compileLayerRule larch r) g).cls =
          (assertAppliesLayer mt' (compileLayerRule larch r) g0).cls ∧
        (assertAppliesLayer mt' (compileLayerRule larch r) g).cls =
          VClass.ofBool (layerVerdict
            (Pta.E2E.scanArch root (toSEntries (isExcluded mt o.exclusions) base entries) mp is) ls r) := by
  obtain ⟨g, g0, hg, hg0, hawf, hG0, hq⟩ :=
    E2EMore.scan_limit_lemma mt base root mp entries o hwf hmp hroot hxx hext hst is his k hlim
  exact ⟨g, g0, hg, hg0, fun mt' ls r larch hdom hany habove hres =>
    layer_verdict_preserved_of_graphs mt' _ hawf (k + mp.length) g0 g hG0 (Pta.graphOf_truncArch _ _ g hq)
      ls r hdom hany habove larch hres⟩

/-- END-TO-END with a level limit, DIAGRAM rules (C04 ∘ C02 ∘ C09 ∘ C07): for every diagram in the domain of C07 over
    the scanned modules whose components lie at most `k` levels below `module_path`, the generated rules have the same
    outcome class on the limited and on the unlimited scan graph: pass iff the imports of the tree conform -/
theorem scan_diagram_verdict_preserved :
    ∃ g g0, generateGraph mt base root mp entries o = .ok g ∧
      generateGraph mt base root mp entries o.noLimit = .ok g0 ∧
      ∀ (mt' : Str → Str → Bool) (D : Diagram) (so : Bool),
        diagramDomain (Pta.E2E.scanArch root (toSEntries (isExcluded mt o.exclusions) base entries) mp is) D = true →
        diagramAbove (k + mp.length) D = true →
        (applyAll mt' g (diagramRules so (parsedOf D))).cls = (applyAll mt' g0 (diagramRules so (parsedOf D))).cls ∧
        (applyAll mt' g (diagramRules so (parsedOf D))).cls =
          VClass.ofBool (conforms
            (Pta.E2E.scanArch root (toSEntries (isExcluded mt o.exclusions) base entries) mp is) D so) := by
  obtain ⟨g, g0, hg, hg0, _, hG0, hq⟩ :=
    E2EMore.scan_limit_lemma mt base root mp entries o hwf hmp hroot hxx hext hst is his k hlim
  exact ⟨g, g0, hg, hg0, fun mt' D so hdom habove =>
    diagram_verdict_preserved_of_graphs mt' _ (k + mp.length) g0 g hG0 (Pta.graphOf_truncArch _ _ g hq) D so hdom habove⟩

end scan

/-- the bound, spelled out for names written `root.module_path.rest`: at most `k` levels below `module_path` -/
theorem limit_bound_name (k : Nat) (root : Comp) (mp rest : List Comp) :
    nameAbove (k + mp.length) (root :: mp ++ rest) = decide (rest.length ≤ k) := by
  simp only [nameAbove, List.length_cons, List.length_append, decide_eq_decide]
  omega

/-! ### non-vacuity of the scan theorems: the tree of `C09.ScanEx` (`module_path = r/app`, `level_limit = 1`) with the
    layers / rule of `E2E.limLs`, `E2E.limLR` and the diagram `[r.app.a] --> [r.app.b] --> [r.app.c]` -/
def scanDg : Diagram :=
  { components := [nm "r.app.a", nm "r.app.b", nm "r.app.c"],
    arrows := [(nm "r.app.a", nm "r.app.b"), (nm "r.app.b", nm "r.app.c")] }

open Pta.C09.ScanEx in
set_option maxRecDepth 100000 in
example :
    treeWFFor (isExcluded ScanEx.mt0 o1.exclusions) (S "/r") [S "app"] ents = true ∧ mpOK ents [S "app"] = true ∧
    compWF (S "r") = true ∧ o1.excludeExternal = true ∧ o1.levelLimit = some 1 ∧ o1.externalExclusions.isEmpty = true ∧
    (∀ e ∈ ents, ∀ st ∈ e.stmts, stmtOK (toSStmt st) = true) ∧
    scanImports (S "r") (toSEntries (isExcluded ScanEx.mt0 o1.exclusions) (S "/r") ents) [S "app"] = some Pta.E2E.limIs ∧
    layerDomain' (Pta.E2E.scanArch (S "r") (toSEntries (isExcluded ScanEx.mt0 o1.exclusions) (S "/r") ents) [S "app"]
      Pta.E2E.limIs) Pta.E2E.limLs Pta.E2E.limLR = true ∧
    layersAbove (1 + [S "app"].length) Pta.E2E.limLs = true ∧
    ruleLayersAbove (1 + [S "app"].length) Pta.E2E.limLs Pta.E2E.limLR = true ∧
    diagramDomain (Pta.E2E.scanArch (S "r") (toSEntries (isExcluded ScanEx.mt0 o1.exclusions) (S "/r") ents) [S "app"]
      Pta.E2E.limIs) scanDg = true ∧
    diagramAbove (1 + [S "app"].length) scanDg = true := by
  decide +kernel

open Pta.C09.ScanEx in
set_option maxRecDepth 100000 in
/-- all sides evaluated: limited scan, unlimited scan, documented semantics on the full specification architecture -/
example :
    (generateGraph ScanEx.mt0 (S "/r") (S "r") [S "app"] ents o1).toOption.map
        (fun g => ((assertAppliesLayer ScanEx.mt0 (compileLayerRule (compileLArch Pta.E2E.limLs) Pta.E2E.limLR) g).cls,
          (applyAll ScanEx.mt0 g (diagramRules true (parsedOf scanDg))).cls)) = some (.pass, .pass) ∧
    (generateGraph ScanEx.mt0 (S "/r") (S "r") [S "app"] ents o1.noLimit).toOption.map
        (fun g => ((assertAppliesLayer ScanEx.mt0 (compileLayerRule (compileLArch Pta.E2E.limLs) Pta.E2E.limLR) g).cls,
          (applyAll ScanEx.mt0 g (diagramRules true (parsedOf scanDg))).cls)) = some (.pass, .pass) ∧
    layerVerdict (Pta.E2E.scanArch (S "r") (toSEntries (isExcluded ScanEx.mt0 o1.exclusions) (S "/r") ents) [S "app"]
      Pta.E2E.limIs) Pta.E2E.limLs Pta.E2E.limLR = true ∧
    conforms (Pta.E2E.scanArch (S "r") (toSEntries (isExcluded ScanEx.mt0 o1.exclusions) (S "/r") ents) [S "app"]
      Pta.E2E.limIs) scanDg true = true := by
  decide +kernel

end Pta.C09
