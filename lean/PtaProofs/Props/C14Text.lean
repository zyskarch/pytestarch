/-
  PtaProofs.Props.C14Text — the message TEXT under renaming of path components (property C14 for the string the user sees).
  `C14.model_report_ren` renames the report ITEMS. The text is the sorted, de-duplicated rendering of the items
  (`assertAppliesText_eq_lemma`), and sorting does not commute with renaming: the lines come in another order, and inside a
  `does not import` line the objects come in another order.

  * `text_ren_items` — for every `GoodRen ρ`, well-formed architecture and rule with well-formed names: the outcome on the
    renamed inputs is the rendering of the renamed items (same class, same error kind).
  * `text_ren`       — if moreover no path component contains `"` before or after the renaming (`archNoQuote`, `ruleNoQuote`,
    `QuoteFree ρ`; Python module names never do): the lines of the renamed message are, as a multiset (`List.Perm`), the
    renamed lines of the original message, and literally the renamed lines re-sorted. `renLine ρ` (Bridge/RenameText.lean)
    renames a line through the item it shows: parse, rename the names, render again.
  * examples: an adversarial renaming for which the line ORDER changes, and one for which the object order inside a line changes.
  The `"` hypotheses are needed for `text_ren` (not for `text_ren_items`): with `"` in names two different lines can be renamed
  to the same string (`C03`, last example of part 3), and `sorted(set(...))` then drops one.
-/
import Bridge.RenameText
import PtaProofs.Lemmas.RenameText
import PtaProofs.Props.C14
namespace Pta.C14
open PtaSpec

/-- the outcome with the message text on the renamed inputs: the renamed report items, rendered — pass stays pass, an
    error stays the same error, a failure lists the lines of the renamed items (no hypothesis about `"`) -/
theorem text_ren_items (mt : Str → Str → Bool) (ρ : Comp → Comp) (hρ : GoodRen ρ) (a : Arch) (hwf : a.wf = true)
    (r : RuleSpec) (hr : ruleWF r = true) :
    (assertAppliesText mt (compile (renRule ρ r)) (archGraph (renArch ρ a))).2 =
      ((assertApplies mt (compile r) (archGraph a)).2.mapId (renDotted ρ)).toText ∧
    (assertAppliesText mt (compile r) (archGraph a)).2 = (assertApplies mt (compile r) (archGraph a)).2.toText := by
  constructor
  · rw [Pta.assertAppliesText_eq_lemma, model_report_ren mt ρ hρ a hwf r hr]
  · rw [Pta.assertAppliesText_eq_lemma]

/-- **the message text under renaming.** For every `GoodRen ρ` that introduces no `"`, every well-formed architecture and
    every rule with well-formed names, all path components free of `"`:
    pass stays pass; an error stays the same error; and if the original message has the lines `lines`, the message on the
    renamed inputs has lines `lines'` with
      * `lines'` is a permutation of `lines.map (renLine ρ)` — the same multiset of lines, each renamed through its item;
      * `lines' = sortStr (lines.map (renLine ρ))` — literally the renamed lines, sorted again. -/
theorem text_ren (mt : Str → Str → Bool) (ρ : Comp → Comp) (hρ : GoodRen ρ) (hq : QuoteFree ρ) (a : Arch)
    (hwf : a.wf = true) (ha : archNoQuote a = true) (r : RuleSpec) (hr : ruleWF r = true) (hrq : ruleNoQuote r = true) :
    ((assertAppliesText mt (compile r) (archGraph a)).2 = .pass →
      (assertAppliesText mt (compile (renRule ρ r)) (archGraph (renArch ρ a))).2 = .pass) ∧
    (∀ k, (assertAppliesText mt (compile r) (archGraph a)).2 = .err k →
      (assertAppliesText mt (compile (renRule ρ r)) (archGraph (renArch ρ a))).2 = .err k) ∧
    (∀ lines, (assertAppliesText mt (compile r) (archGraph a)).2 = .fail lines →
      ∃ lines', (assertAppliesText mt (compile (renRule ρ r)) (archGraph (renArch ρ a))).2 = .fail lines' ∧
        lines'.Perm (lines.map (renLine ρ)) ∧ lines' = sortStr (lines.map (renLine ρ))) := by
  obtain ⟨e', e⟩ := text_ren_items mt ρ hρ a hwf r hr
  have hnames := report_names_wf mt a hwf r hr
  have hnq := Pta.RT.report_noQuote mt a hwf r ha hrq
  rw [e', e]
  cases hv : (assertApplies mt (compile r) (archGraph a)).2 with
  | pass => exact ⟨fun _ => rfl, fun k h => (by cases h), fun l h => (by cases h)⟩
  | err k0 =>
    refine ⟨fun h => (by cases h), fun k h => ?_, fun l h => (by cases h)⟩
    simp only [Verdict.toText, TextVerdict.err.injEq] at h
    subst h; rfl
  | fail items =>
    refine ⟨fun h => (by cases h), fun k h => (by cases h), fun lines h => ?_⟩
    simp only [Verdict.toText, TextVerdict.fail.injEq] at h
    subst h
    rw [hv] at hnames hnq
    have e := Pta.RT.renderItems_ren ρ hρ hq items (fun x hx s hs => hnames s (List.mem_flatMap.2 ⟨x, hx, hs⟩))
      (fun x hx s hs => hnq s (List.mem_flatMap.2 ⟨x, hx, hs⟩))
      (Pta.assertApplies_fail_objs_ne_nil mt (archGraph a) (compile r) items hv)
    exact ⟨_, rfl, by rw [e]; exact Pta.sortBy_perm strLe _, e⟩

/-- what `renLine` does to the line of a report item: the line of the renamed item (objects sorted again) -/
theorem renLine_item (ρ : Comp → Comp) (x : Item) (h : x.canon.parsable = true) :
    renLine ρ (renderItem x) = renderItem (x.mapId (renDotted ρ)) :=
  Pta.RT.renLine_renderItem ρ x h

/-- the module names in a report are free of `"` when the path components of the architecture and of the rule are -/
theorem report_names_noQuote (mt : Str → Str → Bool) (a : Arch) (hwf : a.wf = true) (r : RuleSpec)
    (ha : archNoQuote a = true) (hrq : ruleNoQuote r = true) :
    ∀ s ∈ (assertApplies mt (compile r) (archGraph a)).2.names, noQuote s = true :=
  Pta.RT.report_noQuote mt a hwf r ha hrq

/-! ### non-vacuity: the adversarial renaming `advRen` (`x ↦ a`, `y ↦ ab`, everything else gets a `z` in front) -/

theorem tblRen_quoteFree (tbl : List (Comp × Comp)) (h : tbl.all (fun e => noQuote e.2) = true) : QuoteFree (tblRen tbl) := by
  intro c hq
  rcases tblRen_cases tbl c with ⟨e, he, -, h1⟩ | h1 <;> rw [h1]
  · exact List.all_eq_true.1 h e he
  · rw [Pta.noQuote_iff] at hq ⊢
    intro hm
    rcases List.mem_cons.1 hm with h' | h'
    · cases h'
    · exact hq h'

theorem advRen_quoteFree : QuoteFree advRen := advRen_eq ▸ tblRen_quoteFree _ (by decide +kernel)

def T (s : String) : Str := s.toList

/-- `[q, x.u] should not import [x, y]` on `exB` (imports `x.u → y`, `y → q`, `q → x`) -/
def exRT : RuleSpec :=
  { verb := .shouldNot, importDir := true, exc := false,
    subjects := [.named (nm "q"), .named (nm "x.u")], objects := [.named (nm "x"), .named (nm "y")] }

/-- all hypotheses of `text_ren` hold for `advRen`, `exB`, `exRT` -/
example : GoodRen advRen ∧ QuoteFree advRen ∧ exB.wf = true ∧ archNoQuote exB = true ∧ ruleWF exRT = true ∧
    ruleNoQuote exRT = true := ⟨advRen_good, advRen_quoteFree, by decide +kernel, by decide +kernel, by decide +kernel, by decide +kernel⟩

/-- **the line ORDER changes.** Original: the `q` line first (`q < x`). Renamed in place that would be the `zq` line
    first; the message on the renamed inputs has the `a.zu` line first (`a < zq`): a permutation, and equal after sorting. -/
theorem text_ren_order_changes :
    (assertAppliesText (fun _ _ => false) (compile exRT) (archGraph exB)).2 =
      .fail [T "\"q\" imports \"x\".", T "\"x.u\" imports \"y\"."] ∧
    [T "\"q\" imports \"x\".", T "\"x.u\" imports \"y\"."].map (renLine advRen) =
      [T "\"zq\" imports \"a\".", T "\"a.zu\" imports \"ab\"."] ∧
    (assertAppliesText (fun _ _ => false) (compile (renRule advRen exRT)) (archGraph (renArch advRen exB))).2 =
      .fail [T "\"a.zu\" imports \"ab\".", T "\"zq\" imports \"a\"."] ∧
    sortStr [T "\"zq\" imports \"a\".", T "\"a.zu\" imports \"ab\"."] =
      [T "\"a.zu\" imports \"ab\".", T "\"zq\" imports \"a\"."] := by decide +kernel

/-- an architecture without imports, and `y should import [q, x]` -/
def exC : Arch := { nodes := ["q", "x", "y"].map nm, imports := [] }
def exRT2 : RuleSpec :=
  { verb := .should, importDir := true, exc := false, subjects := [.named (nm "y")], objects := [.named (nm "q"), .named (nm "x")] }

example : exC.wf = true ∧ archNoQuote exC = true ∧ ruleWF exRT2 = true ∧ ruleNoQuote exRT2 = true := by decide +kernel

/-- **the object order inside a line changes**, so `renLine` is not a substitution of names in place: it goes through the
    item and sorts the objects of the renamed item again (`q, x ↦ zq, a`, listed as `a, zq`) -/
theorem text_ren_object_order_changes :
    (assertAppliesText (fun _ _ => false) (compile exRT2) (archGraph exC)).2 =
      .fail [T "\"y\" does not import \"q\", \"x\"."] ∧
    renLine advRen (T "\"y\" does not import \"q\", \"x\".") = T "\"ab\" does not import \"a\", \"zq\"." ∧
    (assertAppliesText (fun _ _ => false) (compile (renRule advRen exRT2)) (archGraph (renArch advRen exC))).2 =
      .fail [T "\"ab\" does not import \"a\", \"zq\"."] := by decide +kernel

/-- `text_ren` applied to the first instance -/
example : ∃ lines', (assertAppliesText (fun _ _ => false) (compile (renRule advRen exRT)) (archGraph (renArch advRen exB))).2 =
      .fail lines' ∧
    lines'.Perm ([T "\"q\" imports \"x\".", T "\"x.u\" imports \"y\"."].map (renLine advRen)) ∧
    lines' = sortStr ([T "\"q\" imports \"x\".", T "\"x.u\" imports \"y\"."].map (renLine advRen)) :=
  (text_ren (fun _ _ => false) advRen advRen_good advRen_quoteFree exB (by decide +kernel) (by decide +kernel) exRT (by decide +kernel)
    (by decide +kernel)).2.2 _ text_ren_order_changes.1

/-! ### the `"` hypotheses of `text_ren` cannot be dropped -/

/-- `u ↦ p`, `v ↦ q" imports "r`, `w ↦ p" imports "q`, `t ↦ r`: a good renaming that introduces `"` -/
def quoteRen : Comp → Comp :=
  tblRen [(T "u", T "p"), (T "v", T "q\" imports \"r"), (T "w", T "p\" imports \"q"), (T "t", T "r")]

theorem quoteRen_good : GoodRen quoteRen := tblRen_good _ (by decide +kernel)

def exQA : Arch := { nodes := ["u", "v", "w", "t"].map nm, imports := [(nm "u", nm "v"), (nm "w", nm "t")] }
def exQR : RuleSpec :=
  { verb := .shouldNot, importDir := true, exc := false,
    subjects := [.named (nm "u"), .named (nm "w")], objects := [.named (nm "v"), .named (nm "t")] }

/-- **without `QuoteFree ρ` the multiset statement is false**: all other hypotheses of `text_ren` hold, the original message
    has two lines, and the message on the renamed inputs has ONE — both items are rendered as the same string
    `"p" imports "q" imports "r".`, and `sorted(set(...))` keeps one copy. (`text_ren_items` still holds.) -/
theorem text_ren_needs_quoteFree :
    GoodRen quoteRen ∧ exQA.wf = true ∧ archNoQuote exQA = true ∧ ruleWF exQR = true ∧ ruleNoQuote exQR = true ∧
    (assertAppliesText (fun _ _ => false) (compile exQR) (archGraph exQA)).2 =
      .fail [T "\"u\" imports \"v\".", T "\"w\" imports \"t\"."] ∧
    (assertAppliesText (fun _ _ => false) (compile (renRule quoteRen exQR)) (archGraph (renArch quoteRen exQA))).2 =
      .fail [T "\"p\" imports \"q\" imports \"r\"."] ∧
    ¬ [T "\"p\" imports \"q\" imports \"r\"."].Perm
        ([T "\"u\" imports \"v\".", T "\"w\" imports \"t\"."].map (renLine quoteRen)) := by
  refine ⟨quoteRen_good, by decide +kernel, by decide +kernel, by decide +kernel, by decide +kernel, by decide +kernel, by decide +kernel, fun h => ?_⟩
  have := h.length_eq
  simp at this

end Pta.C14
