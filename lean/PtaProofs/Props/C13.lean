/-
  PtaProofs.Props.C13 — undefined or incomplete specifications never produce a verdict (property C13).
  Histories of fluent calls are classified by the independent specification automata of
  PtaSpec/BuilderSpec.lean; the theorems quantify over ALL call sequences (any length), all graphs,
  all regex interpretations.
-/
import Bridge.Abs
import PtaProofs.Lemmas.LayerRuleSim
import PtaProofs.Lemmas.C13More
import PtaProofs.Lemmas.AnythingDedup
import Bridge.BuilderCalls
import PtaProofs.Lemmas.DiagramHist
import PtaProofs.Props.C07
namespace Pta.C13
open PtaSpec

/-- a Rule history the specification classifies as incomplete, contradictory or as an error at some call
    never yields a verdict -/
theorem rule_history_raises (glob : Str → Str) (mt : Str → Str → Bool) (ops : List RuleOp) (g : PGraph Str) :
    (classifyRule (ops.map toRCall)).mustRaise = true → ∃ k, (runRuleOps glob mt ops g).1 = .err k := by
  intro hm
  rcases Hist.run_sim glob mt ops g with ⟨j, _, h2⟩ | ⟨s', t', h1, hc, h3⟩
  · rw [h2]; exact ⟨_, rfl⟩
  · rw [h3]
    obtain ⟨k, hk⟩ := Hist.front_preFail mt g s'.cfg ((Hist.rsim_preFail h1).trans (hc ▸ hm))
    exact ⟨k, (assertApplies_err_iff_front mt g s' k).2 hk⟩

/-- … and when the offending call is a naming call before any subject/object position, the configuration
    error is raised at exactly that call -/
theorem rule_history_error_at (glob : Str → Str) (mt : Str → Str → Bool) (ops : List RuleOp) (g : PGraph Str) (i : Nat) :
    classifyRule (ops.map toRCall) = .errorAtCall i → runRuleOps glob mt ops g = (.err .improperlyConfigured, i) := by
  intro hm
  rcases Hist.run_sim glob mt ops g with ⟨j, h1, h2⟩ | ⟨_, t', _, hc, _⟩
  · rw [h2]; cases h1.symm.trans hm; rfl
  · exact absurd (hc.symm.trans hm) (Hist.classify_ne_errorAt t' i)

/-- conversely a complete history is never rejected as a configuration problem -/
theorem rule_history_complete (glob : Str → Str) (mt : Str → Str → Bool) (ops : List RuleOp) (g : PGraph Str) :
    classifyRule (ops.map toRCall) = .complete →
    (runRuleOps glob mt ops g).1 ≠ .err .improperlyConfigured ∧ (runRuleOps glob mt ops g).1 ≠ .err .ruleInconsistency := by
  intro hm
  rcases Hist.run_sim glob mt ops g with ⟨j, h1, _⟩ | ⟨s', t', h1, hc, h3⟩
  · cases h1.symm.trans hm
  · rw [h3]
    have h := (Hist.rsim_preFail h1).trans (congrArg RClass.mustRaise (hc.symm.trans hm))
    constructor <;> intro hk <;>
      rcases Hist.front_not_preFail mt g s'.cfg h _ ((assertApplies_err_iff_front mt g s' _).1 hk) with hk | hk <;> cases hk

/-- a rule that mentions (by name or as a parent) a module absent from the graph raises a lookup error -/
theorem unknown_name (mt : Str → Str → Bool) (g : PGraph Str) (b : Behavior) (dir : Bool) (subs objs : List Filter)
    (hverb : b.should = true ∨ b.shouldOnly = true ∨ b.shouldNot = true)
    (hs : subs ≠ []) (ho : objs ≠ [])
    (hnoregex : ∀ f ∈ subs ++ objs, f.isRegex = false)
    (hmissing : ∃ f ∈ subs ++ objs, g.hasNode f.id = false) :
    matchRule mt g b dir subs objs = .err .lookupError :=
  (matchRule_err_iff_queries mt g b dir subs objs _).2 (C13M.queries_lookup mt g b dir subs objs hverb hs ho
    (fun f hf hr => by rw [hnoregex f hf] at hr; cases hr) (let ⟨f, hf, hm⟩ := hmissing; ⟨f, hf, hnoregex f hf, hm⟩))

/-- a regex that matches no module raises the no-match error (never a verdict), whatever else the rule says -/
theorem no_match (mt : Str → Str → Bool) (g : PGraph Str) (b : Behavior) (dir : Bool) (subs objs : List Filter)
    (h : ∃ f ∈ subs, f.isRegex = true ∧ ∀ m ∈ g.nodes, mt f.id m = false) :
    matchRule mt g b dir subs objs = .err .impossibleMatch :=
  Pta.no_match_either_lemma mt g b dir subs objs (let ⟨f, hf, hf'⟩ := h; ⟨f, List.mem_append_left _ hf, hf'⟩)

/-- … also in OBJECT position, and whatever the subjects are: `ModuleNameConverter.convert` is applied to the subjects and
    then to the objects before any query is asked, and it can fail with the no-match error only (`convert_raises_only_no_match`) -/
theorem no_match_object (mt : Str → Str → Bool) (g : PGraph Str) (b : Behavior) (dir : Bool) (subs objs : List Filter)
    (h : ∃ f ∈ objs, f.isRegex = true ∧ ∀ m ∈ g.nodes, mt f.id m = false) :
    matchRule mt g b dir subs objs = .err .impossibleMatch :=
  Pta.no_match_either_lemma mt g b dir subs objs (let ⟨f, hf, hf'⟩ := h; ⟨f, List.mem_append_right _ hf, hf'⟩)

/-- the regex conversion raises nothing but the no-match error -/
theorem convert_raises_only_no_match (mt : Str → Str → Bool) (mods : List Str) (fs : List Filter) (k : ErrKind)
    (h : convertFilters mt mods fs = .error k) : k = .impossibleMatch :=
  Pta.convertFilters_error_kind mt mods fs k h

/-- which error wins: a regex without a match anywhere in the rule (subject or object position) raises the no-match error
    even when the rule ALSO mentions a module name absent from the graph (the hypotheses of `unknown_name` may hold at the
    same time) — the names are looked up by the queries only, after both conversions -/
theorem no_match_wins_over_unknown_name (mt : Str → Str → Bool) (g : PGraph Str) (b : Behavior) (dir : Bool)
    (subs objs : List Filter)
    (h : ∃ f ∈ subs ++ objs, f.isRegex = true ∧ ∀ m ∈ g.nodes, mt f.id m = false) :
    matchRule mt g b dir subs objs = .err .impossibleMatch :=
  Pta.no_match_either_lemma mt g b dir subs objs h

/-! non-vacuity: the subject `zz` is absent from the graph AND the object regex matches nothing — `ImpossibleMatch`;
    with a matching regex the same rule raises the lookup error -/
example : ∃ f ∈ ([.regex "x.*".toList] : List Filter), f.isRegex = true ∧
    ∀ m ∈ (buildGraph ["p".toList, "q".toList] [] none).nodes, (fun _ _ => false) f.id m = false := by decide
example : matchRule (fun _ _ => false) (buildGraph ["p".toList, "q".toList] [] none) ⟨true, false, false, false⟩ true
    [.name "zz".toList] [.regex "x.*".toList] = .err .impossibleMatch := by decide
example : matchRule (fun _ _ => true) (buildGraph ["p".toList, "q".toList] [] none) ⟨true, false, false, false⟩ true
    [.name "zz".toList] [.regex "x.*".toList] = .err .lookupError := by decide +kernel

/-- finding F-C13b, repaired (`Rule._assert_modules_removed_by_alias_conversion_exist`): for `anything` rules the
    parent/sub-module de-duplication runs on names before any lookup, so before the repair an absent name that is a dotted extension
    of another subject was dropped silently and the rule returned a verdict (`.pass` here) although it mentions the absent
    module `p.a.zz`. The repaired library rejects the rule with a lookup error, raised by `assert_applies` (call index 4). -/
theorem unknown_name_anything_rejected :
    runRuleOps noGlob (fun _ _ => false)
      [.modulesThat, .areNamed ["p.a".toList, "p.a.zz".toList], .shouldNot, .importAnything]
      (buildGraph ["p".toList, "p.a".toList, "q".toList] [] none) = (.err .lookupError, 4) := by decide +kernel

/-- an `anything` rule (`should_not().import_anything()` / `be_imported_by_anything()`) that mentions (by name or as a
    parent) a module absent from the graph raises a lookup error — whether `_convert_aliases` drops that subject (the
    existence check on removed subjects) or keeps it (the lookup of the queries). Every graph, every regex interpretation. -/
theorem anything_unknown_name (mt : Str → Str → Bool) (g : PGraph Str) (dir : Bool) (S : List Filter)
    (hnoregex : ∀ f ∈ S, f.isRegex = false)
    (hmissing : ∃ f ∈ S, g.hasNode f.id = false) :
    (assertApplies mt { cfg := { subjects := some S, shouldNot := true, importDir := some dir, anything := true },
                        next := some false } g).2 = .err .lookupError :=
  Pta.anything_unknown_name_lemma mt g dir S hnoregex hmissing

/-- the same for the fluent call chains `modules_that().are_named(ns) / are_sub_modules_of(ns) .should_not()
    .import_anything() / .be_imported_by_anything()`: the lookup error is raised by `assert_applies` -/
theorem anything_unknown_name_history (glob : Str → Str) (mt : Str → Str → Bool) (g : PGraph Str) (ns : List Str)
    (sub : Bool) (dir : Bool) (hmissing : ∃ n ∈ ns, g.hasNode n = false) :
    runRuleOps glob mt
      [.modulesThat, if sub then .areSubModulesOf ns else .areNamed ns, .shouldNot,
       if dir then .importAnything else .beImportedByAnything] g = (.err .lookupError, 4) := by
  obtain ⟨n, hn, hm⟩ := hmissing
  cases sub <;> cases dir <;>
    simp only [runRuleOps, runRuleOps.go, RuleState.step, RuleState.setModules, Bool.false_eq_true, if_false, if_true]
  · rw [anything_unknown_name mt g false (ns.map .name) (by simp [Filter.isRegex]) ⟨.name n, List.mem_map_of_mem hn, hm⟩]
  · rw [anything_unknown_name mt g true (ns.map .name) (by simp [Filter.isRegex]) ⟨.name n, List.mem_map_of_mem hn, hm⟩]
  · rw [anything_unknown_name mt g false (ns.map .parent) (by simp [Filter.isRegex]) ⟨.parent n, List.mem_map_of_mem hn, hm⟩]
  · rw [anything_unknown_name mt g true (ns.map .parent) (by simp [Filter.isRegex]) ⟨.parent n, List.mem_map_of_mem hn, hm⟩]

/-- layer rules get the same check (`LayerRule.assert_applies` delegates to `Rule.assert_applies`): an `access_any_layer` /
    `be_accessed_by_any_layer` rule one of whose subject filters names a module that does not exist raises the lookup error -/
theorem layer_anything_unknown_name (mt : Str → Str → Bool) (g : PGraph Str) (a : LArch) (dir : Bool) (S : List Filter)
    (hnoregex : ∀ f ∈ S, f.isRegex = false)
    (hmissing : ∃ f ∈ S, g.hasNode f.id = false) :
    assertAppliesLayer mt ⟨some a, some { cfg := { subjects := some S, shouldNot := true, importDir := some dir,
                                                    anything := true }, next := some false }⟩ g = .err .lookupError :=
  Pta.assertAppliesLayer_err_of_front mt g a
    ((Pta.assertApplies_err_iff_front mt g _ _).1 (Pta.anything_unknown_name_lemma mt g dir S hnoregex hmissing))

/-- a layer whose modules are `p.a` and the absent `p.a.zz`, through the LayerRule call chain -/
example :
    let a : LArch := [("L".toList, [.name "p.a".toList, .name "p.a.zz".toList]), ("M".toList, [.name "q".toList])]
    runLayerRuleOps (fun _ _ => false)
      [.basedOn a, .layersThat, .areNamed ["L".toList] false, .shouldNot, .accessAny]
      (buildGraph ["p".toList, "p.a".toList, "q".toList] [] none) = (.err .lookupError, 5) := by decide +kernel

/-! non-vacuity of `anything_unknown_name`: a dropped absent subject (`p.a.zz`, existence check) and a retained one (`zz`) -/
example : ∀ f ∈ ([.name "p.a".toList, .name "p.a.zz".toList] : List Filter), f.isRegex = false := by decide
example : ∃ f ∈ ([.name "p.a".toList, .name "p.a.zz".toList] : List Filter),
    (buildGraph ["p".toList, "p.a".toList, "q".toList] [] none).hasNode f.id = false := by decide +kernel
example : dedupSubjects [.name "p.a".toList, .name "p.a.zz".toList] = [.name "p.a".toList] := by decide +kernel
example : droppedAbsent (buildGraph ["p".toList, "p.a".toList, "q".toList] [] none)
    (convertAliases { subjects := some [.name "p.a".toList, .name "p.a.zz".toList], shouldNot := true,
                      importDir := some true, anything := true }) = true := by
  decide +kernel
example : droppedAbsent (buildGraph ["p".toList, "p.a".toList, "q".toList] [] none)
    (convertAliases { subjects := some [.name "p.a".toList, .name "zz".toList], shouldNot := true,
                      importDir := some true, anything := true }) = false := by
  decide +kernel
example : ∃ f ∈ ([.name "p.a".toList, .name "zz".toList] : List Filter),
    (buildGraph ["p".toList, "p.a".toList, "q".toList] [] none).hasNode f.id = false := by decide +kernel
/-- when all subjects exist the rule yields a verdict (the existence check does not over-reject) -/
example : (runRuleOps noGlob (fun _ _ => false)
      [.modulesThat, .areNamed ["p".toList, "p.a".toList], .shouldNot, .importAnything]
      (buildGraph ["p".toList, "p.a".toList, "q".toList] [] none)).1 = .pass := by decide +kernel

/-- LayerRule histories: a history rejected by the specification automaton raises a configuration error at
    exactly that call; an undefined layer raises a lookup error at the call that names it; a history the
    inner rule automaton classifies as must-raise never yields a verdict -/
theorem layer_rule_history (mt : Str → Str → Bool) (a : LArch) (ops : List LayerRuleOp) (g : PGraph Str)
    (hbased : ∀ op ∈ ops, ∀ a', op = LayerRuleOp.basedOn a' → a' = a) :
    match classifyLayerRule (ops.map (toLRCall a)) with
    | .rejectedAt i => runLayerRuleOps mt ops g = (.err .improperlyConfigured, i)
    | .lookupAt i => runLayerRuleOps mt ops g = (.err .lookupError, i)
    | .notStarted => (runLayerRuleOps mt ops g).1 = .err .improperlyConfigured
    | .final c => c.mustRaise = true → ∃ k, (runLayerRuleOps mt ops g).1 = .err k :=
  Pta.Hist.layer_rule_aux mt a ops g hbased

/-- entry point: every invalid option combination is rejected -/
theorem options (o : EntryOptions) :
    ((o.regexExclusions && o.exclusions) || (o.regexExternalExclusions && o.externalExclusions) ||
     (o.excludeExternal && (o.externalExclusions || o.regexExternalExclusions)) || !o.modulePathInsideRoot) = true ↔
    (entryOptionsError o).isSome = true := by
  cases o with
  | mk a b c d e f => cases a <;> cases b <;> cases c <;> cases d <;> cases e <;> cases f <;> decide

/-- DiagramRule without a file, or whose file has no start/end tags, raises -/
theorem diagram_without_file (mt : Str → Str → Bool) (base : Option Str) (only : Bool) (g : PGraph Str) :
    ∃ k, diagramAssert mt none base only g = .err k := ⟨_, rfl⟩

theorem diagram_without_tags (mt : Str → Str → Bool) (content : Str) (base : Option Str) (only : Bool) (g : PGraph Str)
    (h : pumlBody (pyStrip content) = .error .pumlParsingError) :
    ∃ k, diagramAssert mt (some content) base only g = .err k := by
  refine ⟨.pumlParsingError, ?_⟩
  simp [diagramAssert, pumlParse, h, bind, Except.bind]

/-! non-vacuity -/
example : (classifyRule ([RuleOp.modulesThat, .areNamed ["a".toList], .should, .importAnything].map toRCall)).mustRaise = true := by decide
example : classifyRule ([RuleOp.areNamed ["a".toList]].map toRCall) = .errorAtCall 0 := by decide
example : classifyRule ([RuleOp.modulesThat, .areNamed ["a".toList], .shouldNot, .importThat, .areNamed ["b".toList]].map toRCall) = .complete := by decide

/-! ### DiagramRule builder histories (`DiagramRuleOp`, `runDiagramOps`; PtaModel/Puml.lean)

  `DiagramRule(should_only_rule)` followed by ANY sequence of `from_file` / `with_base_module` /
  `base_module_included_in_module_names` calls and `assert_applies`. The specification classifier `classifyDiagram`
  (PtaSpec/BuilderSpec.lean) only says whether a file was ever supplied and which file / base module were supplied last. -/

/-- the same through the classifier, and the classifier says "incomplete" exactly for the histories without `from_file` -/
theorem diagram_history_incomplete (only : Bool) (ops : List DiagramRuleOp) (mt : Str → Str → Bool) (g : PGraph Str)
    (h : classifyDiagram (ops.map toDCall) = .incomplete) : runDiagramOps only ops mt g = .err .improperlyConfigured := by
  rw [Hist.runDiagramOps_eq, (Hist.classify_incomplete_iff_lastFile _).1 h]
  rfl

theorem diagram_incomplete_iff (ops : List DiagramRuleOp) :
    classifyDiagram (ops.map toDCall) = .incomplete ↔ ∀ c, DiagramRuleOp.fromFile c ∉ ops := by
  rw [Hist.classify_incomplete_iff_lastFile, Hist.lastFile_none_iff]
  exact ⟨fun h c hc => (nomatch h _ (List.mem_map_of_mem hc)), Hist.file?_none⟩

/-- a history that never supplies a file raises the configuration error — never a verdict — for every graph, every
    regex interpretation, both modes -/
theorem diagram_history_raises (only : Bool) (ops : List DiagramRuleOp) (mt : Str → Str → Bool) (g : PGraph Str)
    (h : ∀ c, DiagramRuleOp.fromFile c ∉ ops) : runDiagramOps only ops mt g = .err .improperlyConfigured :=
  diagram_history_incomplete only ops mt g ((diagram_incomplete_iff ops).mpr h)

/-- a history that supplies a file is the one-shot check `diagramAssert` on the file supplied LAST with the base module
    supplied LAST (none if there was no `with_base_module` call; `base_module_included_in_module_names` does not undo
    one) — so `diagram_without_tags`, `Pta.C07.diagram_file_conforms_iff`, `diagram_file_base_conforms_iff`, … apply -/
theorem diagram_history_complete (only : Bool) (ops : List DiagramRuleOp) (mt : Str → Str → Bool) (g : PGraph Str)
    (f : Str) (b : Option Str) (h : classifyDiagram (ops.map toDCall) = .complete f b) :
    runDiagramOps only ops mt g = diagramAssert mt (some f) b only g := by
  obtain ⟨hf, hb⟩ := (Hist.classify_complete_iff _ f b).1 h
  rw [Hist.runDiagramOps_eq, hf, hb]

/-- "supplied last", spelled out: the file of the last `from_file` call … -/
theorem diagram_last_file (pre post : List DiagramRuleOp) (f : Str) (h : ∀ c, DiagramRuleOp.fromFile c ∉ post) :
    ∃ b, classifyDiagram ((pre ++ .fromFile f :: post).map toDCall) = .complete f b := by
  refine ⟨_, (Hist.classify_complete_iff _ f _).2 ⟨?_, rfl⟩⟩
  rw [List.map_append, List.map_cons]
  exact Hist.lastFile_split _ _ f (Hist.file?_none h)

/-- … and the prefix of the last `with_base_module` call, whatever comes after it (a
    `base_module_included_in_module_names` call included), or none when there is no such call -/
theorem diagram_last_base (ops : List DiagramRuleOp) (f : Str) (b : Option Str)
    (h : classifyDiagram (ops.map toDCall) = .complete f b) :
    (∀ pre post p, ops = pre ++ .withBaseModule p :: post → (∀ q, DiagramRuleOp.withBaseModule q ∉ post) → b = some p) ∧
    ((∀ p, DiagramRuleOp.withBaseModule p ∉ ops) → b = none) := by
  obtain ⟨-, rfl⟩ := (Hist.classify_complete_iff _ f b).1 h
  constructor
  · intro pre post p hops hpost
    rw [hops, List.map_append, List.map_cons]
    exact Hist.lastBase_split _ _ p (Hist.base?_none hpost)
  · exact fun hno => (Hist.lastBase_none_iff _).2 (Hist.base?_none hno)

/-- a complete history whose last file has no start/end tags raises the parsing error -/
theorem diagram_history_no_tags (only : Bool) (ops : List DiagramRuleOp) (mt : Str → Str → Bool) (g : PGraph Str)
    (f : Str) (b : Option Str) (h : classifyDiagram (ops.map toDCall) = .complete f b)
    (htags : pumlBody (pyStrip f) = .error .pumlParsingError) :
    runDiagramOps only ops mt g = .err .pumlParsingError := by
  rw [diagram_history_complete only ops mt g f b h]
  simp [diagramAssert, pumlParse, htags, bind, Except.bind]

/-- transfer of C06 ∘ C07 to histories: the last file is a diagram of the documented subset and no base module was
    ever supplied — the run passes exactly when the imports conform to the drawing, and it never raises -/
theorem diagram_history_conforms_iff (only : Bool) (ops : List DiagramRuleOp) (mt : Str → Str → Bool) (a : Arch)
    (noise1 noise2 : Str) (d : List DLine) (hwf : diagramWF d = true) (hn : isInfix "@enduml".toList noise2 = false)
    (h : classifyDiagram (ops.map toDCall) = .complete (diagramText noise1 d noise2) none)
    (hdom : diagramDomain a (specDiagram d) = true) :
    (runDiagramOps only ops mt (archGraph a) = .pass ↔ conforms a (specDiagram d) only = true) ∧
    (∀ k, runDiagramOps only ops mt (archGraph a) ≠ .err k) := by
  rw [diagram_history_complete only ops mt (archGraph a) _ none h]
  exact ⟨Pta.C07.diagram_file_conforms_iff mt a noise1 noise2 d hwf hn only hdom,
         Pta.C07.diagram_file_never_errs mt a noise1 noise2 d hwf hn only hdom⟩

/-- … and with a base module `q` supplied last: the file is checked as if every component were written `q.name` -/
theorem diagram_history_base_conforms_iff (only : Bool) (ops : List DiagramRuleOp) (mt : Str → Str → Bool) (a : Arch)
    (noise1 noise2 : Str) (d : List DLine) (hwf : diagramWF d = true) (hn : isInfix "@enduml".toList noise2 = false)
    (q : Name) (hq : q ≠ [])
    (h : classifyDiagram (ops.map toDCall) = .complete (diagramText noise1 d noise2) (some (render q)))
    (hdom : diagramDomain a (prefixDiagram q (specDiagram d)) = true) :
    (runDiagramOps only ops mt (archGraph a) = .pass ↔ conforms a (prefixDiagram q (specDiagram d)) only = true) ∧
    (∀ k, runDiagramOps only ops mt (archGraph a) ≠ .err k) := by
  rw [diagram_history_complete only ops mt (archGraph a) _ _ h]
  exact Pta.C07.diagram_file_base_conforms_iff mt a noise1 noise2 d hwf hn q hq only hdom

/-! non-vacuity -/
section diagramExamples
open Pta.C07

/-- histories without a file -/
example : ∀ c, DiagramRuleOp.fromFile c ∉ [DiagramRuleOp.withBaseModule "app".toList, .baseModuleIncluded] := by
  intro c h; simp at h
example : classifyDiagram ([DiagramRuleOp.withBaseModule "app".toList, .baseModuleIncluded].map toDCall) = .incomplete := by decide
example : (runDiagramOps true [.withBaseModule "app".toList, .baseModuleIncluded] mt0 (archGraph exGood)).cls = .err .improperlyConfigured := by
  decide +kernel
/-- two files, two prefixes, the no-op call last: the LAST file and the LAST prefix count, the no-op clears nothing -/
example : classifyDiagram ([DiagramRuleOp.fromFile "junk".toList, .withBaseModule "x".toList, .fromFile exShortContent,
      .withBaseModule "app".toList, .baseModuleIncluded].map toDCall) = .complete exShortContent (some "app".toList) := by
  decide +kernel
example : (runDiagramOps true [.fromFile "junk".toList, .withBaseModule "x".toList, .fromFile exShortContent,
      .withBaseModule "app".toList, .baseModuleIncluded] mt0 (archGraph exGood)).cls = .pass ∧
    (runDiagramOps true [.fromFile "junk".toList, .withBaseModule "x".toList, .fromFile exShortContent,
      .withBaseModule "app".toList, .baseModuleIncluded] mt0 (archGraph exBad)).cls = .fail := by
  decide +kernel
/-- a complete history whose last file has no tags (hypotheses of `diagram_history_no_tags`) -/
example : classifyDiagram ([DiagramRuleOp.fromFile exShortContent, .fromFile "[a] --> [b]".toList].map toDCall)
    = .complete "[a] --> [b]".toList none := by decide +kernel
/-- core has no `DecidableEq (Except ε α)` -/
local instance instDecEqExcept {ε α : Type} [DecidableEq ε] [DecidableEq α] : DecidableEq (Except ε α)
  | .ok a, .ok b => if h : a = b then isTrue (by rw [h]) else isFalse (by intro e; cases e; exact h rfl)
  | .error a, .error b => if h : a = b then isTrue (by rw [h]) else isFalse (by intro e; cases e; exact h rfl)
  | .ok _, .error _ => isFalse (by intro e; cases e)
  | .error _, .ok _ => isFalse (by intro e; cases e)
example : pumlBody (pyStrip "[a] --> [b]".toList) = .error .pumlParsingError := by decide +kernel
example : (runDiagramOps false [.fromFile exShortContent, .fromFile "[a] --> [b]".toList] mt0 (archGraph exGood)).cls
    = .err .pumlParsingError := by decide +kernel

end diagramExamples

end Pta.C13
