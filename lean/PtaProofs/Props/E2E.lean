/-
  PtaProofs.Props.E2E — END-TO-END theorem for module rules on SCANNED architectures: C04 (walk / graph), C02 (import
  edges) and C01 (verdict = documented semantics) composed.

  For a directory tree `entries` (well-formed as far as the scan from `module_path` can see it), the default options
  (external modules excluded, no level limit, no external exclusions; ANY exclusion patterns) and parser-producible
  import statements: if the specification's `scanImports` has an answer `is`, then the model of
  `get_evaluable_architecture(root, module_path)` succeeds with a graph `g`, and for EVERY strict rule `r` whose names
  are scanned modules the verdict of the model of `Rule(...).assert_applies(g)` is the documented semantics
  (`PtaSpec.verdict`) evaluated on the SPECIFICATION architecture of the tree,

      scanArch = ⟨ scanModules root sentries mp ,  is ⟩ ,

  i.e. on the modules of the directory tree (PtaSpec/ScanSem.lean, property C04) and the imports the import
  statements account for (property C02); the failure report has exactly the atoms of `PtaSpec.violating` there.
  If `scanImports` has no answer (a relative import reaching above the root) the scan raises and no rule is evaluated.

  `Arch.wf scanArch` — the standing hypothesis of C01 — is a CONSEQUENCE here (`scan_arch_wf`), including its clause
  "an importer is not a strict ancestor of its importee": importers are `.py` files, and on a `treeWFFor` tree a
  file's module has no descendants. Without `treeWFFor` (a file `x.py` next to a directory `x`) that clause fails
  and so does the end-to-end statement (`collision_needs_treeWF`).

  The second half of the file composes the same scan graph with C05 (layer rules), C07 and C06 ∘ C07 (diagram rules),
  C17 (plot labels) and C09 (with `level_limit = k` the scan graph is the quotient of `scanArch` under truncation to `k`
  levels below `module_path`, and strict rules at or above the limit have the verdict of the unlimited scan).
-/
import Bridge.Abs
import Bridge.ScanAbs
import Bridge.ScanTree
import PtaProofs.Lemmas.Semantics
import PtaProofs.Lemmas.E2ERule
import PtaProofs.Lemmas.E2EMore
import PtaProofs.Props.C05
import PtaProofs.Props.C07
import PtaProofs.Props.C09
import PtaProofs.Props.C17
namespace Pta.E2E
open PtaSpec

/-- the specification architecture of a scan: modules of the directory tree, imports of the import statements -/
abbrev scanArch (root : Comp) (sentries : List SEntry) (mp : List Comp) (is : List (Name × Name)) : Arch :=
  ⟨scanModules root sentries mp, is⟩

/-! ### the rule semantics do not depend on the representation of the architecture -/

/-- `verdict` depends on the imports only as a set (order, duplicates irrelevant) and not on the node list -/
theorem verdict_congr_imports (a b : Arch) (h : ∀ e, e ∈ a.imports ↔ e ∈ b.imports) (r : RuleSpec) :
    verdict a r = verdict b r := by
  unfold verdict
  simp only [edges_isEmpty_congr a b h, others_isEmpty_congr a b h]

/-- `violating` likewise (same items, hence same report atoms) -/
theorem violating_congr_imports (a b : Arch) (h : ∀ e, e ∈ a.imports ↔ e ∈ b.imports) (r : RuleSpec) :
    (∀ y, y ∈ violating a r ↔ y ∈ violating b r) ∧
    ∀ x, x ∈ (violating a r).flatMap SItem.atoms ↔ x ∈ (violating b r).flatMap SItem.atoms := by
  have hy : ∀ y, y ∈ violating a r ↔ y ∈ violating b r := by
    intro y
    unfold violating
    -- each part is guarded by the same condition on both sides and lists the same edges
    simp only [edges_isEmpty_congr a b h, others_isEmpty_congr a b h, List.mem_append,
      List.mem_ite_nil_right, List.mem_flatMap, List.mem_map, mem_edges_congr a b h,
      mem_others_congr a b h]
  exact ⟨hy, fun x => by simp only [List.mem_flatMap, hy]⟩

section tree
variable (mt : Str → Str → Bool) (base root : Str) (mp : List Str) (entries : List Entry) (o : ScanOptions)
  (hwf : treeWFFor (isExcluded mt o.exclusions) base mp entries = true) (hmp : mpOK entries mp = true)
  (hroot : compWF root = true)
  (hxx : o.excludeExternal = true) (hlim : o.levelLimit = none) (hext : o.externalExclusions.isEmpty = true)
  (hst : ∀ e ∈ entries, ∀ st ∈ e.stmts, stmtOK (toSStmt st) = true)
  (is : List (Name × Name))
  (his : scanImports root (toSEntries (isExcluded mt o.exclusions) base entries) mp = some is)
include hwf hmp hroot hxx hlim hext hst his

/-- C04 ∘ C02: the scan succeeds and its graph is a graph of the (well-formed) specification architecture -/
theorem scan_graph_of_scanArch :
    ∃ g, generateGraph mt base root mp entries o = .ok g ∧
      (scanArch root (toSEntries (isExcluded mt o.exclusions) base entries) mp is).wf = true ∧
      GraphOf (scanArch root (toSEntries (isExcluded mt o.exclusions) base entries) mp is) g :=
  E2ERule.scan_spec_arch_lemma mt base root mp entries o hwf hmp hroot hxx hext hst is his hlim

/-- the standing hypothesis of C01 is discharged for scanned trees: modules duplicate-free, well-formed, closed under
    ancestors; every import joins two distinct scanned modules and never goes from a module to its own descendant -/
theorem scan_arch_wf :
    (scanArch root (toSEntries (isExcluded mt o.exclusions) base entries) mp is).wf = true := by
  obtain ⟨_, -, h, -⟩ := scan_graph_of_scanArch mt base root mp entries o hwf hmp hroot hxx hlim hext hst is his
  exact h

/-- END-TO-END, verdict: `Rule(...).assert_applies(get_evaluable_architecture(root, module_path))` passes exactly
    when the documented semantics hold on the modules of the directory tree and the imports its import statements
    account for, and raises AssertionError exactly when they do not — for every strict rule (all 12 shapes and the
    `anything` aliases, any number of subjects / objects, both filter kinds) whose names are scanned modules, and every
    regex matcher `mt'` (irrelevant for such rules). -/
theorem scan_rule_verdict :
    ∃ g, generateGraph mt base root mp entries o = .ok g ∧
      ∀ (mt' : Str → Str → Bool) (r : RuleSpec), r.strict = true →
        r.namesIn (scanArch root (toSEntries (isExcluded mt o.exclusions) base entries) mp is) = true →
        r.subjects ≠ [] → (r.anything = true ∨ r.objects ≠ []) → (r.anything = true → r.verb = .shouldNot) →
        verdictOf mt' g (compile r) =
          VClass.ofBool (verdict (scanArch root (toSEntries (isExcluded mt o.exclusions) base entries) mp is) r) := by
  obtain ⟨g, hgen, hawf, hg⟩ :=
    scan_graph_of_scanArch mt base root mp entries o hwf hmp hroot hxx hlim hext hst is his
  exact ⟨g, hgen, fun mt' r hstrict hnames hs ho hany =>
    Pta.verdict_spec_of_graph_lemma mt' _ g hg hawf r hstrict hnames hs ho hany⟩

/-- END-TO-END, report: when the rule fails, the atoms of the reported violations are exactly the atoms of the
    specification's violating set on the specification architecture of the tree -/
theorem scan_rule_report :
    ∃ g, generateGraph mt base root mp entries o = .ok g ∧
      ∀ (mt' : Str → Str → Bool) (r : RuleSpec), r.strict = true →
        r.namesIn (scanArch root (toSEntries (isExcluded mt o.exclusions) base entries) mp is) = true →
        r.subjects ≠ [] → (r.anything = true ∨ r.objects ≠ []) → (r.anything = true → r.verb = .shouldNot) →
        ∀ items, (assertApplies mt' (compile r) g).2 = .fail items →
          ∀ x, x ∈ items.flatMap Item.atoms ↔
            x ∈ (violating (scanArch root (toSEntries (isExcluded mt o.exclusions) base entries) mp is) r).flatMap
              SItem.atoms := by
  obtain ⟨g, hgen, hawf, hg⟩ :=
    scan_graph_of_scanArch mt base root mp entries o hwf hmp hroot hxx hlim hext hst is his
  exact ⟨g, hgen, fun mt' r hstrict hnames hs ho hany items h =>
    Pta.report_spec_lemma mt' _ g hg hawf r hstrict hnames hs ho hany items h⟩

/-- the same for ANY presentation of the import set (e.g. de-duplicated, or the architecture read off the graph):
    only the set of imports matters -/
theorem scan_rule_verdict_set (a : Arch) (ha : ∀ e, e ∈ a.imports ↔ e ∈ is) :
    ∃ g, generateGraph mt base root mp entries o = .ok g ∧
      ∀ (mt' : Str → Str → Bool) (r : RuleSpec), r.strict = true →
        r.namesIn (scanArch root (toSEntries (isExcluded mt o.exclusions) base entries) mp is) = true →
        r.subjects ≠ [] → (r.anything = true ∨ r.objects ≠ []) → (r.anything = true → r.verb = .shouldNot) →
        verdictOf mt' g (compile r) = VClass.ofBool (verdict a r) := by
  obtain ⟨g, hgen, hawf, hg⟩ :=
    scan_graph_of_scanArch mt base root mp entries o hwf hmp hroot hxx hlim hext hst is his
  refine ⟨g, hgen, fun mt' r hstrict hnames hs ho hany => ?_⟩
  rw [verdict_congr_imports a (scanArch root (toSEntries (isExcluded mt o.exclusions) base entries) mp is) ha r]
  exact Pta.verdict_spec_of_graph_lemma mt' _ g hg hawf r hstrict hnames hs ho hany

end tree

/-- END-TO-END, both cases in one statement: the scan raises (LookupError / IndexError) exactly when the
    specification has no import list (a relative import reaching above the root); otherwise it yields a graph on
    which every strict rule over scanned modules has the documented verdict -/
theorem scan_rule_total (mt : Str → Str → Bool) (base root : Str) (mp : List Str) (entries : List Entry) (o : ScanOptions)
    (hwf : treeWFFor (isExcluded mt o.exclusions) base mp entries = true) (hmp : mpOK entries mp = true)
    (hroot : compWF root = true)
    (hxx : o.excludeExternal = true) (hlim : o.levelLimit = none) (hext : o.externalExclusions.isEmpty = true)
    (hst : ∀ e ∈ entries, ∀ st ∈ e.stmts, stmtOK (toSStmt st) = true) :
    match scanImports root (toSEntries (isExcluded mt o.exclusions) base entries) mp with
    | none => generateGraph mt base root mp entries o = .error .lookupError
    | some is => ∃ g, generateGraph mt base root mp entries o = .ok g ∧
        ∀ (mt' : Str → Str → Bool) (r : RuleSpec), r.strict = true →
          r.namesIn (scanArch root (toSEntries (isExcluded mt o.exclusions) base entries) mp is) = true →
          r.subjects ≠ [] → (r.anything = true ∨ r.objects ≠ []) → (r.anything = true → r.verb = .shouldNot) →
          verdictOf mt' g (compile r) =
            VClass.ofBool (verdict (scanArch root (toSEntries (isExcluded mt o.exclusions) base entries) mp is) r) := by
  cases his : scanImports root (toSEntries (isExcluded mt o.exclusions) base entries) mp with
  | none => exact ScanCompose.scan_none hwf hmp hroot hext hst his
  | some is => exact scan_rule_verdict mt base root mp entries o hwf hmp hroot hxx hlim hext hst is his

/-! ### non-vacuity: a concrete tree, strict rules, all hypotheses met, both sides evaluated -/

def s (x : String) : Str := x.toList
def nm (x : String) : Name := splitDots x.toList
def noRe : Str → Str → Bool := fun _ _ => false

/-- `r/a/` with `m.py` (`from . import k`, `from .. import a`, `import r.b, os`) and `k.py`; `r/b.py`
    (`from .a import k, zz`); an excluded directory `r/cache/` holding things the scan must not see (a dotted
    directory, an `x.py` next to `x/`, a file importing above the root) — the tree of Props/C02.lean -/
def exTree : List Entry :=
  [ { rel := [s "a"], isDir := true },
    { rel := [s "a", s "m.py"], isDir := false,
      stmts := [.impFrom none [s "k"] 1, .impFrom none [s "a"] 2, .imp [s "r.b", s "os"]] },
    { rel := [s "a", s "k.py"], isDir := false },
    { rel := [s "b.py"], isDir := false, stmts := [.impFrom (some (s "a")) [s "k", s "zz"] 1] },
    { rel := [s "cache"], isDir := true },
    { rel := [s "cache", s "v1.2"], isDir := true },
    { rel := [s "cache", s "x"], isDir := true },
    { rel := [s "cache", s "x.py"], isDir := false, stmts := [.impFrom none [s "y"] 7] } ]

def exOpts : ScanOptions := { exclusions := .globs [s "*cache"] }

/-- the specification's imports of the tree (with the import of the importer's own ancestor package `r.a`) -/
def exIs : List (Name × Name) :=
  [ (nm "r.a.m", nm "r.a.k"), (nm "r.a.m", nm "r.a"), (nm "r.a.m", nm "r.b"), (nm "r.b", nm "r.a.k"), (nm "r.b", nm "r.a") ]

/-- `r.b` should only import `r.a` — holds -/
def exPass : RuleSpec :=
  { verb := .shouldOnly, importDir := true, exc := false, subjects := [.named (nm "r.b")], objects := [.named (nm "r.a")] }
/-- sub modules of `r.a` should not import `r.b` — violated by `r.a.m → r.b` -/
def exFail : RuleSpec :=
  { verb := .shouldNot, importDir := true, exc := false, subjects := [.subOf (nm "r.a")], objects := [.named (nm "r.b")] }
/-- `r.a.k` and `r.b` should not be imported by anything (else) — violated -/
def exAny : RuleSpec :=
  { verb := .shouldNot, importDir := false, exc := false, subjects := [.named (nm "r.a.k"), .named (nm "r.b")],
    objects := [], anything := true }

/-- every hypothesis of the end-to-end theorems holds for the tree … -/
example :
    treeWFFor (isExcluded noRe exOpts.exclusions) (s "/x/r") [] exTree = true ∧ treeWF exTree = false ∧
    mpOK exTree [] = true ∧ compWF (s "r") = true ∧
    exOpts.excludeExternal = true ∧ exOpts.levelLimit = none ∧ exOpts.externalExclusions.isEmpty = true ∧
    (∀ e ∈ exTree, ∀ st ∈ e.stmts, stmtOK (toSStmt st) = true) := by decide +kernel

/-- … `scanImports` has an answer, and the specification's modules are as expected … -/
example :
    scanImports (s "r") (toSEntries (isExcluded noRe exOpts.exclusions) (s "/x/r") exTree) [] = some exIs ∧
    scanModules (s "r") (toSEntries (isExcluded noRe exOpts.exclusions) (s "/x/r") exTree) [] =
      [nm "r", nm "r.a", nm "r.a.m", nm "r.a.k", nm "r.b"] := by decide +kernel

/-- … and the rules meet the hypotheses on rules -/
example :
    ∀ r ∈ [exPass, exFail, exAny],
      r.strict = true ∧
      r.namesIn (scanArch (s "r") (toSEntries (isExcluded noRe exOpts.exclusions) (s "/x/r") exTree) [] exIs) = true ∧
      r.subjects ≠ [] ∧ (r.anything = true ∨ r.objects ≠ []) ∧ (r.anything = true → r.verb = .shouldNot) := by decide +kernel

set_option maxRecDepth 40000 in
/-- both sides evaluated: the model (scan, then `assert_applies`) and the specification agree, with a passing and
    two failing rules -/
example :
    (generateGraph noRe (s "/x/r") (s "r") [] exTree exOpts).toOption.map
        (fun g => [exPass, exFail, exAny].map fun r => verdictOf noRe g (compile r)) =
      some [.pass, .fail, .fail] ∧
    [exPass, exFail, exAny].map
        (verdict (scanArch (s "r") (toSEntries (isExcluded noRe exOpts.exclusions) (s "/x/r") exTree) [] exIs)) =
      [true, false, false] := by decide +kernel

/-- the sub-directory scan `module_path = r/a` of the same tree: hypotheses, specification, one rule, both sides
    (`r.b` is outside the scan; `r` is present as ancestor package) -/
def exSubRule : RuleSpec :=
  { verb := .should, importDir := true, exc := false, subjects := [.named (nm "r.a.m")], objects := [.named (nm "r.a.k")] }

set_option maxRecDepth 40000 in
example :
    treeWFFor (isExcluded noRe exOpts.exclusions) (s "/x/r") [s "a"] exTree = true ∧ mpOK exTree [s "a"] = true ∧
    scanImports (s "r") (toSEntries (isExcluded noRe exOpts.exclusions) (s "/x/r") exTree) [s "a"] =
      some [(nm "r.a.m", nm "r.a.k"), (nm "r.a.m", nm "r.a")] ∧
    exSubRule.strict = true ∧
    exSubRule.namesIn (scanArch (s "r") (toSEntries (isExcluded noRe exOpts.exclusions) (s "/x/r") exTree) [s "a"]
      [(nm "r.a.m", nm "r.a.k"), (nm "r.a.m", nm "r.a")]) = true ∧
    (generateGraph noRe (s "/x/r") (s "r") [s "a"] exTree exOpts).toOption.map
        (fun g => verdictOf noRe g (compile exSubRule)) = some .pass ∧
    verdict (scanArch (s "r") (toSEntries (isExcluded noRe exOpts.exclusions) (s "/x/r") exTree) [s "a"]
      [(nm "r.a.m", nm "r.a.k"), (nm "r.a.m", nm "r.a")]) exSubRule = true := by decide +kernel

/-! ### the tree hypothesis is needed: `x.py` next to a directory `x` -/

/-- `r/a.py` (`import r.a.b`) next to the directory `r/a/` with `r/a/b.py`; `r/c.py` -/
def exCollision : List Entry :=
  [ { rel := [s "a.py"], isDir := false, stmts := [.imp [s "r.a.b"]] },
    { rel := [s "a"], isDir := true },
    { rel := [s "a", s "b.py"], isDir := false },
    { rel := [s "c.py"], isDir := false } ]

/-- no exclusion patterns, otherwise the defaults -/
def exNoExcl : ScanOptions := { exclusions := .globs [] }

/-- `r.a.b` should not be imported by anything except `r.c` -/
def exCollisionRule : RuleSpec :=
  { verb := .shouldNot, importDir := false, exc := true, subjects := [.named (nm "r.a.b")], objects := [.named (nm "r.c")] }

/-- Without `treeWFFor` the end-to-end statement is false. The tree has a file `a.py` next to a directory `a`; all
    other hypotheses hold. The specification lists the import `r.a → r.a.b` (the file's statement), so the
    specification architecture violates the clause "an importer is not a strict ancestor of its importee" of
    `Arch.wf`, and the strict rule "`r.a.b` should not be imported by anything except `r.c`" is violated according
    to the documented semantics; the model's graph keeps the pair `(r.a, r.a.b)` as a hierarchy edge only (see
    `C02.collision_counterexample`), so the model's verdict is `pass`. -/
theorem collision_needs_treeWF :
    treeWFFor (isExcluded noRe exNoExcl.exclusions) (s "/x/r") [] exCollision = false ∧
    treeShape exCollision = true ∧ mpOK exCollision [] = true ∧
    compWF (s "r") = true ∧ exNoExcl.excludeExternal = true ∧ exNoExcl.levelLimit = none ∧
    exNoExcl.externalExclusions.isEmpty = true ∧
    (∀ e ∈ exCollision, ∀ st ∈ e.stmts, stmtOK (toSStmt st) = true) ∧
    scanImports (s "r") (toSEntries (isExcluded noRe exNoExcl.exclusions) (s "/x/r") exCollision) [] =
      some [(nm "r.a", nm "r.a.b")] ∧
    (scanArch (s "r") (toSEntries (isExcluded noRe exNoExcl.exclusions) (s "/x/r") exCollision) []
      [(nm "r.a", nm "r.a.b")]).wf = false ∧
    exCollisionRule.strict = true ∧
    exCollisionRule.namesIn (scanArch (s "r")
      (toSEntries (isExcluded noRe exNoExcl.exclusions) (s "/x/r") exCollision) [] [(nm "r.a", nm "r.a.b")]) = true ∧
    verdict (scanArch (s "r") (toSEntries (isExcluded noRe exNoExcl.exclusions) (s "/x/r") exCollision) []
      [(nm "r.a", nm "r.a.b")]) exCollisionRule = false ∧
    (generateGraph noRe (s "/x/r") (s "r") [] exCollision exNoExcl).toOption.map
        (fun g => verdictOf noRe g (compile exCollisionRule)) = some .pass := by decide +kernel

/-! ## more end-to-end theorems on scanned architectures: layer rules (C05), diagram rules (C07), plot labels (C17)
    and the level limit (C09), each composed with the scan (C04 ∘ C02) -/

section tree2
variable (mt : Str → Str → Bool) (base root : Str) (mp : List Str) (entries : List Entry) (o : ScanOptions)
  (hwf : treeWFFor (isExcluded mt o.exclusions) base mp entries = true) (hmp : mpOK entries mp = true)
  (hroot : compWF root = true)
  (hxx : o.excludeExternal = true) (hlim : o.levelLimit = none) (hext : o.externalExclusions.isEmpty = true)
  (hst : ∀ e ∈ entries, ∀ st ∈ e.stmts, stmtOK (toSStmt st) = true)
  (is : List (Name × Name))
  (his : scanImports root (toSEntries (isExcluded mt o.exclusions) base entries) mp = some is)
include hwf hmp hroot hxx hlim hext hst his

/-- END-TO-END, layer rules (C04 ∘ C02 ∘ C05): on the scan graph, `LayerRule(...).assert_applies` passes exactly when
    the documented layer semantics hold on the modules of the directory tree and the imports its import statements
    account for, and fails (AssertionError; never `LayerMismatch` or another error) exactly when they do not — for every
    layered architecture `larch` (name layers and regex layers; `ls` = its layers with every regex resolved over the
    modules of the scan graph), every regex matcher `mt'` and every layer rule in the domain of C05. -/
theorem scan_layer_verdict :
    ∃ g, generateGraph mt base root mp entries o = .ok g ∧
      ∀ (mt' : Str → Str → Bool) (ls : Layers) (r : LRuleSpec) (larch : LArch),
        layerDomain' (scanArch root (toSEntries (isExcluded mt o.exclusions) base entries) mp is) ls r = true →
        (r.anything = true → r.verb = .shouldNot) →
        resolves mt' g.nodes larch ls = true →
        (assertAppliesLayer mt' (compileLayerRule larch r) g).cls =
          VClass.ofBool (layerVerdict (scanArch root (toSEntries (isExcluded mt o.exclusions) base entries) mp is) ls r) := by
  obtain ⟨g, hgen, hawf, hg⟩ := scan_graph_of_scanArch mt base root mp entries o hwf hmp hroot hxx hlim hext hst is his
  exact ⟨g, hgen, fun mt' ls r larch hdom hany hres => Pta.C05.layer_verdict mt' _ g hg hawf ls r hdom hany larch hres⟩

/-- … in particular for layers that list modules by name (`compileLArch ls` resolves to `ls` on every graph) -/
theorem scan_layer_verdict_names :
    ∃ g, generateGraph mt base root mp entries o = .ok g ∧
      ∀ (mt' : Str → Str → Bool) (ls : Layers) (r : LRuleSpec),
        layerDomain' (scanArch root (toSEntries (isExcluded mt o.exclusions) base entries) mp is) ls r = true →
        (r.anything = true → r.verb = .shouldNot) →
        (assertAppliesLayer mt' (compileLayerRule (compileLArch ls) r) g).cls =
          VClass.ofBool (layerVerdict (scanArch root (toSEntries (isExcluded mt o.exclusions) base entries) mp is) ls r) := by
  obtain ⟨g, hgen, hawf, hg⟩ := scan_graph_of_scanArch mt base root mp entries o hwf hmp hroot hxx hlim hext hst is his
  exact ⟨g, hgen, fun mt' ls r hdom hany => Pta.C05.layer_verdict_names mt' _ g hg hawf ls r hdom hany⟩

/-- END-TO-END, diagram rules (C04 ∘ C02 ∘ C07): the rules `DependencyToRuleConverter` generates from a diagram `D`,
    applied by `MultipleRuleApplier` to the scan graph, pass exactly when the imports of the tree conform to `D`
    (both modes), for every diagram in the domain of C07 over the scanned modules. -/
theorem scan_diagram_conforms :
    ∃ g, generateGraph mt base root mp entries o = .ok g ∧
      ∀ (mt' : Str → Str → Bool) (D : Diagram) (so : Bool),
        diagramDomain (scanArch root (toSEntries (isExcluded mt o.exclusions) base entries) mp is) D = true →
        (applyAll mt' g (diagramRules so (parsedOf D)) = .pass ↔
          conforms (scanArch root (toSEntries (isExcluded mt o.exclusions) base entries) mp is) D so = true) := by
  obtain ⟨g, hgen, -, hg⟩ := scan_graph_of_scanArch mt base root mp entries o hwf hmp hroot hxx hlim hext hst is his
  exact ⟨g, hgen, fun mt' D so hdom => Pta.C07.conforms_iff_of_graph mt' _ g hg D so hdom⟩

/-- END-TO-END from the diagram FILE (C06 ∘ C07 on the scan graph): for every diagram `d` of the documented subset,
    rendered with any noise around the tags, `DiagramRule.assert_applies` on the scan graph passes exactly when the
    imports of the tree conform to the drawing, and it never raises. (`Pta.C07.diagram_file_conforms_iff` is stated for
    the constructor's graph `archGraph a`; the lemma behind it, `Pta.E2E.file_conforms_lemma`, holds on every
    `GraphOf a g`, which is what is used here.) -/
theorem scan_diagram_file_conforms :
    ∃ g, generateGraph mt base root mp entries o = .ok g ∧
      ∀ (mt' : Str → Str → Bool) (noise1 noise2 : Str) (d : List DLine), diagramWF d = true →
        isInfix "@enduml".toList noise2 = false → ∀ (so : Bool),
        diagramDomain (scanArch root (toSEntries (isExcluded mt o.exclusions) base entries) mp is) (specDiagram d) = true →
        (diagramAssert mt' (some (diagramText noise1 d noise2)) none so g = .pass ↔
          conforms (scanArch root (toSEntries (isExcluded mt o.exclusions) base entries) mp is) (specDiagram d) so = true) ∧
        (∀ k, diagramAssert mt' (some (diagramText noise1 d noise2)) none so g ≠ .err k) := by
  obtain ⟨g, hgen, -, hg⟩ := scan_graph_of_scanArch mt base root mp entries o hwf hmp hroot hxx hlim hext hst is his
  refine ⟨g, hgen, fun mt' noise1 noise2 d hdw hn so hdom => ?_⟩
  exact (DVerdict.cls_ofBool_iff _ _).1 (Pta.E2E.file_conforms_lemma mt' _ g hg noise1 noise2 d hdw hn
    (specDiagram d) (Pta.E2E.means_specDiagram d) so hdom).1

/-- the same with `with_base_module(q)`: the file is checked as if every component were written `q.name` -/
theorem scan_diagram_file_base_conforms :
    ∃ g, generateGraph mt base root mp entries o = .ok g ∧
      ∀ (mt' : Str → Str → Bool) (noise1 noise2 : Str) (d : List DLine), diagramWF d = true →
        isInfix "@enduml".toList noise2 = false → ∀ (q : Name), q ≠ [] → ∀ (so : Bool),
        diagramDomain (scanArch root (toSEntries (isExcluded mt o.exclusions) base entries) mp is)
          (prefixDiagram q (specDiagram d)) = true →
        (diagramAssert mt' (some (diagramText noise1 d noise2)) (some (render q)) so g = .pass ↔
          conforms (scanArch root (toSEntries (isExcluded mt o.exclusions) base entries) mp is)
            (prefixDiagram q (specDiagram d)) so = true) ∧
        (∀ k, diagramAssert mt' (some (diagramText noise1 d noise2)) (some (render q)) so g ≠ .err k) := by
  obtain ⟨g, hgen, -, hg⟩ := scan_graph_of_scanArch mt base root mp entries o hwf hmp hroot hxx hlim hext hst is his
  refine ⟨g, hgen, fun mt' noise1 noise2 d hdw hn q hq so hdom => ?_⟩
  exact (DVerdict.cls_ofBool_iff _ _).1 (Pta.E2E.file_conforms_base_lemma mt' _ g hg noise1 noise2 d hdw hn
    (specDiagram d) (Pta.E2E.means_specDiagram d) q hq so hdom).1

end tree2

section labels
variable (mt : Str → Str → Bool) (base root : Str) (mp : List Str) (entries : List Entry) (o : ScanOptions)
  (hwf : treeWFFor (isExcluded mt o.exclusions) base mp entries = true) (hmp : mpOK entries mp = true)
  (hroot : compWF root = true)
  (hxx : o.excludeExternal = true) (hlim : o.levelLimit = none) (g : PGraph Str)
  (h : generateGraph mt base root mp entries o = .ok g)
include hwf hmp hroot hxx hlim h

/-- the node list of a scan graph is a permutation of the rendered modules of the directory tree (no assumption on the
    import statements: whenever the scan succeeds) -/
theorem scan_nodes_perm :
    g.nodes.Perm ((scanModules root (toSEntries (isExcluded mt o.exclusions) base entries) mp).map render) := by
  obtain ⟨hp, hback, -⟩ := E2EMore.nodes_perm_lemma mt base root mp entries o hwf hmp hroot hxx hlim g h
  rw [← hback]
  exact hp.map render

/-- END-TO-END, plot labels (C04 ∘ C17): for every alias map whose keys are distinct scanned modules,
    `_create_plot_labels_with_alias` on the scan graph succeeds, labels every node exactly once (in the graph's node
    order), and — as a set / up to that order — the labelling is the documented one on the modules of the directory
    tree: every module is labelled by its nearest aliased ancestor-or-self's alias plus the remaining components. -/
theorem scan_labels (al : Aliases) (hk : (al.map (·.1)).Nodup)
    (hex : ∀ a ∈ al, a.1 ∈ scanModules root (toSEntries (isExcluded mt o.exclusions) base entries) mp) :
    ∃ ls, plotLabels g.nodes (al.map fun a => (render a.1, a.2)) = .ok ls ∧
      ls.map (·.1) = g.nodes ∧
      ls.Perm ((scanModules root (toSEntries (isExcluded mt o.exclusions) base entries) mp).map
        fun n => (render n, PtaSpec.label al n)) :=
  E2EMore.labels_perm_lemma mt base root mp entries o hwf hmp hroot hxx hlim g h al hk hex

/-- read pointwise: the label of each scanned module `n` is `label al n`, and nothing else is labelled -/
theorem scan_labels_pointwise (al : Aliases) (hk : (al.map (·.1)).Nodup)
    (hex : ∀ a ∈ al, a.1 ∈ scanModules root (toSEntries (isExcluded mt o.exclusions) base entries) mp) :
    ∃ ls, plotLabels g.nodes (al.map fun a => (render a.1, a.2)) = .ok ls ∧
      ∀ p, p ∈ ls ↔ ∃ n ∈ scanModules root (toSEntries (isExcluded mt o.exclusions) base entries) mp,
        p = (render n, PtaSpec.label al n) := by
  obtain ⟨ls, h1, -, h3⟩ := scan_labels mt base root mp entries o hwf hmp hroot hxx hlim g h al hk hex
  refine ⟨ls, h1, fun p => ?_⟩
  rw [h3.mem_iff, List.mem_map]
  constructor
  · rintro ⟨n, hn, rfl⟩; exact ⟨n, hn, rfl⟩
  · rintro ⟨n, hn, rfl⟩; exact ⟨n, hn, rfl⟩

/-- an alias for something that is not a scanned module is rejected, naming it (C17 on the scan graph) -/
theorem scan_labels_unknown_alias (aliases : List (Str × Str))
    (hbad : ∃ a ∈ aliases, ∀ n ∈ scanModules root (toSEntries (isExcluded mt o.exclusions) base entries) mp, a.1 ≠ render n) :
    ∃ who, plotLabels g.nodes aliases = .error (.lookupError, who) ∧ who ∈ aliases.map (·.1) ∧
      ∀ n ∈ scanModules root (toSEntries (isExcluded mt o.exclusions) base entries) mp, who ≠ render n := by
  have hp := scan_nodes_perm mt base root mp entries o hwf hmp hroot hxx hlim g h
  obtain ⟨a, ha, hno⟩ := hbad
  obtain ⟨who, h1, h2, h3⟩ := Pta.C17.unknown_alias g.nodes aliases
    ⟨a, ha, fun hin => by
      obtain ⟨n, hn, e⟩ := List.mem_map.1 (hp.mem_iff.1 hin)
      exact hno n hn e.symm⟩
  exact ⟨who, h1, h3, fun n hn e => h2 (hp.mem_iff.2 (List.mem_map.2 ⟨n, hn, e.symm⟩))⟩

end labels

/-! ### the level limit (C09) on scanned architectures -/

section limit
variable (mt : Str → Str → Bool) (base root : Str) (mp : List Str) (entries : List Entry) (o : ScanOptions) (k : Nat)
  (hwf : treeWFFor (isExcluded mt o.exclusions) base mp entries = true) (hmp : mpOK entries mp = true)
  (hroot : compWF root = true)
  (hxx : o.excludeExternal = true) (hlim : o.levelLimit = some k) (hext : o.externalExclusions.isEmpty = true)
  (hst : ∀ e ∈ entries, ∀ st ∈ e.stmts, stmtOK (toSStmt st) = true)
  (is : List (Name × Name))
  (his : scanImports root (toSEntries (isExcluded mt o.exclusions) base entries) mp = some is)
include hwf hmp hroot hxx hlim hext hst his

/-- C04 ∘ C02 ∘ C09, graph: with `level_limit = k` (other options default) the scan succeeds exactly as without the
    limit, and its graph is the QUOTIENT of the specification architecture of the tree under truncation of every
    module name to `k` levels below `module_path` (`shiftedLimit o mp = some (k + |mp|)`, counted from the root):
    nodes = truncated modules, a hierarchy edge between a truncated name and its parent, an import edge `a → b`
    exactly when some module truncating to `a` imports some module truncating to `b` and `a ≠ b`.  The collision
    clause of the scan-level theorem (`isHierPair`) is vacuous here: on a `treeWFFor` tree files are leaves, so the
    specification architecture is well-formed and no import leads from a module into its own subtree.
    Equivalently: the limited scan graph is a graph of the well-formed architecture `truncArch … scanArch`. -/
theorem scan_quotient_of_scanArch :
    ∃ g g0, generateGraph mt base root mp entries o = .ok g ∧
      generateGraph mt base root mp entries o.noLimit = .ok g0 ∧
      shiftedLimit o mp = some (k + mp.length) ∧
      (scanArch root (toSEntries (isExcluded mt o.exclusions) base entries) mp is).wf = true ∧
      GraphOf (scanArch root (toSEntries (isExcluded mt o.exclusions) base entries) mp is) g0 ∧
      QuotientOf (scanArch root (toSEntries (isExcluded mt o.exclusions) base entries) mp is) (shiftedLimit o mp) g ∧
      (truncArch (shiftedLimit o mp) (scanArch root (toSEntries (isExcluded mt o.exclusions) base entries) mp is)).wf = true ∧
      GraphOf (truncArch (shiftedLimit o mp) (scanArch root (toSEntries (isExcluded mt o.exclusions) base entries) mp is)) g := by
  obtain ⟨g, g0, hg, hg0, hawf, hG0, hq⟩ :=
    E2EMore.scan_limit_lemma mt base root mp entries o hwf hmp hroot hxx hext hst is his k hlim
  have hs := Pta.ScanLimit.shiftedLimit_some o mp k hlim
  rw [hs]
  exact ⟨g, g0, hg, hg0, rfl, hawf, hG0, hq, Pta.truncArch_wf _ _ hawf, Pta.graphOf_truncArch _ _ g hq⟩

/-- END-TO-END with a level limit (C04 ∘ C02 ∘ C09 ∘ C01): with `level_limit = k` the scan succeeds, and every strict
    rule over scanned modules whose identifiers lie at or above the limit counted from `module_path` —
    `ruleAbove (k + |mp|) r`: a module named by `are_named` has at most `k + |mp| + 1` components, i.e. lies at most
    `k` levels below `root.mp`; the parent of `are_sub_modules_of` has at most `k + |mp|` components, i.e. lies at most
    `k - 1` levels below (`limit_bound_named`, `limit_bound_subOf`) — has the SAME verdict on the limited graph and on
    the graph scanned without the limit, and both are the documented semantics on the FULL specification architecture
    of the tree. -/
theorem scan_rule_verdict_limit :
    ∃ g g0, generateGraph mt base root mp entries o = .ok g ∧
      generateGraph mt base root mp entries o.noLimit = .ok g0 ∧
      ∀ (mt' : Str → Str → Bool) (r : RuleSpec), r.strict = true →
        r.namesIn (scanArch root (toSEntries (isExcluded mt o.exclusions) base entries) mp is) = true →
        r.subjects ≠ [] → (r.anything = true ∨ r.objects ≠ []) → (r.anything = true → r.verb = .shouldNot) →
        ruleAbove (k + mp.length) r = true →
        verdictOf mt' g (compile r) = verdictOf mt' g0 (compile r) ∧
        verdictOf mt' g (compile r) =
          VClass.ofBool (verdict (scanArch root (toSEntries (isExcluded mt o.exclusions) base entries) mp is) r) := by
  obtain ⟨g, g0, hg, hg0, hawf, hG0, hq⟩ :=
    E2EMore.scan_limit_lemma mt base root mp entries o hwf hmp hroot hxx hext hst is his k hlim
  refine ⟨g, g0, hg, hg0, fun mt' r hstrict hnames hs ho hany habove => ?_⟩
  have h1 := Pta.verdict_of_quotient mt' _ hawf (k + mp.length) g hq r hstrict hnames hs ho hany habove
  have h0 := Pta.verdict_spec_of_graph_lemma mt' _ g0 hG0 hawf r hstrict hnames hs ho hany
  exact ⟨h1.trans h0.symm, h1⟩

/-- the same in the form "for the two graphs the two scans return" -/
theorem scan_rule_verdict_limit_of (g g0 : PGraph Str)
    (hg : generateGraph mt base root mp entries o = .ok g)
    (hg0 : generateGraph mt base root mp entries o.noLimit = .ok g0)
    (mt' : Str → Str → Bool) (r : RuleSpec) (hstrict : r.strict = true)
    (hnames : r.namesIn (scanArch root (toSEntries (isExcluded mt o.exclusions) base entries) mp is) = true)
    (hs : r.subjects ≠ []) (ho : r.anything = true ∨ r.objects ≠ []) (hany : r.anything = true → r.verb = .shouldNot)
    (habove : ruleAbove (k + mp.length) r = true) :
    verdictOf mt' g (compile r) = verdictOf mt' g0 (compile r) := by
  obtain ⟨g', g0', hg', hg0', hall⟩ :=
    scan_rule_verdict_limit mt base root mp entries o k hwf hmp hroot hxx hlim hext hst is his
  cases hg.symm.trans hg'
  cases hg0.symm.trans hg0'
  exact (hall mt' r hstrict hnames hs ho hany habove).1

/-- layer rules on the limited graph: the documented layer semantics evaluated on the QUOTIENT architecture
    (C05 applies to it because it is well-formed and the limited scan graph is a graph of it) -/
theorem scan_layer_verdict_limit :
    ∃ g, generateGraph mt base root mp entries o = .ok g ∧
      ∀ (mt' : Str → Str → Bool) (ls : Layers) (r : LRuleSpec) (larch : LArch),
        layerDomain' (truncArch (shiftedLimit o mp)
          (scanArch root (toSEntries (isExcluded mt o.exclusions) base entries) mp is)) ls r = true →
        (r.anything = true → r.verb = .shouldNot) →
        resolves mt' g.nodes larch ls = true →
        (assertAppliesLayer mt' (compileLayerRule larch r) g).cls =
          VClass.ofBool (layerVerdict (truncArch (shiftedLimit o mp)
            (scanArch root (toSEntries (isExcluded mt o.exclusions) base entries) mp is)) ls r) := by
  obtain ⟨g, -, hg, -, -, -, -, -, hqwf, hqg⟩ :=
    scan_quotient_of_scanArch mt base root mp entries o k hwf hmp hroot hxx hlim hext hst is his
  exact ⟨g, hg, fun mt' ls r larch hdom hany hres => Pta.C05.layer_verdict mt' _ g hqg hqwf ls r hdom hany larch hres⟩

end limit

/-- the bound of `scan_rule_verdict_limit`, spelled out for identifiers written as `root.module_path.rest`:
    `are_named` may name modules up to `k` levels below `module_path` … -/
theorem limit_bound_named (k : Nat) (root : Comp) (mp rest : List Comp) :
    filterAbove (k + mp.length) (.named (root :: mp ++ rest)) = decide (rest.length ≤ k) := by
  simp only [filterAbove, List.length_cons, List.length_append, decide_eq_decide]
  omega

/-- … and `are_sub_modules_of` parents up to `k - 1` levels below it (so that the sub modules are at most `k` below) -/
theorem limit_bound_subOf (k : Nat) (root : Comp) (mp rest : List Comp) :
    filterAbove (k + mp.length) (.subOf (root :: mp ++ rest)) = decide (rest.length + 1 ≤ k) := by
  simp only [filterAbove, List.length_cons, List.length_append, decide_eq_decide]
  omega

/-! ### non-vacuity of the layer theorem: the tree `exTree`, two name layers and a regex layer -/

/-- `top` = the package `r.a` (with `r.a.m`, `r.a.k` below it), `low` = `r.b` -/
def exLs : Layers := [("top".toList, [nm "r.a"]), ("low".toList, [nm "r.b"])]
/-- `top` should only access `low` — holds (`r.a.m → r.b`; imports inside `top` do not count) -/
def exLPass : LRuleSpec :=
  { verb := .shouldOnly, importDir := true, exc := false, subject := "top".toList, objects := ["low".toList] }
/-- `low` should not access `top` — violated by `r.b → r.a.k` -/
def exLFail : LRuleSpec :=
  { verb := .shouldNot, importDir := true, exc := false, subject := "low".toList, objects := ["top".toList] }
/-- `low` should not be accessed by any layer — violated by `r.a.m → r.b` -/
def exLAny : LRuleSpec :=
  { verb := .shouldNot, importDir := false, exc := false, subject := "low".toList, objects := [], anything := true }

/-- the hypotheses on layers and rules (`resolves` for name layers holds on every node list) … -/
example :
    ∀ r ∈ [exLPass, exLFail, exLAny],
      layerDomain' (scanArch (s "r") (toSEntries (isExcluded noRe exOpts.exclusions) (s "/x/r") exTree) [] exIs) exLs r = true ∧
      (r.anything = true → r.verb = .shouldNot) := by decide +kernel
example (nodes : List Str) : resolves noRe nodes (compileLArch exLs) exLs = true := Pta.C05.resolves_names noRe nodes exLs

set_option maxRecDepth 40000 in
/-- … and both sides evaluated: the model (scan, then `LayerRule.assert_applies`) and the layer semantics on the
    specification architecture of the tree -/
example :
    (generateGraph noRe (s "/x/r") (s "r") [] exTree exOpts).toOption.map
        (fun g => [exLPass, exLFail, exLAny].map fun r =>
          (assertAppliesLayer noRe (compileLayerRule (compileLArch exLs) r) g).cls) =
      some [.pass, .fail, .fail] ∧
    [exLPass, exLFail, exLAny].map
        (layerVerdict (scanArch (s "r") (toSEntries (isExcluded noRe exOpts.exclusions) (s "/x/r") exTree) [] exIs) exLs) =
      [true, false, false] := by decide +kernel

/-- a regex layer: the pattern engine is a parameter; with "starts with" as engine the layer `top` defined by the
    pattern `r.a.` resolves — on the node list of the scan graph — to the modules `r.a.m`, `r.a.k` -/
def exMt : Str → Str → Bool := fun p x => startsWith p x
def exLarchRe : LArch := [("top".toList, [.regex "r.a.".toList]), ("low".toList, [.name "r.b".toList])]
def exLsRe : Layers := [("top".toList, [nm "r.a.m", nm "r.a.k"]), ("low".toList, [nm "r.b"])]

set_option maxRecDepth 40000 in
example :
    (generateGraph noRe (s "/x/r") (s "r") [] exTree exOpts).toOption.map
        (fun g => (resolves exMt g.nodes exLarchRe exLsRe,
          (assertAppliesLayer exMt (compileLayerRule exLarchRe exLFail) g).cls)) = some (true, .fail) ∧
    layerDomain' (scanArch (s "r") (toSEntries (isExcluded noRe exOpts.exclusions) (s "/x/r") exTree) [] exIs) exLsRe exLFail = true ∧
    layerVerdict (scanArch (s "r") (toSEntries (isExcluded noRe exOpts.exclusions) (s "/x/r") exTree) [] exIs) exLsRe exLFail =
      false := by decide +kernel

/-! ### non-vacuity of the diagram theorem: `[r.a] --> [r.b]` and back on `exTree` -/

/-- components `r.a`, `r.b`; arrows in both directions (the tree has `r.a.m → r.b` and `r.b → r.a.k`) -/
def exDg : Diagram := { components := [nm "r.a", nm "r.b"], arrows := [(nm "r.a", nm "r.b"), (nm "r.b", nm "r.a")] }
/-- only `r.a → r.b` drawn: the import `r.b → r.a.k` is not allowed -/
def exDgBad : Diagram := { components := [nm "r.a", nm "r.b"], arrows := [(nm "r.a", nm "r.b")] }

set_option maxRecDepth 40000 in
example :
    diagramDomain (scanArch (s "r") (toSEntries (isExcluded noRe exOpts.exclusions) (s "/x/r") exTree) [] exIs) exDg = true ∧
    diagramDomain (scanArch (s "r") (toSEntries (isExcluded noRe exOpts.exclusions) (s "/x/r") exTree) [] exIs) exDgBad = true ∧
    conforms (scanArch (s "r") (toSEntries (isExcluded noRe exOpts.exclusions) (s "/x/r") exTree) [] exIs) exDg true = true ∧
    conforms (scanArch (s "r") (toSEntries (isExcluded noRe exOpts.exclusions) (s "/x/r") exTree) [] exIs) exDgBad false = false ∧
    (generateGraph noRe (s "/x/r") (s "r") [] exTree exOpts).toOption.map
        (fun g => ((applyAll noRe g (diagramRules true (parsedOf exDg))).cls,
          (applyAll noRe g (diagramRules false (parsedOf exDgBad))).cls)) = some (.pass, .fail) := by decide +kernel

/-- the same drawing as a FILE (hypotheses of `scan_diagram_file_conforms`, both sides evaluated) -/
def exDgLines : List DLine := [
  .arrow .r2 (.bracketed "r.a".toList) (.bracketed "r.b".toList),
  .arrow .l2 (.bracketed "r.b".toList) (.bracketed "r.a".toList)]

set_option maxRecDepth 40000 in
example :
    diagramWF exDgLines = true ∧ isInfix "@enduml".toList "\n' end".toList = false ∧
    diagramDomain (scanArch (s "r") (toSEntries (isExcluded noRe exOpts.exclusions) (s "/x/r") exTree) [] exIs)
      (specDiagram exDgLines) = true ∧
    conforms (scanArch (s "r") (toSEntries (isExcluded noRe exOpts.exclusions) (s "/x/r") exTree) [] exIs)
      (specDiagram exDgLines) true = true ∧
    (generateGraph noRe (s "/x/r") (s "r") [] exTree exOpts).toOption.map
        (fun g => (diagramAssert noRe (some (diagramText "' head\n".toList exDgLines "\n' end".toList)) none true g).cls) =
      some .pass := by decide +kernel

/-! ### non-vacuity of the label theorem: alias `A` for `r.a` on `exTree` -/

def exAl : Aliases := [(nm "r.a", "A".toList)]

set_option maxRecDepth 40000 in
example :
    (exAl.map (·.1)).Nodup ∧
    (∀ a ∈ exAl, a.1 ∈ scanModules (s "r") (toSEntries (isExcluded noRe exOpts.exclusions) (s "/x/r") exTree) []) ∧
    (generateGraph noRe (s "/x/r") (s "r") [] exTree exOpts).toOption.bind
        (fun g => (plotLabels g.nodes (exAl.map fun a => (render a.1, a.2))).toOption) =
      some ([(s "r", s "r"), (s "r.a", s "A"), (s "r.a.m", s "A.m"), (s "r.a.k", s "A.k"), (s "r.b", s "r.b")]) ∧
    (scanModules (s "r") (toSEntries (isExcluded noRe exOpts.exclusions) (s "/x/r") exTree) []).map
        (fun n => (render n, PtaSpec.label exAl n)) =
      [(s "r", s "r"), (s "r.a", s "A"), (s "r.a.m", s "A.m"), (s "r.a.k", s "A.k"), (s "r.b", s "r.b")] := by
  refine ⟨by decide +kernel, by decide +kernel, by decide +kernel, by decide +kernel⟩

/-! ### non-vacuity of the limit theorem: the tree of `C09.ScanEx`, `module_path = r/app`, `level_limit = 1` -/

/-- r/app/{a/x.py, b/y/z.py, c.py}; x: `import app.b.y.z`; z: `from ... import c` — the imports of the specification -/
def limIs : List (Name × Name) := [(nm "r.app.a.x", nm "r.app.b.y.z"), (nm "r.app.b.y.z", nm "r.app.c")]

/-- `r.app.a` should only import `r.app.b` — holds on both graphs (`r.app.a.x → r.app.b.y.z`, flattened `r.app.a → r.app.b`) -/
def limPass : RuleSpec :=
  { verb := .shouldOnly, importDir := true, exc := false, subjects := [.named (nm "r.app.a")], objects := [.named (nm "r.app.b")] }
/-- `r.app.b` should not import `r.app.c` — violated on both graphs (`r.app.b.y.z → r.app.c`) -/
def limFail : RuleSpec :=
  { verb := .shouldNot, importDir := true, exc := false, subjects := [.named (nm "r.app.b")], objects := [.named (nm "r.app.c")] }
/-- `r.app.c` should not be imported by anything except `r.app.b` — holds on both graphs -/
def limExc : RuleSpec :=
  { verb := .shouldNot, importDir := false, exc := true, subjects := [.named (nm "r.app.c")], objects := [.named (nm "r.app.b")] }
/-- sub modules of `r.app` should not import anything — an `are_sub_modules_of` parent ON the bound (two components);
    holds on both graphs (every import stays among the sub modules of `r.app`) -/
def limSub : RuleSpec :=
  { verb := .shouldNot, importDir := true, exc := false, subjects := [.subOf (nm "r.app")], objects := [], anything := true }

open Pta.C09.ScanEx in
set_option maxRecDepth 100000 in
/-- every hypothesis of `scan_rule_verdict_limit` holds (k = 1, |mp| = 1, so the bound is `ruleAbove 2`) … -/
example :
    treeWFFor (isExcluded mt0 o1.exclusions) (S "/r") [S "app"] ents = true ∧ mpOK ents [S "app"] = true ∧
    compWF (S "r") = true ∧ o1.excludeExternal = true ∧ o1.levelLimit = some 1 ∧ o1.externalExclusions.isEmpty = true ∧
    (∀ e ∈ ents, ∀ st ∈ e.stmts, stmtOK (toSStmt st) = true) ∧
    scanImports (S "r") (toSEntries (isExcluded mt0 o1.exclusions) (S "/r") ents) [S "app"] = some limIs ∧
    (∀ r ∈ [limPass, limFail, limExc, limSub],
      r.strict = true ∧
      r.namesIn (scanArch (S "r") (toSEntries (isExcluded mt0 o1.exclusions) (S "/r") ents) [S "app"] limIs) = true ∧
      r.subjects ≠ [] ∧ (r.anything = true ∨ r.objects ≠ []) ∧ (r.anything = true → r.verb = .shouldNot) ∧
      ruleAbove (1 + [S "app"].length) r = true) := by
  refine ⟨by decide +kernel, by decide +kernel, by decide +kernel, by decide +kernel, by decide +kernel, by decide +kernel, by decide +kernel, by decide +kernel, by decide +kernel⟩

open Pta.C09.ScanEx in
set_option maxRecDepth 100000 in
/-- … and all three sides evaluated: the limited scan, the scan without limit, and the documented semantics on the
    full specification architecture -/
example :
    (generateGraph mt0 (S "/r") (S "r") [S "app"] ents o1).toOption.map
        (fun g => [limPass, limFail, limExc, limSub].map fun r => verdictOf mt0 g (compile r)) = some [.pass, .fail, .pass, .pass] ∧
    (generateGraph mt0 (S "/r") (S "r") [S "app"] ents o1.noLimit).toOption.map
        (fun g => [limPass, limFail, limExc, limSub].map fun r => verdictOf mt0 g (compile r)) = some [.pass, .fail, .pass, .pass] ∧
    [limPass, limFail, limExc, limSub].map
        (verdict (scanArch (S "r") (toSEntries (isExcluded mt0 o1.exclusions) (S "/r") ents) [S "app"] limIs)) =
      [true, false, true, true] := by
  refine ⟨by decide +kernel, by decide +kernel, by decide +kernel⟩

open Pta.C09.ScanEx in
set_option maxRecDepth 100000 in
/-- the bound is needed: `r.app.b.y` (two levels below `r.app`) is a scanned module, the rule `r.app.b.y should import
    r.app.c` is strict and holds on the full graph, but the module does not exist in the limited graph (the query
    raises) — `ruleAbove 2` fails for it -/
example :
    let r : RuleSpec := { verb := .should, importDir := true, exc := false, subjects := [.named (nm "r.app.b.y")],
                          objects := [.named (nm "r.app.c")] }
    r.strict = true ∧
    r.namesIn (scanArch (S "r") (toSEntries (isExcluded mt0 o1.exclusions) (S "/r") ents) [S "app"] limIs) = true ∧
    ruleAbove (1 + [S "app"].length) r = false ∧
    (generateGraph mt0 (S "/r") (S "r") [S "app"] ents o1.noLimit).toOption.map
        (fun g => verdictOf mt0 g (compile r)) = some .pass ∧
    (generateGraph mt0 (S "/r") (S "r") [S "app"] ents o1).toOption.map
        (fun g => verdictOf mt0 g (compile r)) ≠ some .pass := by
  refine ⟨by decide +kernel, by decide +kernel, by decide +kernel, by decide +kernel, by decide +kernel⟩

/-- layers `A` = `r.app.a`, `B` = `r.app.b` on the limited graph; `A should only access B` -/
def limLs : Layers := [("A".toList, [nm "r.app.a"]), ("B".toList, [nm "r.app.b"])]
def limLR : LRuleSpec :=
  { verb := .shouldOnly, importDir := true, exc := false, subject := "A".toList, objects := ["B".toList] }

open Pta.C09.ScanEx in
set_option maxRecDepth 100000 in
/-- hypotheses of `scan_layer_verdict_limit` and both sides (the quotient architecture has the import `r.app.a → r.app.b`) -/
example :
    (truncArch (shiftedLimit o1 [S "app"])
      (scanArch (S "r") (toSEntries (isExcluded mt0 o1.exclusions) (S "/r") ents) [S "app"] limIs)).imports =
      [(nm "r.app.a", nm "r.app.b"), (nm "r.app.b", nm "r.app.c")] ∧
    layerDomain' (truncArch (shiftedLimit o1 [S "app"])
      (scanArch (S "r") (toSEntries (isExcluded mt0 o1.exclusions) (S "/r") ents) [S "app"] limIs)) limLs limLR = true ∧
    layerVerdict (truncArch (shiftedLimit o1 [S "app"])
      (scanArch (S "r") (toSEntries (isExcluded mt0 o1.exclusions) (S "/r") ents) [S "app"] limIs)) limLs limLR = true ∧
    (generateGraph mt0 (S "/r") (S "r") [S "app"] ents o1).toOption.map
        (fun g => (assertAppliesLayer mt0 (compileLayerRule (compileLArch limLs) limLR) g).cls) = some .pass := by
  refine ⟨by decide +kernel, by decide +kernel, by decide +kernel, by decide +kernel⟩

end Pta.E2E
