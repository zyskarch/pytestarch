/-
  PtaProofs.Props.C04 — modules and hierarchy mirror the scanned directory tree, named from root_path (property C04).
  The file system is a parameter: a flat list `entries` of paths below the root directory. Bridge/ScanTree.lean has
  the Bool-valued well-formedness of such a tree — `treeShape` (paths duplicate-free and non-empty, every parent
  listed as a directory), `treeWF` (shape, and everywhere: directory names and `.py` stems non-empty and dot-free, no
  `x.py` next to a directory `x`) and the weaker `treeWFFor excl base mp` the theorems assume (the naming conditions
  only for the entries the scan from `mp` can see: `mp`, the directories above it, and what lies below `mp` outside
  excluded directories) — and `toSEntries`, the abstraction to the specification's vocabulary
  (PtaSpec/ScanSem.lean: `survives`, `entryName`, `scanModules`).
  Sub-directory scans: modules (`subscan_modules`), imports (`subscan_imports_spec`, `subscan_graph`) and the two
  spellings of absolute imports (`parent_relative_spec`, `parent_relative_graph`, `parent_relative_equiv`), with the
  vocabulary of Bridge/SubScan.lean (`portable`, `plain`, `parentRelative`) and the witnesses `subscan_ambiguity`,
  `plain_needed` for the two side conditions. The module-object entry point (`scanForModuleObjects`) is the path entry
  point (`getEvaluableArchitecture`) on the two `dirname`s: last section.
-/
import Bridge.Abs
import Bridge.ScanTree
import PtaProofs.Lemmas.ScanSpec
import PtaProofs.Lemmas.ScanGraph
import PtaProofs.Lemmas.SemHier
import Bridge.SubScan
import PtaProofs.Lemmas.SubScan
import PtaProofs.Lemmas.EntryPoint
namespace Pta.C04
open PtaSpec

section walk
variable (mt : Str → Str → Bool) (base root : Str) (mp : List Str) (entries : List Entry) (o : ScanOptions)

/-- the exclusion test the walk applies to path strings -/
abbrev exclOf (mt : Str → Str → Bool) (o : ScanOptions) : Str → Bool := isExcluded mt o.exclusions

/-- C04, modules of the walk: with the fuel `scanParsed` uses (`maxDepth entries + 2`, proved sufficient), the
    registered modules are exactly the names of the surviving entries — the root directory or a listed
    directory / `.py` file at or below `module_path`, none of whose ancestors from `module_path` down (itself
    included) is excluded — each named by the dotted path starting with the root directory's name. -/
theorem walk_modules_exact (hshape : treeShape entries = true) (hmp : mpOK entries mp = true) (x : Str) :
    x ∈ (scanParsed mt base root mp entries o).allModules ↔
      ∃ e ∈ rootEntry :: entries,
        survives (toSEntries (exclOf mt o) base entries) mp (toSEntry (exclOf mt o) base e) = true ∧
        x = render (entryName root (toSEntry (exclOf mt o) base e)) :=
  ScanSpec.scan_modules_lemma base mt root mp entries o hshape hmp x

/-- the specification's `survives` on the abstracted tree is the model-side predicate `Survives` of Bridge/Abs.lean:
    at or below `module_path`, a directory or a `.py` file, and no path from `module_path` down to the entry is excluded -/
theorem survives_spec (excl : Str → Bool) (hshape : treeShape entries = true) (e : Entry) (he : e ∈ rootEntry :: entries) :
    survives (toSEntries excl base entries) mp (toSEntry excl base e) = true ↔ Survives excl base mp e :=
  ScanSpec.survives_iff excl base (ScanWalk.shape_of entries hshape) mp e he

/-- the Bool-valued shape predicate implies the `TreeWF` of Bridge/Abs.lean -/
theorem treeShape_sound (hshape : treeShape entries = true) : TreeWF entries :=
  have s := ScanWalk.shape_of entries hshape
  ⟨List.pairwise_map.2 s.pw, s.ne, s.parent⟩

/-- `Parser._get_module_name` is the rendered specification name, for every path -/
theorem moduleName_entryName (excl : Str → Bool) (e : Entry) :
    moduleName root e.rel = render (entryName root (toSEntry excl base e)) :=
  ScanNames.moduleName_eq root e

/-- C04, parsed files: exactly the surviving `.py` files, each with its statements -/
theorem walk_files_exact (hshape : treeShape entries = true) (hmp : mpOK entries mp = true)
    (y : Str × List ImportStmt) :
    y ∈ (scanParsed mt base root mp entries o).files ↔
      ∃ e ∈ entries, e.isDir = false ∧
        survives (toSEntries (exclOf mt o) base entries) mp (toSEntry (exclOf mt o) base e) = true ∧
        y = (render (entryName root (toSEntry (exclOf mt o) base e)), e.stmts) :=
  ScanSpec.scan_files_lemma base mt root mp entries o hshape hmp y

/-- the simple global predicate implies the one the theorems assume, for every exclusion test and `module_path` -/
theorem treeWFFor_of_treeWF (excl : Str → Bool) (hwf : treeWF entries = true) : treeWFFor excl base mp entries = true := by
  simp only [treeWF, treeNames, treeWFFor, treeNamesFor, Bool.and_eq_true, List.all_eq_true] at hwf ⊢
  refine ⟨hwf.1, fun e he => ?_, fun e he => ?_⟩
  · rw [hwf.2.1 e he, Bool.or_true]
  · have := hwf.2.2 e he
    simp only [Bool.or_eq_true] at this ⊢
    rcases this with (h1 | h1) | h1
    · exact Or.inl (Or.inl (Or.inr h1))
    · exact Or.inl (Or.inr h1)
    · exact Or.inr h1

/-- every module is registered once -/
theorem walk_modules_nodup (hwf : treeWFFor (exclOf mt o) base mp entries = true) (hmp : mpOK entries mp = true) (hroot : compWF root = true) :
    (scanParsed mt base root mp entries o).allModules.Nodup := by
  obtain ⟨-, s, nm⟩ := ScanNames.tree_facts hwf
  exact ScanSpec.walk_modules_nodup _ base s hmp nm root hroot

/-- the parsed files are a sub-list of the modules (so they are duplicate-free as well) -/
theorem walk_files_sublist :
    ((scanParsed mt base root mp entries o).files.map (·.1)).Sublist (scanParsed mt base root mp entries o).allModules := by
  rw [scanParsed_eq_walkFrom, walkFrom, ScanWalk.parseWalk_eq]
  simp only [List.map_map]
  exact (List.filter_sublist (l := ScanWalk.walkList _ base entries _ _)).map _

/-- the names of surviving entries are well-formed module names -/
theorem walk_names_wf (hwf : treeWFFor (exclOf mt o) base mp entries = true) (hroot : compWF root = true) (e : Entry)
    (he : e ∈ rootEntry :: entries)
    (hs : survives (toSEntries (exclOf mt o) base entries) mp (toSEntry (exclOf mt o) base e) = true) :
    nameWF (entryName root (toSEntry (exclOf mt o) base e)) = true :=
  ScanSpec.scan_modules_wf_lemma base mt root mp entries o hwf hroot e he hs

/-- the theorems take `entries` without the root directory and add it as `rootEntry`; a tree listing that also
    contains the root (empty relative path, as the harness sends it) is scanned identically by the model -/
theorem listed_root_ignored (r : Entry) (hr : r.rel = []) :
    scanParsed mt base root mp (r :: entries) o = scanParsed mt base root mp entries o ∧
    generateGraph mt base root mp (r :: entries) o = generateGraph mt base root mp entries o :=
  ⟨ScanWalk.scanParsed_root base mt root mp r hr entries o, ScanWalk.generateGraph_root base mt root mp r hr entries o⟩

end walk

section graph
variable (mt : Str → Str → Bool) (base root : Str) (mp : List Str) (entries : List Entry) (o : ScanOptions)
  (hwf : treeWFFor (exclOf mt o) base mp entries = true) (hmp : mpOK entries mp = true) (hroot : compWF root = true)
  (hxx : o.excludeExternal = true) (hlim : o.levelLimit = none) (g : PGraph Str)
  (h : generateGraph mt base root mp entries o = .ok g)
include hwf hmp hroot hxx hlim h

/-- C04, nodes: with external modules excluded and no level limit (the defaults; any exclusion patterns), the nodes
    of the scan graph are exactly the rendered `scanModules` of the specification — one module per surviving
    directory / `.py` file at or below `module_path`, plus every ancestor package up to the root. -/
theorem graph_modules_exact (s : Str) :
    s ∈ g.nodes ↔ ∃ n ∈ scanModules root (toSEntries (exclOf mt o) base entries) mp, s = render n :=
  ScanGraph.scan_nodes_lemma mt base root mp entries o hwf hmp hroot hxx hlim g h s

/-- C04, nodes, read out: a node is the name of a surviving entry (one per non-excluded directory / `.py` file at
    or below `module_path`), or — unless `module_path` itself is excluded, in which case nothing survives — one of
    the ancestor packages of `module_path` up to the root (`root`, `root.c₁`, …, the first `k ≤ |mp|` components
    of `root.mp`) -/
theorem graph_modules_explicit (s : Str) :
    s ∈ g.nodes ↔
      (∃ e ∈ rootEntry :: entries,
        survives (toSEntries (exclOf mt o) base entries) mp (toSEntry (exclOf mt o) base e) = true ∧
        s = render (entryName root (toSEntry (exclOf mt o) base e))) ∨
      (exclOf mt o (pathStr base mp) = false ∧ ∃ k, 0 < k ∧ k ≤ mp.length ∧ s = render ((root :: mp).take k)) :=
  ScanGraph.scan_nodes_explicit_lemma mt base root mp entries o hwf hmp hroot hxx hlim g h s

/-- C04, hierarchy: the hierarchy edges are exactly (parent, child) for every module with a parent -/
theorem hierarchy_exact (s x : Str) :
    x ∈ g.hierChildren s ↔
      ∃ c ∈ scanModules root (toSEntries (exclOf mt o) base entries) mp,
        2 ≤ c.length ∧ s = render c.dropLast ∧ x = render c := by
  obtain ⟨a, ha, -, hg, -⟩ := ScanGraph.scan_graph_lemma mt base root mp entries o hwf hmp hroot hxx hlim g h
  rw [hg.hier, ha]

/-- C04, sub modules: `get_all_submodules_of` on a scanned module succeeds and returns exactly the modules whose
    dotted name extends it (the module itself included) -/
theorem submodules_exact (n : Name) (hn : n ∈ scanModules root (toSEntries (exclOf mt o) base entries) mp) :
    ∃ l, submodulesOf g (render n) = .ok l ∧
      ∀ x, x ∈ l ↔ ∃ m ∈ scanModules root (toSEntries (exclOf mt o) base entries) mp, x = render m ∧ n <+: m := by
  obtain ⟨a, ha, hawf, hg, -⟩ := ScanGraph.scan_graph_lemma mt base root mp entries o hwf hmp hroot hxx hlim g h
  unfold ScanGraph.specModules at ha
  rw [← ha] at hn ⊢
  exact submodules_of_graphOf a g hawf hg n hn

/-- C04, well-formedness (discharges the standing hypothesis of C01/C03/C09/… for scanned architectures): the
    architecture read off the scan graph is well-formed — nodes duplicate-free, well-formed names, closed under
    ancestors; imports between distinct nodes, never from a module to one of its own descendants — and the scan
    graph is a graph of it. -/
theorem scan_wf : (graphArch g).wf = true ∧ GraphOf (graphArch g) g := by
  obtain ⟨a, -, hawf, hg, hnd⟩ := ScanGraph.scan_graph_lemma mt base root mp entries o hwf hmp hroot hxx hlim g h
  obtain ⟨h1, h2, -⟩ := ScanGraph.graphArch_of_graphOf a g hawf hg hnd
  exact ⟨h1, h2⟩

/-- its nodes are the specification's modules -/
theorem scan_arch_nodes (n : Name) :
    n ∈ (graphArch g).nodes ↔ n ∈ scanModules root (toSEntries (exclOf mt o) base entries) mp := by
  obtain ⟨a, ha, hawf, hg, hnd⟩ := ScanGraph.scan_graph_lemma mt base root mp entries o hwf hmp hroot hxx hlim g h
  unfold ScanGraph.specModules at ha
  rw [← ha]
  exact (ScanGraph.graphArch_of_graphOf a g hawf hg hnd).2.2 n

/-- the same, with the specification's list itself as node list -/
theorem scan_graph_of_spec :
    ∃ a : Arch, a.nodes = scanModules root (toSEntries (exclOf mt o) base entries) mp ∧ a.wf = true ∧ GraphOf a g ∧
      g.nodes.Nodup :=
  ScanGraph.scan_graph_lemma mt base root mp entries o hwf hmp hroot hxx hlim g h

end graph

section subscan
variable (mt : Str → Str → Bool) (base root : Str) (mp : List Str) (entries : List Entry) (o : ScanOptions)

/-- C04, sub-directory scans (modules): when no directory strictly between the root and `module_path` is excluded,
    scanning `module_path` registers exactly those modules of the whole-root scan that are internal to
    `module_path` (`is_internal_module` with `_get_internal_module_prefix`), i.e. the restriction to that sub-tree -/
theorem subscan_modules (hwf0 : treeWFFor (exclOf mt o) base [] entries = true)
    (hwf : treeWFFor (exclOf mt o) base mp entries = true) (hmp : mpOK entries mp = true) (hroot : compWF root = true)
    (hclear : ∀ k, k < mp.length → exclOf mt o (pathStr base (mp.take k)) = false) (x : Str) :
    x ∈ (scanParsed mt base root mp entries o).allModules ↔
      x ∈ (scanParsed mt base root [] entries o).allModules ∧ isInternal x (internalPrefix root mp) = true := by
  open ScanSpec ScanWalk ScanNames in
  obtain ⟨-, s, nm⟩ := tree_facts hwf
  obtain ⟨-, -, nm0⟩ := tree_facts hwf0
  have h0 : mpOK entries [] = true := rfl
  rw [scanParsed_eq_walkFrom, scanParsed_eq_walkFrom, walk_modules _ base s hmp root x, walk_modules _ base s h0 root x]
  have hwfmp := mp_wf s nm hmp (Rel.self _ base mp) root hroot
  have key : ∀ e ∈ rootEntry :: entries, Survives (isExcluded mt o.exclusions) base [] e →
      (isInternal (moduleName root e.rel) (internalPrefix root mp) = true ↔ mp <+: e.rel) := by
    intro e he hS
    have hk := survives_dirOrPy _ base hS
    rw [isInternal, internalPrefix_eq root, moduleName_eq,
      isModuleOrSub_render _ _ hwfmp (relName_wf s nm0 root hroot e he hk (Rel.of_survives hS)), desc_iff,
      prefix_relName_iff s nm0 hmp root e he hk (Rel.of_survives hS)]
  constructor
  · rintro ⟨e, he, hS, rfl⟩
    obtain ⟨h1, h2⟩ := (survives_subscan _ base hclear e).1 hS
    exact ⟨⟨e, he, h2, rfl⟩, (key e he h2).2 h1⟩
  · rintro ⟨⟨e, he, hS, rfl⟩, hint⟩
    exact ⟨e, he, (survives_subscan _ base hclear e).2 ⟨(key e he hS).1 hint, hS⟩, rfl⟩

/-- `_adjust_with_root_prefix`: a name written relative to `module_path`'s parent directory resolves to the
    fully qualified module when that is a scanned internal module … -/
theorem parent_relative_resolves (name : Str) (internal : List Str)
    (hq : internal.contains (absolutePrefix root mp ++ '.' :: name) = true) :
    adjustWithRootPrefix name (absolutePrefix root mp) internal = absolutePrefix root mp ++ '.' :: name := by
  unfold adjustWithRootPrefix
  simp only []
  rw [if_pos hq]

/-- … and every other name (in particular a fully qualified one) is left as written -/
theorem other_names_unchanged (name : Str) (internal : List Str)
    (hq : internal.contains (absolutePrefix root mp ++ '.' :: name) = false) :
    adjustWithRootPrefix name (absolutePrefix root mp) internal = name := by
  unfold adjustWithRootPrefix
  simp only []
  rw [if_neg (by rw [hq]; exact Bool.false_ne_true)]

end subscan

/-! ### sub-directory scans: imports

  "Scanning a sub-directory as module_path gives the same modules and imports as scanning the whole root restricted to
  that sub-tree (absolute imports written either fully qualified from the root directory's name or relative to
  module_path's parent directory both resolve)."

  The scan of `module_path` tries every absolute name `n` first as `prefix.n` (`_adjust_with_root_prefix`, `prefix` =
  dotted path of `module_path`'s parent), the scan of the whole root has no prefix. The two agree on the statements
  that are `portable` (Bridge/SubScan.lean): no absolute name the conversion looks up is, read relative to
  `module_path`'s parent, a module of the sub-scan. Without it the statement is false (`subscan_ambiguity`: a
  directory `proj/proj`). Relative imports need no hypothesis. What "restricted to that sub-tree" means for imports:
  both ends at or below `module_path`'s dotted name — the ancestor packages of `module_path` are nodes of the sub-scan
  graph but never ends of its import edges (`_get_internal_module_prefix` filters them), whereas the whole-root scan
  has edges to them.
-/

section subscanImports
variable (mt : Str → Str → Bool) (base root : Str) (mp : List Str) (entries : List Entry) (o : ScanOptions)
  (hwf0 : treeWFFor (exclOf mt o) base [] entries = true)
  (hwf : treeWFFor (exclOf mt o) base mp entries = true) (hmp : mpOK entries mp = true) (hroot : compWF root = true)
  (hclear : ∀ k, k < mp.length → exclOf mt o (pathStr base (mp.take k)) = false)
  (hport : portable root (toSEntries (exclOf mt o) base entries) mp = true)
include hwf0 hwf hmp hroot hclear hport

/-- C04, sub-directory scans, specification level: when the whole-root scan has an answer, so has the scan of
    `module_path`, and its edges are exactly the whole-root edges with both ends at or below `module_path`'s dotted
    name. (A relative import reaching above the root fails both scans if its file lies below `module_path`; a failing
    file elsewhere fails the whole-root scan only — `subscan_imports_none`.) -/
theorem subscan_imports_spec (is0 : List (Name × Name))
    (h0 : scanImports root (toSEntries (exclOf mt o) base entries) [] = some is0) :
    ∃ is, scanImports root (toSEntries (exclOf mt o) base entries) mp = some is ∧
      ∀ u v, (u, v) ∈ is ↔ (u, v) ∈ is0 ∧ (root :: mp) <+: u ∧ (root :: mp) <+: v := by
  have hSv := SubScan.survives_subscan_name (root := root) hwf0 hmp hclear
  have hI := SubScan.inside_subscan (root := root) hwf0 hmp hclear hwf hroot
  -- the files of the sub-scan are the files of the whole-root scan at or below `module_path`'s name
  have hfiles : ∀ f, f ∈ ScanImports.filesOf (toSEntries (exclOf mt o) base entries) mp ↔
      f ∈ ScanImports.filesOf (toSEntries (exclOf mt o) base entries) [] ∧ (root :: mp) <+: entryName root f := by
    intro f
    rw [ScanSim.mem_filesOf_tree, ScanSim.mem_filesOf_tree]
    constructor
    · rintro ⟨e, he, hd, hsv, rfl⟩
      obtain ⟨h1, h2⟩ := (hSv e (List.mem_cons_of_mem _ he)).1 hsv
      exact ⟨⟨e, he, hd, h1, rfl⟩, h2⟩
    · rintro ⟨⟨e, he, hd, hsv, rfl⟩, hp⟩
      exact ⟨e, he, hd, (hSv e (List.mem_cons_of_mem _ he)).2 ⟨hsv, hp⟩, rfl⟩
  have hts := fun f (hf : f ∈ ScanImports.filesOf (toSEntries (exclOf mt o) base entries) mp) st (hst : st ∈ f.stmts) =>
    SubScan.targets_subscan hI (ScanImports.apOf root mp) (entryName root f) st (SubScan.portable_stmt hport hf hst)
  obtain ⟨is, his, h⟩ := ScanSim.sim_part (keep := ((root :: mp) <+: ·)) (T := ((root :: mp) <+: ·))
    (fun f hf _ => ⟨f, ((hfiles f).1 hf).1, rfl, fun st hst => ⟨st, hst, id, fun t ht _ => (hts f hf st hst t ht).1⟩⟩)
    (fun f hf hp => ⟨f, (hfiles f).2 ⟨hf, hp⟩, rfl, fun st hst => ⟨st, hst, id, fun t ht hpt =>
      (hts f ((hfiles f).2 ⟨hf, hp⟩) st hst t ((hI t).2 ⟨ht, hpt⟩)).2⟩⟩)
    (fun f hf => ((hfiles f).1 hf).2) (fun t ht => (hI t).1 ht) (fun t ht hp => (hI t).2 ⟨ht, hp⟩) h0
  exact ⟨is, his, fun u v => h (u, v)⟩

/-- … and a sub-scan without an answer means a whole-root scan without an answer -/
theorem subscan_imports_none (h : scanImports root (toSEntries (exclOf mt o) base entries) mp = none) :
    scanImports root (toSEntries (exclOf mt o) base entries) [] = none := by
  cases h0 : scanImports root (toSEntries (exclOf mt o) base entries) [] with
  | none => rfl
  | some is0 =>
    obtain ⟨is, his, -⟩ := subscan_imports_spec mt base root mp entries o hwf0 hwf hmp hroot hclear hport is0 h0
    rw [h] at his; cases his

variable (hxx : o.excludeExternal = true) (hlim : o.levelLimit = none) (hext : o.externalExclusions.isEmpty = true)
  (hst : ∀ e ∈ entries, ∀ st ∈ e.stmts, stmtOK (toSStmt st) = true)
include hxx hlim hext hst

/-- C04, sub-directory scans, graph level (default options, any exclusion patterns): when the scan of the whole root
    succeeds, so does the scan of `module_path`;
    * its nodes are the whole-root nodes internal to `module_path` (`is_internal_module`) plus — unless `module_path`
      itself is excluded — the ancestor packages `root`, `root.c₁`, … of `module_path`;
    * its import pairs are the whole-root import pairs with both ends internal to `module_path`. -/
theorem subscan_graph (g0 : PGraph Str) (h0 : generateGraph mt base root [] entries o = .ok g0) :
    ∃ g, generateGraph mt base root mp entries o = .ok g ∧
      (∀ s, s ∈ g.nodes ↔
        (s ∈ g0.nodes ∧ isInternal s (internalPrefix root mp) = true) ∨
        (exclOf mt o (pathStr base mp) = false ∧ ∃ k, 0 < k ∧ k ≤ mp.length ∧ s = render ((root :: mp).take k))) ∧
      (∀ u v, (u, v) ∈ g.importPairs ↔
        (u, v) ∈ g0.importPairs ∧ isInternal u (internalPrefix root mp) = true ∧
          isInternal v (internalPrefix root mp) = true) := by
  obtain ⟨is0, his0, E0⟩ := ScanCompose.scan_ok_imports hwf0 rfl hroot hxx hlim hext hst g0 h0
  obtain ⟨is, his, hiff⟩ := subscan_imports_spec mt base root mp entries o hwf0 hwf hmp hroot hclear hport is0 his0
  obtain ⟨g, hg, E⟩ := ScanCompose.scan_some_imports hwf hmp hroot hxx hlim hext hst is his
  have hw := ScanSpec.mp_wf (ScanNames.tree_facts hwf).2.1 (ScanNames.tree_facts hwf).2.2 hmp (ScanNames.Rel.self _ base mp) root hroot
  have hwfe := ScanCompose.scanImports_wf_tree hwf0 hroot is0 his0
  refine ⟨g, hg, fun s => ?_, fun u v => ?_⟩
  · rw [graph_modules_explicit mt base root mp entries o hwf hmp hroot hxx hlim g hg s,
      SubScan.nodes_root hwf0 hroot hxx hlim g0 h0 s,
      ← subscan_modules mt base root mp entries o hwf0 hwf hmp hroot hclear s,
      walk_modules_exact mt base root mp entries o (ScanNames.tree_facts hwf).1 hmp s]
  · rw [E u v, E0 u v]
    constructor
    · rintro ⟨e, he, rfl, rfl⟩
      obtain ⟨he0, hp1, hp2⟩ := (hiff e.1 e.2).1 he
      obtain ⟨hw1, hw2⟩ := hwfe e he0
      exact ⟨⟨e, he0, rfl, rfl⟩, (ScanImports.isInternal_render hw hw1).2 hp1, (ScanImports.isInternal_render hw hw2).2 hp2⟩
    · rintro ⟨⟨e, he0, rfl, rfl⟩, hi1, hi2⟩
      obtain ⟨hw1, hw2⟩ := hwfe e he0
      exact ⟨e, (hiff e.1 e.2).2 ⟨he0, (ScanImports.isInternal_render hw hw1).1 hi1, (ScanImports.isInternal_render hw hw2).1 hi2⟩,
        rfl, rfl⟩

end subscanImports

/-! ### both spellings of an absolute import

  `parentRelative root mp entries` (Bridge/SubScan.lean) is THE SAME tree with every absolute import of the files at
  or below `mp` re-spelled relative to `mp`'s parent directory: the prefix `root.<mp's parent>` stripped from every
  name that properly extends it (`import proj.a.x` ↦ `import a.x`, `from proj.a.s import u` ↦ `from a.s import u`
  for `mp = a`). `plain` excludes the ambiguity the other way round (the stripped name is itself a module below
  `module_path` while the name as written is not — again only with repeated directory names, `plain_needed`). -/

section spellings
variable (mt : Str → Str → Bool) (base root : Str) (mp : List Str) (entries : List Entry) (o : ScanOptions)

/-- `_adjust_with_root_prefix`, specification level: the spelling relative to `module_path`'s parent resolves to the
    fully qualified module when that is a module of the sub-scan -/
theorem parent_relative_resolves_spec (inside : List Name) (pre r : Name) (h : inside.contains (pre ++ r) = true) :
    targets.qualify inside (some pre) r = pre ++ r := by
  rw [SubScan.qualify_some, if_pos h]

/-- … in particular the stripped spelling of a module `n` of the sub-scan resolves back to `n` -/
theorem strip_resolves (inside : List Name) (pre n : Name) (h : inside.contains n = true)
    (hp : pre <+: n) (hl : pre.length < n.length) :
    targets.qualify inside (some pre) (stripName (some pre) n) = n := by
  rw [SubScan.qualify_some, SubScan.stripName_of_prefix hp hl, if_pos h]

variable (hst : ∀ e ∈ entries, ∀ st ∈ e.stmts, stmtOK (toSStmt st) = true)
  (hport : portable root (toSEntries (exclOf mt o) base entries) mp = true)
  (hplain : plain root (toSEntries (exclOf mt o) base entries) mp = true)
include hst hport hplain

/-- C04, both spellings, specification level: the scan of `module_path` has an answer for the re-spelled tree iff it
    has one for the tree as written, and then the same edges -/
theorem parent_relative_spec :
    (scanImports root (toSEntries (exclOf mt o) base (parentRelative root mp entries)) mp = none ↔
      scanImports root (toSEntries (exclOf mt o) base entries) mp = none) ∧
    ∀ is is', scanImports root (toSEntries (exclOf mt o) base entries) mp = some is →
      scanImports root (toSEntries (exclOf mt o) base (parentRelative root mp entries)) mp = some is' →
      ∀ u v, (u, v) ∈ is' ↔ (u, v) ∈ is := by
  have hI := ScanSim.insideOf_same (SubScan.skel_respell root mp entries) (exclOf mt o) base root mp
  have hts := fun f (hf : f ∈ ScanImports.filesOf (toSEntries (exclOf mt o) base entries) mp) st (hst : st ∈ f.stmts) =>
    SubScan.targets_strip (parentPrefix root mp) (entryName root f) st (SubScan.portable_stmt hport hf hst)
      (SubScan.plain_stmt hplain hf hst)
  -- a file and its re-spelled file, a statement and its re-spelling
  have fwd : ScanSim.Sim root (toSEntries (exclOf mt o) base entries) mp
      (toSEntries (exclOf mt o) base (parentRelative root mp entries)) mp (fun _ => True) (fun _ => True) := by
    intro f hf _
    obtain ⟨e, he, hd, hsv, rfl⟩ := (ScanSim.mem_filesOf_tree f).1 hf
    refine ⟨_, (SubScan.files_respell _ _).2 ⟨e, he, hd, hsv, rfl⟩, SubScan.entryName_respell root mp _ base e,
      fun st hs => ⟨stripSStmt (parentPrefix root mp) st, ?_, ?_, fun t ht _ => ?_⟩⟩
    · rw [SubScan.stmts_respell_file hst _ e he hsv]; exact List.mem_map.2 ⟨st, hs, rfl⟩
    · rw [SubScan.aboveRoot_strip]; exact id
    · rw [hI]; exact (hts _ hf st hs t ht).2
  have bwd : ScanSim.Sim root (toSEntries (exclOf mt o) base (parentRelative root mp entries)) mp
      (toSEntries (exclOf mt o) base entries) mp (fun _ => True) (fun _ => True) := by
    intro f' hf' _
    obtain ⟨e, he, hd, hsv, rfl⟩ := (SubScan.files_respell _ f').1 hf'
    have hf := (ScanSim.mem_filesOf_tree (toSEntry (exclOf mt o) base e)).2 ⟨e, he, hd, hsv, rfl⟩
    refine ⟨_, hf, (SubScan.entryName_respell root mp _ base e).symm, fun st' hs' => ?_⟩
    rw [SubScan.stmts_respell_file hst _ e he hsv] at hs'
    obtain ⟨st, hs, rfl⟩ := List.mem_map.1 hs'
    refine ⟨st, hs, by rw [SubScan.aboveRoot_strip]; exact id, fun t ht _ => ?_⟩
    rw [hI] at ht ⊢
    rw [SubScan.entryName_respell]
    exact (hts _ hf st hs t ht).1
  exact ⟨⟨ScanSim.sim_none bwd fun _ => trivial, ScanSim.sim_none fwd fun _ => trivial⟩, fun is is' his his' u v =>
    ⟨fun he => ScanSim.sim_mem bwd (fun t ht _ => hI ▸ ht) his' his (u, v) he trivial trivial,
      fun he => ScanSim.sim_mem fwd (fun t ht _ => hI.symm ▸ ht) his his' (u, v) he trivial trivial⟩⟩

variable (hwf : treeWFFor (exclOf mt o) base mp entries = true) (hmp : mpOK entries mp = true)
  (hroot : compWF root = true)
  (hxx : o.excludeExternal = true) (hlim : o.levelLimit = none) (hext : o.externalExclusions.isEmpty = true)
include hwf hmp hroot hxx hlim hext

/-- C04, both spellings, graph level: the scans of `module_path` of the two trees raise together (LookupError /
    IndexError for a relative import above the root), and otherwise their graphs have the same nodes and the same
    import pairs -/
theorem parent_relative_graph :
    (generateGraph mt base root mp (parentRelative root mp entries) o = .error .lookupError ↔
      generateGraph mt base root mp entries o = .error .lookupError) ∧
    ∀ g, generateGraph mt base root mp entries o = .ok g →
      ∃ g', generateGraph mt base root mp (parentRelative root mp entries) o = .ok g' ∧
        (∀ s, s ∈ g'.nodes ↔ s ∈ g.nodes) ∧ ∀ u v, (u, v) ∈ g'.importPairs ↔ (u, v) ∈ g.importPairs := by
  have hsk := SubScan.skel_respell root mp entries
  obtain ⟨hwf', hmp'⟩ := ScanSim.tree_same hsk _ base hwf hmp
  have hst' := SubScan.stmts_respell (root := root) (mp := mp) hst
  obtain ⟨hnone, hsome⟩ := parent_relative_spec mt base root mp entries o hst hport hplain
  refine ⟨?_, fun g hg => ?_⟩
  · rw [ScanCompose.scan_error_iff_none hwf' hmp' hroot hxx hlim hext hst',
      ScanCompose.scan_error_iff_none hwf hmp hroot hxx hlim hext hst]
    exact hnone
  · obtain ⟨is, his, E⟩ := ScanCompose.scan_ok_imports hwf hmp hroot hxx hlim hext hst g hg
    cases his' : scanImports root (toSEntries (exclOf mt o) base (parentRelative root mp entries)) mp with
    | none => rw [hnone.1 his'] at his; cases his
    | some is' =>
      obtain ⟨g', hg', E'⟩ := ScanCompose.scan_some_imports hwf' hmp' hroot hxx hlim hext hst' is' his'
      refine ⟨g', hg', fun s => ?_, fun u v => ?_⟩
      · rw [graph_modules_exact mt base root mp _ o hwf' hmp' hroot hxx hlim g' hg' s,
          graph_modules_exact mt base root mp entries o hwf hmp hroot hxx hlim g hg s]
        show (∃ n ∈ scanModules root (toSEntries _ base (parentRelative root mp entries)) mp, s = render n) ↔ _
        rw [ScanSim.scanModules_same hsk]
      · rw [E u v, E' u v]
        exact exists_congr fun e => and_congr_left fun _ => hsome is is' his his' e.1 e.2

/-- C04, "both resolve": the scan of `module_path` of the tree spelled relative to `module_path`'s parent against the
    scan of the whole root of the tree spelled fully qualified — the restriction of the latter to the sub-tree, as
    in `subscan_graph` -/
theorem parent_relative_equiv (hwf0 : treeWFFor (exclOf mt o) base [] entries = true)
    (hclear : ∀ k, k < mp.length → exclOf mt o (pathStr base (mp.take k)) = false)
    (g0 : PGraph Str) (h0 : generateGraph mt base root [] entries o = .ok g0) :
    ∃ g', generateGraph mt base root mp (parentRelative root mp entries) o = .ok g' ∧
      (∀ s, s ∈ g'.nodes ↔
        (s ∈ g0.nodes ∧ isInternal s (internalPrefix root mp) = true) ∨
        (exclOf mt o (pathStr base mp) = false ∧ ∃ k, 0 < k ∧ k ≤ mp.length ∧ s = render ((root :: mp).take k))) ∧
      (∀ u v, (u, v) ∈ g'.importPairs ↔
        (u, v) ∈ g0.importPairs ∧ isInternal u (internalPrefix root mp) = true ∧
          isInternal v (internalPrefix root mp) = true) := by
  obtain ⟨g, hg, hn, hi⟩ := subscan_graph mt base root mp entries o hwf0 hwf hmp hroot hclear hport hxx hlim hext hst g0 h0
  obtain ⟨g', hg', hn', hi'⟩ :=
    (parent_relative_graph mt base root mp entries o hst hport hplain hwf hmp hroot hxx hlim hext).2 g hg
  exact ⟨g', hg', fun s => (hn' s).trans (hn s), fun u v => (hi' u v).trans (hi u v)⟩

end spellings

/-! non-vacuity: a tree with a package, a sub-package, a non-`.py` file and an excluded directory -/
def p (l : List String) : List Str := l.map String.toList
def exEntries : List Entry :=
  [ { rel := p ["a"], isDir := true }, { rel := p ["a", "__init__.py"], isDir := false },
    { rel := p ["a", "x.py"], isDir := false, stmts := [.imp ["proj.b.y".toList], .impFrom (some "b".toList) ["y".toList] 0] },
    { rel := p ["a", "s"], isDir := true }, { rel := p ["a", "s", "t.py"], isDir := false, stmts := [.impFrom none ["x".toList] 2] },
    { rel := p ["b"], isDir := true }, { rel := p ["b", "y.py"], isDir := false }, { rel := p ["b", "notes.txt"], isDir := false },
    { rel := p ["cache"], isDir := true }, { rel := p ["cache", "z.py"], isDir := false } ]
def exOpts : ScanOptions := { exclusions := .globs ["*cache".toList] }
def noRe : Str → Str → Bool := fun _ _ => false

example : treeWF exEntries = true ∧ mpOK exEntries [] = true ∧ mpOK exEntries (p ["a"]) = true ∧
    compWF "proj".toList = true := by decide +kernel
/-- the hypothesis the theorems use tolerates anything inside excluded directories and outside `module_path`'s line:
    a dotted directory below the excluded `cache`, an `x.py` next to `x/` outside `a` -/
def exJunk : List Entry :=
  exEntries ++ [ { rel := p ["cache", "v1.2"], isDir := true }, { rel := p ["b", "y"], isDir := true } ]
example : treeWF exJunk = false ∧ treeWFFor (exclOf noRe exOpts) "/r/proj".toList (p ["a"]) exJunk = true ∧
    treeWFFor (exclOf noRe exOpts) "/r/proj".toList [] exEntries = true ∧
    treeWFFor (exclOf noRe exOpts) "/r/proj".toList (p ["a"]) exEntries = true := by decide +kernel
example : (scanParsed noRe "/r/proj".toList "proj".toList [] exEntries exOpts).allModules =
    ["proj", "proj.a", "proj.a.__init__", "proj.a.x", "proj.a.s", "proj.a.s.t", "proj.b", "proj.b.y"].map String.toList := by
  decide +kernel

set_option maxRecDepth 20000 in
/-- the graph of the example tree: 8 nodes, 7 hierarchy edges, 2 import edges (`proj.a.x → proj.b.y`,
    `proj.a.s.t → proj.a.x`) -/
example : (match generateGraph noRe "/r/proj".toList "proj".toList [] exEntries exOpts with
    | .ok g => g.nodes.length == 8 && g.hierPairs.length == 7 &&
        g.importPairs == [("proj.a.x".toList, "proj.b.y".toList), ("proj.a.s.t".toList, "proj.a.x".toList)]
    | .error _ => false) = true := by decide +kernel
/-- the specification's module list of the same tree (whole-root scan and the sub-scan of `a`, which adds the
    ancestor package `proj`) -/
example : scanModules "proj".toList (toSEntries (exclOf noRe exOpts) "/r/proj".toList exEntries) [] =
    [["proj"], ["proj", "a"], ["proj", "a", "__init__"], ["proj", "a", "x"], ["proj", "a", "s"], ["proj", "a", "s", "t"],
     ["proj", "b"], ["proj", "b", "y"]].map (·.map String.toList) := by decide +kernel
example : scanModules "proj".toList (toSEntries (exclOf noRe exOpts) "/r/proj".toList exEntries) (p ["a"]) =
    [["proj", "a"], ["proj", "a", "__init__"], ["proj", "a", "x"], ["proj", "a", "s"], ["proj", "a", "s", "t"],
     ["proj"]].map (·.map String.toList) := by decide +kernel
example : exOpts.excludeExternal = true ∧ exOpts.levelLimit = none := by decide
/-- the sub-scan of `a` and its hypothesis -/
example : ∀ k, k < (p ["a"]).length → exclOf noRe exOpts (pathStr "/r/proj".toList ((p ["a"]).take k)) = false := by decide +kernel
example : (scanParsed noRe "/r/proj".toList "proj".toList (p ["a"]) exEntries exOpts).allModules =
    ["proj.a", "proj.a.__init__", "proj.a.x", "proj.a.s", "proj.a.s.t"].map String.toList := by decide +kernel

/-! ### sub-directory scans, imports: a three-level tree, `module_path = a`

  `proj/a/{__init__,x}.py`, `proj/a/s/{t,u}.py`, `proj/b/y.py`, an excluded `proj/cache/`. The files below `a` import
  fully qualified (`import proj.a.s.t, proj.b.y, os`, `from proj.a.s import u, zz`, `import proj, proj.a`,
  `from proj.a import x`) and relatively (`from .. import x`, `from ...b import y`, `from . import t`). -/

def exSub : List Entry :=
  [ { rel := p ["a"], isDir := true }, { rel := p ["a", "__init__.py"], isDir := false },
    { rel := p ["a", "x.py"], isDir := false,
      stmts := [.imp ["proj.a.s.t".toList, "proj.b.y".toList, "os".toList],
                .impFrom (some "proj.a.s".toList) ["u".toList, "zz".toList] 0,
                .imp ["proj".toList, "proj.a".toList]] },
    { rel := p ["a", "s"], isDir := true },
    { rel := p ["a", "s", "t.py"], isDir := false,
      stmts := [.impFrom none ["x".toList] 2, .impFrom (some "b".toList) ["y".toList] 3,
                .impFrom (some "proj.a".toList) ["x".toList] 0] },
    { rel := p ["a", "s", "u.py"], isDir := false, stmts := [.impFrom none ["t".toList] 1] },
    { rel := p ["b"], isDir := true }, { rel := p ["b", "y.py"], isDir := false, stmts := [.imp ["proj.a.x".toList]] },
    { rel := p ["cache"], isDir := true }, { rel := p ["cache", "z.py"], isDir := false } ]

/-- dotted pairs as component-list pairs / as raw-string pairs -/
def q (l : List (String × String)) : List (Name × Name) := l.map fun e => (splitDots e.1.toList, splitDots e.2.toList)
def qs (l : List (String × String)) : List (Str × Str) := l.map fun e => (e.1.toList, e.2.toList)

set_option maxRecDepth 20000 in
/-- the tree meets every hypothesis of `subscan_imports_spec`, `subscan_graph`, `parent_relative_spec`,
    `parent_relative_graph` and `parent_relative_equiv` -/
example : treeWFFor (exclOf noRe exOpts) "/r/proj".toList [] exSub = true ∧
    treeWFFor (exclOf noRe exOpts) "/r/proj".toList (p ["a"]) exSub = true ∧ mpOK exSub (p ["a"]) = true ∧
    compWF "proj".toList = true ∧
    (∀ k, k < (p ["a"]).length → exclOf noRe exOpts (pathStr "/r/proj".toList ((p ["a"]).take k)) = false) ∧
    portable "proj".toList (toSEntries (exclOf noRe exOpts) "/r/proj".toList exSub) (p ["a"]) = true ∧
    plain "proj".toList (toSEntries (exclOf noRe exOpts) "/r/proj".toList exSub) (p ["a"]) = true ∧
    exOpts.excludeExternal = true ∧ exOpts.levelLimit = none ∧ exOpts.externalExclusions.isEmpty = true ∧
    (∀ e ∈ exSub, ∀ st ∈ e.stmts, stmtOK (toSStmt st) = true) := by decide +kernel

/-- the re-spelled tree: `import a.s.t, b.y, os`, `from a.s import u, zz`, `import proj, a`, `from a import x`; the
    relative imports and the file outside `a` unchanged -/
example : (parentRelative "proj".toList (p ["a"]) exSub).map (·.stmts) =
    [ [], [], [.imp ["a.s.t".toList, "b.y".toList, "os".toList], .impFrom (some "a.s".toList) ["u".toList, "zz".toList] 0,
               .imp ["proj".toList, "a".toList]],
      [], [.impFrom none ["x".toList] 2, .impFrom (some "b".toList) ["y".toList] 3, .impFrom (some "a".toList) ["x".toList] 0],
      [.impFrom none ["t".toList] 1], [], [.imp ["proj.a.x".toList]], [], [] ] := by decide +kernel

set_option maxRecDepth 20000 in
/-- the specification's edges of the whole-root scan: 11, of which 7 have both ends at or below `proj.a` … -/
example : scanImports "proj".toList (toSEntries (exclOf noRe exOpts) "/r/proj".toList exSub) [] =
    some (q [("proj.a.x", "proj.a.s.t"), ("proj.a.x", "proj.b.y"), ("proj.a.x", "proj.a.s.u"), ("proj.a.x", "proj.a.s"),
      ("proj.a.x", "proj"), ("proj.a.x", "proj.a"), ("proj.a.s.t", "proj.a.x"), ("proj.a.s.t", "proj.b.y"),
      ("proj.a.s.t", "proj.a.x"), ("proj.a.s.u", "proj.a.s.t"), ("proj.b.y", "proj.a.x")]) := by decide +kernel
set_option maxRecDepth 20000 in
/-- … which are the edges of the scan of `a` … -/
example : scanImports "proj".toList (toSEntries (exclOf noRe exOpts) "/r/proj".toList exSub) (p ["a"]) =
    some (q [("proj.a.x", "proj.a.s.t"), ("proj.a.x", "proj.a.s.u"), ("proj.a.x", "proj.a.s"), ("proj.a.x", "proj.a"),
      ("proj.a.s.t", "proj.a.x"), ("proj.a.s.t", "proj.a.x"), ("proj.a.s.u", "proj.a.s.t")]) := by decide +kernel
set_option maxRecDepth 20000 in
/-- … and of the scan of `a` of the re-spelled tree -/
example : scanImports "proj".toList
      (toSEntries (exclOf noRe exOpts) "/r/proj".toList (parentRelative "proj".toList (p ["a"]) exSub)) (p ["a"]) =
    some (q [("proj.a.x", "proj.a.s.t"), ("proj.a.x", "proj.a.s.u"), ("proj.a.x", "proj.a.s"), ("proj.a.x", "proj.a"),
      ("proj.a.s.t", "proj.a.x"), ("proj.a.s.t", "proj.a.x"), ("proj.a.s.u", "proj.a.s.t")]) := by decide +kernel

set_option maxRecDepth 40000 in
/-- the model's graphs: the whole root (9 nodes, 10 import pairs), … -/
example : (generateGraph noRe "/r/proj".toList "proj".toList [] exSub exOpts).toOption.map (fun g => (g.nodes, g.importPairs)) =
    some (["proj", "proj.a", "proj.a.__init__", "proj.a.x", "proj.a.s", "proj.a.s.t", "proj.a.s.u", "proj.b", "proj.b.y"].map
        String.toList,
      qs [("proj.a.x", "proj.a.s.t"), ("proj.a.x", "proj.b.y"), ("proj.a.x", "proj.a.s.u"), ("proj.a.x", "proj.a.s"),
        ("proj.a.x", "proj"), ("proj.a.x", "proj.a"), ("proj.a.s.t", "proj.a.x"), ("proj.a.s.t", "proj.b.y"),
        ("proj.a.s.u", "proj.a.s.t"), ("proj.b.y", "proj.a.x")]) := by decide +kernel
set_option maxRecDepth 40000 in
/-- … `module_path = a` (the 6 nodes internal to `proj.a` and the ancestor `proj`; the 6 pairs inside `proj.a`), … -/
example : (generateGraph noRe "/r/proj".toList "proj".toList (p ["a"]) exSub exOpts).toOption.map
      (fun g => (g.nodes, g.importPairs)) =
    some (["proj.a", "proj", "proj.a.__init__", "proj.a.x", "proj.a.s", "proj.a.s.t", "proj.a.s.u"].map String.toList,
      qs [("proj.a.x", "proj.a.s.t"), ("proj.a.x", "proj.a.s.u"), ("proj.a.x", "proj.a.s"), ("proj.a.x", "proj.a"),
        ("proj.a.s.t", "proj.a.x"), ("proj.a.s.u", "proj.a.s.t")]) := by decide +kernel
set_option maxRecDepth 40000 in
/-- … and `module_path = a` of the re-spelled tree: the same graph -/
example : (generateGraph noRe "/r/proj".toList "proj".toList (p ["a"]) (parentRelative "proj".toList (p ["a"]) exSub)
      exOpts).toOption.map (fun g => (g.nodes, g.importPairs)) =
    some (["proj.a", "proj", "proj.a.__init__", "proj.a.x", "proj.a.s", "proj.a.s.t", "proj.a.s.u"].map String.toList,
      qs [("proj.a.x", "proj.a.s.t"), ("proj.a.x", "proj.a.s.u"), ("proj.a.x", "proj.a.s"), ("proj.a.x", "proj.a"),
        ("proj.a.s.t", "proj.a.x"), ("proj.a.s.u", "proj.a.s.t")]) := by decide +kernel

/-! ### the ambiguity: a directory `proj` inside the root directory `proj` -/

def noEx : ScanOptions := { exclusions := .globs [] }

/-- `proj/x.py`, `proj/proj/x.py`, and `proj/proj/y.py` with `import proj.x` -/
def exAmb : List Entry :=
  [ { rel := p ["proj"], isDir := true }, { rel := p ["proj", "x.py"], isDir := false },
    { rel := p ["proj", "y.py"], isDir := false, stmts := [.imp ["proj.x".toList]] },
    { rel := p ["x.py"], isDir := false } ]

/-- `portable` is needed. In a globally well-formed tree, `import proj.x` in `proj/proj/y.py` names the top-level
    `proj.x` in the scan of the whole root and — read relative to `module_path`'s parent, which
    `_adjust_with_root_prefix` tries first — `proj.proj.x` in the scan of `module_path = proj/proj`: the sub-scan has
    an import edge the whole-root scan does not have, in the specification and in the model's graphs. All other
    hypotheses of `subscan_imports_spec` / `subscan_graph` hold. -/
theorem subscan_ambiguity :
    treeWF exAmb = true ∧ mpOK exAmb (p ["proj"]) = true ∧ compWF "proj".toList = true ∧
    (∀ e ∈ exAmb, ∀ st ∈ e.stmts, stmtOK (toSStmt st) = true) ∧
    (∀ k, k < (p ["proj"]).length → exclOf noRe noEx (pathStr "/r/proj".toList ((p ["proj"]).take k)) = false) ∧
    portable "proj".toList (toSEntries (exclOf noRe noEx) "/r/proj".toList exAmb) (p ["proj"]) = false ∧
    scanImports "proj".toList (toSEntries (exclOf noRe noEx) "/r/proj".toList exAmb) [] =
      some (q [("proj.proj.y", "proj.x")]) ∧
    scanImports "proj".toList (toSEntries (exclOf noRe noEx) "/r/proj".toList exAmb) (p ["proj"]) =
      some (q [("proj.proj.y", "proj.proj.x")]) ∧
    (generateGraph noRe "/r/proj".toList "proj".toList [] exAmb noEx).toOption.map (·.importPairs) =
      some (qs [("proj.proj.y", "proj.x")]) ∧
    (generateGraph noRe "/r/proj".toList "proj".toList (p ["proj"]) exAmb noEx).toOption.map (·.importPairs) =
      some (qs [("proj.proj.y", "proj.proj.x")]) := by
  refine ⟨by decide +kernel, by decide +kernel, by decide +kernel, by decide +kernel, by decide +kernel, by decide +kernel, by decide +kernel, by decide +kernel, by decide +kernel, by decide +kernel⟩

/-- `proj/proj/z.py`, and `proj/proj/y.py` with `import proj.proj.proj.z` (no such module) -/
def exAmb2 : List Entry :=
  [ { rel := p ["proj"], isDir := true }, { rel := p ["proj", "z.py"], isDir := false },
    { rel := p ["proj", "y.py"], isDir := false, stmts := [.imp ["proj.proj.proj.z".toList]] } ]

/-- `plain` is needed for `parent_relative_spec`: `import proj.proj.proj.z` names no module; stripped of the prefix
    `proj` it reads `import proj.proj.z`, which is a module of the sub-scan as it stands. The tree is portable. -/
theorem plain_needed :
    treeWF exAmb2 = true ∧ mpOK exAmb2 (p ["proj"]) = true ∧
    (∀ e ∈ exAmb2, ∀ st ∈ e.stmts, stmtOK (toSStmt st) = true) ∧
    portable "proj".toList (toSEntries (exclOf noRe noEx) "/r/proj".toList exAmb2) (p ["proj"]) = true ∧
    plain "proj".toList (toSEntries (exclOf noRe noEx) "/r/proj".toList exAmb2) (p ["proj"]) = false ∧
    scanImports "proj".toList (toSEntries (exclOf noRe noEx) "/r/proj".toList exAmb2) (p ["proj"]) = some [] ∧
    scanImports "proj".toList
        (toSEntries (exclOf noRe noEx) "/r/proj".toList (parentRelative "proj".toList (p ["proj"]) exAmb2)) (p ["proj"]) =
      some (q [("proj.proj.y", "proj.proj.z")]) := by
  refine ⟨by decide +kernel, by decide +kernel, by decide +kernel, by decide +kernel, by decide +kernel, by decide +kernel, by decide +kernel⟩

/-! ### the two entry points: `get_evaluable_architecture` and `get_evaluable_architecture_for_module_objects`

  PtaModel/Scan.lean: `dirname` (`posixpath.dirname`), `parsePath` / `PPath.str` / `PPath.name` / `PPath.relativeTo` (the part of
  `pathlib` the entry point uses), `entryPaths`, `EntryArgs` (the six options), `getEvaluableArchitecture` (the path entry
  point) and `scanForModuleObjects` (a module object is its `__file__`). The file system is the parameter `fs`:
  `str(root_as_path)` ↦ the entries below that directory. -/
section entry
variable (mt : Str → Str → Bool) (fs : Str → List Entry)

/-- `os.path.dirname(d + "/" + f)` is `d`, for a non-empty `d` that does not end in `/` and a last component `f`
    without `/` (an empty `f` included) -/
theorem dirname_spec (d f : Str) (hd : d ≠ []) (hlast : d.getLast? ≠ some '/') (hf : '/' ∉ f) :
    dirname (d ++ '/' :: f) = d :=
  Pta.Entry.dirname_spec_lemma d f hd hlast hf

/-- the two cases `dirname_spec` leaves out: no `/` at all gives the empty string (and `Path("")` is the current
    directory), a file directly below the file-system root gives `/` -/
theorem dirname_no_slash (f : Str) (hf : '/' ∉ f) : dirname f = [] := by
  have h := Pta.Entry.dropWhile_ne_slash f.reverse [] fun c hc e => hf (e ▸ List.mem_reverse.mp hc)
  rw [List.append_nil] at h
  unfold dirname
  simp only [h]
  rfl
theorem dirname_root_file (f : Str) (hf : '/' ∉ f) : dirname ('/' :: f) = ['/'] := by
  have h := Pta.Entry.dropWhile_ne_slash_reverse [] f hf
  simp only [List.nil_append, List.reverse_nil] at h
  unfold dirname
  simp only [h]
  rfl

/-- the path entry point is `generate_graph` on what `entryPaths` derives from the two path strings — the root path
    string, the root directory's name and the components of `module_path.relative_to(root_path)` — whenever the options
    pass the checks of `entryOptionsError` (since the repair c0bb7ac `a.scanOptions` is always `some _`: `exclusions=()`
    without `regex_exclusions` means that nothing is excluded, `Pta.C08.no_type_error`). So every theorem
    about `generateGraph` / `scanParsed` (this file, C02, C08, C09, C10) is a theorem about the entry point. -/
theorem path_entry_eq_generateGraph (rootPath modulePath : Str) (a : EntryArgs) (base root : Str) (mp : List Str)
    (o : ScanOptions) (hopt : entryOptionsError (a.flags true) = none)
    (hpaths : entryPaths rootPath modulePath = .ok (base, root, mp)) (ho : a.scanOptions = some o) :
    getEvaluableArchitecture mt fs rootPath modulePath a =
      (generateGraph mt base root mp (fs base) o).mapError EntryErr.kind := by
  unfold getEvaluableArchitecture
  rw [hopt, hpaths, ho]
  simp only
  cases generateGraph mt base root mp (fs base) o <;> rfl

/-- what `entryPaths` returns is what the walk needs: `base` is `str(root_as_path)`, `root` its last component, and
    `str(module_as_path)` — the path string the walk starts from and tests exclusions against — is `pathStr base mp`, the
    string `scanParsed` uses. Needs a root path with at least one component: for the file-system root `/` (or `//`, or the
    current directory `""`) `pathStr` would write `//a` (`./a`) where `pathlib` writes `/a` (`a`), see the example below. -/
theorem entry_module_path_str (rootPath modulePath base root : Str) (mp : List Str)
    (h : entryPaths rootPath modulePath = .ok (base, root, mp)) (hparts : (parsePath rootPath).parts ≠ []) :
    (parsePath modulePath).str = pathStr base mp ∧ base = (parsePath rootPath).str ∧ root = (parsePath rootPath).name := by
  unfold entryPaths PPath.relativeTo at h
  by_cases hc : ((parsePath modulePath).root == (parsePath rootPath).root &&
      (parsePath rootPath).parts.isPrefixOf (parsePath modulePath).parts) = true
  · simp only [hc, if_true, Except.ok.injEq, Prod.mk.injEq] at h
    obtain ⟨hb, hr, hmp⟩ := h
    simp only [Bool.and_eq_true, beq_iff_eq] at hc
    obtain ⟨t, ht⟩ := List.isPrefixOf_iff_prefix.mp hc.2
    have hm : parsePath modulePath = ⟨(parsePath rootPath).root, (parsePath rootPath).parts ++ mp⟩ := by
      rw [← hmp, ← ht, ← hc.1, List.drop_left, ht]
    rw [hm, ← hb]
    refine ⟨Pta.Entry.str_append _ _ _ hparts fun e => ?_, rfl, hr.symm⟩
    exact Pta.joinWith_ne_nil ['/'] _ hparts (Pta.Entry.parsePath_parts_ne rootPath) (List.append_eq_nil_iff.mp e).2
  · simp only [hc] at h
    cases h

/-- the error table of C13 (`Pta.C13.options`, `entryOptionsError`) is about this entry point: with the flag
    `modulePathInsideRoot` read as "`module_path.relative_to(root_path)` succeeds", every listed combination raises the
    listed error -/
theorem path_entry_option_error (rootPath modulePath : Str) (a : EntryArgs) (k : ErrKind)
    (h : entryOptionsError (a.flags (entryPaths rootPath modulePath).toBool) = some k) :
    getEvaluableArchitecture mt fs rootPath modulePath a = .error (.kind k) := by
  unfold getEvaluableArchitecture
  cases hp : entryPaths rootPath modulePath with
  | ok r =>
    rw [hp] at h
    simp only [Except.toBool] at h
    rw [h]
  | error k' =>
    -- the options are looked at first; what they leave is the error of `relative_to`
    rw [hp, Except.toBool, Pta.Entry.entryOptionsError_outside, Option.some.injEq] at h
    cases hopt : entryOptionsError (a.flags true) with
    | some k2 => rw [hopt] at h; rw [← h]; rfl
    | none => rw [hopt] at h; rw [← h, Pta.Entry.entryPaths_error _ _ _ hp]; rfl

/-- **module objects that are packages.** `root_module.__file__ = rdir/__init__.py`, `module.__file__ = mdir/__init__.py`:
    the module-object entry point returns literally what the path entry point returns for `(rdir, mdir)` with the same
    six options — graph or error. Every theorem about the path entry point transfers. -/
theorem module_object_entry_eq_path_entry (rdir mdir : Str) (a : EntryArgs)
    (hr : rdir ≠ []) (hr' : rdir.getLast? ≠ some '/') (hm : mdir ≠ []) (hm' : mdir.getLast? ≠ some '/') :
    scanForModuleObjects mt fs ⟨rdir ++ "/__init__.py".toList⟩ ⟨mdir ++ "/__init__.py".toList⟩ a =
      getEvaluableArchitecture mt fs rdir mdir a :=
  Pta.Entry.scanForModuleObjects_eq mt fs rdir mdir "__init__.py".toList "__init__.py".toList a hr hr' hm hm'
    (by decide) (by decide)

/-- **a module object that is a plain file** `dir/x.py` (any file name `x` without `/`): the scanned directory is `dir`, the
    PARENT PACKAGE of the module — the module-object entry point cannot scan a single file; it returns what the path
    entry point returns for `dir`. (The same holds for the root module.) -/
theorem module_object_plain_module (rdir dir rfile x : Str) (a : EntryArgs)
    (hr : rdir ≠ []) (hr' : rdir.getLast? ≠ some '/') (hd : dir ≠ []) (hd' : dir.getLast? ≠ some '/')
    (hrf : '/' ∉ rfile) (hx : '/' ∉ x) :
    dirname (dir ++ '/' :: x) = dir ∧
    scanForModuleObjects mt fs ⟨rdir ++ '/' :: rfile⟩ ⟨dir ++ '/' :: x⟩ a = getEvaluableArchitecture mt fs rdir dir a :=
  ⟨dirname_spec dir x hd hd' hx, Pta.Entry.scanForModuleObjects_eq mt fs rdir dir rfile x a hr hr' hd hd' hrf hx⟩

/-- so two module objects in the same directory — the package `dir/__init__.py` and a plain module `dir/x.py` — give the
    same result -/
theorem module_object_plain_eq_package (rdir dir x : Str) (a : EntryArgs)
    (hr : rdir ≠ []) (hr' : rdir.getLast? ≠ some '/') (hd : dir ≠ []) (hd' : dir.getLast? ≠ some '/') (hx : '/' ∉ x) :
    scanForModuleObjects mt fs ⟨rdir ++ "/__init__.py".toList⟩ ⟨dir ++ '/' :: x⟩ a =
      scanForModuleObjects mt fs ⟨rdir ++ "/__init__.py".toList⟩ ⟨dir ++ "/__init__.py".toList⟩ a := by
  have h1 : scanForModuleObjects mt fs ⟨rdir ++ "/__init__.py".toList⟩ ⟨dir ++ '/' :: x⟩ a =
      getEvaluableArchitecture mt fs rdir dir a :=
    (module_object_plain_module mt fs rdir dir "__init__.py".toList x a hr hr' hd hd' (by decide +kernel) hx).2
  exact h1.trans (module_object_entry_eq_path_entry mt fs rdir dir a hr hr' hd hd').symm

/-- transfer, spelled out once (`graph_modules_exact`): for package module objects, default-style options (external
    modules excluded, no level limit) and a well-formed tree below the root directory, the nodes of the graph the
    module-object entry point returns are exactly the rendered `scanModules` of the specification -/
theorem module_object_modules_exact (rdir mdir : Str) (a : EntryArgs)
    (hr : rdir ≠ []) (hr' : rdir.getLast? ≠ some '/') (hm : mdir ≠ []) (hm' : mdir.getLast? ≠ some '/')
    (base root : Str) (mp : List Str) (o : ScanOptions) (hopt : entryOptionsError (a.flags true) = none)
    (hpaths : entryPaths rdir mdir = .ok (base, root, mp)) (ho : a.scanOptions = some o)
    (hwf : treeWFFor (exclOf mt o) base mp (fs base) = true) (hmp : mpOK (fs base) mp = true) (hroot : compWF root = true)
    (hxx : o.excludeExternal = true) (hlim : o.levelLimit = none) (g : PGraph Str)
    (h : scanForModuleObjects mt fs ⟨rdir ++ "/__init__.py".toList⟩ ⟨mdir ++ "/__init__.py".toList⟩ a = .ok g) (s : Str) :
    s ∈ g.nodes ↔ ∃ n ∈ scanModules root (toSEntries (exclOf mt o) base (fs base)) mp, s = render n := by
  rw [module_object_entry_eq_path_entry mt fs rdir mdir a hr hr' hm hm',
    path_entry_eq_generateGraph mt fs rdir mdir a base root mp o hopt hpaths ho] at h
  have hg : generateGraph mt base root mp (fs base) o = .ok g := by
    cases hgg : generateGraph mt base root mp (fs base) o with
    | error k => rw [hgg] at h; cases h
    | ok g' => rw [hgg] at h; cases h; rfl
  exact graph_modules_exact mt base root mp (fs base) o hwf hmp hroot hxx hlim g hg s

end entry

/-! non-vacuity: the example tree `exEntries` below `/r/proj`; root module `proj` (`/r/proj/__init__.py`), module `proj.a`
    as a package object (`/r/proj/a/__init__.py`) and `proj.a.x` as a plain module object (`/r/proj/a/x.py`) -/
section entryExamples

/-- core has no `DecidableEq (Except ε α)` -/
local instance instDecEqExcept {ε α : Type} [DecidableEq ε] [DecidableEq α] : DecidableEq (Except ε α)
  | .ok a, .ok b => if h : a = b then isTrue (by rw [h]) else isFalse (by intro e; cases e; exact h rfl)
  | .error a, .error b => if h : a = b then isTrue (by rw [h]) else isFalse (by intro e; cases e; exact h rfl)
  | .ok _, .error _ => isFalse (by intro e; cases e)
  | .error _, .ok _ => isFalse (by intro e; cases e)

def errorOf {α : Type} : Except EntryErr α → Option EntryErr
  | .error e => some e
  | .ok _ => none
def exFs : Str → List Entry := fun base => if base = "/r/proj".toList then exEntries else []
def exArgs : EntryArgs := { exclusions := ["*cache".toList] }

example : dirname "/r/proj/a/__init__.py".toList = "/r/proj/a".toList ∧ dirname "/r/proj/a/x.py".toList = "/r/proj/a".toList ∧
    dirname "x.py".toList = [] ∧ dirname "/x.py".toList = "/".toList ∧ dirname "/r//proj///x.py".toList = "/r//proj".toList := by
  decide +kernel
/-- hypotheses of `module_object_entry_eq_path_entry` / `dirname_spec` -/
example : "/r/proj".toList ≠ [] ∧ "/r/proj".toList.getLast? ≠ some '/' ∧ "/r/proj/a".toList ≠ [] ∧
    "/r/proj/a".toList.getLast? ≠ some '/' ∧ '/' ∉ "x.py".toList := by decide +kernel
/-- hypotheses of `path_entry_eq_generateGraph` / `module_object_modules_exact` -/
example : entryPaths "/r/proj".toList "/r/proj/a".toList = .ok ("/r/proj".toList, "proj".toList, p ["a"]) := by decide +kernel
example : entryPaths "/r/proj/".toList "/r//proj/./a/".toList = .ok ("/r/proj".toList, "proj".toList, p ["a"]) := by decide +kernel
example : entryPaths "/r/proj/a".toList "/r/proj".toList = .error .lookupError := by decide +kernel
example : (parsePath "/r/proj".toList).parts ≠ [] := by decide +kernel
/-- the side condition of `entry_module_path_str` is needed: root directory `/` -/
example : entryPaths "/".toList "/a".toList = .ok ("/".toList, [], p ["a"]) ∧ (parsePath "/a".toList).str = "/a".toList ∧
    pathStr "/".toList (p ["a"]) = "//a".toList := by decide +kernel
example : entryOptionsError (exArgs.flags true) = none := by decide
example : (exArgs.scanOptions.map fun o => (o.excludeExternal, o.levelLimit)) = some (true, none) := by decide
/-- since the repair c0bb7ac (F-C08a) `exclusions=()` alone is a configuration: nothing is excluded -/
example : (({ exclusions := [] } : EntryArgs).scanOptions.map (·.exclusions)) = some (.regexes []) := rfl
set_option maxRecDepth 40000 in
/-- the module-object entry point on the example: the sub-scan of `a` (6 nodes, 1 import inside `proj.a`) -/
example : (scanForModuleObjects noRe exFs ⟨"/r/proj/__init__.py".toList⟩ ⟨"/r/proj/a/x.py".toList⟩ exArgs).toOption.map
      (fun g => (g.nodes, g.importPairs)) =
    some (["proj.a", "proj", "proj.a.__init__", "proj.a.x", "proj.a.s", "proj.a.s.t"].map String.toList,
      [("proj.a.s.t".toList, "proj.a.x".toList)]) := by decide +kernel
/-- option errors through the module-object entry point: both exclusion tuples; module outside the root -/
example : errorOf (scanForModuleObjects noRe exFs ⟨"/r/proj/__init__.py".toList⟩ ⟨"/r/proj/a/__init__.py".toList⟩
    { regexExclusions := some ["x".toList] }) = some (.kind .improperlyConfigured) := by decide
example : errorOf (scanForModuleObjects noRe exFs ⟨"/r/proj/a/__init__.py".toList⟩ ⟨"/r/proj/__init__.py".toList⟩ exArgs)
    = some (.kind .lookupError) := by decide +kernel
/-- `exclusions=()` without `regex_exclusions`: no error (a `TypeError` before the repair c0bb7ac) -/
example : errorOf (scanForModuleObjects noRe exFs ⟨"/r/proj/__init__.py".toList⟩ ⟨"/r/proj/a/__init__.py".toList⟩
    { exclusions := [] }) = none := by decide +kernel

end entryExamples

end Pta.C04
