/-
  PtaProofs.Props.C10Limit — property C10, externals INCLUDED, under a LEVEL LIMIT: what happens to an external importee
  that `ExternalImportFilter` removes because an external exclusion pattern matches it or one of its parents
  ("not retained").  `PtaProofs/Props/C10.lean` has this half without a limit only (`externals_included`, second
  conjunct); with a limit it carries the retained half (`externals_included_limit`).

  `L = shiftedLimit o mp` is the limit the graph constructor receives; `flattenNode L y` the flattened name.
  The naive transfer of the no-limit statement ("not retained and not a parent of a flattened parsed module ⟹ the
  flattened importee is not a node") is FALSE of the model (`not_retained_limit_naive_counterexample`):
  `import scipy.sparse.linalg` is removed by the pattern `scipy.sparse.linalg*`, `import scipy.sparse.csgraph` is
  retained; with limit 1 both flatten to `scipy.sparse`, which is a node carrying the edge `r.a → scipy.sparse`.
  What holds instead: the pattern must hit a member of the importee's chain that SURVIVES the flattening
  (`externals_not_retained_limit`), and in general `externals_not_retained_iff`.
  (That import edges of the limited graph stem from RETAINED records only is `C09.scan_imports_exact`.)
-/
import Bridge.ExtAbs
import PtaProofs.Lemmas.ExtLimit
namespace Pta.C10

/-- externals included, ANY level limit: the node set -/
theorem nodes_included_limit (mt : Str → Str → Bool) (base rootName : Str) (mp : List Str) (entries : List Entry)
    (o : ScanOptions) (g : PGraph Str) (hx : o.excludeExternal = false)
    (h : generateGraph mt base rootName mp entries o = .ok g) (I : List ImportRec)
    (hI : convertAll (scanParsed mt base rootName mp entries o) (absolutePrefix rootName mp)
      ((scanParsed mt base rootName mp entries o).allModules.filter fun m => isInternal m (internalPrefix rootName mp)) = .ok I)
    (s : Str) :
    s ∈ g.nodes ↔
      (∃ m ∈ (scanParsed mt base rootName mp entries o).allModules, s ∈ withParents (flattenNode (shiftedLimit o mp) m)) ∨
      (∃ j ∈ I, isInternal j.importee (internalPrefix rootName mp) = false ∧
        retained mt o (internalPrefix rootName mp) j = true ∧
        s ∈ withParents (flattenNode (shiftedLimit o mp) j.importee)) := by
  obtain ⟨rfl, hgood⟩ := ExtScan.scan_lists mt base rootName mp entries o g h I hI
  exact (ExtScan.mem_nodes mt base o _ _ I hgood _ s).trans (or_congr Iff.rfl (and_iff_right hx))

/-- every edge (import or hierarchy) of a scan graph joins two nodes — any options, any limit -/
theorem edges_between_nodes (mt : Str → Str → Bool) (base rootName : Str) (mp : List Str) (entries : List Entry)
    (o : ScanOptions) (g : PGraph Str) (h : generateGraph mt base rootName mp entries o = .ok g) (s : Str)
    (hs : s ∉ g.nodes) : ∀ x ∈ g.edges, x.src ≠ s ∧ x.dst ≠ s := by
  obtain ⟨I, -, rfl, hgood⟩ := ExtScan.scan_graph mt base rootName mp entries o g h
  exact ExtLimit.no_edge_of_not_node mt base o _ _ I hgood _ s hs

/-- C10 (2), not-retained half, under ANY level limit: `i` is a converted import with an external importee that the
    filter removes; a pattern matches a member `p` of the chain of the importee that survives the flattening.  Then the
    flattened importee is not a node and no edge of any kind touches it — provided it is not itself (a parent of) a
    flattened parsed module. -/
theorem externals_not_retained_limit (mt : Str → Str → Bool) (base rootName : Str) (mp : List Str) (entries : List Entry)
    (o : ScanOptions) (g : PGraph Str) (hx : o.excludeExternal = false)
    (h : generateGraph mt base rootName mp entries o = .ok g) (I : List ImportRec)
    (hI : convertAll (scanParsed mt base rootName mp entries o) (absolutePrefix rootName mp)
      ((scanParsed mt base rootName mp entries o).allModules.filter fun m => isInternal m (internalPrefix rootName mp)) = .ok I)
    (i : ImportRec) (_hi : i ∈ I) (_hext : isInternal i.importee (internalPrefix rootName mp) = false)
    (_hret : retained mt o (internalPrefix rootName mp) i = false)
    (hhit : ∃ p ∈ withParents (flattenNode (shiftedLimit o mp) i.importee), isExcluded mt o.externalExclusions p = true)
    (hnp : ∀ m ∈ (scanParsed mt base rootName mp entries o).allModules,
      flattenNode (shiftedLimit o mp) i.importee ∉ withParents (flattenNode (shiftedLimit o mp) m)) :
    flattenNode (shiftedLimit o mp) i.importee ∉ g.nodes ∧
      ∀ x ∈ g.edges, x.src ≠ flattenNode (shiftedLimit o mp) i.importee ∧
        x.dst ≠ flattenNode (shiftedLimit o mp) i.importee := by
  obtain ⟨rfl, hgood⟩ := ExtScan.scan_lists mt base rootName mp entries o g h I hI
  exact ExtLimit.not_retained_lemma mt base o _ _ I hgood _ hx i.importee hhit hnp

/-- … in particular when the flattening does not cut the importee (it has at most `L + 1` components): "not retained"
    alone gives the pattern hit, and the statement is the one of `externals_included` -/
theorem externals_not_retained_uncut (mt : Str → Str → Bool) (base rootName : Str) (mp : List Str) (entries : List Entry)
    (o : ScanOptions) (g : PGraph Str) (hx : o.excludeExternal = false)
    (h : generateGraph mt base rootName mp entries o = .ok g) (I : List ImportRec)
    (hI : convertAll (scanParsed mt base rootName mp entries o) (absolutePrefix rootName mp)
      ((scanParsed mt base rootName mp entries o).allModules.filter fun m => isInternal m (internalPrefix rootName mp)) = .ok I)
    (i : ImportRec) (hi : i ∈ I) (_hext : isInternal i.importee (internalPrefix rootName mp) = false)
    (hret : retained mt o (internalPrefix rootName mp) i = false)
    (huncut : flattenNode (shiftedLimit o mp) i.importee = i.importee)
    (hnp : ∀ m ∈ (scanParsed mt base rootName mp entries o).allModules,
      i.importee ∉ withParents (flattenNode (shiftedLimit o mp) m)) :
    i.importee ∉ g.nodes ∧ ∀ x ∈ g.edges, x.src ≠ i.importee ∧ x.dst ≠ i.importee := by
  obtain ⟨rfl, hgood⟩ := ExtScan.scan_lists mt base rootName mp entries o g h I hI
  have := ExtLimit.not_retained_lemma mt base o (internalPrefix rootName mp) _ I hgood (shiftedLimit o mp) hx i.importee
    (by rw [huncut]; exact ExtLimit.not_retained_hit mt o _ _ I hgood i hx hi _hext hret)
    (by rw [huncut]; exact hnp)
  rw [huncut] at this
  exact this

/-- the exact statement when the pattern may hit below the cut only: the flattened name of a not retained external is a
    node exactly when it is (a parent of) the flattening of a parsed module or of a RETAINED external importee -/
theorem externals_not_retained_iff (mt : Str → Str → Bool) (base rootName : Str) (mp : List Str) (entries : List Entry)
    (o : ScanOptions) (g : PGraph Str) (hx : o.excludeExternal = false)
    (h : generateGraph mt base rootName mp entries o = .ok g) (I : List ImportRec)
    (hI : convertAll (scanParsed mt base rootName mp entries o) (absolutePrefix rootName mp)
      ((scanParsed mt base rootName mp entries o).allModules.filter fun m => isInternal m (internalPrefix rootName mp)) = .ok I)
    (i : ImportRec) (_hi : i ∈ I) (_hext : isInternal i.importee (internalPrefix rootName mp) = false)
    (_hret : retained mt o (internalPrefix rootName mp) i = false) :
    (flattenNode (shiftedLimit o mp) i.importee ∈ g.nodes ↔
      (∃ m ∈ (scanParsed mt base rootName mp entries o).allModules,
        flattenNode (shiftedLimit o mp) i.importee ∈ withParents (flattenNode (shiftedLimit o mp) m)) ∨
      (∃ j ∈ I, isInternal j.importee (internalPrefix rootName mp) = false ∧
        retained mt o (internalPrefix rootName mp) j = true ∧
        flattenNode (shiftedLimit o mp) i.importee ∈ withParents (flattenNode (shiftedLimit o mp) j.importee))) ∧
    (flattenNode (shiftedLimit o mp) i.importee ∉ g.nodes →
      ∀ x ∈ g.edges, x.src ≠ flattenNode (shiftedLimit o mp) i.importee ∧
        x.dst ≠ flattenNode (shiftedLimit o mp) i.importee) :=
  ⟨nodes_included_limit mt base rootName mp entries o g hx h I hI _, edges_between_nodes mt base rootName mp entries o g h _⟩

/-! ### the naive transfer of the no-limit statement is false -/

/-- `externals_included` (second conjunct) with every name flattened, and nothing else changed -/
def NotRetainedLimit_Naive_Statement : Prop :=
  ∀ (mt : Str → Str → Bool) (base rootName : Str) (mp : List Str) (entries : List Entry)
    (o : ScanOptions) (g : PGraph Str), o.excludeExternal = false →
    generateGraph mt base rootName mp entries o = .ok g → ∀ (I : List ImportRec),
    convertAll (scanParsed mt base rootName mp entries o) (absolutePrefix rootName mp)
      ((scanParsed mt base rootName mp entries o).allModules.filter fun m => isInternal m (internalPrefix rootName mp)) = .ok I →
    ∀ i ∈ I, isInternal i.importee (internalPrefix rootName mp) = false →
    retained mt o (internalPrefix rootName mp) i = false →
    (∀ m ∈ (scanParsed mt base rootName mp entries o).allModules,
      flattenNode (shiftedLimit o mp) i.importee ∉ withParents (flattenNode (shiftedLimit o mp) m)) →
    flattenNode (shiftedLimit o mp) i.importee ∉ g.nodes

namespace LimEx
/-- root `r` with `a.py` (`import scipy.sparse.linalg, scipy.sparse.csgraph`, `import r.b`) and `b.py` (`import numpy.fft`) -/
def ents : List Entry := [
  { rel := ["a.py".toList], isDir := false,
    stmts := [.imp ["scipy.sparse.linalg".toList, "scipy.sparse.csgraph".toList], .imp ["r.b".toList]] },
  { rel := ["b.py".toList], isDir := false, stmts := [.imp ["numpy.fft".toList]] } ]
def mt0 : Str → Str → Bool := fun _ _ => false
/-- externals included; `scipy.sparse.linalg*` and `numpy*` excluded by external exclusion patterns; level limit `k` -/
def oIn (k : Option Nat) : ScanOptions :=
  { exclusions := .globs [], excludeExternal := false,
    externalExclusions := .globs ["scipy.sparse.linalg*".toList, "numpy*".toList], levelLimit := k }
def run (k : Option Nat) : PGraph Str :=
  match generateGraph mt0 "/r".toList "r".toList [] ents (oIn k) with
  | .ok g => g
  | .error _ => PGraph.empty
def conv (k : Option Nat) : List ImportRec :=
  match convertAll (scanParsed mt0 "/r".toList "r".toList [] ents (oIn k)) (absolutePrefix "r".toList [])
      ((scanParsed mt0 "/r".toList "r".toList [] ents (oIn k)).allModules.filter fun m => isInternal m (internalPrefix "r".toList [])) with
  | .ok I => I
  | .error _ => []
/-- the removed import, the retained import that flattens onto the same name, and a removed import hit at the top -/
def iLinalg : ImportRec := absImport "r.a".toList "scipy.sparse.linalg".toList
def iCsgraph : ImportRec := absImport "r.a".toList "scipy.sparse.csgraph".toList
def iNumpy : ImportRec := absImport "r.b".toList "numpy.fft".toList
end LimEx
open LimEx

theorem limEx_runs (k : Option Nat) :
    generateGraph mt0 "/r".toList "r".toList [] ents (oIn k) = .ok (run k) ∧
    convertAll (scanParsed mt0 "/r".toList "r".toList [] ents (oIn k)) (absolutePrefix "r".toList [])
      ((scanParsed mt0 "/r".toList "r".toList [] ents (oIn k)).allModules.filter fun m => isInternal m (internalPrefix "r".toList []))
      = .ok (conv k) := ⟨by rfl, by rfl⟩

/-- the facts: without a limit `scipy.sparse.linalg` is not a node; with limit 1 its flattened name `scipy.sparse` is a
    node and carries an import edge, because the retained `scipy.sparse.csgraph` flattens onto it; the pattern hits
    `scipy.sparse.linalg` only, which does not survive the flattening.  `numpy.fft` is hit at `numpy`, which survives:
    `numpy` is not a node at any limit. -/
theorem limEx_facts :
    (oIn (some 1)).excludeExternal = false ∧ shiftedLimit (oIn (some 1)) [] = some 1 ∧
    iLinalg ∈ conv (some 1) ∧ isInternal iLinalg.importee "r".toList = false ∧
    retained mt0 (oIn (some 1)) "r".toList iLinalg = false ∧
    iCsgraph ∈ conv (some 1) ∧ retained mt0 (oIn (some 1)) "r".toList iCsgraph = true ∧
    flattenNode (some 1) iLinalg.importee = "scipy.sparse".toList ∧
    flattenNode (some 1) iCsgraph.importee = "scipy.sparse".toList ∧
    (∀ m ∈ (scanParsed mt0 "/r".toList "r".toList [] ents (oIn (some 1))).allModules,
      flattenNode (some 1) iLinalg.importee ∉ withParents (flattenNode (some 1) m)) ∧
    (∀ p ∈ withParents (flattenNode (some 1) iLinalg.importee), isExcluded mt0 (oIn (some 1)).externalExclusions p = false) ∧
    (run none).nodes = ["r", "r.a", "r.b", "scipy.sparse.csgraph", "scipy", "scipy.sparse"].map String.toList ∧
    (run (some 1)).nodes = ["r", "r.a", "r.b", "scipy.sparse", "scipy"].map String.toList ∧
    (run (some 1)).importPairs = [("r.a".toList, "scipy.sparse".toList), ("r.a".toList, "r.b".toList)] ∧
    iNumpy ∈ conv (some 1) ∧ retained mt0 (oIn (some 1)) "r".toList iNumpy = false ∧
    isExcluded mt0 (oIn (some 1)).externalExclusions "numpy".toList = true ∧
    "numpy".toList ∈ withParents (flattenNode (some 1) iNumpy.importee) ∧
    "numpy".toList ∉ (run (some 1)).nodes ∧ "numpy".toList ∉ (run (some 0)).nodes := by
  decide +kernel

/-- the naive statement fails on this tree -/
theorem not_retained_limit_naive_counterexample : ¬ NotRetainedLimit_Naive_Statement := by
  intro hN
  obtain ⟨f1, _, f3, f4, f5, _, _, f8, _, f10, _, _, f13, _⟩ := limEx_facts
  have := hN mt0 "/r".toList "r".toList [] ents (oIn (some 1)) (run (some 1)) f1 (limEx_runs (some 1)).1
    (conv (some 1)) (limEx_runs (some 1)).2 iLinalg f3 f4 f5 f10
  apply this
  show flattenNode (some 1) iLinalg.importee ∈ (run (some 1)).nodes
  rw [f8, f13]
  decide +kernel

/-! ### non-vacuity of the positive theorems on the same tree -/

set_option maxRecDepth 100000 in
/-- hypotheses of `externals_not_retained_limit` for `import numpy.fft` under limit 0 (the importee is cut to `numpy`,
    the pattern `numpy*` hits `numpy`, which survives) -/
example :
    (oIn (some 0)).excludeExternal = false ∧ iNumpy ∈ conv (some 0) ∧ isInternal iNumpy.importee "r".toList = false ∧
    retained mt0 (oIn (some 0)) "r".toList iNumpy = false ∧
    flattenNode (shiftedLimit (oIn (some 0)) []) iNumpy.importee = "numpy".toList ∧
    (∃ p ∈ withParents (flattenNode (shiftedLimit (oIn (some 0)) []) iNumpy.importee),
      isExcluded mt0 (oIn (some 0)).externalExclusions p = true) ∧
    (∀ m ∈ (scanParsed mt0 "/r".toList "r".toList [] ents (oIn (some 0))).allModules,
      flattenNode (shiftedLimit (oIn (some 0)) []) iNumpy.importee ∉
        withParents (flattenNode (shiftedLimit (oIn (some 0)) []) m)) := by
  decide +kernel

set_option maxRecDepth 100000 in
/-- hypotheses of `externals_not_retained_uncut` for `import scipy.sparse.linalg` under limit 2 (three components: not cut) -/
example :
    iLinalg ∈ conv (some 2) ∧ retained mt0 (oIn (some 2)) "r".toList iLinalg = false ∧
    flattenNode (shiftedLimit (oIn (some 2)) []) iLinalg.importee = iLinalg.importee ∧
    (∀ m ∈ (scanParsed mt0 "/r".toList "r".toList [] ents (oIn (some 2))).allModules,
      iLinalg.importee ∉ withParents (flattenNode (shiftedLimit (oIn (some 2)) []) m)) ∧
    iLinalg.importee ∉ (run (some 2)).nodes := by
  decide +kernel

/-- the theorem applied: `numpy` is not a node of the limit-0 graph and no edge touches it -/
example : "numpy".toList ∉ (run (some 0)).nodes ∧
    ∀ x ∈ (run (some 0)).edges, x.src ≠ "numpy".toList ∧ x.dst ≠ "numpy".toList :=
  externals_not_retained_limit mt0 "/r".toList "r".toList [] ents (oIn (some 0)) (run (some 0)) (by decide +kernel)
    (limEx_runs (some 0)).1 (conv (some 0)) (limEx_runs (some 0)).2 iNumpy (by decide +kernel) (by decide +kernel) (by decide +kernel)
    ⟨"numpy".toList, by decide +kernel, by decide +kernel⟩ (by decide +kernel)

end Pta.C10
