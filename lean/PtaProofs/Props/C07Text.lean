/-
  PtaProofs.Props.C07Text — the aggregated diagram message as TEXT (property C07, part 3 for the string the user sees).
  `MultipleRuleApplier.assert_applies` (`applyAllText`, PtaModel/DiagramText.lean, transcribed from
  multiple_rule_applier.py) raises `AssertionError("\n".join(error_messages))`, `error_messages` being `e.args[0]` of every
  failing rule in rule order; `DiagramRule.assert_applies` (`diagramAssertText`) applies it to the generated rules.
-/
import Bridge.MessageAgg
import PtaProofs.Lemmas.MessageAgg
import PtaProofs.Props.C07
namespace Pta.C07

/-- **the aggregated text.** For every graph and every list of rule objects:
    (1) the outcome is the error `k` iff some rule raises `k` and no rule before it raises (anything but `AssertionError`);
    (2) if no rule raises: pass iff every rule passes; and `AssertionError(text)` iff some rule fails, `text` being the
        '\n'-join, in rule order, of the messages (`"\n".join(lines)`) of ALL failing rules — none skipped, none added. -/
theorem aggregated_text_eq (mt : Str → Str → Bool) (g : PGraph Str) (rs : List RuleState) :
    (∀ k, applyAllText mt g rs = .err k ↔
      ∃ pre r post, rs = pre ++ r :: post ∧ (∀ r' ∈ pre, ∀ k', (assertAppliesText mt r' g).2 ≠ .err k') ∧
        (assertAppliesText mt r g).2 = .err k) ∧
    ((∀ r ∈ rs, ∀ k, (assertAppliesText mt r g).2 ≠ .err k) →
      (applyAllText mt g rs = .pass ↔ ∀ r ∈ rs, (assertAppliesText mt r g).2 = .pass) ∧
      (∀ text, applyAllText mt g rs = .fail text ↔
        (∃ r ∈ rs, ∃ lines, (assertAppliesText mt r g).2 = .fail lines) ∧
        text = joinWith ['\n'] ((rs.filter fun r => (assertAppliesText mt r g).2.isFail).map fun r =>
          messageText (assertAppliesText mt r g).2.lines))) :=
  ⟨Pta.Agg.applyAllText_err_iff mt g rs, fun hne => ⟨Pta.Agg.applyAllText_pass_iff mt g rs hne, Pta.Agg.applyAllText_fail_iff mt g rs hne⟩⟩

/-- **text against items.** The verdict class of `applyAllText` is that of `applyAll`; and when it fails:
    * the text is the '\n'-join of `aggLines` — no line lost or merged, since no failing rule has an empty message;
    * `aggLines` are, rule by rule in rule order, the rendered report items (sorted, without duplicates — per RULE, not
      globally) of the failing rules;
    * as a set, they are the renderings of the items `applyAll` reports (`aggregates_all`);
    * if no line contains a newline (no module name does), they are literally the lines of the text. -/
theorem aggregated_text_items (mt : Str → Str → Bool) (g : PGraph Str) (rs : List RuleState) :
    (applyAllText mt g rs).cls = (applyAll mt g rs).cls ∧
    ∀ text, applyAllText mt g rs = .fail text →
      text = messageText (aggLines mt g rs) ∧ aggLines mt g rs ≠ [] ∧
      aggLines mt g rs = ((rs.filter fun r => (assertApplies mt r g).2.isFail).flatMap fun r =>
        renderItems (assertApplies mt r g).2.items) ∧
      (∀ line, line ∈ aggLines mt g rs ↔ ∃ x ∈ (applyAll mt g rs).items, renderItem x = line) ∧
      ((∀ l ∈ aggLines mt g rs, '\n' ∉ l) → splitLines text = aggLines mt g rs) := by
  refine ⟨Pta.Agg.cls_eq_applyAll mt g rs, fun text h => ?_⟩
  have hne := Pta.Agg.noErr_of_fail mt g rs text h
  rw [Pta.Agg.applyAllText_of_noErr mt g rs hne] at h
  split at h
  · rename_i hm
    cases h
    have hnil := Pta.Agg.aggLines_ne_nil mt g rs ((Pta.Agg.aggMessages_ne_nil_iff mt g rs).1 hm)
    refine ⟨Pta.Agg.join_aggMessages mt g rs, hnil, Pta.Agg.aggLines_eq_render mt g rs, fun line => ?_, fun hnl => ?_⟩
    · rw [Pta.Agg.mem_aggLines_iff, Pta.Agg.applyAll_items_of_noErr mt g rs hne]
    · rw [Pta.Agg.join_aggMessages]
      exact Pta.splitLines_joinWith _ hnil hnl
  · cases h

/-- `applyAllText` is a function of the outcomes of the rules, in order (`aggOf`, Bridge/MessageAgg.lean) -/
theorem aggregated_text_of_outcomes (mt : Str → Str → Bool) (g : PGraph Str) (rs : List RuleState) :
    applyAllText mt g rs = aggOf (rs.map fun r => (assertAppliesText mt r g).2) :=
  Pta.Agg.applyAllText_eq_aggOf mt g rs

/-- **from a diagram.** The text-valued model of `DiagramRule.assert_applies` (after the repair of F-C13c): no file —
    `ImproperlyConfigured`; a file that does not parse — the parser's error; a component (base module prefixed) that is not
    a module of the architecture (`diagramMissing`) — a lookup error; otherwise the aggregation over the rules generated
    from the parse result with the base module prefixed. Its verdict class is that of the item-valued model
    `diagramAssert`. -/
theorem diagram_text_is_aggregation (mt : Str → Str → Bool) (g : PGraph Str) (base : Option Str) (so : Bool) :
    diagramAssertText mt none base so g = .err .improperlyConfigured ∧
    (∀ c k, pumlParse c = .error k → diagramAssertText mt (some c) base so g = .err k) ∧
    (∀ c p, pumlParse c = .ok p → diagramMissing (prefixParsed p base) g = true →
      diagramAssertText mt (some c) base so g = .err .lookupError) ∧
    (∀ c p, pumlParse c = .ok p → diagramMissing (prefixParsed p base) g = false →
      diagramAssertText mt (some c) base so g = applyAllText mt g (diagramRules so (prefixParsed p base))) ∧
    (∀ content, (diagramAssertText mt content base so g).cls = (diagramAssert mt content base so g).cls) := by
  refine ⟨rfl, fun c k h => ?_, fun c p h hm => ?_, fun c p h hm => ?_, fun content => ?_⟩
  · simp only [diagramAssertText, h]
  · exact Pta.Repair.diagramAssertText_of_missing mt g so c base p h hm
  · exact Pta.Repair.diagramAssertText_of_noMissing mt g so c base p h hm
  · cases content with
    | none => rfl
    | some c =>
      cases hp : pumlParse c with
      | error k => simp only [diagramAssertText, diagramAssert, hp]; rfl
      | ok p =>
        rw [Pta.Repair.diagramAssertText_ok mt g so c base p hp, Pta.Repair.diagramAssert_ok mt g so c base p hp]
        cases diagramMissing (prefixParsed p base) g
        · exact Pta.Agg.cls_eq_applyAll mt g _
        · rfl

/-! ### non-vacuity: the diagram `exD` (ui → core → db) on the architecture `exBad` of Props/C07.lean -/

def T (s : String) : Str := s.toList

/-- in should-only mode two generated rules fail (ui's `should only`, db's `should not`): the text is their two messages
    in RULE order — not sorted: `"app.ui"…` comes before `"app.db"…` -/
example : applyAllText mt0 (archGraph exBad) (diagramRules true (parsedOf exD)) =
    .fail (T "\"app.ui\" imports \"app.util\".\n\"app.db\" imports \"app.ui\".") := by decide +kernel

example : aggLines mt0 (archGraph exBad) (diagramRules true (parsedOf exD)) =
    [T "\"app.ui\" imports \"app.util\".", T "\"app.db\" imports \"app.ui\"."] := by decide +kernel

/-- hypotheses of `aggregated_text_eq` (2) and of the last clause of `aggregated_text_items` on this instance -/
example : (∀ r ∈ diagramRules true (parsedOf exD), ∀ k, (assertAppliesText mt0 r (archGraph exBad)).2 ≠ .err k) ∧
    (∀ l ∈ aggLines mt0 (archGraph exBad) (diagramRules true (parsedOf exD)), '\n' ∉ l) := by
  constructor
  · intro r hr k hk
    have : ((diagramRules true (parsedOf exD)).all fun r =>
        ((assertAppliesText mt0 r (archGraph exBad)).2.errKind).isNone) = true := by decide +kernel
    have := List.all_eq_true.1 this r hr
    rw [hk] at this; cases this
  · decide +kernel

/-- the conforming architecture passes; and the whole pipeline from the FILE (`exLines`: alias, left arrow, noise) -/
example : applyAllText mt0 (archGraph exGood) (diagramRules false (parsedOf exD)) = .pass := by decide +kernel

example : diagramAssertText mt0 (some (diagramText exNoise1 exLines exNoise2)) none true (archGraph exBad) =
    .fail (T "\"app.ui\" imports \"app.util\".\n\"app.db\" imports \"app.ui\".") := by decide +kernel

/-- a rule that raises after a failing one: the error wins, the collected message is dropped -/
example : applyAllText mt0 (archGraph exBad)
    (diagramRules true (parsedOf exD) ++ [mkRule true false false true false [.name (T "app.ui")] [.name (T "nowhere")]]) =
    .err .lookupError := by decide +kernel

end Pta.C07
