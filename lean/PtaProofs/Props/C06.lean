/-
  PtaProofs.Props.C06 — PlantUML diagrams parse to exactly their components, aliases and arrows (property C06).

  The documented subset is given as an abstract syntax (`DLine`, Bridge/PumlRender.lean) with a renderer
  (`DLine.render`, `diagramText`), a well-formedness predicate (`diagramWF`) and a declarative meaning
  (`diagramComponents`, `diagramArrows`, aliases resolved). The theorems say that `pumlParse` inverts the
  renderer: for EVERY well-formed line list, names, aliases, arrow texts and surrounding noise.
-/
import Bridge.PumlRender
import PtaProofs.Lemmas.PumlRoundtrip
namespace Pta.C06

/-! ## L1 — one line -/

/-- a declaration line declares exactly its component, with its alias -/
theorem decl_line_modules (f : DeclForm) (n : Str) (al : Option Str) (hn : nameOK n = true)
    (hal : ∀ a, al = some a → wordOK a = true ∧ f ≠ .compBare) :
    lineModules (renderDecl f n al) = [⟨n, al⟩] :=
  Pta.lineModules_render (.decl f n al)
    ⟨nameOK_nameLike hn, fun a ha => ⟨nameOK_nameLike (wordOK_nameOK (hal a ha).1), (hal a ha).2⟩⟩

/-- a declaration line is never read as an arrow -/
theorem decl_line_dependency (f : DeclForm) (n : Str) (al : Option Str) (hn : nameOK n = true) :
    lineDependency (renderDecl f n al) = none :=
  Pta.lineDependency_decl_lemma f n al (nameOK_nameLike hn)

/-- an arrow line yields exactly one dependency, in dependor → dependee orientation, as written
    (name or alias, brackets removed), for all six arrow forms and all nine combinations of reference styles -/
theorem arrow_line_dependency (f : ArrowForm) (a b : DRef) (ht : f.textOK = true)
    (ha : nameOK a.written = true) (hb : nameOK b.written = true) :
    lineDependency (renderArrow f a b) = some (a.written, b.written) :=
  Pta.lineDependency_arrow_lemma f a b ht (nameOK_nameLike ha) (nameOK_nameLike hb)

/-- what the declaration recogniser sees in an arrow line, exactly: the reference written LAST if (and only
    if) it is bracketed — always a component name of that line, never an alias, never with an alias -/
theorem arrow_line_modules (f : ArrowForm) (a b : DRef) (ht : f.textOK = true)
    (ha : nameOK a.written = true) (hb : nameOK b.written = true) :
    lineModules (renderArrow f a b) = (lastRef f a b).inlineModule :=
  Pta.lineModules_arrow_lemma f a b ht (nameOK_nameLike ha) (nameOK_nameLike hb)

/-- empty lines contribute nothing -/
theorem empty_line : lineModules [] = [] ∧ lineDependency [] = none := ⟨by decide +kernel, by decide +kernel⟩

/-! ## L2 — tags, noise, lines -/

/-- only the text between the tags survives: whatever precedes `@startuml`, and whatever follows `@enduml`
    as long as it does not contain `@enduml` again -/
theorem body_of_text (noise1 noise2 : Str) (d : List DLine) (hwf : diagramWF d = true)
    (hn : isInfix "@enduml".toList noise2 = false) :
    pumlBody (pyStrip (diagramText noise1 d noise2)) = .ok (diagramBody d) :=
  Pta.pumlBody_diagramText noise1 noise2 d (WF.of d hwf).localOK hn

/-- general form of the slicing step: any prefix, any `@`-free non-empty body -/
theorem body_of_block (x body noise2 : Str) (hb : '@' ∉ body) (hne : body ≠ [])
    (hn : isInfix "@enduml".toList noise2 = false) :
    pumlBody (x ++ ("@startuml".toList ++ (body ++ ("@enduml".toList ++ noise2)))) = .ok body := by
  rw [tag_end_eq] at hn ⊢
  rw [tag_start_eq]
  exact Pta.pumlBody_block x body noise2 hb hn hne

/-- `splitLines` inverts joining with newlines (one trailing empty line from the final newline) -/
theorem lines_of_join (ls : List Str) (hls : ∀ l ∈ ls, '\n' ∉ l) :
    splitLines (joinWith ['\n'] ls ++ ['\n']) = (if ls = [] then [[]] else ls) ++ [[]] :=
  Pta.splitLines_join ls hls

/-- the lines of the body are the rendered lines, framed by empty lines -/
theorem lines_of_body (d : List DLine) (hwf : diagramWF d = true) :
    splitLines (diagramBody d) = [] :: ((if d.map DLine.render = [] then [[]] else d.map DLine.render) ++ [[]]) :=
  Pta.splitLines_diagramBody d (WF.of d hwf).localOK

/-! ## L3 — aggregation -/

/-- `pumlParse` is: slice, split, recognise per line, check that every alias stands for one component
    (`_get_modules_by_alias`, raising `PumlParsingError` otherwise), aggregate -/
theorem parse_factorisation (content : Str) :
    pumlParse content =
      match pumlBody (pyStrip content) with
      | .error e => .error e
      | .ok body =>
        if aliasesConsistent ((splitLines body).flatMap lineModules) = true then
          .ok (pumlAgg ((splitLines body).flatMap lineModules) ((splitLines body).filterMap lineDependency))
        else .error .pumlParsingError :=
  Pta.pumlParse_eq content

/-- the check is functionality of the alias table (the `functionalTbl` of `diagramWF`) -/
theorem alias_check_functional (modules : List PModule) :
    aliasesConsistent modules = functionalTbl (modules.filterMap fun m => m.alias.map fun a => (a, m.name)) :=
  Pta.aliasesConsistent_eq_functionalTbl modules

/-- in a well-formed diagram an alias stands for one component: the error branch of the check is not taken -/
theorem wf_aliases_consistent (d : List DLine) (hwf : diagramWF d = true) :
    aliasesConsistent (d.flatMap DLine.mods) = true :=
  Pta.aliasesConsistent_mods d (WF.of d hwf).functional

/-- the aggregation / unification law for ARBITRARY per-line results: the dependency dictionary has unique
    keys and duplicate-free non-empty value lists; `y ∈ deps[x]` iff some raw arrow unifies to `(x, y)`; the
    module list is duplicate free and consists of the declared names and the unified arrow ends -/
theorem aggregate_law (modules : List PModule) (raw : List (Str × Str)) :
    let tbl := modules.filterMap fun m => m.alias.map fun a => (a, m.name)
    let p := pumlAgg modules raw
    DictOK p.dependencies ∧ p.modules.Nodup ∧
    (∀ x y, y ∈ p.depsOf x ↔ ∃ a b, (a, b) ∈ raw ∧ x = unifyWith tbl a ∧ y = unifyWith tbl b) ∧
    (∀ x, x ∈ p.modules ↔ (∃ m ∈ modules, m.name = x) ∨
      ∃ a b, (a, b) ∈ raw ∧ (x = unifyWith tbl a ∨ x = unifyWith tbl b)) :=
  Pta.pumlAgg_spec modules raw

/-- unification under an alias table in which every alias stands for one component -/
theorem unify_alias (tbl : List (Str × Str)) (hf : functionalTbl tbl = true) (a n : Str) (h : (a, n) ∈ tbl) :
    unifyWith tbl a = n := Pta.unifyWith_hit tbl hf a n h

theorem unify_name (tbl : List (Str × Str)) (x : Str) (h : ∀ p ∈ tbl, p.1 ≠ x) : unifyWith tbl x = x :=
  Pta.unifyWith_miss tbl x h

/-- L1 + L2 on a whole text: parsing a rendered diagram = aggregating the per-line contributions -/
theorem parse_is_aggregate (noise1 noise2 : Str) (d : List DLine) (hwf : diagramWF d = true)
    (hn : isInfix "@enduml".toList noise2 = false) :
    pumlParse (diagramText noise1 d noise2) = .ok (pumlAgg (d.flatMap DLine.mods) (d.filterMap DLine.raw)) := by
  rw [Pta.pumlParse_diagramText_gen noise1 noise2 d (WF.of d hwf).localOK hn,
    if_pos (Pta.aliasesConsistent_mods d (WF.of d hwf).functional)]

/-! ## the round trip -/

/-- **C06.** For every diagram of the documented subset — any interleaving of declaration and arrow lines,
    any names/aliases/arrow texts, any noise before `@startuml`, any noise without `@enduml` after the end
    tag — parsing succeeds; the module list is duplicate free and is exactly the set of declared or referenced
    components with every alias resolved; `y` is recorded as a dependee of `x` iff the diagram draws `x → y`
    (aliases resolved, whichever way the arrow is drawn and whichever way the ends are referred to); the
    dependency dictionary has unique keys and duplicate-free, non-empty value lists. -/
theorem roundtrip (noise1 noise2 : Str) (d : List DLine) (hwf : diagramWF d = true)
    (hn : isInfix "@enduml".toList noise2 = false) :
    ∃ p, pumlParse (diagramText noise1 d noise2) = .ok p ∧
      p.modules.Nodup ∧ (∀ x, x ∈ p.modules ↔ x ∈ diagramComponents d) ∧
      (∀ x y, y ∈ p.depsOf x ↔ (x, y) ∈ diagramArrows d) ∧
      (p.dependencies.map (·.1)).Nodup ∧ (∀ kv ∈ p.dependencies, kv.2.Nodup ∧ kv.2 ≠ []) :=
  Pta.roundtrip_lemma noise1 noise2 d hwf hn

/-- the result depends on the MEANING of the diagram only: two well-formed diagrams that declare/reference the
    same components and draw the same arrows parse to the same content — whatever the declaration forms, arrow
    forms, reference styles (alias in one line, name in another), line order and surrounding noise -/
theorem presentation_irrelevant (n1 n2 n1' n2' : Str) (d d' : List DLine)
    (hwf : diagramWF d = true) (hwf' : diagramWF d' = true)
    (hn : isInfix "@enduml".toList n2 = false) (hn' : isInfix "@enduml".toList n2' = false)
    (hc : ∀ x, x ∈ diagramComponents d ↔ x ∈ diagramComponents d')
    (ha : ∀ e, e ∈ diagramArrows d ↔ e ∈ diagramArrows d') :
    ∃ p q, pumlParse (diagramText n1 d n2) = .ok p ∧ pumlParse (diagramText n1' d' n2') = .ok q ∧
      SameParse p q := by
  obtain ⟨p, hp, _, hpm, hpd, _⟩ := roundtrip n1 n2 d hwf hn
  obtain ⟨q, hq, _, hqm, hqd, _⟩ := roundtrip n1' n2' d' hwf' hn'
  refine ⟨p, q, hp, hq, fun x => ?_, fun x y => ?_⟩
  · rw [hpm, hqm]; exact hc x
  · rw [hpd, hqd]; exact ha (x, y)

/-- line order (and repetition of lines) is irrelevant: a permutation of a well-formed diagram is well formed
    and parses to the same content -/
theorem order_irrelevant (n1 n2 : Str) (d d' : List DLine) (hperm : d.Perm d')
    (hwf : diagramWF d = true) (hn : isInfix "@enduml".toList n2 = false) :
    diagramWF d' = true ∧
    ∃ p q, pumlParse (diagramText n1 d n2) = .ok p ∧ pumlParse (diagramText n1 d' n2) = .ok q ∧
      SameParse p q := by
  have hs : SameLines d d' := fun l => hperm.mem_iff
  have hwf' := hs.wf hwf
  obtain ⟨hc, ha⟩ := hs.meaning hwf
  exact ⟨hwf', presentation_irrelevant n1 n2 n1 n2 d d' hwf hwf' hn hn hc ha⟩

/-! ## L4 — no tags -/

/-- a file without the start tag or without the end tag is rejected with a parsing error -/
theorem no_tags (content : Str)
    (h : isInfix "@startuml".toList content = false ∨ isInfix "@enduml".toList content = false) :
    pumlParse content = .error .pumlParsingError := by
  rw [pumlParse_eq]
  rcases h with h | h
  · rw [pumlBody_no_start _ (isInfix_false_of_infix h (pyStrip_infix content))]
  · rw [pumlBody_no_end _ (isInfix_false_of_infix h (pyStrip_infix content))]

/-! ## L5 — one alias, two components -/

/-- **rejected.** In ANY text whose tags are fine (`pumlBody` succeeds): if two lines of the body declare the same alias
    for different component names, `pumlParse` raises the parsing error — whatever else the text contains and in
    whichever order the two lines come. -/
theorem conflicting_alias_rejected (content body l1 l2 a x y : Str)
    (hb : pumlBody (pyStrip content) = .ok body) (h1 : l1 ∈ splitLines body) (h2 : l2 ∈ splitLines body)
    (hm1 : ⟨x, some a⟩ ∈ lineModules l1) (hm2 : ⟨y, some a⟩ ∈ lineModules l2) (hxy : x ≠ y) :
    pumlParse content = .error .pumlParsingError := by
  rw [pumlParse_eq, hb]
  have : aliasesConsistent ((splitLines body).flatMap lineModules) = false :=
    aliasesConsistent_false_of_conflict _ ⟨x, some a⟩ ⟨y, some a⟩ a
      (List.mem_flatMap.2 ⟨_, h1, hm1⟩) (List.mem_flatMap.2 ⟨_, h2, hm2⟩) rfl rfl hxy
  simp only [this, Bool.false_eq_true, if_false]

/-- … and that is the only way a text with fine tags fails to parse -/
theorem parse_error_iff (content body : Str) (hb : pumlBody (pyStrip content) = .ok body) :
    pumlParse content = .error .pumlParsingError ↔
      ∃ l1 ∈ splitLines body, ∃ l2 ∈ splitLines body, ∃ a x y,
        ⟨x, some a⟩ ∈ lineModules l1 ∧ ⟨y, some a⟩ ∈ lineModules l2 ∧ x ≠ y := by
  constructor
  · intro h
    rw [pumlParse_eq, hb] at h
    simp only at h
    by_cases hc : aliasesConsistent ((splitLines body).flatMap lineModules) = true
    · rw [if_pos hc] at h; cases h
    · have hn : ¬ ∀ m1 ∈ (splitLines body).flatMap lineModules, ∀ m2 ∈ (splitLines body).flatMap lineModules,
          ∀ a, m1.alias = some a → m2.alias = some a → m1.name = m2.name :=
        fun hall => hc ((aliasesConsistent_iff_forall _).2 hall)
      simp only [Classical.not_forall] at hn
      obtain ⟨m1, hm1, m2, hm2, a, ha1, ha2, hne⟩ := hn
      obtain ⟨l1, hl1, hml1⟩ := List.mem_flatMap.1 hm1
      obtain ⟨l2, hl2, hml2⟩ := List.mem_flatMap.1 hm2
      refine ⟨l1, hl1, l2, hl2, a, m1.name, m2.name, ?_, ?_, hne⟩
      · rw [← ha1]; exact hml1
      · rw [← ha2]; exact hml2
  · rintro ⟨l1, h1, l2, h2, a, x, y, hm1, hm2, hxy⟩
    exact conflicting_alias_rejected content body l1 l2 a x y hb h1 h2 hm1 hm2 hxy

/-- the same on rendered diagrams: every line is fine on its own (names, aliases, arrow texts; aliases used in arrows
    are declared), any noise around the tags, but two declaration lines `… x as a` and `… y as a` with `x ≠ y` -/
theorem conflicting_alias_rejected_text (noise1 noise2 : Str) (d : List DLine)
    (hok : ∀ l ∈ d, l.ok (aliasTable d) = true) (hn : isInfix "@enduml".toList noise2 = false)
    (f1 f2 : DeclForm) (a x y : Str)
    (h1 : DLine.decl f1 x (some a) ∈ d) (h2 : DLine.decl f2 y (some a) ∈ d) (hxy : x ≠ y) :
    pumlParse (diagramText noise1 d noise2) = .error .pumlParsingError := by
  rw [Pta.pumlParse_diagramText_gen noise1 noise2 d (Pta.localOK_of_ok d hok) hn]
  have : aliasesConsistent (d.flatMap DLine.mods) = false :=
    aliasesConsistent_false_of_conflict _ ⟨x, some a⟩ ⟨y, some a⟩ a
      (List.mem_flatMap.2 ⟨_, h1, by simp [DLine.mods]⟩) (List.mem_flatMap.2 ⟨_, h2, by simp [DLine.mods]⟩) rfl rfl hxy
  rw [this]; rfl

/-- a rendered diagram whose lines are fine on their own parses iff its alias table is functional -/
theorem parse_ok_iff_functional (noise1 noise2 : Str) (d : List DLine)
    (hok : ∀ l ∈ d, l.ok (aliasTable d) = true) (hn : isInfix "@enduml".toList noise2 = false) :
    pumlParse (diagramText noise1 d noise2) =
      if functionalTbl (aliasTable d) = true then .ok (pumlAgg (d.flatMap DLine.mods) (d.filterMap DLine.raw))
      else .error .pumlParsingError := by
  rw [Pta.pumlParse_diagramText_gen noise1 noise2 d (Pta.localOK_of_ok d hok) hn,
    Pta.aliasesConsistent_eq_functionalTbl, Pta.aliasTable_mods]

/-! ## non-vacuity, and the edge of the documented subset -/

/-- a diagram that uses all declaration forms, all arrow forms, all reference styles, dotted names, the name
    `component`, the alias `as`, an alias in one line and the name in another -/
def sample : List DLine := [
  .arrow .r2 (.viaAlias "al".toList) (.bracketed "b.c".toList),
  .decl .bracket "a".toList (some "al".toList),
  .decl .compBare "component".toList none,
  .decl .compBracket "x.y".toList (some "as".toList),
  .decl .bracket "lonely".toList none,
  .arrow (.lt "uses".toList) (.bare "component".toList) (.bracketed "a".toList),
  .arrow (.rt "component".toList) (.bare "component".toList) (.viaAlias "as".toList),
  .arrow .l1 (.bare "q".toList) (.bare "x.y".toList),
  .arrow .l2 (.bracketed "q".toList) (.bracketed "x.y".toList),
  .arrow .r1 (.bracketed "q".toList) (.bare "a".toList)]

-- hypotheses of `roundtrip` / `body_of_text` / `parse_is_aggregate` / `lines_of_body`
example : diagramWF sample = true := by decide +kernel
example : isInfix "@enduml".toList "\n' trailing @startuml junk".toList = false := by decide +kernel
-- what the sample looks like and means
set_option maxRecDepth 10000 in
example : diagramText "junk @enduml @startuml\n".toList sample "\n trailing".toList =
    ("junk @enduml @startuml\n@startuml\nal --> [b.c]\n[a] as al\ncomponent component\ncomponent [x.y] as as\n" ++
     "[lonely]\n[a] <-uses- component\ncomponent -component-> as\nx.y <- q\n[x.y] <-- [q]\n[q] -> a\n@enduml\n trailing").toList :=
  eq_toList_of_ofList_eq (by decide +kernel)
example : diagramArrows sample = [("a".toList, "b.c".toList), ("component".toList, "a".toList),
    ("component".toList, "x.y".toList), ("q".toList, "x.y".toList), ("q".toList, "x.y".toList),
    ("q".toList, "a".toList)] := by decide +kernel
-- hypotheses of the L1 theorems
example : nameOK "pkg.sub.mod".toList = true ∧ wordOK "alias_1".toList = true ∧
    (ArrowForm.rt "uses".toList).textOK = true ∧ nameOK (DRef.viaAlias "alias_1".toList).written = true := by decide +kernel
-- hypotheses of `body_of_block`, `lines_of_join`
example : '@' ∉ "\n[a] --> [b]\n".toList ∧ "\n[a] --> [b]\n".toList ≠ [] := by decide +kernel
example : ∀ l ∈ ["[a]".toList, "a -> b".toList], '\n' ∉ l := by decide +kernel
-- hypothesis of `no_tags`
example : isInfix "@startuml".toList "[a] --> [b]\n@enduml".toList = false := by decide +kernel
-- hypotheses of `order_irrelevant`: a genuine permutation; of `presentation_irrelevant`: two presentations
example : sample.Perm sample.reverse := (List.reverse_perm sample).symm
example :
    let d := [DLine.decl .bracket "a".toList (some "x".toList), .arrow .r2 (.viaAlias "x".toList) (.bare "b".toList)]
    let d' := [DLine.arrow (.lt "t".toList) (.bracketed "a".toList) (.bracketed "b".toList)]
    diagramWF d = true ∧ diagramWF d' = true ∧
    (∀ x, x ∈ diagramComponents d ↔ x ∈ diagramComponents d') ∧ (∀ e, e ∈ diagramArrows d ↔ e ∈ diagramArrows d') := by
  exact ⟨by decide +kernel, by decide +kernel, Pta.E2E.sm_of_check _ _ (by decide +kernel),
    Pta.E2E.sm_of_check _ _ (by decide +kernel)⟩

-- hypotheses of `conflicting_alias_rejected_text`: every line fine on its own, alias `x` for `a` and for `b`
def conflict : List DLine := [
  .decl .bracket "a".toList (some "x".toList),
  .decl .compBracket "b".toList (some "x".toList),
  .arrow .r2 (.viaAlias "x".toList) (.bare "c".toList)]
example : (∀ l ∈ conflict, l.ok (aliasTable conflict) = true) ∧ diagramWF conflict = false ∧
    DLine.decl .bracket "a".toList (some "x".toList) ∈ conflict ∧
    DLine.decl .compBracket "b".toList (some "x".toList) ∈ conflict ∧ "a".toList ≠ "b".toList := by decide +kernel
-- hypotheses of `conflicting_alias_rejected` / `parse_error_iff` on a raw text (in both line orders)
theorem conflicting_alias_rejected_concrete :
    pumlParse "@startuml\n[a] as x\n[b] as x\nx --> c\n@enduml".toList = .error .pumlParsingError ∧
    pumlParse "@startuml\n[b] as x\n[a] as x\nx --> c\n@enduml".toList = .error .pumlParsingError :=
  ⟨pumlParse_concrete _ [] "\n[a] as x\n[b] as x\nx --> c\n".toList [] false (by decide +kernel) (by decide +kernel) (by decide +kernel)
      (by decide +kernel) (by decide +kernel),
   pumlParse_concrete _ [] "\n[b] as x\n[a] as x\nx --> c\n".toList [] false (by decide +kernel) (by decide +kernel) (by decide +kernel)
      (by decide +kernel) (by decide +kernel)⟩
example : "[a] as x".toList ∈ splitLines "\n[a] as x\n[b] as x\nx --> c\n".toList ∧
    "[b] as x".toList ∈ splitLines "\n[a] as x\n[b] as x\nx --> c\n".toList ∧
    (⟨"a".toList, some "x".toList⟩ : PModule) ∈ lineModules "[a] as x".toList ∧
    (⟨"b".toList, some "x".toList⟩ : PModule) ∈ lineModules "[b] as x".toList := by decide +kernel
-- declaring the same (alias, name) pair twice is fine
example : aliasesConsistent (["[a] as x".toList, "component [a] as x".toList, "[b]".toList].flatMap lineModules) = true := by
  decide +kernel

/-- outside the documented subset: an alias written in brackets in an arrow line is ALSO registered as a
    component of its own (the declaration recogniser reads `[al]` at the end of the line as a declaration),
    although the arrow itself is unified correctly. This is why `DRef` has no "bracketed alias" form. -/
theorem bracketed_alias_outside_subset :
    ∃ p, pumlParse "@startuml\n[a] as al\n[b] --> [al]\n@enduml".toList = .ok p ∧
      p.modules = ["al".toList, "b".toList, "a".toList] ∧ p.dependencies = [("b".toList, ["a".toList])] := by
  refine ⟨_, pumlParse_concrete _ [] "\n[a] as al\n[b] --> [al]\n".toList [] true (by decide +kernel) (by decide +kernel) (by decide +kernel)
    (by decide +kernel) (by decide +kernel), by decide +kernel, by decide +kernel⟩

/-- the hypothesis on the trailing noise is needed: a second `@enduml` extends the body -/
theorem second_end_tag_extends_body :
    ∃ p, pumlParse "@startuml\n[a] --> [b]\n@enduml\n[c] --> [d]\n@enduml".toList = .ok p ∧
      p.modules = ["a".toList, "c".toList, "b".toList, "d".toList] := by
  refine ⟨_, pumlParse_concrete _ [] "\n[a] --> [b]\n@enduml\n[c] --> [d]\n".toList [] true (by decide +kernel) (by decide +kernel)
    (by decide +kernel) (by decide +kernel) (by decide +kernel), by decide +kernel⟩

end Pta.C06
