/-
  PtaProofs.Props.C13More — property C13, completions: absent modules behind LAYERS and DIAGRAMS, regex layers without a
  match (and which error wins), layers the rule does not mention, too-deep names against level-limited architectures,
  `module_path` outside `root_path` (and the order of the entry-point checks).

  Vocabulary (PtaProofs/Lemmas/C13More.lean, namespace `Pta.C13M`):
  * `compileLayerRule larch r` (Bridge/LayerAbs.lean) — the LayerRule object after the COMPLETE builder chain of the layer
    rule `r : LRuleSpec`: all 12 shapes (3 verbs × access / be accessed by × with / without `except`) and the two
    `any layer` forms; `layer_unknown_module_chain` transfers to the run of the chain.
  * `mentionedLayers r` — the subject layer and, unless `r` is an `any layer` rule, the object layers;
    `mentioned larch r` — the module filters these layers list in the layered architecture `larch`.
  * `withBase base m` (Lemmas/DiagramApply.lean) — the name `with_base_module` gives to the diagram component `m`.
-/
import Bridge.Abs
import Bridge.LayerAbs
import PtaProofs.Lemmas.C13More
import PtaProofs.Props.C13
import PtaProofs.Props.C09
import PtaProofs.Props.C04
namespace Pta.C13
open PtaSpec Pta.C13M

/-! ## 1. a layer that lists a module which does not exist -/

/-- **C13 for layers, absent module.** For every graph, every regex interpretation, every layered architecture and every
    complete layer rule: if a layer the rule MENTIONS (subject or object layer) lists, by name, a module identifier that is
    not a node of the graph, `assert_applies` raises the lookup error — never pass, never fail (`.cls` follows by
    `congrArg`). `hreg`: the regexes of the mentioned layers all have a match (otherwise `layer_regex_no_match`: the
    no-match error wins). `hs`, `ho`: the subject layer and the object layers together list something (a layer that was
    never defined is `Pta.C13.layer_rule_history`; an empty one is a configuration error). -/
theorem layer_unknown_module (mt : Str → Str → Bool) (g : PGraph Str) (larch : LArch) (r : LRuleSpec)
    (hany : r.anything = true → r.verb = .shouldNot)
    (hs : larch.getD r.subject ≠ []) (ho : r.anything = true ∨ r.objects.flatMap larch.getD ≠ [])
    (hreg : ∀ f ∈ mentioned larch r, f.isRegex = true → ∃ m ∈ g.nodes, mt f.id m = true)
    (L : Str) (hL : L ∈ mentionedLayers r) (f : Filter) (hf : f ∈ larch.getD L)
    (hname : f.isRegex = false) (habs : g.hasNode f.id = false) :
    assertAppliesLayer mt (compileLayerRule larch r) g = .err .lookupError :=
  layer_unknown_module_lemma mt g larch r hany hs ho hreg
    ⟨f, List.mem_flatMap.2 ⟨L, hL, hf⟩, hname, habs⟩

theorem layer_unknown_module_cls (mt : Str → Str → Bool) (g : PGraph Str) (larch : LArch) (r : LRuleSpec)
    (hany : r.anything = true → r.verb = .shouldNot)
    (hs : larch.getD r.subject ≠ []) (ho : r.anything = true ∨ r.objects.flatMap larch.getD ≠ [])
    (hreg : ∀ f ∈ mentioned larch r, f.isRegex = true → ∃ m ∈ g.nodes, mt f.id m = true)
    (L : Str) (hL : L ∈ mentionedLayers r) (f : Filter) (hf : f ∈ larch.getD L)
    (hname : f.isRegex = false) (habs : g.hasNode f.id = false) :
    (assertAppliesLayer mt (compileLayerRule larch r) g).cls = .err .lookupError := by
  rw [layer_unknown_module mt g larch r hany hs ho hreg L hL f hf hname habs]; rfl

/-- the instance for layers defined with `containing_modules` only (no regex among the mentioned layers) -/
theorem layer_unknown_module_names (mt : Str → Str → Bool) (g : PGraph Str) (larch : LArch) (r : LRuleSpec)
    (hany : r.anything = true → r.verb = .shouldNot)
    (hs : larch.getD r.subject ≠ []) (ho : r.anything = true ∨ r.objects.flatMap larch.getD ≠ [])
    (hnames : ∀ f ∈ mentioned larch r, f.isRegex = false)
    (L : Str) (hL : L ∈ mentionedLayers r) (f : Filter) (hf : f ∈ larch.getD L) (habs : g.hasNode f.id = false) :
    assertAppliesLayer mt (compileLayerRule larch r) g = .err .lookupError :=
  layer_unknown_module mt g larch r hany hs ho (fun f hf hr => by rw [hnames f hf] at hr; cases hr) L hL f hf
    (hnames f (List.mem_flatMap.2 ⟨L, hL, hf⟩)) habs

/-- … and through the fluent API: the error is raised by `assert_applies`, the call after the last builder call -/
theorem layer_unknown_module_chain (mt : Str → Str → Bool) (g : PGraph Str) (larch : LArch) (r : LRuleSpec) (isList : Bool)
    (hany : r.anything = true → r.verb = .shouldNot)
    (hS : larch.hasLayer r.subject = true) (hO : r.anything = false → r.objects.all larch.hasLayer = true)
    (hs : larch.getD r.subject ≠ []) (ho : r.anything = true ∨ r.objects.flatMap larch.getD ≠ [])
    (hreg : ∀ f ∈ mentioned larch r, f.isRegex = true → ∃ m ∈ g.nodes, mt f.id m = true)
    (L : Str) (hL : L ∈ mentionedLayers r) (f : Filter) (hf : f ∈ larch.getD L)
    (hname : f.isRegex = false) (habs : g.hasNode f.id = false) :
    runLayerRuleOps mt (layerRuleOps larch r isList) g = (.err .lookupError, (layerRuleOps larch r isList).length) := by
  rw [Pta.runLayerRuleOps_chain_lemma mt g larch r isList hS hs hO,
    layer_unknown_module mt g larch r hany hs ho hreg L hL f hf hname habs]

/-- the same for a module rule with regexes next to the absent name (`unknown_name` without its "no regex" hypothesis) -/
theorem unknown_name_with_regex (mt : Str → Str → Bool) (g : PGraph Str) (b : Behavior) (dir : Bool) (subs objs : List Filter)
    (hverb : b.should = true ∨ b.shouldOnly = true ∨ b.shouldNot = true)
    (hs : subs ≠ []) (ho : objs ≠ [])
    (hreg : ∀ f ∈ subs ++ objs, f.isRegex = true → ∃ m ∈ g.nodes, mt f.id m = true)
    (hmissing : ∃ f ∈ subs ++ objs, f.isRegex = false ∧ g.hasNode f.id = false) :
    matchRule mt g b dir subs objs = .err .lookupError :=
  (matchRule_err_iff_queries mt g b dir subs objs _).2 (queries_lookup mt g b dir subs objs hverb hs ho hreg hmissing)

/-! ### layers the rule does NOT mention: irrelevant for these errors

  `LayerRuleMatcher._update_layer_mapping` (after the repairs F-C05a / F-C15a) walks over ALL layers, but it only copies
  the listed identifiers (and raises `LayerMismatch` when one identifier is listed by two layers); it looks nothing up in
  the graph. The graph is queried for the rule's own subjects and objects only. So a module that does not exist, listed by
  a layer the rule does not mention, is NOT an error: -/

/-- the stage-by-stage description of the errors of the layer matcher: a regex without a match (conversion of the
    subjects, then of the objects), else an absent module (graph queries), else `LayerMismatch`; only the last stage
    looks at the layered architecture -/
theorem layer_matcher_error_stages (mt : Str → Str → Bool) (g : PGraph Str) (a : LArch) (b : Behavior) (d : Bool)
    (ss os : List Filter) (k : ErrKind) (hk : k ≠ .layerMismatch) :
    matchLayerRule mt g a b d ss os = .err k ↔
      convertFilters mt g.nodes ss = .error k ∨
      (∃ subs, convertFilters mt g.nodes ss = .ok subs ∧ convertFilters mt g.nodes os = .error k) ∨
      (∃ subs objs, convertFilters mt g.nodes ss = .ok subs ∧ convertFilters mt g.nodes os = .ok objs ∧
        runQueries g b d subs objs = .error k) :=
  matchLayerRule_err_iff mt g a b d ss os k hk

/-- **layers the rule does not mention are irrelevant** for the lookup error and for the no-match error: two layered
    architectures that define the layers the rule mentions in the same way raise them together — whatever else they
    define, existing or not. (For the verdict itself see `Pta.C05.unmentioned_layers_irrelevant'`; an unmentioned layer can
    still cause `LayerMismatch`, `Pta.C05.unmentioned_related_layer_mismatch`.) -/
theorem layer_unmentioned_irrelevant (mt : Str → Str → Bool) (g : PGraph Str) (larch larch' : LArch) (r : LRuleSpec)
    (hany : r.anything = true → r.verb = .shouldNot)
    (hs : larch.getD r.subject ≠ []) (ho : r.anything = true ∨ r.objects.flatMap larch.getD ≠ [])
    (hagree : ∀ L ∈ mentionedLayers r, larch'.getD L = larch.getD L) :
    (assertAppliesLayer mt (compileLayerRule larch r) g = .err .lookupError ↔
      assertAppliesLayer mt (compileLayerRule larch' r) g = .err .lookupError) ∧
    (assertAppliesLayer mt (compileLayerRule larch r) g = .err .impossibleMatch ↔
      assertAppliesLayer mt (compileLayerRule larch' r) g = .err .impossibleMatch) :=
  ⟨layer_err_unmentioned_lemma mt g larch larch' r hany hs ho hagree _ nofun,
   layer_err_unmentioned_lemma mt g larch larch' r hany hs ho hagree _ nofun⟩

/-- in particular: when all modules listed (by name) by the MENTIONED layers exist and their regexes match, no lookup
    error is raised, whatever the other layers list -/
theorem layer_unmentioned_absent_no_lookup_error (mt : Str → Str → Bool) (g : PGraph Str) (larch : LArch) (r : LRuleSpec)
    (hex : ∀ f ∈ mentioned larch r, f.isRegex = false → g.hasNode f.id = true) :
    assertAppliesLayer mt (compileLayerRule larch r) g ≠ .err .lookupError := by
  intro h
  have hS : ∀ f ∈ larch.getD r.subject, f ∈ mentioned larch r := fun f hf => by
    rw [mentioned_eq]; exact List.mem_append_left _ hf
  obtain ⟨rs, e, hs, ho, hD⟩ := compile_converted g larch r
  rw [e] at h
  rcases assertAppliesLayer_lookup_cases mt g larch rs h with hd | ⟨d, ss, os, hs', ho', hm⟩
  · rw [hD, droppedAbsentIn_of_nodes g _ fun f hf => hex f (hS f hf), Bool.and_false] at hd
    cases hd
  · cases hs.symm.trans hs'
    cases ho.symm.trans ho'
    refine matchLayerRule_no_lookup mt g larch _ d _ _ (fun f hf => hex f ?_) hm
    rcases List.mem_append.1 hf with hf | hf
    · exact hS f (subjF_subset larch r f hf)
    · exact objF_subset larch r f hf

/-! non-vacuity: graph `p, p.a, q`; layer `L` lists `p.a` and the absent `zz`; layer `U` lists the absent `yy` -/
namespace LEx
def g0 : PGraph Str := buildGraph ["p".toList, "p.a".toList, "q".toList] [] none
def mtF : Str → Str → Bool := fun _ _ => false
/-- `L` lists an absent module; `U` (never mentioned below) lists an absent module too -/
def la1 : LArch := [("L".toList, [.name "p.a".toList, .name "zz".toList]), ("M".toList, [.name "q".toList]),
  ("U".toList, [.name "yy".toList])]
/-- only the unmentioned layer `U` lists an absent module -/
def la2 : LArch := [("L".toList, [.name "p.a".toList]), ("M".toList, [.name "q".toList]), ("U".toList, [.name "yy".toList])]
/-- `la2` without `U` -/
def la2' : LArch := [("L".toList, [.name "p.a".toList]), ("M".toList, [.name "q".toList])]
/-- `L` is a regex layer, `M` lists an absent module -/
def la3 : LArch := [("L".toList, [.regex "x.*".toList]), ("M".toList, [.name "q".toList, .name "zz".toList])]
def r1 : LRuleSpec := { verb := .should, importDir := true, exc := false, subject := "L".toList, objects := ["M".toList] }
def r2 : LRuleSpec := { verb := .shouldNot, importDir := false, exc := true, subject := "M".toList, objects := ["L".toList] }
def r3 : LRuleSpec := { verb := .shouldNot, importDir := true, exc := false, subject := "L".toList, objects := [], anything := true }
end LEx
open LEx in
/-- hypotheses of `layer_unknown_module`: absent module in the subject layer (`r1`, `r3`) and in an object layer (`r2`) -/
example : (r1.anything = true → r1.verb = .shouldNot) ∧ la1.getD r1.subject ≠ [] ∧ r1.objects.flatMap la1.getD ≠ [] ∧
    (∀ f ∈ mentioned la1 r1, f.isRegex = false) ∧ "L".toList ∈ mentionedLayers r1 ∧ "L".toList ∈ mentionedLayers r2 ∧
    "L".toList ∈ mentionedLayers r3 ∧ Filter.name "zz".toList ∈ la1.getD "L".toList ∧
    g0.hasNode (Filter.name "zz".toList).id = false := by decide +kernel
open LEx in
example : (assertAppliesLayer mtF (compileLayerRule la1 r1) g0).cls = .err .lookupError ∧
    (assertAppliesLayer mtF (compileLayerRule la1 r2) g0).cls = .err .lookupError ∧
    (assertAppliesLayer mtF (compileLayerRule la1 r3) g0).cls = .err .lookupError := by decide +kernel
open LEx in
/-- through the call chain: raised by `assert_applies` (call index 6 resp. 5) -/
example : runLayerRuleOps mtF (layerRuleOps la1 r1 true) g0 = (.err .lookupError, 6) ∧
    runLayerRuleOps mtF (layerRuleOps la1 r3 true) g0 = (.err .lookupError, 5) := by decide +kernel
open LEx in
/-- the unmentioned layer `U` lists the absent `yy`: no error, and the same verdicts as without `U` -/
example : (assertAppliesLayer mtF (compileLayerRule la2 r1) g0).cls = .fail ∧
    (assertAppliesLayer mtF (compileLayerRule la2' r1) g0).cls = .fail ∧
    (assertAppliesLayer mtF (compileLayerRule la2 r2) g0).cls = .pass ∧
    (assertAppliesLayer mtF (compileLayerRule la2' r2) g0).cls = .pass ∧
    (assertAppliesLayer mtF (compileLayerRule la2 r3) g0).cls = .pass ∧
    (assertAppliesLayer mtF (compileLayerRule la2' r3) g0).cls = .pass := by decide +kernel
open LEx in
/-- hypotheses of `layer_unmentioned_irrelevant` / `layer_unmentioned_absent_no_lookup_error` -/
example : (∀ L ∈ mentionedLayers r1, la2.getD L = la2'.getD L) ∧
    (∀ f ∈ mentioned la2 r1, f.isRegex = false → g0.hasNode f.id = true) := by decide +kernel

open LEx in
/-- hypotheses of `layer_unknown_module_chain` -/
example : la1.hasLayer r1.subject = true ∧ (r1.anything = false → r1.objects.all la1.hasLayer = true) ∧
    la1.hasLayer r3.subject = true := by decide

/-! ## 2. a regex layer that matches nothing — and which error wins -/

/-- **C13 for layers, regex without a match** (the 12 shapes): some layer the rule mentions contains a regex filter that
    matches no node — `ImpossibleMatch`, never a verdict. There is NO hypothesis about the names: the no-match error wins
    over the lookup error of an absent module listed by the same or another mentioned layer (the regexes of subjects and
    objects are converted before any graph query), as `no_match_wins_over_unknown_name` says for module rules. -/
theorem layer_regex_no_match (mt : Str → Str → Bool) (g : PGraph Str) (larch : LArch) (r : LRuleSpec)
    (hna : r.anything = false)
    (hs : larch.getD r.subject ≠ []) (ho : r.objects.flatMap larch.getD ≠ [])
    (L : Str) (hL : L ∈ mentionedLayers r) (f : Filter) (hf : f ∈ larch.getD L)
    (hre : f.isRegex = true) (hno : ∀ m ∈ g.nodes, mt f.id m = false) :
    assertAppliesLayer mt (compileLayerRule larch r) g = .err .impossibleMatch := by
  refine layer_regex_no_match_lemma mt g larch r (fun h => by rw [hna] at h; cases h) hs (.inr ho)
    (fun h => by rw [hna] at h; cases h) ⟨f, ?_, hre, hno⟩
  have hm : f ∈ mentioned larch r := List.mem_flatMap.2 ⟨L, hL, hf⟩
  rw [mentioned_eq] at hm
  simpa [subjF_plain larch hna, objF_plain larch hna, hna] using hm

/-- the two `any layer` forms, subject layer defined by `have_modules_with_names_matching(p)` (the only way the builder
    puts a regex into a layer): `ImpossibleMatch` -/
theorem layer_regex_no_match_any (mt : Str → Str → Bool) (g : PGraph Str) (larch : LArch) (r : LRuleSpec)
    (ha : r.anything = true) (hv : r.verb = .shouldNot) (p : Str) (hlayer : larch.getD r.subject = [.regex p])
    (hno : ∀ m ∈ g.nodes, mt p m = false) :
    assertAppliesLayer mt (compileLayerRule larch r) g = .err .impossibleMatch := by
  have hdd : dedupSubjects (larch.getD r.subject) = [.regex p] := by rw [hlayer]; exact dedupSubjects_single _
  refine layer_regex_no_match_lemma mt g larch r (fun _ => hv) (by rw [hlayer]; simp) (.inl ha) (fun _ => ?_)
    ⟨.regex p, ?_, rfl, hno⟩
  · rw [hlayer, droppedAbsentIn_false_iff]
    intro f hf _ hr
    simp only [List.mem_singleton] at hf
    subst hf; cases hr
  · rw [subjF_any larch ha, hdd]; exact List.mem_append_left _ (List.mem_singleton_self _)

/-- the `any layer` forms on ARBITRARY layers (a layer mixing names and regexes cannot be defined through the builder):
    `_convert_aliases` runs first, so (1) an absent module that the alias conversion DROPS is reported first — lookup error
    (`hda` excludes it; see the examples) —, and (2) the regex must survive the alias conversion (`hf`) -/
theorem layer_regex_no_match_any_converted (mt : Str → Str → Bool) (g : PGraph Str) (larch : LArch) (r : LRuleSpec)
    (ha : r.anything = true) (hv : r.verb = .shouldNot)
    (hda : droppedAbsentIn g (larch.getD r.subject) = false)
    (f : Filter) (hf : f ∈ dedupSubjects (larch.getD r.subject))
    (hre : f.isRegex = true) (hno : ∀ m ∈ g.nodes, mt f.id m = false) :
    assertAppliesLayer mt (compileLayerRule larch r) g = .err .impossibleMatch := by
  have hne : larch.getD r.subject ≠ [] := by
    intro h; rw [h] at hf; cases hf
  refine layer_regex_no_match_lemma mt g larch r (fun _ => hv) hne (.inl ha) (fun _ => hda) ⟨f, ?_, hre, hno⟩
  rw [subjF_any larch ha]; exact List.mem_append_left _ hf

/-- … and the other way round: an absent module dropped by the alias conversion wins over everything the matcher could
    say, a regex without a match included -/
theorem layer_any_dropped_absent_wins (mt : Str → Str → Bool) (g : PGraph Str) (larch : LArch) (r : LRuleSpec)
    (ha : r.anything = true) (hv : r.verb = .shouldNot)
    (hda : droppedAbsentIn g (larch.getD r.subject) = true) :
    assertAppliesLayer mt (compileLayerRule larch r) g = .err .lookupError :=
  assertAppliesLayer_dropped mt g larch r ha hv hda

open LEx in
/-- non-vacuity / which error wins: `L` is a regex layer without a match AND `M` lists the absent `zz` — all hypotheses of
    `layer_unknown_module` except `hreg` hold, the result is `ImpossibleMatch` in both positions; with a matching regex the
    same rules raise the lookup error -/
example : r1.anything = false ∧ la3.getD r1.subject ≠ [] ∧ r1.objects.flatMap la3.getD ≠ [] ∧
    "L".toList ∈ mentionedLayers r1 ∧ "L".toList ∈ mentionedLayers r2 ∧ Filter.regex "x.*".toList ∈ la3.getD "L".toList ∧
    (∀ m ∈ g0.nodes, mtF (Filter.regex "x.*".toList).id m = false) ∧
    Filter.name "zz".toList ∈ la3.getD "M".toList ∧ g0.hasNode "zz".toList = false := by decide +kernel
open LEx in
example : (assertAppliesLayer mtF (compileLayerRule la3 r1) g0).cls = .err .impossibleMatch ∧
    (assertAppliesLayer mtF (compileLayerRule la3 r2) g0).cls = .err .impossibleMatch ∧
    (assertAppliesLayer mtF (compileLayerRule la3 r3) g0).cls = .err .impossibleMatch ∧
    (assertAppliesLayer (fun _ _ => true) (compileLayerRule la3 r1) g0).cls = .err .lookupError ∧
    (assertAppliesLayer (fun _ _ => true) (compileLayerRule la3 r2) g0).cls = .err .lookupError := by decide +kernel
open LEx in
/-- `any layer` on a mixed layer (not definable through the builder): the absent `p.a.zz` is dropped by the alias
    conversion — lookup error although the regex has no match; the absent `zz` is kept — `ImpossibleMatch` -/
example :
    (assertAppliesLayer mtF (compileLayerRule
      [("L".toList, [.name "p.a".toList, .name "p.a.zz".toList, .regex "x.*".toList])] r3) g0).cls = .err .lookupError ∧
    droppedAbsentIn g0 [.name "p.a".toList, .name "p.a.zz".toList, .regex "x.*".toList] = true ∧
    (assertAppliesLayer mtF (compileLayerRule
      [("L".toList, [.name "p.a".toList, .name "zz".toList, .regex "x.*".toList])] r3) g0).cls = .err .impossibleMatch ∧
    droppedAbsentIn g0 [.name "p.a".toList, .name "zz".toList, .regex "x.*".toList] = false := by decide +kernel

open LEx in
/-- hypotheses of `layer_regex_no_match_any` (`la3`, rule `r3`: the subject layer is the regex layer `L`) and of
    `layer_regex_no_match_any_converted` / `layer_any_dropped_absent_wins` (the mixed layers above) -/
example : r3.anything = true ∧ r3.verb = .shouldNot ∧ la3.getD r3.subject = [.regex "x.*".toList] ∧
    (∀ m ∈ g0.nodes, mtF "x.*".toList m = false) ∧
    Filter.regex "x.*".toList ∈ dedupSubjects [.name "p.a".toList, .name "zz".toList, .regex "x.*".toList] := by decide +kernel

/-- observation (module rules, outside the builder's typed API): the alias conversion compares the identifiers of REGEX
    filters as if they were module names too, so the pattern `p.zz` is dropped in favour of the pattern `p`; it is never
    converted, and that it matches nothing goes unnoticed — the rule returns a verdict. `_assert_modules_removed_by_alias_
    conversion_exist` skips regex filters. Reachable in Python only by passing a LIST to `have_name_matching` (annotated
    `str`; `_set_modules` accepts a sequence at run time): `convert_partial_match_to_regex` never produces two patterns
    one of which extends the other by `.`, so the deprecated `have_name_containing([...])` cannot get there. -/
example :
    (assertApplies (fun r m => r == m)
      { cfg := { subjects := some [.regex "p".toList, .regex "p.zz".toList], shouldNot := true, importDir := some true,
                 anything := true }, next := some false }
      (buildGraph ["p".toList, "q".toList] [] none)).2 = .pass ∧
    (∀ m ∈ (buildGraph ["p".toList, "q".toList] [] none).nodes, (fun r m => r == m) "p.zz".toList m = false) := by decide +kernel

/-! ## 3. a diagram component that is not a module -/

/-- **the exact statement.** `Checked p m`: `m` is drawn together with another component, or is an end of an arrow. The
    batch raises the lookup error EXACTLY when some checked component (base module prefixed) is not a node of the graph,
    and it never raises anything else. -/
theorem diagram_lookup_error_iff (mt : Str → Str → Bool) (g : PGraph Str) (so : Bool) (p : Parsed') (base : Option Str)
    (hne : ∀ kv ∈ p.dependencies, kv.2 ≠ []) :
    (applyAll mt g (diagramRules so (prefixParsed p base)) = .err .lookupError ↔
      ∃ m, Checked p m ∧ g.hasNode (withBase base m) = false) ∧
    (∀ k, applyAll mt g (diagramRules so (prefixParsed p base)) = .err k → k = .lookupError) :=
  diagram_lookup_iff_lemma mt g so p base hne

/-- **C13 for diagrams, absent component.** For every parse result `p` in which no dependor has an empty list of
    dependees (true of every parser output, `diagram_file_unknown_component`), every base module, both modes, every graph:
    if a component `m` that is drawn together with another component, or that occurs in an arrow, is — after prefixing —
    not a node of the graph, the generated rule batch raises the lookup error: never a verdict. -/
theorem diagram_unknown_component (mt : Str → Str → Bool) (g : PGraph Str) (so : Bool) (p : Parsed') (base : Option Str)
    (hne : ∀ kv ∈ p.dependencies, kv.2 ≠ []) (m : Str)
    (hm : (m ∈ p.modules ∧ ∃ x ∈ p.modules, x ≠ m) ∨ ∃ kv ∈ p.dependencies, m = kv.1 ∨ m ∈ kv.2)
    (habs : g.hasNode (withBase base m) = false) :
    applyAll mt g (diagramRules so (prefixParsed p base)) = .err .lookupError :=
  (diagram_lookup_error_iff mt g so p base hne).1.2 ⟨m, hm, habs⟩

theorem checked_iff (p : Parsed') (m : Str) :
    Checked p m ↔ (m ∈ p.modules ∧ ∃ x ∈ p.modules, x ≠ m) ∨ ∃ kv ∈ p.dependencies, m = kv.1 ∨ m ∈ kv.2 := Iff.rfl

/-- the boundary of the RULE BATCH: ONE isolated component generates no rule at all, the batch looks nothing up and
    passes on every graph — whether the component exists or not. Before the repair of F-C13c this was the outcome of
    `DiagramRule.assert_applies` (`diagram_single_component_before_repair`); the repaired `assert_applies` checks the
    components before the batch is applied (`diagram_single_component_repaired`, `diagram_file_lookup_error_iff`). -/
theorem diagram_single_component (mt : Str → Str → Bool) (g : PGraph Str) (so : Bool) (m : Str) (base : Option Str) :
    diagramRules so (prefixParsed ⟨[m], []⟩ base) = [] ∧
    applyAll mt g (diagramRules so (prefixParsed ⟨[m], []⟩ base)) = .pass := by
  have h : diagramRules so (prefixParsed ⟨[m], []⟩ base) = [] := by
    cases base <;>
      simp [Dg.diagramRules_eq, prefixParsed, dedup, sortStr, sortBy, insertBy, Dg.shouldNotOf, Dg.notImportedOf, Dg.importedOf]
  rw [h]
  exact ⟨rfl, rfl⟩

/-- what `PumlParser.parse` guarantees of its result -/
theorem parse_result_shape (c : Str) (p : Parsed') (h : pumlParse c = .ok p) :
    (∀ kv ∈ p.dependencies, kv.2 ≠ []) ∧ p.modules.Nodup ∧
    ∀ kv ∈ p.dependencies, kv.1 ∈ p.modules ∧ ∀ v ∈ kv.2, v ∈ p.modules := by
  obtain ⟨h1, h2, h3⟩ := pumlParse_ok_props c p h
  exact ⟨fun kv hkv => (h1.2 kv hkv).2, h2, h3⟩

/-- **on a diagram file** (after the repair of F-C13c): the file parses and one of the components it draws (base module
    prefixed) is not a node of the graph — `DiagramRule.assert_applies` raises the lookup error, however many components
    the file draws and whether or not a generated rule names that component -/
theorem diagram_file_unknown_component (mt : Str → Str → Bool) (g : PGraph Str) (so : Bool) (c : Str) (base : Option Str)
    (p : Parsed') (hp : pumlParse c = .ok p) (m : Str) (hm : m ∈ p.modules)
    (habs : g.hasNode (withBase base m) = false) :
    diagramAssert mt (some c) base so g = .err .lookupError :=
  Pta.Repair.diagramAssert_of_missing mt g so c base p hp ((diagramMissing_prefix_iff p base g).2 ⟨m, hm, habs⟩)

/-- the exact statement on a file that parses (after the repair of F-C13c): lookup error iff SOME component (base module
    prefixed) is not a node of the graph; no other error -/
theorem diagram_file_lookup_error_iff (mt : Str → Str → Bool) (g : PGraph Str) (so : Bool) (c : Str) (base : Option Str)
    (p : Parsed') (hp : pumlParse c = .ok p) :
    (diagramAssert mt (some c) base so g = .err .lookupError ↔ ∃ m ∈ p.modules, g.hasNode (withBase base m) = false) ∧
    (∀ k, diagramAssert mt (some c) base so g = .err k → k = .lookupError) := by
  obtain ⟨hok, _, hin⟩ := pumlParse_ok_props c p hp
  obtain ⟨h1, h2⟩ := diagram_lookup_error_iff mt g so p base (fun kv hkv => (hok.2 kv hkv).2)
  rw [← diagramMissing_prefix_iff, Pta.Repair.diagramAssert_ok mt g so c base p hp]
  cases hmiss : diagramMissing (prefixParsed p base) g with
  | true => exact ⟨⟨fun _ => rfl, fun _ => rfl⟩, fun k hk => by cases hk; rfl⟩
  | false =>
    refine ⟨⟨fun h => ?_, nofun⟩, h2⟩
    obtain ⟨m, hc, hn⟩ := h1.1 h
    have : diagramMissing (prefixParsed p base) g = true := by
      refine (diagramMissing_prefix_iff p base g).2 ⟨m, ?_, hn⟩
      -- every checked component is a component
      rcases hc with ⟨hm, _⟩ | ⟨kv, hkv, rfl | hv⟩
      · exact hm
      · exact (hin kv hkv).1
      · exact (hin kv hkv).2 m hv
    rw [hmiss] at this
    cases this

/-- before the repair: lookup error iff a component the generated rules NAME (`Checked`) is absent -/
theorem diagram_file_lookup_error_iff_before_repair (mt : Str → Str → Bool) (g : PGraph Str) (so : Bool) (c : Str)
    (base : Option Str) (p : Parsed') (hp : pumlParse c = .ok p) :
    (diagramAssertBeforeRepair mt (some c) base so g = .err .lookupError ↔
      ∃ m, Checked p m ∧ g.hasNode (withBase base m) = false) ∧
    (∀ k, diagramAssertBeforeRepair mt (some c) base so g = .err k → k = .lookupError) := by
  obtain ⟨hok, _, _⟩ := pumlParse_ok_props c p hp
  rw [Pta.Repair.diagramAssertBeforeRepair_ok mt g so c base p hp]
  exact diagram_lookup_error_iff mt g so p base (fun kv hkv => (hok.2 kv hkv).2)

/-- … and for every builder history that supplies this file last and this base module last -/
theorem diagram_history_unknown_component (only : Bool) (ops : List DiagramRuleOp) (mt : Str → Str → Bool) (g : PGraph Str)
    (c : Str) (base : Option Str) (h : classifyDiagram (ops.map toDCall) = .complete c base)
    (p : Parsed') (hp : pumlParse c = .ok p) (m : Str) (hm : m ∈ p.modules)
    (habs : g.hasNode (withBase base m) = false) :
    runDiagramOps only ops mt g = .err .lookupError := by
  rw [diagram_history_complete only ops mt g c base h]
  exact diagram_file_unknown_component mt g only c base p hp m hm habs

/-! non-vacuity: the diagram `ui → core → db` of C07 against a graph without `db`; one isolated absent component -/
section diagramExamples
open Pta.C07
def gNoDb : PGraph Str := buildGraph ["ui".toList, "core".toList] [absImport "ui".toList "core".toList] none
def exOneContent : Str := "@startuml\n[zz]\n@enduml".toList

example : (∀ kv ∈ (parsedOf exShort).dependencies, kv.2 ≠ []) ∧ "db".toList ∈ (parsedOf exShort).modules ∧
    (∃ x ∈ (parsedOf exShort).modules, x ≠ "db".toList) ∧ gNoDb.hasNode (withBase none "db".toList) = false := by
  decide +kernel
example : (applyAll mt0 gNoDb (diagramRules true (prefixParsed (parsedOf exShort) none))).cls = .err .lookupError ∧
    (applyAll mt0 gNoDb (diagramRules false (prefixParsed (parsedOf exShort) none))).cls = .err .lookupError := by
  decide +kernel
/-- with a base module the PREFIXED names are looked up: `app.ui`, … are absent from `gNoDb` -/
example : gNoDb.hasNode (withBase (some "app".toList) "ui".toList) = false ∧
    (applyAll mt0 gNoDb (diagramRules true (prefixParsed (parsedOf exShort) (some "app".toList)))).cls = .err .lookupError := by
  decide +kernel
/-- hypotheses of `diagram_file_unknown_component` on the file -/
example : pumlParse exShortContent = .ok (parsedOf exShort) := Pta.Dg.parse_eq_of_check _ _ (by decide +kernel)
example : "db".toList ∈ (parsedOf exShort).modules ∧ gNoDb.hasNode (withBase none "db".toList) = false := by decide +kernel
example : (diagramAssert mt0 (some exShortContent) none true gNoDb).cls = .err .lookupError := by decide +kernel
/-- the boundary on a file (finding F-C13c): one isolated component that does not exist. BEFORE the repair no rule is
    generated, nothing is looked up, the check passes … -/
example : pumlParse exOneContent = .ok ⟨["zz".toList], []⟩ := Pta.Dg.parse_eq_of_check _ _ (by decide +kernel)
theorem diagram_single_component_before_repair :
    gNoDb.hasNode "zz".toList = false ∧ (diagramAssertBeforeRepair mt0 (some exOneContent) none true gNoDb).cls = .pass ∧
    (diagramAssertBeforeRepair mt0 (some exOneContent) (some "app".toList) false gNoDb).cls = .pass := by decide +kernel
/-- … AFTER the repair the component is checked: lookup error, with and without a base module, in both modes -/
theorem diagram_single_component_repaired :
    gNoDb.hasNode "zz".toList = false ∧
    (diagramAssert mt0 (some exOneContent) none true gNoDb).cls = .err .lookupError ∧
    (diagramAssert mt0 (some exOneContent) (some "app".toList) false gNoDb).cls = .err .lookupError := by decide +kernel
/-- an existing isolated component still passes after the repair -/
example : gNoDb.hasNode "ui".toList = true ∧
    (diagramAssert mt0 (some "@startuml\n[ui]\n@enduml".toList) none true gNoDb).cls = .pass := by decide +kernel
/-- hypotheses of `diagram_history_unknown_component` -/
example : classifyDiagram ([DiagramRuleOp.fromFile "junk".toList, .fromFile exShortContent].map toDCall)
    = .complete exShortContent none := by decide +kernel
example : (runDiagramOps true [.fromFile "junk".toList, .fromFile exShortContent] mt0 gNoDb).cls = .err .lookupError := by
  decide +kernel
/-- the rule batch alone: ONE component with an arrow to itself is looked up (`Checked`, right disjunct) -/
example : (applyAll mt0 gNoDb (diagramRules true ⟨["zz".toList], [("zz".toList, ["zz".toList])]⟩)).cls = .err .lookupError := by
  decide +kernel
/-- why `hne` is a hypothesis of `diagram_unknown_component` (it is not one of the file-level theorem): an arbitrary
    `Parsed'` value with a dependor without dependees makes the first generated rule incomplete — configuration error -/
example : (applyAll mt0 gNoDb (diagramRules true ⟨["ui".toList, "zz".toList], [("ui".toList, [])]⟩)).cls =
    .err .improperlyConfigured := by decide
end diagramExamples

/-! ## 4. too-deep module names against level-limited architectures -/

/-- on the graph built with `level_limit = k` no well-formed name with more than `k+1` components is a node (the nodes are
    the truncated names, `Pta.C09.quotient`) — in particular no module of `a` below the limit -/
theorem too_deep_not_node (a : Arch) (hwf : a.wf = true) (k : Nat) (n : Name) (hn : nameWF n = true)
    (hdeep : k + 1 < n.length) : (archGraphLim a (some k)).hasNode (render n) = false :=
  Pta.C13M.too_deep_not_node a hwf k n hn hdeep

/-- **too-deep module name.** A complete module rule without regexes that names (`are_named` or `are_sub_modules_of`) a
    module `n` of the architecture lying deeper than the level limit raises the lookup error on the level-limited graph -/
theorem too_deep_name (mt : Str → Str → Bool) (a : Arch) (hwf : a.wf = true) (k : Nat) (b : Behavior) (dir : Bool)
    (subs objs : List Filter)
    (hverb : b.should = true ∨ b.shouldOnly = true ∨ b.shouldNot = true)
    (hs : subs ≠ []) (ho : objs ≠ [])
    (hnoregex : ∀ f ∈ subs ++ objs, f.isRegex = false)
    (n : Name) (hn : n ∈ a.nodes) (hdeep : k + 1 < n.length)
    (f : Filter) (hf : f ∈ subs ++ objs) (hfn : f.id = render n) :
    matchRule mt (archGraphLim a (some k)) b dir subs objs = .err .lookupError :=
  unknown_name mt _ b dir subs objs hverb hs ho hnoregex
    ⟨f, hf, by rw [hfn]; exact too_deep_not_node a hwf k n (Pta.BuildNames.wf_nodes a hwf n hn) hdeep⟩

/-- the same with regexes elsewhere in the rule (all of them matching) -/
theorem too_deep_name_with_regex (mt : Str → Str → Bool) (a : Arch) (hwf : a.wf = true) (k : Nat) (b : Behavior) (dir : Bool)
    (subs objs : List Filter)
    (hverb : b.should = true ∨ b.shouldOnly = true ∨ b.shouldNot = true)
    (hs : subs ≠ []) (ho : objs ≠ [])
    (hreg : ∀ f ∈ subs ++ objs, f.isRegex = true → ∃ m ∈ (archGraphLim a (some k)).nodes, mt f.id m = true)
    (n : Name) (hn : n ∈ a.nodes) (hdeep : k + 1 < n.length)
    (f : Filter) (hf : f ∈ subs ++ objs) (hfr : f.isRegex = false) (hfn : f.id = render n) :
    matchRule mt (archGraphLim a (some k)) b dir subs objs = .err .lookupError :=
  unknown_name_with_regex mt _ b dir subs objs hverb hs ho hreg
    ⟨f, hf, hfr, by rw [hfn]; exact too_deep_not_node a hwf k n (Pta.BuildNames.wf_nodes a hwf n hn) hdeep⟩

/-- … and behind a layer: a mentioned layer listing a module below the limit -/
theorem too_deep_layer (mt : Str → Str → Bool) (a : Arch) (hwf : a.wf = true) (k : Nat) (larch : LArch) (r : LRuleSpec)
    (hany : r.anything = true → r.verb = .shouldNot)
    (hs : larch.getD r.subject ≠ []) (ho : r.anything = true ∨ r.objects.flatMap larch.getD ≠ [])
    (hreg : ∀ f ∈ mentioned larch r, f.isRegex = true → ∃ m ∈ (archGraphLim a (some k)).nodes, mt f.id m = true)
    (L : Str) (hL : L ∈ mentionedLayers r) (f : Filter) (hf : f ∈ larch.getD L) (hname : f.isRegex = false)
    (n : Name) (hn : n ∈ a.nodes) (hdeep : k + 1 < n.length) (hfn : f.id = render n) :
    assertAppliesLayer mt (compileLayerRule larch r) (archGraphLim a (some k)) = .err .lookupError :=
  layer_unknown_module mt _ larch r hany hs ho hreg L hL f hf hname
    (by rw [hfn]; exact too_deep_not_node a hwf k n (Pta.BuildNames.wf_nodes a hwf n hn) hdeep)

/-! non-vacuity: `Pta.C09.exA` (`p, p.a, p.a.x, p.b, q`; `p.a.x → q`, `p.a.x → p.a`) at limit 1: `p.a.x` is too deep -/
example : Pta.C09.exA.wf = true ∧ Pta.C09.nm "p.a.x" ∈ Pta.C09.exA.nodes ∧ 1 + 1 < (Pta.C09.nm "p.a.x").length ∧
    (Filter.name "p.a.x".toList).id = render (Pta.C09.nm "p.a.x") := by decide +kernel
example : (archGraphLim Pta.C09.exA (some 1)).hasNode "p.a.x".toList = false ∧
    (archGraph Pta.C09.exA).hasNode "p.a.x".toList = true := by decide +kernel
/-- `p.a.x should import q`: lookup error at limit 1, pass on the full graph; at limit 2 the name is not too deep -/
example : matchRule (fun _ _ => false) (archGraphLim Pta.C09.exA (some 1)) ⟨true, false, false, false⟩ true
      [.name "p.a.x".toList] [.name "q".toList] = .err .lookupError ∧
    matchRule (fun _ _ => false) (archGraph Pta.C09.exA) ⟨true, false, false, false⟩ true
      [.name "p.a.x".toList] [.name "q".toList] = .pass ∧
    matchRule (fun _ _ => false) (archGraphLim Pta.C09.exA (some 2)) ⟨true, false, false, false⟩ true
      [.name "p.a.x".toList] [.name "q".toList] = .pass := by decide +kernel
/-- through the fluent chain, in object position and as a parent (`are_sub_modules_of`) -/
example : runRuleOps noGlob (fun _ _ => false)
      [.modulesThat, .areNamed ["q".toList], .shouldNot, .importThat, .areSubModulesOf ["p.a.x".toList]]
      (archGraphLim Pta.C09.exA (some 1)) = (.err .lookupError, 5) := by decide +kernel

/-- hypotheses of `too_deep_layer`: layer `L` lists `p.a.x`, layer `M` lists `q`; "L should access M" at limit 1 -/
example :
    let larch : LArch := [("L".toList, [.name "p.a.x".toList]), ("M".toList, [.name "q".toList])]
    let r : LRuleSpec := { verb := .should, importDir := true, exc := false, subject := "L".toList, objects := ["M".toList] }
    larch.getD r.subject ≠ [] ∧ r.objects.flatMap larch.getD ≠ [] ∧ (∀ f ∈ mentioned larch r, f.isRegex = false) ∧
    "L".toList ∈ mentionedLayers r ∧ Filter.name "p.a.x".toList ∈ larch.getD "L".toList ∧
    (assertAppliesLayer (fun _ _ => false) (compileLayerRule larch r) (archGraphLim Pta.C09.exA (some 1))).cls
      = .err .lookupError ∧
    (assertAppliesLayer (fun _ _ => false) (compileLayerRule larch r) (archGraph Pta.C09.exA)).cls = .pass := by decide +kernel

/-! ## 5. `module_path` outside `root_path`, and the order of the checks -/

/-- `module_path.relative_to(root_path)` raises (`ValueError`, kind `lookupError`) exactly when the roots differ or the
    components of `root_path` are not a prefix of those of `module_path` -/
theorem relative_to_error_iff (m r : PPath) :
    m.relativeTo r = .error .lookupError ↔ (m.root == r.root && r.parts.isPrefixOf m.parts) = false := by
  unfold PPath.relativeTo
  cases h : (m.root == r.root && r.parts.isPrefixOf m.parts) <;> simp

/-- **`module_path` outside `root_path`**: the option checks pass and the module path is not below the root path — the
    path entry point raises the lookup error, for every file system and every option set that passes the checks -/
theorem module_path_outside_root (mt : Str → Str → Bool) (fs : Str → List Entry) (rootPath modulePath : Str) (a : EntryArgs)
    (hopt : entryOptionsError (a.flags true) = none)
    (hout : (parsePath modulePath).relativeTo (parsePath rootPath) = .error .lookupError) :
    getEvaluableArchitecture mt fs rootPath modulePath a = .error (.kind .lookupError) := by
  unfold getEvaluableArchitecture
  have hp : entryPaths rootPath modulePath = .error .lookupError := by
    unfold entryPaths
    simp only [hout]
  simp only [hopt, hp]

/-- **order of the checks**: a contradictory option set is a configuration error whatever the two paths are — in
    particular it wins over the path error -/
theorem options_before_paths (mt : Str → Str → Bool) (fs : Str → List Entry) (rootPath modulePath : Str) (a : EntryArgs)
    (k : ErrKind) (hopt : entryOptionsError (a.flags true) = some k) :
    k = .improperlyConfigured ∧
    getEvaluableArchitecture mt fs rootPath modulePath a = .error (.kind .improperlyConfigured) := by
  cases Pta.Entry.entryOptionsError_inside _ k hopt rfl
  refine ⟨rfl, ?_⟩
  unfold getEvaluableArchitecture
  simp only [hopt]

/-- the same through the module-object entry point: the two paths are the `dirname`s of the two `__file__`s -/
theorem module_objects_outside_root (mt : Str → Str → Bool) (fs : Str → List Entry) (rootModule module : ModuleObj)
    (a : EntryArgs) (hopt : entryOptionsError (a.flags true) = none)
    (hout : (parsePath (dirname module.file)).relativeTo (parsePath (dirname rootModule.file)) = .error .lookupError) :
    scanForModuleObjects mt fs rootModule module a = .error (.kind .lookupError) :=
  module_path_outside_root mt fs _ _ a hopt hout

theorem module_objects_options_before_paths (mt : Str → Str → Bool) (fs : Str → List Entry) (rootModule module : ModuleObj)
    (a : EntryArgs) (k : ErrKind) (hopt : entryOptionsError (a.flags true) = some k) :
    scanForModuleObjects mt fs rootModule module a = .error (.kind .improperlyConfigured) :=
  (options_before_paths mt fs _ _ a k hopt).2

/-- for module objects `rdir/rfile`, `mdir/mfile` in terms of the two directories -/
theorem module_objects_outside_root_dirs (mt : Str → Str → Bool) (fs : Str → List Entry) (rdir mdir rfile mfile : Str)
    (a : EntryArgs) (hr : rdir ≠ []) (hr' : rdir.getLast? ≠ some '/') (hm : mdir ≠ []) (hm' : mdir.getLast? ≠ some '/')
    (hrf : '/' ∉ rfile) (hmf : '/' ∉ mfile)
    (hopt : entryOptionsError (a.flags true) = none)
    (hout : (parsePath mdir).relativeTo (parsePath rdir) = .error .lookupError) :
    scanForModuleObjects mt fs ⟨rdir ++ '/' :: rfile⟩ ⟨mdir ++ '/' :: mfile⟩ a = .error (.kind .lookupError) := by
  rw [Pta.Entry.scanForModuleObjects_eq mt fs rdir mdir rfile mfile a hr hr' hm hm' hrf hmf]
  exact module_path_outside_root mt fs rdir mdir a hopt hout

/-! non-vacuity: root `/r/proj/a`, module `/r/proj` (above the root), `/r/other` (beside it), `r/proj/a/b` (relative) -/
section entryExamples
open Pta.C04
local instance instDecEqExcept' {ε α : Type} [DecidableEq ε] [DecidableEq α] : DecidableEq (Except ε α)
  | .ok a, .ok b => if h : a = b then isTrue (by rw [h]) else isFalse (by intro e; cases e; exact h rfl)
  | .error a, .error b => if h : a = b then isTrue (by rw [h]) else isFalse (by intro e; cases e; exact h rfl)
  | .ok _, .error _ => isFalse (by intro e; cases e)
  | .error _, .ok _ => isFalse (by intro e; cases e)

example : entryOptionsError (exArgs.flags true) = none ∧
    (parsePath "/r/proj".toList).relativeTo (parsePath "/r/proj/a".toList) = .error .lookupError ∧
    (parsePath "/r/other".toList).relativeTo (parsePath "/r/proj/a".toList) = .error .lookupError ∧
    (parsePath "r/proj/a/b".toList).relativeTo (parsePath "/r/proj/a".toList) = .error .lookupError ∧
    (parsePath "/r/proj/a/b".toList).relativeTo (parsePath "/r/proj/a".toList) = .ok [("b".toList)] := by decide +kernel
/-- hypotheses of `module_objects_outside_root_dirs` -/
example : "/r/proj/a".toList ≠ [] ∧ "/r/proj/a".toList.getLast? ≠ some '/' ∧ "/r/proj".toList ≠ [] ∧
    "/r/proj".toList.getLast? ≠ some '/' ∧ '/' ∉ "__init__.py".toList := by decide +kernel
example : errorOf (getEvaluableArchitecture noRe exFs "/r/proj/a".toList "/r/proj".toList exArgs) = some (.kind .lookupError) := by
  decide +kernel
/-- both exclusion tuples AND the module path outside the root: the configuration error wins -/
example : entryOptionsError (({ regexExclusions := some ["x".toList] } : EntryArgs).flags true) = some .improperlyConfigured ∧
    errorOf (getEvaluableArchitecture noRe exFs "/r/proj/a".toList "/r/proj".toList { regexExclusions := some ["x".toList] })
      = some (.kind .improperlyConfigured) := by decide
example : errorOf (scanForModuleObjects noRe exFs ⟨"/r/proj/a/__init__.py".toList⟩ ⟨"/r/proj/__init__.py".toList⟩ exArgs)
      = some (.kind .lookupError) ∧
    errorOf (scanForModuleObjects noRe exFs ⟨"/r/proj/a/__init__.py".toList⟩ ⟨"/r/proj/__init__.py".toList⟩
      { regexExclusions := some ["x".toList] }) = some (.kind .improperlyConfigured) := by decide +kernel
end entryExamples

end Pta.C13
