/-
  PtaProofs.Props.C16 — layer definitions are well-formed (property C16): for EVERY sequence of
  LayeredArchitecture builder calls, a history the specification automaton accepts is accepted by the model and the
  definition lists exactly what was supplied, in order; a history it rejects is rejected by the model at the offending
  call. The automaton leaves one kind of history open (`LOutcome.unspecified`: a `matching` call whose regex is textually
  equal to a module name assigned before, `LStep.dontCare`); about those nothing is claimed.
-/
import Bridge.Abs
import Bridge.BuilderCalls
import PtaProofs.Lemmas.LArchCalls
import PtaProofs.Lemmas.LArchEmpty
import PtaProofs.Lemmas.LayerRuleSim
namespace Pta.C16
open PtaSpec

/-- identifiers per layer of an architecture -/
def ids (a : LArch) : List (Str × List Str) := a.map fun l => (l.1, l.2.map (·.id))

/-- refinement: the builder follows the specification automaton on every history -/
theorem larch_refines (ops : List LArchOp) :
    match classifyLArch (ops.map toLCall) with
    | .accepted t => ∃ a, runLArch ops = .ok a ∧
        ids a = t.closed ++ (match t.opened with | some n => [(n, [])] | none => [])
    | .rejectedAt i => runLArch ops = .error (.improperlyConfigured, i)
    | .unspecified => True := by
  cases h : classifyLArch (ops.map toLCall) with
  | accepted t =>
    obtain ⟨a, ha, hsim⟩ := Hist.run_of_accepted h
    exact ⟨a, ha, Hist.lsim_ids hsim⟩
  | rejectedAt i => exact Hist.run_of_rejected h
  | unspecified => trivial

/-- invariant of every reachable architecture: layer names are unique, at most one layer is pending, and no
    module identifier is listed in two different layers -/
theorem larch_invariant (ops : List LArchOp) (a : LArch) (h : runLArch ops = .ok a) :
    (a.map (·.1)).Nodup ∧ a.pending.length ≤ 1 ∧
    ∀ l₁ ∈ a, ∀ l₂ ∈ a, ∀ f₁ ∈ l₁.2, ∀ f₂ ∈ l₂.2, f₁.isRegex = false → f₂.isRegex = false → f₁.id = f₂.id → l₁.1 = l₂.1 :=
  Pta.larch_invariant_lemma ops a h

/-- `containing_modules([])` supplies no modules, so the layer stays open: for every history `h` after which a layer
    `n` is open (the specification automaton accepts `h` in a state whose open layer is `n`), the history
    `h, containing_modules([]), layer(m)` is rejected at the `layer` call — by the specification automaton, and
    the builder model agrees with a configuration error at that very call -/
theorem empty_module_list_keeps_layer_open (h : List LArchOp) (t : LTrack) (n m : Str)
    (hacc : classifyLArch (h.map toLCall) = .accepted t) (hopen : t.opened = some n) :
    classifyLArch ((h ++ [LArchOp.containingModules [], LArchOp.layer m]).map toLCall) = .rejectedAt (h.length + 1) ∧
    runLArch (h ++ [LArchOp.containingModules [], LArchOp.layer m]) = .error (.improperlyConfigured, h.length + 1) := by
  have hspec : classifyLArch ((h ++ [LArchOp.containingModules [], LArchOp.layer m]).map toLCall) = .rejectedAt (h.length + 1) := by
    simpa [toLCall] using Hist.spec_empty_keeps_open_aux (h.map toLCall) t n m hacc hopen
  exact ⟨hspec, Hist.run_of_rejected hspec⟩

/-- the same on the specification vocabulary alone (every `LCall` history, not only images of model histories) -/
theorem spec_empty_module_list_keeps_layer_open (cs : List LCall) (t : LTrack) (n m : Str)
    (hacc : classifyLArch cs = .accepted t) (hopen : t.opened = some n) :
    classifyLArch (cs ++ [.modules [], .layer m]) = .rejectedAt (cs.length + 1) :=
  Pta.Hist.spec_empty_keeps_open_aux cs t n m hacc hopen

/-- the empty list on an open layer is itself accepted and changes nothing: same automaton state, same
    architecture, the layer is still pending (so a later non-empty `containing_modules` / regex call fills it) -/
theorem empty_module_list_is_noop (h : List LArchOp) (t : LTrack) (n : Str)
    (hacc : classifyLArch (h.map toLCall) = .accepted t) (hopen : t.opened = some n) :
    classifyLArch ((h ++ [LArchOp.containingModules []]).map toLCall) = .accepted t ∧
    ∃ a, runLArch (h ++ [LArchOp.containingModules []]) = .ok a ∧ runLArch h = .ok a ∧ a.pending = [n] := by
  have hspec : classifyLArch ((h ++ [LArchOp.containingModules []]).map toLCall) = .accepted t := by
    simpa [toLCall] using Hist.spec_empty_noop_aux (h.map toLCall) t n hacc hopen
  refine ⟨hspec, ?_⟩
  obtain ⟨a, hr, c, hsh, _⟩ := Hist.run_of_accepted hacc
  rw [hopen] at hsh
  have hstep : a.step (.containingModules []) = .ok a := by
    rw [Hist.step_modules_open hsh []]
    simp only [List.any_nil, Bool.false_eq_true, if_false, List.map_nil]
    rw [hsh.eq]; rfl
  refine ⟨a, ?_, hr, by rw [Hist.pending_shape hsh]; rfl⟩
  unfold runLArch
  rw [Hist.runLArch_go_append h _ [] 0 a hr]
  simp only [runLArch.go, hstep]

/-- with no layer open, `containing_modules([])` is rejected at that call exactly like a non-empty list -/
theorem empty_module_list_without_layer (h rest : List LArchOp) (t : LTrack)
    (hacc : classifyLArch (h.map toLCall) = .accepted t) (hclosed : t.opened = none) :
    classifyLArch ((h ++ LArchOp.containingModules [] :: rest).map toLCall) = .rejectedAt h.length ∧
    runLArch (h ++ LArchOp.containingModules [] :: rest) = .error (.improperlyConfigured, h.length) := by
  have hspec : classifyLArch ((h ++ LArchOp.containingModules [] :: rest).map toLCall) = .rejectedAt h.length := by
    simpa [toLCall] using Hist.spec_empty_closed_aux (h.map toLCall) t (rest.map toLCall) hacc hclosed
  exact ⟨hspec, Hist.run_of_rejected hspec⟩

/-- a layer rule needs an architecture first and exactly one subject layer: violating call sequences are rejected
    at the offending call (shared with C13.layer_rule_history) -/
theorem layer_rule_guards (mt : Str → Str → Bool) (a : LArch) (ops : List LayerRuleOp) (g : PGraph Str) (i : Nat)
    (hbased : ∀ op ∈ ops, ∀ a', op = LayerRuleOp.basedOn a' → a' = a) :
    classifyLayerRule (ops.map (toLRCall a)) = .rejectedAt i → runLayerRuleOps mt ops g = (.err .improperlyConfigured, i) := by
  intro h
  have := Pta.Hist.layer_rule_aux mt a ops g hbased
  rw [h] at this
  exact this

/-! non-vacuity -/
example : runLArch [.layer "a".toList, .containingModules ["mod".toList], .layer "b".toList, .containingModules ["mod".toList]]
    = .error (.improperlyConfigured, 3) := by rfl
example : ∃ a, runLArch [.layer "a".toList, .containingModules ["m".toList], .layer "b".toList, .containingModules ["mod".toList]] = .ok a := ⟨_, rfl⟩

/-- core has no `DecidableEq (Except ε α)`; derived here so that the model runs below are checked by `decide` -/
local instance instDecEqExcept {ε α : Type} [DecidableEq ε] [DecidableEq α] : DecidableEq (Except ε α)
  | .ok a, .ok b => if h : a = b then isTrue (by rw [h]) else isFalse (by intro e; cases e; exact h rfl)
  | .error a, .error b => if h : a = b then isTrue (by rw [h]) else isFalse (by intro e; cases e; exact h rfl)
  | .ok _, .error _ => isFalse (by intro e; cases e)
  | .error _, .ok _ => isFalse (by intro e; cases e)

/-! `containing_modules([])`: `layer a, containing_modules [], layer b` (the seeded tuples-for-lists defect lets this pass) -/
example : classifyLArch [.layer "a".toList, .modules [], .layer "b".toList] = .rejectedAt 2 := by decide
example : runLArch [.layer "a".toList, .containingModules [], .layer "b".toList] = .error (.improperlyConfigured, 2) := by decide
/-- the hypotheses of `empty_module_list_keeps_layer_open` hold for `h = [layer a]` (layer `a` open), and for a longer history -/
example : classifyLArch ([LArchOp.layer "a".toList].map toLCall) = .accepted ⟨[], some "a".toList⟩ := by decide
example : classifyLArch ([LArchOp.layer "a".toList, .containingModules ["x".toList], .withLayer, .layer "b".toList].map toLCall)
    = .accepted ⟨[("a".toList, ["x".toList])], some "b".toList⟩ := by decide +kernel
/-- `empty_module_list_without_layer`: hypotheses hold for the empty history and after a finished layer -/
example : classifyLArch (([] : List LArchOp).map toLCall) = .accepted ⟨[], none⟩ := by decide
example : classifyLArch [.layer "a".toList, .modules ["x".toList], .modules []] = .rejectedAt 2 := by decide
example : runLArch [.layer "a".toList, .containingModules ["x".toList], .containingModules []] = .error (.improperlyConfigured, 2) := by decide
/-- the empty list, then a non-empty one: accepted, the layer receives the later modules -/
example : classifyLArch [.layer "a".toList, .modules [], .modules ["x".toList], .layer "b".toList]
    = .accepted ⟨[("a".toList, ["x".toList])], some "b".toList⟩ := by decide
example : runLArch [.layer "a".toList, .containingModules [], .containingModules ["x".toList], .layer "b".toList]
    = .ok [("a".toList, [.name "x".toList]), ("b".toList, [])] := by decide
/-- (a) stays a don't-care: a regex textually equal to a module name given elsewhere -/
example : classifyLArch [.layer "a".toList, .modules ["x".toList], .layer "b".toList, .regex "x".toList] = .unspecified := by decide +kernel

/-! ### `containing_modules` with a `str` or a `list[str]` argument (`LArchCall`, `ModArg`, `runLArchCalls`)

  "a module name can be assigned to at most one layer no matter whether it is passed as a string or inside a list":
  the argument form is part of the model (`PtaModel/Layer.lean`: `ModArg.toList` transcribes
  `modules_list = modules if isinstance(modules, list) else [modules]`), the specification call of either form is
  `LCall.modules` with the names supplied (`Bridge/BuilderCalls.lean: callToLCall`). -/

/-- the run on a history with both argument forms is the run on the list-form history (`LArchCall.toOp`), so every
    theorem about `runLArch` above applies -/
theorem calls_eq_list_form_run (cs : List LArchCall) : runLArchCalls cs = runLArch (cs.map LArchCall.toOp) :=
  Hist.runLArchCallsFrom_stepCall cs [] 0

/-- string or list: two histories that become equal when every `containing_modules("m")` is written
    `containing_modules(["m"])` (`LArchCall.listForm`) — i.e. that differ at any number of positions in the FORM of that
    argument only — have the same result: the same accepted architecture, or the same error at the same call -/
theorem string_form_eq_list_form (cs cs' : List LArchCall)
    (h : cs.map LArchCall.listForm = cs'.map LArchCall.listForm) : runLArchCalls cs = runLArchCalls cs' := by
  rw [calls_eq_list_form_run, calls_eq_list_form_run, ← Hist.map_toOp_listForm cs, h, Hist.map_toOp_listForm]

/-- in particular: replacing every string argument by the one-element list changes nothing -/
theorem string_form_eq_list_form_all (cs : List LArchCall) : runLArchCalls (cs.map LArchCall.listForm) = runLArchCalls cs :=
  string_form_eq_list_form _ _ (by rw [List.map_map]; exact List.map_congr_left fun c _ => Pta.Hist.listForm_idem c)

/-- … and replacing ONE string argument, anywhere in any history -/
theorem string_form_eq_list_form_one (pre post : List LArchCall) (s : Str) :
    runLArchCalls (pre ++ .containing (.str s) :: post) = runLArchCalls (pre ++ .containing (.list [s]) :: post) :=
  string_form_eq_list_form _ _ (by simp [LArchCall.listForm])

/-- refinement (`larch_refines`), for histories with both argument forms: the builder follows the specification
    automaton on every history -/
theorem larch_calls_refine (cs : List LArchCall) :
    match classifyLArch (cs.map callToLCall) with
    | .accepted t => ∃ a, runLArchCalls cs = .ok a ∧
        a.idsPerLayer = t.closed ++ (match t.opened with | some n => [(n, [])] | none => [])
    | .rejectedAt i => runLArchCalls cs = .error (.improperlyConfigured, i)
    | .unspecified => True := by
  have h := larch_refines (cs.map LArchCall.toOp)
  rw [List.map_map] at h
  have e : (toLCall ∘ LArchCall.toOp) = callToLCall := funext Hist.toLCall_toOp
  rw [e] at h
  rw [calls_eq_list_form_run]
  exact h

/-- invariant (`larch_invariant`), for histories with both argument forms: layer names are unique, at most one layer
    is pending, and no module identifier is listed in two different layers -/
theorem larch_calls_invariant (cs : List LArchCall) (a : LArch) (h : runLArchCalls cs = .ok a) :
    (a.map (·.1)).Nodup ∧ a.pending.length ≤ 1 ∧
    ∀ l₁ ∈ a, ∀ l₂ ∈ a, ∀ f₁ ∈ l₁.2, ∀ f₂ ∈ l₂.2, f₁.isRegex = false → f₂.isRegex = false → f₁.id = f₂.id → l₁.1 = l₂.1 := by
  rw [calls_eq_list_form_run] at h
  exact Pta.larch_invariant_lemma _ a h

/-- a module passed to `containing_modules` twice, in whatever forms (`y`, `x`: a string or a list containing it):
    EVERY history of the shape `pre, containing_modules(y), mid, containing_modules(x), rest` is rejected with a
    configuration error — at the second of the two calls (index `pre.length + 1 + mid.length`) when the calls before it
    were accepted, and earlier otherwise -/
theorem module_in_one_layer (pre mid rest : List LArchCall) (y x : ModArg) (m : Str)
    (hy : m ∈ y.toList) (hx : m ∈ x.toList) :
    ∃ i, i ≤ pre.length + 1 + mid.length ∧
      runLArchCalls (pre ++ .containing y :: mid ++ .containing x :: rest) = .error (.improperlyConfigured, i) ∧
      ((∃ a, runLArchCalls (pre ++ .containing y :: mid) = .ok a) → i = pre.length + 1 + mid.length) := by
  have h := Hist.module_twice_ops (pre.map LArchCall.toOp) (mid.map LArchCall.toOp) (rest.map LArchCall.toOp)
    y.toList x.toList m hy hx
  simp only [List.length_map] at h
  simpa only [calls_eq_list_form_run, List.map_append, List.map_cons, LArchCall.toOp] using h

/-- the string form: after an accepted history in which module `m` was passed as a STRING to one layer, passing `m`
    again — as a string or inside a list, to that layer or (after `layer(B)` in `mid`) to another one — is rejected AT that
    later call, whatever follows -/
theorem string_form_one_layer (pre mid rest : List LArchCall) (m : Str) (x : ModArg) (hx : m ∈ x.toList) (a : LArch)
    (hacc : runLArchCalls (pre ++ .containing (.str m) :: mid) = .ok a) :
    runLArchCalls (pre ++ .containing (.str m) :: mid ++ .containing x :: rest)
      = .error (.improperlyConfigured, pre.length + 1 + mid.length) := by
  obtain ⟨i, _, hrun, hi⟩ := module_in_one_layer pre mid rest (.str m) x m (by simp [ModArg.toList]) hx
  rw [hrun, hi ⟨a, hacc⟩]

/-- so no accepted history passes a module as a string and again later, in either form -/
theorem string_form_never_twice (pre mid rest : List LArchCall) (m : Str) (x : ModArg) (hx : m ∈ x.toList) (a : LArch) :
    runLArchCalls (pre ++ .containing (.str m) :: mid ++ .containing x :: rest) ≠ .ok a := by
  obtain ⟨i, _, hrun, _⟩ := module_in_one_layer pre mid rest (.str m) x m (by simp [ModArg.toList]) hx
  rw [hrun]
  intro h
  cases h

/-! the defect F-C16 (repaired by fix 1df0d8a), on the model of the pre-repair code `LArch.stepCharset`
    (`module_set = set(modules)`: for a `str` argument the set of its characters) -/

/-- before the repair `layer A, containing_modules("mod"), layer B, containing_modules("mod")` was ACCEPTED: two layers own
    `mod` -/
theorem charset_counterexample_accepts :
    runLArchCharset [.op (.layer "A".toList), .containing (.str "mod".toList), .op (.layer "B".toList), .containing (.str "mod".toList)]
      = .ok [("A".toList, [.name "mod".toList]), ("B".toList, [.name "mod".toList])] := by decide +kernel

/-- … and `layer A, containing_modules(["m"]), layer B, containing_modules("mod")` was REJECTED (at call 3) although no
    module is shared: the character `m` of `"mod"` is the module `m` of layer A -/
theorem charset_counterexample_rejects :
    runLArchCharset [.op (.layer "A".toList), .containing (.list ["m".toList]), .op (.layer "B".toList), .containing (.str "mod".toList)]
      = .error (.improperlyConfigured, 3) := by decide +kernel

/-- the library as it is, on the same two histories: rejected at call 3 (hypotheses of `string_form_one_layer` with
    `pre = [layer A]`, `mid = [layer B]`), and accepted -/
example : runLArchCalls [.op (.layer "A".toList), .containing (.str "mod".toList), .op (.layer "B".toList), .containing (.str "mod".toList)]
    = .error (.improperlyConfigured, 3) := by decide +kernel
example : runLArchCalls [.op (.layer "A".toList), .containing (.list ["m".toList]), .op (.layer "B".toList), .containing (.str "mod".toList)]
    = .ok [("A".toList, [.name "m".toList]), ("B".toList, [.name "mod".toList])] := by decide +kernel
/-- with list arguments only the pre-repair code and the repaired code agree (the defect needs a `str` argument) -/
example : runLArchCharset [.op (.layer "A".toList), .containing (.list ["mod".toList]), .op (.layer "B".toList), .containing (.list ["mod".toList])]
    = .error (.improperlyConfigured, 3) := by decide +kernel

/-! non-vacuity of `string_form_one_layer` / `module_in_one_layer`: an accepted prefix `layer A, "mod", layer B`, then
    `mod` inside a list -/
example : runLArchCalls ([.op (.layer "A".toList)] ++ .containing (.str "mod".toList) :: [.op (.layer "B".toList)])
    = .ok [("A".toList, [.name "mod".toList]), ("B".toList, [])] := by decide
example : "mod".toList ∈ (ModArg.list ["x".toList, "mod".toList]).toList := by decide +kernel
example : runLArchCalls ([.op (.layer "A".toList)] ++ .containing (.str "mod".toList) :: [.op (.layer "B".toList)] ++
      .containing (.list ["x".toList, "mod".toList]) :: [.op (.layer "C".toList)])
    = .error (.improperlyConfigured, 3) := by decide
/-- `string_form_eq_list_form`: histories that differ in the form only -/
example : ([.op (.layer "A".toList), .containing (.str "mod".toList)] : List LArchCall).map LArchCall.listForm
    = ([.op (.layer "A".toList), .containing (.list ["mod".toList])] : List LArchCall).map LArchCall.listForm := by decide +kernel
/-- `larch_calls_refine`: the specification automaton on a history with both forms -/
example : classifyLArch ([.op (.layer "A".toList), .containing (.str "mod".toList), .op (.layer "B".toList),
      .containing (.list ["x".toList, "y".toList])].map callToLCall)
    = .accepted ⟨[("A".toList, ["mod".toList]), ("B".toList, ["x".toList, "y".toList])], none⟩ := by decide +kernel
example : classifyLArch ([.op (.layer "A".toList), .containing (.str "mod".toList), .op (.layer "B".toList),
      .containing (.list ["x".toList, "mod".toList])].map callToLCall) = .rejectedAt 3 := by decide +kernel

end Pta.C16
