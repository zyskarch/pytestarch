/-
  PtaProofs.Props.C07 — DiagramRule passes exactly when the imports conform to the diagram (property C07).
  For EVERY well-formed architecture and EVERY diagram in the domain (`diagramDomain`: components distinct,
  pairwise unrelated and present in the architecture; arrows between distinct components), for both modes:
  the model of `DiagramRule.assert_applies` — every rule generated by `DependencyToRuleConverter`, evaluated by
  `MultipleRuleApplier` on the graph built by `NetworkxGraph` — passes exactly when `conforms` holds, and otherwise
  fails (never an error). Failures aggregate the items of all failing rules; the first error propagates;
  `with_base_module(q)` is the renaming `m ↦ q.m` of the generated rules and of the diagram.
-/
import Bridge.Abs
import Bridge.Diagram
import PtaProofs.Lemmas.DiagramApply
import PtaProofs.Lemmas.DiagramSem
import PtaProofs.Lemmas.BuildScan
import Bridge.DiagramE2E
import PtaProofs.Lemmas.DiagramE2E
namespace Pta.C07
open PtaSpec

/-! ### part 2: pass ⟺ conforms -/

/-- on any graph that represents the architecture -/
theorem conforms_iff_of_graph (mt : Str → Str → Bool) (a : Arch) (g : PGraph Str) (hg : GraphOf a g) (d : Diagram)
    (so : Bool) (h : diagramDomain a d = true) :
    applyAll mt g (diagramRules so (parsedOf d)) = .pass ↔ conforms a d so = true :=
  ((DVerdict.cls_ofBool_iff _ _).1 (Pta.Dg.diagram_cls mt a g hg d so h)).1

/-- on the graph the constructor builds -/
theorem conforms_iff (mt : Str → Str → Bool) (a : Arch) (d : Diagram) (so : Bool) (h : diagramDomain a d = true) :
    applyAll mt (archGraph a) (diagramRules so (parsedOf d)) = .pass ↔ conforms a d so = true :=
  conforms_iff_of_graph mt a _ (Pta.archGraph_graphOf a (Pta.Dg.dom_of a d h).wf) d so h

/-- on the domain the outcome is never an error … -/
theorem never_errs (mt : Str → Str → Bool) (a : Arch) (d : Diagram) (so : Bool) (h : diagramDomain a d = true)
    (k : ErrKind) : applyAll mt (archGraph a) (diagramRules so (parsedOf d)) ≠ .err k :=
  ((DVerdict.cls_ofBool_iff _ _).1
    (Pta.Dg.diagram_cls mt a _ (Pta.archGraph_graphOf a (Pta.Dg.dom_of a d h).wf) d so h)).2 k

/-- … so it fails (AssertionError) exactly when the imports do not conform -/
theorem fails_iff_not_conforms (mt : Str → Str → Bool) (a : Arch) (d : Diagram) (so : Bool)
    (h : diagramDomain a d = true) :
    (∃ items, applyAll mt (archGraph a) (diagramRules so (parsedOf d)) = .fail items) ↔ conforms a d so = false :=
  Pta.Dg.fail_iff_of_cls (Pta.Dg.diagram_cls mt a _ (Pta.archGraph_graphOf a (Pta.Dg.dom_of a d h).wf) d so h)

/-- every generated rule is the rule object of a strict specification rule (C01) over existing names, with one
    named subject, named objects, no `except`, direction "import"; so C01 gives its verdict -/
theorem generated_rules_strict (mt : Str → Str → Bool) (a : Arch) (d : Diagram) (so : Bool)
    (h : diagramDomain a d = true) (r : RuleState) (hr : r ∈ diagramRules so (parsedOf d)) :
    ∃ rs : RuleSpec, r = compile rs ∧ rs.strict = true ∧ rs.namesIn a = true ∧ rs.subjects ≠ [] ∧
      rs.objects ≠ [] ∧ rs.anything = false ∧ rs.exc = false ∧ rs.importDir = true ∧
      verdictOf mt (archGraph a) r = VClass.ofBool (verdict a rs) := by
  have hd := Pta.Dg.dom_of a d h
  obtain ⟨x, T, hG, ⟨rfl, _⟩ | ⟨rfl, _⟩⟩ := Pta.Dg.rule_cases hd so r hr <;>
    exact ⟨_, rfl, Pta.Dg.namedSpec_strict hd hG, Pta.Dg.namedSpec_namesIn hd hG, by simp [Pta.Dg.namedSpec],
      by simpa [Pta.Dg.namedSpec] using hG.ne, rfl, rfl, rfl,
      Pta.Dg.verdictOf_named hd hG (Pta.archGraph_graphOf a hd.wf) mt⟩

/-! ### part 3: all violated rules are reported; errors propagate at once -/

/-- if no rule errs: pass ⟺ every rule passes; fail ⟺ some rule fails, and then the items are the concatenation,
    in rule order, of the items of ALL failing rules (passing rules contribute nothing) -/
theorem aggregates_all (mt : Str → Str → Bool) (g : PGraph Str) (rs : List RuleState)
    (hne : ∀ r ∈ rs, ∀ k, (assertApplies mt r g).2 ≠ .err k) :
    (applyAll mt g rs = .pass ↔ ∀ r ∈ rs, (assertApplies mt r g).2 = .pass) ∧
    (∀ items, applyAll mt g rs = .fail items ↔
      (∃ r ∈ rs, ∃ its, (assertApplies mt r g).2 = .fail its) ∧
      items = (rs.filter fun r => (assertApplies mt r g).2.isFail).flatMap fun r => (assertApplies mt r g).2.items) ∧
    (∀ k, applyAll mt g rs ≠ .err k) := by
  refine ⟨Pta.Dg.applyAll_pass_iff_lemma mt g rs hne, fun items => ?_, Pta.Dg.applyAll_noErr_lemma mt g rs hne⟩
  rw [Pta.Dg.applyAll_fail_iff_lemma mt g rs hne items, Pta.Dg.flatMap_items_failing]
  rfl

/-- the first rule (in evaluation order) that errs determines the outcome, whatever the others do -/
theorem first_error_propagates (mt : Str → Str → Bool) (g : PGraph Str) (pre post : List RuleState) (r : RuleState)
    (k : ErrKind) (hpre : ∀ r' ∈ pre, ∀ k', (assertApplies mt r' g).2 ≠ .err k')
    (hr : (assertApplies mt r g).2 = .err k) :
    applyAll mt g (pre ++ r :: post) = .err k := by
  rw [Pta.Dg.applyAll_eq_agg, Pta.Dg.agg_err_iff, List.map_append, List.findSome?_append,
    Pta.Dg.findSome_none_of_noErr mt g pre hpre, List.map_cons, List.findSome?_cons,
    show ruleVerdict mt g r = _ from hr]
  rfl

/-! ### part 4: `with_base_module` -/

/-- the rules generated after `with_base_module(q)` are the rules generated without it, with every module name
    `m` replaced by `q.m` — for EVERY parse result (no side condition is needed: the prefix map is injective and
    monotone for `sorted`, so it commutes with de-duplication, lookup, filtering and sorting) -/
theorem base_module (so : Bool) (p : Parsed') (q : Str) :
    diagramRules so (prefixParsed p (some q)) = (diagramRules so p).map (prefixRule q) := by
  rw [Pta.Dg.diagramRules_prefixParsed]
  refine List.map_congr_left fun r hr => ?_
  rcases (Pta.Dg.mem_diagramRules so p r).1 hr with ⟨kv, _, rfl⟩ | ⟨m, _, _, rfl⟩ <;> exact (Pta.Dg.prefixRule_mkD q _ _ _).symm

theorem base_module_none (p : Parsed') : prefixParsed p none = p := rfl

/-- the order-relevant fact behind it -/
theorem strLe_common_prefix (q a b : Str) : strLe (q ++ '.' :: a) (q ++ '.' :: b) = strLe a b :=
  Pta.Dg.strLe_prefixName q a b

/-- … and it is the same as drawing every component as `q.name` -/
theorem base_module_diagram (q : Name) (d : Diagram) (hq : q ≠ [])
    (hc : ∀ c ∈ d.components, c ≠ []) (ha : ∀ e ∈ d.arrows, e.1 ≠ [] ∧ e.2 ≠ []) :
    prefixParsed (parsedOf d) (some (render q)) = parsedOf (prefixDiagram q d) :=
  Pta.Dg.base_module_diagram_lemma q d hq hc ha

/-! ### `DiagramRule.assert_applies` itself -/

/-- in the domain the check the repair of F-C13c adds (every component of the diagram is a module of the architecture,
    else a lookup error) finds nothing: all components are nodes of the graph -/
theorem domain_nothing_missing (a : Arch) (d : Diagram) (h : diagramDomain a d = true) :
    diagramMissing (parsedOf d) (archGraph a) = false :=
  Pta.Repair.noMissing_parsedOf a (archGraph a) (Pta.archGraph_graphOf a (Pta.Dg.dom_of a d h).wf) d
    (Pta.Repair.components_of_domain a d h)

/-- a file whose parse result is the diagram `d`, checked with base module `q`: passes exactly when the imports
    conform to `d` with every component read as `q.name` -/
theorem diagramAssert_base_iff (mt : Str → Str → Bool) (a : Arch) (d : Diagram) (q : Name) (so : Bool) (content : Str)
    (hparse : pumlParse content = .ok (parsedOf d)) (hq : q ≠ [])
    (hc : ∀ c ∈ d.components, c ≠ []) (ha : ∀ e ∈ d.arrows, e.1 ≠ [] ∧ e.2 ≠ [])
    (h : diagramDomain a (prefixDiagram q d) = true) :
    diagramAssert mt (some content) (some (render q)) so (archGraph a) = .pass ↔
      conforms a (prefixDiagram q d) so = true := by
  rw [Pta.Repair.diagramAssert_ok mt _ so content _ _ hparse, base_module_diagram q d hq hc ha,
    domain_nothing_missing a _ h]
  exact conforms_iff mt a (prefixDiagram q d) so h

theorem diagramAssert_iff (mt : Str → Str → Bool) (a : Arch) (d : Diagram) (so : Bool) (content : Str)
    (hparse : pumlParse content = .ok (parsedOf d)) (h : diagramDomain a d = true) :
    diagramAssert mt (some content) none so (archGraph a) = .pass ↔ conforms a d so = true := by
  rw [Pta.Repair.diagramAssert_ok mt _ so content _ _ hparse, base_module_none, domain_nothing_missing a d h]
  exact conforms_iff mt a d so h

/-! ### non-vacuity: a 3-component diagram on a 6-node architecture -/

def nm (s : String) : Name := splitDots s.toList

def exD : Diagram :=
  { components := [nm "app.ui", nm "app.core", nm "app.db"],
    arrows := [(nm "app.ui", nm "app.core"), (nm "app.core", nm "app.db")] }

/-- conforming: ui → core (through a sub module), core → db -/
def exGood : Arch :=
  { nodes := ["app", "app.ui", "app.core", "app.core.model", "app.db", "app.util"].map nm,
    imports := [(nm "app.ui", nm "app.core.model"), (nm "app.core.model", nm "app.db")] }

/-- not conforming: additionally db → ui (not drawn) and ui → util (outside ui's targets) -/
def exBad : Arch :=
  { exGood with imports := exGood.imports ++ [(nm "app.db", nm "app.ui"), (nm "app.ui", nm "app.util")] }

example : diagramDomain exGood exD = true ∧ diagramDomain exBad exD = true := by decide +kernel
example : conforms exGood exD true = true ∧ conforms exGood exD false = true := by decide +kernel
example : conforms exBad exD true = false ∧ conforms exBad exD false = false := by decide +kernel
example : (diagramRules true (parsedOf exD)).length = 5 := by decide +kernel

def mt0 : Str → Str → Bool := fun _ _ => false

/-- the model passes on the conforming architecture and fails on the other one, in both modes -/
example : (applyAll mt0 (archGraph exGood) (diagramRules true (parsedOf exD))).cls = .pass ∧
    (applyAll mt0 (archGraph exGood) (diagramRules false (parsedOf exD))).cls = .pass ∧
    (applyAll mt0 (archGraph exBad) (diagramRules true (parsedOf exD))).cls = .fail ∧
    (applyAll mt0 (archGraph exBad) (diagramRules false (parsedOf exD))).cls = .fail := by decide +kernel

/-- aggregation: in should-only mode two generated rules fail on `exBad` (ui's `should only` and db's `should not`);
    the report carries the items of both, in rule order -/
example : applyAll mt0 (archGraph exBad) (diagramRules true (parsedOf exD)) =
    .fail [.imp "app.ui".toList "app.util".toList false, .imp "app.db".toList "app.ui".toList false] :=
  Pta.Dg.fail_eq_of_check _ _ (by decide +kernel)
example : (diagramRules true (parsedOf exD)).map (fun r => (verdictOf mt0 (archGraph exBad) r)) =
    [.fail, .pass, .pass, .fail, .pass] := by decide +kernel

/-- a file that parses to `exD` (with an alias), and the same drawing without the common prefix `app` -/
def exContent : Str :=
  "@startuml\ncomponent [app.ui] as ui\n[app.core]\n[app.db]\nui --> [app.core]\n[app.core] --> [app.db]\n@enduml".toList

def exShort : Diagram :=
  { components := [nm "ui", nm "core", nm "db"], arrows := [(nm "ui", nm "core"), (nm "core", nm "db")] }

def exShortContent : Str := "@startuml\n[ui]\n[core]\n[db]\n[ui] --> [core]\n[core] --> [db]\n@enduml".toList

example : pumlParse exContent = .ok (parsedOf exD) := Pta.Dg.parse_eq_of_check _ _ (by decide +kernel)
example : pumlParse exShortContent = .ok (parsedOf exShort) := Pta.Dg.parse_eq_of_check _ _ (by decide +kernel)

/-- all hypotheses of `diagramAssert_base_iff` hold for `exShort` with base module `app`, and both sides are true -/
example : nm "app" ≠ [] ∧ (∀ c ∈ exShort.components, c ≠ []) ∧ (∀ e ∈ exShort.arrows, e.1 ≠ [] ∧ e.2 ≠ []) ∧
    diagramDomain exGood (prefixDiagram (nm "app") exShort) = true ∧
    conforms exGood (prefixDiagram (nm "app") exShort) true = true := by decide +kernel
example : (diagramAssert mt0 (some exShortContent) (some (render (nm "app"))) true (archGraph exGood)).cls = .pass ∧
    (diagramAssert mt0 (some exShortContent) (some (render (nm "app"))) true (archGraph exBad)).cls = .fail := by
  decide +kernel
example : prefixDiagram (nm "app") exShort = exD := by
  show (⟨_, _⟩ : Diagram) = ⟨_, _⟩
  congr 1 <;> decide +kernel

/-! ## END TO END: diagram file ⟶ `PumlParser` (C06) ⟶ `DependencyToRuleConverter` ⟶ `MultipleRuleApplier` (C07)

  `C06.roundtrip` determines the parse result of a rendered diagram only up to the order of the module list, of the
  dictionary keys and of the value lists; `conforms_iff` above is about the particular parse result `parsedOf D`.
  `diagramRules_congr` closes the gap: what `DiagramRule` does with a parse result depends on the module SET and
  the dependency RELATION only. -/

/-- each rule generated from `p` has a counterpart generated from `q` (same subject, same verb, same object SET)
    whose outcome class is the same on every graph, errors included -/
theorem generated_rules_correspond (so : Bool) (p q : Parsed') (hs : Pta.C06.SameParse p q) (hp : DepsOK p)
    (r : RuleState) (hr : r ∈ diagramRules so p) :
    ∃ r' ∈ diagramRules so q, ∀ (mt : Str → Str → Bool) (g : PGraph Str), verdictOf mt g r = verdictOf mt g r' := by
  obtain ⟨r', hr', h⟩ := Pta.E2E.rules_sim so p q hp hs r hr
  exact ⟨r', hr', fun mt g => (h mt g).cls_eq⟩

/-- **congruence of `DiagramRule` in the parse result.** Two parse results with the same module set and the same
    dependency relation (`C06.SameParse`), both with unique dictionary keys and non-empty value lists: on every
    graph on which no rule generated from `q` errs, no rule generated from `p` errs, the outcome (pass / fail) is
    the same, and the two reports consist of the same lines — as sets, a `does not import` line listing its objects
    in any order (`sameItems`; literally equal sets are NOT guaranteed: `report_lists_objects_in_dict_order`) -/
theorem diagramRules_congr (mt : Str → Str → Bool) (g : PGraph Str) (so : Bool) (p q : Parsed')
    (hs : Pta.C06.SameParse p q) (hp : DepsOK p) (hq : DepsOK q)
    (hne : ∀ r ∈ diagramRules so q, ∀ k, (assertApplies mt r g).2 ≠ .err k) :
    (applyAll mt g (diagramRules so p)).cls = (applyAll mt g (diagramRules so q)).cls ∧
    (∀ k, applyAll mt g (diagramRules so p) ≠ .err k) ∧
    sameItems (applyAll mt g (diagramRules so p)).items (applyAll mt g (diagramRules so q)).items = true := by
  obtain ⟨h2, h3, h4⟩ := Pta.E2E.diagramRules_congr_lemma mt g so p q hp hq hs hne
  exact ⟨h3, h2, h4⟩

/-- "no generated rule errs" is the same as "`MultipleRuleApplier` does not raise" -/
theorem diagramRules_congr_of_noErr (mt : Str → Str → Bool) (g : PGraph Str) (so : Bool) (p q : Parsed')
    (hs : Pta.C06.SameParse p q) (hp : DepsOK p) (hq : DepsOK q)
    (hne : ∀ k, applyAll mt g (diagramRules so q) ≠ .err k) :
    (applyAll mt g (diagramRules so p)).cls = (applyAll mt g (diagramRules so q)).cls ∧
    (∀ k, applyAll mt g (diagramRules so p) ≠ .err k) ∧
    sameItems (applyAll mt g (diagramRules so p)).items (applyAll mt g (diagramRules so q)).items = true :=
  diagramRules_congr mt g so p q hs hp hq (Pta.E2E.noErr_of_applyAll mt g _ hne)

/-- the same for the relation as C15 states it (`SameDiagram`, via `hasDep`) -/
theorem diagramRules_congr_sameDiagram (mt : Str → Str → Bool) (g : PGraph Str) (so : Bool) (p q : Parsed')
    (hs : SameDiagram (.ok p) (.ok q)) (hp : DepsOK p) (hq : DepsOK q)
    (hne : ∀ r ∈ diagramRules so q, ∀ k, (assertApplies mt r g).2 ≠ .err k) :
    (applyAll mt g (diagramRules so p)).cls = (applyAll mt g (diagramRules so q)).cls ∧
    (∀ k, applyAll mt g (diagramRules so p) ≠ .err k) ∧
    sameItems (applyAll mt g (diagramRules so p)).items (applyAll mt g (diagramRules so q)).items = true := by
  refine diagramRules_congr mt g so p q ⟨hs.1, fun x y => ?_⟩ hp hq hne
  rw [← Pta.E2E.hasDep_iff_depsOf p hp.1, ← Pta.E2E.hasDep_iff_depsOf q hq.1, hs.2 x y]

/-- the end-to-end theorem for ANY listing `D` of the meaning of the file: `D.components` are the declared or
    referenced components, `D.arrows` the drawn arrows (aliases resolved), as sets, names split at the dots.
    For every well-formed architecture `a` with `diagramDomain a D`, any noise around the tags, both modes:
    `DiagramRule.assert_applies` on the FILE passes iff the imports of `a` conform to `D`; it never raises. -/
theorem diagram_file_conforms_iff_of_meaning (mt : Str → Str → Bool) (a : Arch) (noise1 noise2 : Str)
    (d : List DLine) (hwf : diagramWF d = true) (hn : isInfix "@enduml".toList noise2 = false) (D : Diagram)
    (hc : ∀ c, c ∈ D.components ↔ c ∈ (diagramComponents d).map splitDots)
    (ha : ∀ e, e ∈ D.arrows ↔ e ∈ specArrows d) (so : Bool) (h : diagramDomain a D = true) :
    (diagramAssert mt (some (diagramText noise1 d noise2)) none so (archGraph a) = .pass ↔ conforms a D so = true) ∧
    (∀ k, diagramAssert mt (some (diagramText noise1 d noise2)) none so (archGraph a) ≠ .err k) := by
  exact (DVerdict.cls_ofBool_iff _ _).1 (Pta.E2E.file_conforms_lemma mt a (archGraph a)
    (Pta.archGraph_graphOf a (Pta.Dg.dom_of a D h).wf) noise1 noise2 d hwf hn D ⟨hc, ha⟩ so h).1

/-- **C06 ∘ C07.** For every diagram `d` of the documented subset (`diagramWF`), rendered with any noise before
    `@startuml` and any noise without `@enduml` after the end tag, every well-formed architecture `a` such that the
    diagram `specDiagram d` (components listed once) is in the domain of C07, and both modes:
    `DiagramRule.assert_applies` on the file passes exactly when the imports of `a` conform to the drawing. -/
theorem diagram_file_conforms_iff (mt : Str → Str → Bool) (a : Arch) (noise1 noise2 : Str)
    (d : List DLine) (hwf : diagramWF d = true) (hn : isInfix "@enduml".toList noise2 = false) (so : Bool)
    (h : diagramDomain a (specDiagram d) = true) :
    diagramAssert mt (some (diagramText noise1 d noise2)) none so (archGraph a) = .pass ↔
      conforms a (specDiagram d) so = true :=
  (diagram_file_conforms_iff_of_meaning mt a noise1 noise2 d hwf hn (specDiagram d)
    (Pta.E2E.means_specDiagram d).comps (Pta.E2E.means_specDiagram d).arrows so h).1

/-- … and it never raises: it fails (AssertionError) exactly when the imports do not conform -/
theorem diagram_file_never_errs (mt : Str → Str → Bool) (a : Arch) (noise1 noise2 : Str)
    (d : List DLine) (hwf : diagramWF d = true) (hn : isInfix "@enduml".toList noise2 = false) (so : Bool)
    (h : diagramDomain a (specDiagram d) = true) (k : ErrKind) :
    diagramAssert mt (some (diagramText noise1 d noise2)) none so (archGraph a) ≠ .err k :=
  (diagram_file_conforms_iff_of_meaning mt a noise1 noise2 d hwf hn (specDiagram d)
    (Pta.E2E.means_specDiagram d).comps (Pta.E2E.means_specDiagram d).arrows so h).2 k

theorem diagram_file_fails_iff (mt : Str → Str → Bool) (a : Arch) (noise1 noise2 : Str)
    (d : List DLine) (hwf : diagramWF d = true) (hn : isInfix "@enduml".toList noise2 = false) (so : Bool)
    (h : diagramDomain a (specDiagram d) = true) :
    (∃ items, diagramAssert mt (some (diagramText noise1 d noise2)) none so (archGraph a) = .fail items) ↔
      conforms a (specDiagram d) so = false :=
  Pta.Dg.fail_iff_of_cls (Pta.E2E.file_conforms_lemma mt a (archGraph a)
    (Pta.archGraph_graphOf a (Pta.Dg.dom_of a _ h).wf) noise1 noise2 d hwf hn
    (specDiagram d) (Pta.E2E.means_specDiagram d) so h).1

/-- the statement with the literal component list (one entry per declaration / reference). Its domain hypothesis
    asks for a duplicate-free list, i.e. for a diagram that mentions every component once; use
    `diagram_file_conforms_iff` otherwise. -/
theorem diagram_file_conforms_iff_raw (mt : Str → Str → Bool) (a : Arch) (noise1 noise2 : Str)
    (d : List DLine) (hwf : diagramWF d = true) (hn : isInfix "@enduml".toList noise2 = false) (so : Bool)
    (h : diagramDomain a (specDiagramRaw d) = true) :
    (diagramAssert mt (some (diagramText noise1 d noise2)) none so (archGraph a) = .pass ↔
      conforms a (specDiagramRaw d) so = true) ∧
    (∀ k, diagramAssert mt (some (diagramText noise1 d noise2)) none so (archGraph a) ≠ .err k) :=
  diagram_file_conforms_iff_of_meaning mt a noise1 noise2 d hwf hn (specDiagramRaw d)
    (fun _ => Iff.rfl) (fun _ => Iff.rfl) so h

/-- the outcome class and the report of the file check are those of the rules generated from `parsedOf (specDiagram d)`
    (the report up to `sameItems`) — so `aggregates_all` describes the report of the file check -/
theorem diagram_file_report (mt : Str → Str → Bool) (a : Arch) (noise1 noise2 : Str)
    (d : List DLine) (hwf : diagramWF d = true) (hn : isInfix "@enduml".toList noise2 = false) (so : Bool)
    (h : diagramDomain a (specDiagram d) = true) :
    (diagramAssert mt (some (diagramText noise1 d noise2)) none so (archGraph a)).cls =
      (applyAll mt (archGraph a) (diagramRules so (parsedOf (specDiagram d)))).cls ∧
    sameItems (diagramAssert mt (some (diagramText noise1 d noise2)) none so (archGraph a)).items
      (applyAll mt (archGraph a) (diagramRules so (parsedOf (specDiagram d)))).items = true := by
  exact (Pta.E2E.file_conforms_lemma mt a (archGraph a)
    (Pta.archGraph_graphOf a (Pta.Dg.dom_of a _ h).wf) noise1 noise2 d hwf hn
    (specDiagram d) (Pta.E2E.means_specDiagram d) so h).2

/-- **with `with_base_module(q)`.** The file is checked as if every component were written `q.name`: passes exactly
    when the imports conform to `prefixDiagram q (specDiagram d)`; never raises. -/
theorem diagram_file_base_conforms_iff (mt : Str → Str → Bool) (a : Arch) (noise1 noise2 : Str)
    (d : List DLine) (hwf : diagramWF d = true) (hn : isInfix "@enduml".toList noise2 = false)
    (q : Name) (hq : q ≠ []) (so : Bool) (h : diagramDomain a (prefixDiagram q (specDiagram d)) = true) :
    (diagramAssert mt (some (diagramText noise1 d noise2)) (some (render q)) so (archGraph a) = .pass ↔
      conforms a (prefixDiagram q (specDiagram d)) so = true) ∧
    (∀ k, diagramAssert mt (some (diagramText noise1 d noise2)) (some (render q)) so (archGraph a) ≠ .err k) := by
  exact (DVerdict.cls_ofBool_iff _ _).1 (Pta.E2E.file_conforms_base_lemma mt a (archGraph a)
    (Pta.archGraph_graphOf a (Pta.Dg.dom_of a _ h).wf) noise1 noise2 d hwf hn
    (specDiagram d) (Pta.E2E.means_specDiagram d) q hq so h).1

/-- presentation is irrelevant for the CHECK as well (C06.presentation_irrelevant lifted through `DiagramRule`):
    two files of the documented subset with the same meaning, any base module, ANY graph (no domain hypothesis): if
    checking the second file does not raise, checking the first does not raise, the outcome is the same and the
    reports consist of the same lines (`sameItems`) -/
theorem diagram_file_presentation_irrelevant (mt : Str → Str → Bool) (g : PGraph Str) (so : Bool) (base : Option Str)
    (n1 n2 n1' n2' : Str) (d d' : List DLine) (hwf : diagramWF d = true) (hwf' : diagramWF d' = true)
    (hn : isInfix "@enduml".toList n2 = false) (hn' : isInfix "@enduml".toList n2' = false)
    (hc : ∀ x, x ∈ diagramComponents d ↔ x ∈ diagramComponents d')
    (ha : ∀ e, e ∈ diagramArrows d ↔ e ∈ diagramArrows d')
    (hne : ∀ k, diagramAssert mt (some (diagramText n1' d' n2')) base so g ≠ .err k) :
    (diagramAssert mt (some (diagramText n1 d n2)) base so g).cls =
      (diagramAssert mt (some (diagramText n1' d' n2')) base so g).cls ∧
    (∀ k, diagramAssert mt (some (diagramText n1 d n2)) base so g ≠ .err k) ∧
    sameItems (diagramAssert mt (some (diagramText n1 d n2)) base so g).items
      (diagramAssert mt (some (diagramText n1' d' n2')) base so g).items = true := by
  obtain ⟨p, hp, _, hpm, hpd, hok⟩ := roundtrip_lemma n1 n2 d hwf hn
  obtain ⟨p', hp', _, hpm', hpd', hok'⟩ := roundtrip_lemma n1' n2' d' hwf' hn'
  obtain ⟨e2, e3, e4⟩ := Pta.E2E.diagramAssert_congr mt g so base _ _ p p' hp hp'
    ⟨fun x => by rw [hpm, hpm']; exact hc x, fun x y => by rw [hpd, hpd']; exact ha (x, y)⟩ (.of_dictOK hok) (.of_dictOK hok') hne
  exact ⟨e3, e2, e4⟩

/-! ### non-vacuity of the end-to-end theorems -/

/-- `component [app.ui] as ui`, two more declarations, an arrow from the ALIAS, and a LEFT arrow
    (`app.db <-- [app.core]` means core → db) -/
def exLines : List DLine := [
  .decl .compBracket "app.ui".toList (some "ui".toList),
  .decl .bracket "app.core".toList none,
  .decl .compBare "app.db".toList none,
  .arrow .r2 (.viaAlias "ui".toList) (.bracketed "app.core".toList),
  .arrow .l2 (.bracketed "app.core".toList) (.bare "app.db".toList)]

def exNoise1 : Str := "' architecture\n".toList
def exNoise2 : Str := "\n' end of file".toList

set_option maxRecDepth 10000 in
example : diagramText exNoise1 exLines exNoise2 =
    ("' architecture\n@startuml\ncomponent [app.ui] as ui\n[app.core]\ncomponent app.db\nui --> [app.core]\n" ++
     "app.db <-- [app.core]\n@enduml\n' end of file").toList :=
  eq_toList_of_ofList_eq (by decide +kernel)

/-- the hypotheses of `diagram_file_conforms_iff` / `_never_errs` / `_fails_iff` / `_report` hold (for both
    architectures); the literal component list has repetitions, so the `_raw` variant does not apply here -/
example : diagramWF exLines = true ∧ isInfix "@enduml".toList exNoise2 = false ∧
    diagramDomain exGood (specDiagram exLines) = true ∧ diagramDomain exBad (specDiagram exLines) = true ∧
    diagramDomain exGood (specDiagramRaw exLines) = false := by decide +kernel

/-- the meaning of the file is the diagram `exD` of the examples above -/
example : specDiagram exLines = exD := by
  show (⟨_, _⟩ : Diagram) = ⟨_, _⟩
  congr 1 <;> decide +kernel

/-- right-hand sides: conforming / not conforming, in both modes -/
example : conforms exGood (specDiagram exLines) true = true ∧ conforms exGood (specDiagram exLines) false = true ∧
    conforms exBad (specDiagram exLines) true = false ∧ conforms exBad (specDiagram exLines) false = false := by
  decide +kernel

/-- left-hand sides, computed by the model from the FILE: parse, generate, apply -/
example :
    (diagramAssert mt0 (some (diagramText exNoise1 exLines exNoise2)) none true (archGraph exGood)).cls = .pass ∧
    (diagramAssert mt0 (some (diagramText exNoise1 exLines exNoise2)) none false (archGraph exGood)).cls = .pass ∧
    (diagramAssert mt0 (some (diagramText exNoise1 exLines exNoise2)) none true (archGraph exBad)).cls = .fail ∧
    (diagramAssert mt0 (some (diagramText exNoise1 exLines exNoise2)) none false (archGraph exBad)).cls = .fail := by
  decide +kernel

/-- a diagram that mentions every component once: the `_raw` variant applies -/
def exOnce : List DLine := [
  .arrow .r1 (.bare "app.ui".toList) (.bracketed "app.core".toList),
  .decl .bracket "app.db".toList none]

example : diagramWF exOnce = true ∧ diagramDomain exGood (specDiagramRaw exOnce) = true ∧
    conforms exGood (specDiagramRaw exOnce) true = false ∧ conforms exGood (specDiagramRaw exOnce) false = false := by
  decide +kernel

/-- `with_base_module("app")`: the same drawing without the common prefix -/
def exShortLines : List DLine := [
  .decl .bracket "ui".toList (some "u".toList),
  .arrow .r2 (.viaAlias "u".toList) (.bare "core".toList),
  .arrow (.lt "uses".toList) (.bracketed "core".toList) (.bracketed "db".toList)]

example : diagramWF exShortLines = true ∧ nm "app" ≠ [] ∧
    diagramDomain exGood (prefixDiagram (nm "app") (specDiagram exShortLines)) = true ∧
    diagramDomain exBad (prefixDiagram (nm "app") (specDiagram exShortLines)) = true ∧
    conforms exGood (prefixDiagram (nm "app") (specDiagram exShortLines)) true = true ∧
    conforms exBad (prefixDiagram (nm "app") (specDiagram exShortLines)) true = false ∧
    conforms exBad (prefixDiagram (nm "app") (specDiagram exShortLines)) false = false := by decide +kernel

example :
    (diagramAssert mt0 (some (diagramText exNoise1 exShortLines exNoise2)) (some (render (nm "app"))) true
      (archGraph exGood)).cls = .pass ∧
    (diagramAssert mt0 (some (diagramText exNoise1 exShortLines exNoise2)) (some (render (nm "app"))) true
      (archGraph exBad)).cls = .fail ∧
    (diagramAssert mt0 (some (diagramText exNoise1 exShortLines exNoise2)) (some (render (nm "app"))) false
      (archGraph exBad)).cls = .fail := by decide +kernel

/-! ### the report lists the objects of a `does not import` line in dictionary order -/

/-- two parse results with the same content; the value list of `a` in two orders
    (the parser produces them from `[a] --> [b]`, `[a] --> [c]` in the two line orders) -/
def exP : Parsed' := ⟨["a".toList, "b".toList, "c".toList], [("a".toList, ["b".toList, "c".toList])]⟩
def exQ : Parsed' := ⟨["c".toList, "a".toList, "b".toList], [("a".toList, ["c".toList, "b".toList])]⟩
/-- nobody imports anything -/
def exIsolated : Arch := { nodes := ["a", "b", "c"].map nm, imports := [] }

/-- the hypotheses of `diagramRules_congr` hold for `exP`, `exQ` on `archGraph exIsolated` -/
theorem exPQ_hyps (so : Bool) : Pta.C06.SameParse exP exQ ∧ DepsOK exP ∧ DepsOK exQ ∧
    ∀ r ∈ diagramRules so exQ, ∀ k, (assertApplies mt0 r (archGraph exIsolated)).2 ≠ .err k := by
  exact ⟨Pta.E2E.sameParse_of_check exP exQ (by decide +kernel), ⟨by decide +kernel, by decide +kernel⟩, ⟨by decide +kernel, by decide +kernel⟩,
    Pta.E2E.noErr_of_check _ _ _ (by cases so <;> decide +kernel)⟩

/-- **the reports are not literally the same set.** Same outcome, same lines up to `sameItems` (as
    `diagramRules_congr` says), but the `does not import` line of `a` lists `b, c` for one parse result and `c, b`
    for the other: the message follows the order of the dictionary value list, i.e. the order of the arrow lines. -/
theorem report_lists_objects_in_dict_order :
    applyAll mt0 (archGraph exIsolated) (diagramRules false exP) =
      .fail [.miss false ⟨false, "a".toList⟩ [⟨false, "b".toList⟩, ⟨false, "c".toList⟩] false] ∧
    applyAll mt0 (archGraph exIsolated) (diagramRules false exQ) =
      .fail [.miss false ⟨false, "a".toList⟩ [⟨false, "c".toList⟩, ⟨false, "b".toList⟩] false] ∧
    sameItemSet (applyAll mt0 (archGraph exIsolated) (diagramRules false exP)).items
      (applyAll mt0 (archGraph exIsolated) (diagramRules false exQ)).items = false ∧
    sameItems (applyAll mt0 (archGraph exIsolated) (diagramRules false exP)).items
      (applyAll mt0 (archGraph exIsolated) (diagramRules false exQ)).items = true :=
  ⟨Pta.Dg.fail_eq_of_check _ _ (by decide +kernel), Pta.Dg.fail_eq_of_check _ _ (by decide +kernel),
    by decide +kernel, by decide +kernel⟩

/-- the same on files: the two line orders of `[a] --> [b]`, `[a] --> [c]` (hypotheses of
    `diagram_file_presentation_irrelevant`: same meaning, no error) give reports that differ literally -/
def exAB : List DLine := [.arrow .r2 (.bracketed "a".toList) (.bracketed "b".toList),
  .arrow .r2 (.bracketed "a".toList) (.bracketed "c".toList)]

example : diagramWF exAB = true ∧ diagramWF exAB.reverse = true ∧
    (diagramAssert mt0 (some (diagramText [] exAB.reverse [])) none false (archGraph exIsolated)).cls = .fail ∧
    sameItemSet (diagramAssert mt0 (some (diagramText [] exAB [])) none false (archGraph exIsolated)).items
      (diagramAssert mt0 (some (diagramText [] exAB.reverse [])) none false (archGraph exIsolated)).items = false ∧
    sameItems (diagramAssert mt0 (some (diagramText [] exAB [])) none false (archGraph exIsolated)).items
      (diagramAssert mt0 (some (diagramText [] exAB.reverse [])) none false (archGraph exIsolated)).items = true := by
  decide +kernel

/-! ### the theorems applied to the instances above (all hypotheses discharged by evaluation) -/

example : diagramAssert mt0 (some (diagramText exNoise1 exLines exNoise2)) none true (archGraph exGood) = .pass :=
  (diagram_file_conforms_iff mt0 exGood exNoise1 exNoise2 exLines (by decide +kernel) (by decide +kernel) true
    (by decide +kernel)).2 (by decide +kernel)

example : ∃ items,
    diagramAssert mt0 (some (diagramText exNoise1 exLines exNoise2)) none false (archGraph exBad) = .fail items :=
  (diagram_file_fails_iff mt0 exBad exNoise1 exNoise2 exLines (by decide +kernel) (by decide +kernel) false
    (by decide +kernel)).2 (by decide +kernel)

example : diagramAssert mt0 (some (diagramText exNoise1 exShortLines exNoise2)) (some (render (nm "app"))) true
    (archGraph exGood) = .pass :=
  (diagram_file_base_conforms_iff mt0 exGood exNoise1 exNoise2 exShortLines (by decide +kernel) (by decide +kernel) (nm "app")
    (by decide +kernel) true (by decide +kernel)).1.2 (by decide +kernel)

example : (applyAll mt0 (archGraph exIsolated) (diagramRules false exP)).cls =
    (applyAll mt0 (archGraph exIsolated) (diagramRules false exQ)).cls :=
  (diagramRules_congr mt0 (archGraph exIsolated) false exP exQ (exPQ_hyps false).1 (exPQ_hyps false).2.1
    (exPQ_hyps false).2.2.1 (exPQ_hyps false).2.2.2).1

example : sameItems (diagramAssert mt0 (some (diagramText [] exAB [])) none true (archGraph exIsolated)).items
    (diagramAssert mt0 (some (diagramText exNoise1 exAB.reverse exNoise2)) none true (archGraph exIsolated)).items = true :=
  (diagram_file_presentation_irrelevant mt0 (archGraph exIsolated) true none [] [] exNoise1 exNoise2 exAB exAB.reverse
    (by decide +kernel) (by decide +kernel) (by decide +kernel) (by decide +kernel) (Pta.E2E.sm_of_check _ _ (by decide +kernel))
    (Pta.E2E.sm_of_check _ _ (by decide +kernel))
    (fun k hk => by
      have : (diagramAssert mt0 (some (diagramText exNoise1 exAB.reverse exNoise2)) none true
        (archGraph exIsolated)).cls = .fail := by decide +kernel
      rw [hk] at this; cases this)).2.2

end Pta.C07
