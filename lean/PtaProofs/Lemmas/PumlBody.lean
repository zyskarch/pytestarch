/-
  PtaProofs.Lemmas.PumlBody — text-level lemmas behind Props/C06.lean (layers L2 and L4):
  `splitAtLast`, `pyStrip`, `pumlBody`, `splitLines`.
-/
import Bridge.PumlRender
import PtaProofs.Lemmas.Str
namespace Pta

theorem tag_start_eq : "@startuml".toList = tagStart := by decide
theorem tag_end_eq : "@enduml".toList = tagEnd := by decide

/-- The kernel decodes the characters of a long string literal from its UTF-8 bytes, quadratically in its length;
    comparing two strings is cheap. A list is therefore compared with a literal as a string. -/
theorem eq_toList_of_ofList_eq {l : List Char} {s : String} (h : String.ofList l = s) : l = s.toList := by
  subst h; exact String.toList_ofList.symm

theorem splitAtLast_go_none (pat pre rest : Str) (best : Option (Str × Str)) (fuel : Nat)
    (hf : rest.length < fuel) (h : isInfix pat rest = false) : splitAtLast.go pat pre rest best fuel = best := by
  induction rest generalizing pre fuel with
  | nil =>
    cases fuel with
    | zero => omega
    | succ f =>
      have : startsWith pat [] = false := startsWith_false_of_isInfix h
      simp [splitAtLast.go, this]
  | cons c cs ih =>
    cases fuel with
    | zero => omega
    | succ f =>
      have h1 : startsWith pat (c :: cs) = false := startsWith_false_of_isInfix h
      have h2 : isInfix pat cs = false := isInfix_false_of_infix h (List.suffix_cons c cs).isInfix
      simp only [splitAtLast.go, h1, Bool.false_eq_true, if_false]
      exact ih (c :: pre) f (by simp at hf; omega) h2

/-- the last occurrence is found: nothing matches behind it -/
theorem splitAtLast_go_last (pat : Str) (hp : pat ≠ []) (b : Str) (hlast : isInfix pat (pat ++ b).tail = false)
    (pre x : Str) (best : Option (Str × Str)) (fuel : Nat) (hf : (x ++ (pat ++ b)).length < fuel) :
    splitAtLast.go pat pre (x ++ (pat ++ b)) best fuel = some (pre.reverse ++ x, b) := by
  induction x generalizing pre best fuel with
  | nil =>
    cases fuel with
    | zero => omega
    | succ f =>
      have h1 : startsWith pat (pat ++ b) = true := startsWith_append_self pat b
      have hd : (pat ++ b).drop pat.length = b := by simp
      cases hpb : pat ++ b with
      | nil => simp at hpb; exact absurd hpb.1 hp
      | cons c r =>
        rw [hpb] at h1 hd hlast
        simp only [List.nil_append, splitAtLast.go, h1, if_true, hd, List.append_nil]
        simp only [List.tail_cons] at hlast
        refine splitAtLast_go_none pat (c :: pre) r _ f ?_ hlast
        have hl : (c :: r).length < f + 1 := by simpa [hpb] using hf
        simp only [List.length_cons] at hl
        omega
  | cons c x ih =>
    cases fuel with
    | zero => omega
    | succ f =>
      simp only [List.cons_append, splitAtLast.go]
      rw [ih (c :: pre) _ f (by simp at hf ⊢; omega)]
      simp

theorem splitAtLast_last (pat : Str) (hp : pat ≠ []) (x b : Str) (hlast : isInfix pat (pat ++ b).tail = false) :
    splitAtLast pat (x ++ (pat ++ b)) = some (x, b) := by
  have := splitAtLast_go_last pat hp b hlast [] x none ((x ++ (pat ++ b)).length + 1) (Nat.lt_succ_self _)
  simpa [splitAtLast] using this

theorem splitAtLast_none (pat s : Str) (h : isInfix pat s = false) : splitAtLast pat s = none :=
  splitAtLast_go_none pat [] s none _ (Nat.lt_succ_self _) h

theorem splitAtLast_go_sound (pat pre rest : Str) (best : Option (Str × Str)) (fuel : Nat) (s : Str)
    (hs : s = pre.reverse ++ rest) (hbest : ∀ a b, best = some (a, b) → s = a ++ pat ++ b)
    (a b : Str) (h : splitAtLast.go pat pre rest best fuel = some (a, b)) : s = a ++ pat ++ b := by
  induction fuel generalizing pre rest best with
  | zero => exact hbest a b (by simpa [splitAtLast.go] using h)
  | succ f ih =>
    have hbest' : ∀ a b, (if startsWith pat rest = true then some (pre.reverse, rest.drop pat.length) else best)
        = some (a, b) → s = a ++ pat ++ b := by
      intro a b hab
      split at hab
      · rename_i hsw
        obtain ⟨t, ht⟩ := (startsWith_iff_prefix _ _).1 hsw
        cases hab
        rw [hs, ← ht]; simp
      · exact hbest a b hab
    cases rest with
    | nil =>
      simp only [splitAtLast.go] at h
      exact hbest' a b h
    | cons c cs =>
      simp only [splitAtLast.go] at h
      exact ih (c :: pre) cs _ (by rw [hs]; simp) hbest' h

theorem splitAtLast_sound (pat s a b : Str) (h : splitAtLast pat s = some (a, b)) : s = a ++ pat ++ b :=
  splitAtLast_go_sound pat [] s none _ s rfl (by intro a b h; cases h) a b h

def pyWs (c : Char) : Bool := isSpaceChar c || c == '\n'

theorem pyStrip_eq (s : Str) : pyStrip s = ((s.dropWhile pyWs).reverse.dropWhile pyWs).reverse := rfl

theorem dropWhile_append_stop {p : Char → Bool} (x : Str) (c : Char) (y : Str) (hc : p c = false) :
    (x ++ c :: y).dropWhile p = x.dropWhile p ++ c :: y := by
  simp only [List.dropWhile_append, List.dropWhile_cons_of_neg (Bool.not_eq_true _ ▸ hc), List.isEmpty_iff]
  split <;> simp [*]

/-- stripping only touches the noise around a block that starts and ends with non-blank characters -/
theorem pyStrip_block (n1 : Str) (a : Char) (m : Str) (z : Char) (n2 : Str) (ha : pyWs a = false)
    (hz : pyWs z = false) :
    pyStrip (n1 ++ a :: (m ++ z :: n2)) =
      n1.dropWhile pyWs ++ a :: (m ++ z :: (n2.reverse.dropWhile pyWs).reverse) := by
  rw [pyStrip_eq, dropWhile_append_stop n1 a _ ha]
  have h : (n1.dropWhile pyWs ++ a :: (m ++ z :: n2)).reverse =
      n2.reverse ++ z :: (m.reverse ++ a :: (n1.dropWhile pyWs).reverse) := by simp
  rw [h, dropWhile_append_stop _ z _ hz]
  simp

theorem rstrip_prefix (n2 : Str) : (n2.reverse.dropWhile pyWs).reverse <+: n2 := by
  have h := List.dropWhile_suffix (l := n2.reverse) pyWs
  have := List.reverse_prefix.2 h
  simpa using this

theorem pyStrip_infix (s : Str) : pyStrip s <:+: s := by
  rw [pyStrip_eq]
  have h1 : (s.dropWhile pyWs).reverse.dropWhile pyWs <:+ (s.dropWhile pyWs).reverse := List.dropWhile_suffix _
  have h2 : ((s.dropWhile pyWs).reverse.dropWhile pyWs).reverse <+: s.dropWhile pyWs := by
    have := List.reverse_prefix.2 h1
    simpa using this
  exact h2.isInfix.trans (List.dropWhile_suffix (l := s) pyWs).isInfix

theorem tagEnd_last (n2 : Str) (h : isInfix tagEnd n2 = false) : isInfix tagEnd (tagEnd ++ n2).tail = false := by
  simp only [tagEnd] at h
  simp [tagEnd, isInfix, startsWith, h]

theorem tagStart_last (r : Str) (h : '@' ∉ r) : isInfix tagStart (tagStart ++ r).tail = false := by
  apply isInfix_false_of_char '@' _ _ (by decide)
  simp only [tagStart, List.cons_append, List.tail_cons, List.nil_append, List.mem_cons, not_or]
  refine ⟨by decide, by decide, by decide, by decide, by decide, by decide, by decide, by decide, h⟩

/-- L2, general form: the body starts behind the last `@startuml` that precedes the last `@enduml` -/
theorem pumlBody_block_gen (x body n2 : Str) (hb : isInfix tagStart (tagStart ++ body).tail = false)
    (hn : isInfix tagEnd n2 = false) (hne : body ≠ []) :
    pumlBody (x ++ (tagStart ++ (body ++ (tagEnd ++ n2)))) = .ok body := by
  have h1 : splitAtLast "@enduml".toList (x ++ (tagStart ++ (body ++ (tagEnd ++ n2)))) =
      some (x ++ (tagStart ++ body), n2) := by
    rw [tag_end_eq]
    have := splitAtLast_last tagEnd (by decide) (x ++ (tagStart ++ body)) n2 (tagEnd_last n2 hn)
    simpa only [List.append_assoc] using this
  have h2 : splitAtLast "@startuml".toList (x ++ (tagStart ++ body)) = some (x, body) := by
    rw [tag_start_eq]
    exact splitAtLast_last tagStart (by decide) x body hb
  have h3 : body.isEmpty = false := by simpa using hne
  simp only [pumlBody, h1, h2, h3, Bool.false_eq_true, if_false]

theorem pumlBody_block (x body n2 : Str) (hb : '@' ∉ body) (hn : isInfix tagEnd n2 = false) (hne : body ≠ []) :
    pumlBody (x ++ (tagStart ++ (body ++ (tagEnd ++ n2)))) = .ok body :=
  pumlBody_block_gen x body n2 (tagStart_last body hb) hn hne

theorem pumlBody_no_end (s : Str) (h : isInfix "@enduml".toList s = false) : pumlBody s = .error .pumlParsingError := by
  have h1 := splitAtLast_none _ s h
  simp only [pumlBody, h1]

theorem pumlBody_no_start (s : Str) (h : isInfix "@startuml".toList s = false) :
    pumlBody s = .error .pumlParsingError := by
  unfold pumlBody
  cases h1 : splitAtLast "@enduml".toList s with
  | none => rfl
  | some ab =>
    obtain ⟨a, b⟩ := ab
    have hs := splitAtLast_sound _ _ _ _ h1
    have h2 : isInfix "@startuml".toList a = false :=
      isInfix_false_of_infix h (by rw [hs, List.append_assoc]; exact (List.prefix_append a _).isInfix)
    simp only [splitAtLast_none _ a h2]

theorem splitLines_go_append (cur l rest : Str) (hl : '\n' ∉ l) :
    splitLines.go cur (l ++ rest) = splitLines.go (l.reverse ++ cur) rest := by
  induction l generalizing cur with
  | nil => rfl
  | cons c l ih =>
    have hc : (c == '\n') = false := by
      simp only [beq_eq_false_iff_ne]; intro h; exact hl (by simp [h])
    simp only [List.cons_append, splitLines.go, hc, Bool.false_eq_true, if_false]
    rw [ih (c :: cur) (fun h => hl (by simp [h]))]
    simp

theorem splitLines_line (l rest : Str) (hl : '\n' ∉ l) :
    splitLines (l ++ '\n' :: rest) = l :: splitLines rest := by
  simp [splitLines, splitLines_go_append [] l _ hl, splitLines.go]

theorem splitLines_last (l : Str) (hl : '\n' ∉ l) : splitLines l = [l] := by
  simpa [splitLines, splitLines.go] using splitLines_go_append [] l [] hl

theorem splitLines_joinWith : ∀ (ls : List Str), ls ≠ [] → (∀ l ∈ ls, '\n' ∉ l) →
    splitLines (joinWith ['\n'] ls) = ls
  | [], h, _ => absurd rfl h
  | [l], _, h => by simpa [joinWith] using splitLines_last l (h l (by simp))
  | l :: l2 :: r, _, h => by
    have ih := splitLines_joinWith (l2 :: r) (by simp) (fun x hx => h x (by simp [hx]))
    have e : joinWith ['\n'] (l :: l2 :: r) = l ++ '\n' :: joinWith ['\n'] (l2 :: r) := by simp [joinWith]
    rw [e, splitLines_line l _ (h l (by simp)), ih]

theorem splitLines_join (ls : List Str) (hls : ∀ l ∈ ls, '\n' ∉ l) :
    splitLines (joinWith ['\n'] ls ++ ['\n']) = (if ls = [] then [[]] else ls) ++ [[]] := by
  by_cases h : ls = []
  · subst h; decide
  · -- the text is the join of the lines and one more, empty, line
    have e := joinWith_append ['\n'] ls [[]] h (by simp)
    rw [joinWith, List.append_nil] at e
    rw [if_neg h, ← e]
    exact splitLines_joinWith _ (by simp) fun l hl => (List.mem_append.1 hl).elim (hls l) fun hl => by simp_all

end Pta
