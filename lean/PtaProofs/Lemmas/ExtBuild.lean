/-
  PtaProofs.Lemmas.ExtBuild — what `buildGraph mods imps lim` contains for ARBITRARY module strings and imports,
  provided every importer's flattened name is among the nodes created for `mods` and every import carries
  `importeeParents = parentModules importee` (true of all `absImport`s). `createEdge` overwrites: under the invariant of
  at most one record per ordered pair (`PairsNodup`) the edge writes are map updates on (source, target) pairs, and an
  import edge written onto an immediate-parent pair is overwritten by the hierarchy edge within the same `addImport`.
  With the guard `_is_import_between_known_modules` (the library's repair of the level-limit defect) an import produces
  an edge only between known modules, i.e. nodes of the graph built without a limit (`mem_knownModules_iff_nodeOf`).
-/
import PtaProofs.Lemmas.BuildGen
import PtaProofs.Lemmas.ExtNames
import PtaProofs.Lemmas.FlatTree
namespace Pta
namespace ExtBuild
open ExtNames BuildGen

section
variable {α : Type} [DecidableEq α]

/-- at most one edge record per ordered pair of names: what makes `createEdge`'s overwrite (`setEdge` replaces the
    record `findEdge` returns) a map update on (source, target) pairs; holds of the empty graph, kept by every step -/
def PairsNodup (g : PGraph α) : Prop := (g.edges.map fun x => (x.src, x.dst)).Nodup

theorem findEdge_some {g : PGraph α} {a b : α} {x : Edge α} (h : g.findEdge a b = some x) :
    x ∈ g.edges ∧ x.src = a ∧ x.dst = b := by
  unfold PGraph.findEdge at h
  have h1 := List.mem_of_find?_eq_some h
  have h2 := List.find?_some h
  simp only [Bool.and_eq_true, beq_iff_eq] at h2
  exact ⟨h1, h2⟩

theorem findEdge_none {g : PGraph α} {a b : α} (h : g.findEdge a b = none) :
    ∀ x ∈ g.edges, ¬ (x.src = a ∧ x.dst = b) := by
  intro x hx
  have := List.find?_eq_none.1 h x hx
  simpa [Bool.and_eq_true, beq_iff_eq] using this

theorem mem_setEdge (g : PGraph α) (s e : α) (inh : Bool) (a b : α) (f : Bool) :
    (⟨a, b, f⟩ : Edge α) ∈ (g.setEdge s e inh).edges ↔
      ((a = s ∧ b = e) ∧ f = inh) ∨ (¬ (a = s ∧ b = e) ∧ (⟨a, b, f⟩ : Edge α) ∈ g.edges) := by
  unfold PGraph.setEdge PGraph.hasEdge
  cases hf : g.findEdge s e with
  | none =>
    simp only [Option.isSome_none, Bool.false_eq_true, if_false, List.mem_append, List.mem_singleton, Edge.mk.injEq]
    constructor
    · rintro (hx | h3)
      · exact Or.inr ⟨findEdge_none hf _ hx, hx⟩
      · exact Or.inl ⟨⟨h3.1, h3.2.1⟩, h3.2.2⟩
    · rintro (⟨⟨h1, h2⟩, h3⟩ | ⟨-, hx⟩)
      · exact Or.inr ⟨h1, h2, h3⟩
      · exact Or.inl hx
  | some y =>
    obtain ⟨hy, hys, hyd⟩ := findEdge_some hf
    simp only [Option.isSome_some, if_true, List.mem_map]
    constructor
    · rintro ⟨x, hx, hfx⟩
      split at hfx
      · simp only [Edge.mk.injEq] at hfx
        exact Or.inl ⟨⟨hfx.1.symm, hfx.2.1.symm⟩, hfx.2.2.symm⟩
      · rename_i hm
        subst hfx
        exact Or.inr ⟨by simpa [Bool.and_eq_true, beq_iff_eq] using hm, hx⟩
    · rintro (⟨⟨rfl, rfl⟩, rfl⟩ | ⟨hne, hx⟩)
      · exact ⟨y, hy, by simp [hys, hyd]⟩
      · refine ⟨_, hx, ?_⟩
        rw [if_neg]
        simpa [Bool.and_eq_true, beq_iff_eq] using hne

theorem setEdge_pairsNodup (g : PGraph α) (s e : α) (inh : Bool) (h : PairsNodup g) :
    PairsNodup (g.setEdge s e inh) := by
  unfold PairsNodup PGraph.setEdge PGraph.hasEdge
  cases hf : g.findEdge s e with
  | none =>
    simp only [Option.isSome_none, Bool.false_eq_true, if_false, List.map_append, List.map_cons, List.map_nil]
    refine List.nodup_append.2 ⟨h, by simp, ?_⟩
    intro p hp q hq
    rw [List.mem_singleton.1 hq]
    rintro rfl
    obtain ⟨x, hx, hk⟩ := List.mem_map.1 hp
    exact findEdge_none hf x hx ⟨congrArg Prod.fst hk, congrArg Prod.snd hk⟩
  | some y =>
    have hkey : ∀ x : Edge α, ((if x.src == s && x.dst == e then (⟨s, e, inh⟩ : Edge α) else x).src,
        (if x.src == s && x.dst == e then (⟨s, e, inh⟩ : Edge α) else x).dst) = (x.src, x.dst) := by
      intro x
      split
      · rename_i hm
        simp only [Bool.and_eq_true, beq_iff_eq] at hm
        rw [hm.1, hm.2]
      · rfl
    simp only [Option.isSome_some, if_true, List.map_map, Function.comp_def, hkey]
    exact h

omit [DecidableEq α] in
theorem PairsNodup.flag_eq {g : PGraph α} (h : PairsNodup g) {a b : α} {f f' : Bool}
    (h1 : (⟨a, b, f⟩ : Edge α) ∈ g.edges) (h2 : (⟨a, b, f'⟩ : Edge α) ∈ g.edges) : f = f' :=
  (Edge.mk.inj (FlatTree.pairwise_inj (List.pairwise_map.1 h) _ h1 _ h2 rfl)).2.2

end

theorem setEdge_nodes (g : PGraph Str) (s e : Str) (inh : Bool) : (g.setEdge s e inh).nodes = g.nodes :=
  BuildGen.setEdge_nodes g s e inh

/-- `createEdge lim g s e _` really writes a record: `_create_edge` returns early for a self edge after flattening
    (`_flatten_graph_node` of `s` / `e` under the level limit `lim`) and for an end that is not a node -/
def writes (lim : Option Nat) (g : PGraph Str) (s e : Str) : Prop :=
  flattenNode lim s ≠ flattenNode lim e ∧ flattenNode lim s ∈ g.nodes ∧ flattenNode lim e ∈ g.nodes

theorem createEdge_pairsNodup (lim : Option Nat) (g : PGraph Str) (s e : Str) (inh : Bool) (h : PairsNodup g) :
    PairsNodup (createEdge lim g s e inh) := by
  rcases createEdge_eq lim g s e inh with h' | h' <;> rw [h']
  · exact h
  · exact setEdge_pairsNodup g _ _ inh h

theorem mem_createEdge (lim : Option Nat) (g : PGraph Str) (hg : PairsNodup g) (s e : Str) (inh : Bool)
    (a b : Str) (f : Bool) :
    (⟨a, b, f⟩ : Edge Str) ∈ (createEdge lim g s e inh).edges ↔
      ((writes lim g s e ∧ a = flattenNode lim s ∧ b = flattenNode lim e) ∧ f = inh) ∨
      (¬ (writes lim g s e ∧ a = flattenNode lim s ∧ b = flattenNode lim e) ∧ (⟨a, b, f⟩ : Edge Str) ∈ g.edges) := by
  unfold createEdge writes
  simp only
  generalize flattenNode lim s = s'
  generalize flattenNode lim e = e'
  by_cases hse : s' = e'
  · simp [hse]
  · simp only [beq_iff_eq, hse, if_false, ne_eq, not_false_eq_true, true_and]
    by_cases hn : (g.hasNode s' && g.hasNode e') = true
    · have hn' : s' ∈ g.nodes ∧ e' ∈ g.nodes := by simpa [Bool.and_eq_true, hasNode_iff] using hn
      simp only [hn, if_true, hn', and_self, true_and]
      cases hf : g.findEdge s' e' with
      | none => exact mem_setEdge g s' e' inh a b f
      | some y =>
        simp only
        by_cases hinh : y.inh = inh
        · simp only [hinh, if_true]
          obtain ⟨hy, hys, hyd⟩ := findEdge_some hf
          have hy' : (⟨s', e', inh⟩ : Edge Str) ∈ g.edges := by
            rw [← hys, ← hyd, ← hinh]; exact hy
          constructor
          · intro hx
            by_cases hab : a = s' ∧ b = e'
            · obtain ⟨rfl, rfl⟩ := hab
              exact Or.inl ⟨⟨rfl, rfl⟩, hg.flag_eq hx hy'⟩
            · exact Or.inr ⟨hab, hx⟩
          · rintro (⟨⟨rfl, rfl⟩, rfl⟩ | ⟨-, hx⟩)
            · exact hy'
            · exact hx
        · rw [if_neg (by simpa using hinh)]
          exact mem_setEdge g s' e' inh a b f
    · have hn' : ¬ (s' ∈ g.nodes ∧ e' ∈ g.nodes) := by simpa [Bool.and_eq_true, hasNode_iff] using hn
      rw [if_neg hn]
      simp only [hn', false_and, not_false_eq_true, true_and, false_or]

/-- some call of a fold of `createEdge` over the pairs `l` (the consecutive pairs of a module's chain, or one import)
    writes the record `a → b`; the node list does not change during such a fold, so `g.nodes` is the one before it -/
def foldWrites (lim : Option Nat) (g : PGraph Str) (l : List (Str × Str)) (a b : Str) : Prop :=
  ∃ pc ∈ l, flattenNode lim pc.1 = a ∧ flattenNode lim pc.2 = b ∧ a ≠ b ∧ a ∈ g.nodes ∧ b ∈ g.nodes

theorem edgeFold_pairsNodup (lim : Option Nat) (inh : Bool) (l : List (Str × Str)) (g : PGraph Str) (h : PairsNodup g) :
    PairsNodup (l.foldl (fun g pc => createEdge lim g pc.1 pc.2 inh) g) :=
  foldl_inv _ PairsNodup l (fun g pc _ => createEdge_pairsNodup lim g pc.1 pc.2 inh) g h

theorem mem_edgeFold (lim : Option Nat) (inh : Bool) (l : List (Str × Str)) (g : PGraph Str) (hg : PairsNodup g)
    (a b : Str) (f : Bool) :
    (⟨a, b, f⟩ : Edge Str) ∈ (l.foldl (fun g pc => createEdge lim g pc.1 pc.2 inh) g).edges ↔
      (foldWrites lim g l a b ∧ f = inh) ∨ (¬ foldWrites lim g l a b ∧ (⟨a, b, f⟩ : Edge Str) ∈ g.edges) := by
  induction l generalizing g with
  | nil => simp [foldWrites]
  | cons p ps ih =>
    rw [List.foldl_cons, ih _ (createEdge_pairsNodup lim g p.1 p.2 inh hg), mem_createEdge lim g hg]
    have hfw : foldWrites lim g (p :: ps) a b ↔
        (writes lim g p.1 p.2 ∧ a = flattenNode lim p.1 ∧ b = flattenNode lim p.2) ∨
          foldWrites lim (createEdge lim g p.1 p.2 inh) ps a b := by
      unfold foldWrites writes
      rw [createEdge_nodes]
      constructor
      · rintro ⟨pc, hpc, rfl, rfl, h3⟩
        rcases List.mem_cons.1 hpc with rfl | hpc
        · exact Or.inl ⟨h3, rfl, rfl⟩
        · exact Or.inr ⟨pc, hpc, rfl, rfl, h3⟩
      · rintro (⟨h3, rfl, rfl⟩ | ⟨pc, hpc, h⟩)
        · exact ⟨p, List.mem_cons_self, rfl, rfl, h3⟩
        · exact ⟨pc, List.mem_cons_of_mem _ hpc, h⟩
    rw [hfw]
    generalize (writes lim g p.1 p.2 ∧ a = flattenNode lim p.1 ∧ b = flattenNode lim p.2) = A
    generalize foldWrites lim (createEdge lim g p.1 p.2 inh) ps a b = B
    by_cases hA : A <;> by_cases hB : B <;> simp [hA, hB]

theorem createNode_of_mem (lim : Option Nat) (g : PGraph Str) (n : Str) (h : flattenNode lim n ∈ g.nodes) :
    createNode lim g n = g := by
  unfold createNode
  simp only
  rw [(hasNode_iff g _).2 h]
  rfl

theorem nodeFold_of_mem (lim : Option Nat) (ps : List Str) (g : PGraph Str)
    (h : ∀ p ∈ ps, flattenNode lim p ∈ g.nodes) :
    ps.foldl (createNode lim) g = g :=
  foldl_inv _ (· = g) ps (fun _ p hp e => e ▸ createNode_of_mem lim g p (h p hp)) g rfl

/-- every dotted ancestor of a node is a node: `_add_all_modules_as_nodes` creates a module together with its parents
    (`_add_edges_within_module_hierarchy`), so hierarchy edges never miss an end -/
def closed (g : PGraph Str) : Prop := ∀ e ∈ g.nodes, ∀ s ∈ chain e, s ∈ g.nodes

theorem closed_congr {g g' : PGraph Str} (h : g'.nodes = g.nodes) (hc : closed g) : closed g' := by
  unfold closed; rw [h]; exact hc

theorem mem_chainFold (lim : Option Nat) (g : PGraph Str) (m : Str) (hg : PairsNodup g) (hc : closed g)
    (a b : Str) (f : Bool) :
    (⟨a, b, f⟩ : Edge Str) ∈ ((consecutive (chain m)).foldl (fun g pc => createEdge lim g pc.1 pc.2 true) g).edges ↔
      ((hierPair a b ∧ b ∈ chain (flattenNode lim m) ∧ b ∈ g.nodes) ∧ f = true) ∨
      (¬ (hierPair a b ∧ b ∈ chain (flattenNode lim m) ∧ b ∈ g.nodes) ∧ (⟨a, b, f⟩ : Edge Str) ∈ g.edges) := by
  have key : foldWrites lim g (consecutive (chain m)) a b ↔
      (hierPair a b ∧ b ∈ chain (flattenNode lim m) ∧ b ∈ g.nodes) := by
    constructor
    · rintro ⟨pc, hpc, h1, h2, h3, h4, h5⟩
      obtain ⟨hp, hb⟩ := (flatten_pairs_iff lim m a b).1 ⟨pc, hpc, h1, h2, h3⟩
      exact ⟨hp, hb, h5⟩
    · rintro ⟨hp, hb, hn⟩
      obtain ⟨pc, hpc, h1, h2, h3⟩ := (flatten_pairs_iff lim m a b).2 ⟨hp, hb⟩
      exact ⟨pc, hpc, h1, h2, h3, hc b hn a (parent_mem_chain (hierPair_parent hp)), hn⟩
  rw [mem_edgeFold lim true _ g hg, key]

/-- the invariant of both phases of `buildGraph`: at most one record per pair of names; the nodes are closed under
    dotted ancestors (`closed`); and the records are exactly the hierarchy pairs into a node (flag `true`: between two
    names a hierarchy pair wins over an import) and the import pairs `I a b` accounted for so far (flag `false`).
    `I` is `False` while the modules are added and `Imp lim known g.nodes done` after the records `done` -/
structure Inv (I : Str → Str → Prop) (g : PGraph Str) : Prop where
  pn : PairsNodup g
  closed : closed g
  edges : ∀ a b f, (⟨a, b, f⟩ : Edge Str) ∈ g.edges ↔
    (f = true ∧ hierPair a b ∧ b ∈ g.nodes) ∨ (f = false ∧ ¬ hierPair a b ∧ I a b)

/-! ### phase 1: `addAllModules` -/

theorem step_module (lim : Option Nat) (g : PGraph Str) (m : Str) (hg : Inv (fun _ _ => False) g) :
    Inv (fun _ _ => False) (addHierarchy lim (createNode lim g m) (parentModules m) m) ∧
    ∀ s, s ∈ (addHierarchy lim (createNode lim g m) (parentModules m) m).nodes ↔
      s ∈ g.nodes ∨ s ∈ chain (flattenNode lim m) := by
  have hmid_nodes : ∀ s, s ∈ ((parentModules m).foldl (createNode lim) (createNode lim g m)).nodes ↔
      s ∈ g.nodes ∨ s ∈ chain (flattenNode lim m) := by
    intro s
    rw [nodeFold_nodes, createNode_nodes, ← flatten_nodes_iff]
    exact or_assoc
  have hmid_edges : ((parentModules m).foldl (createNode lim) (createNode lim g m)).edges = g.edges := by
    rw [nodeFold_edges, createNode_edges]
  have hmid_pn : PairsNodup ((parentModules m).foldl (createNode lim) (createNode lim g m)) := by
    unfold PairsNodup; rw [hmid_edges]; exact hg.pn
  have hmid_closed : closed ((parentModules m).foldl (createNode lim) (createNode lim g m)) := by
    intro e he s hs
    rw [hmid_nodes] at he ⊢
    rcases he with he | he
    · exact Or.inl (hg.closed e he s hs)
    · exact Or.inr (chain_trans hs he)
  have hnodes : (addHierarchy lim (createNode lim g m) (parentModules m) m).nodes =
      ((parentModules m).foldl (createNode lim) (createNode lim g m)).nodes := edgeFold_nodes lim true _ _
  refine ⟨⟨edgeFold_pairsNodup lim true _ _ hmid_pn, closed_congr hnodes hmid_closed, fun a b f => ?_⟩,
    fun s => by rw [hnodes, hmid_nodes]⟩
  have hshape : addHierarchy lim (createNode lim g m) (parentModules m) m =
      (consecutive (chain m)).foldl (fun g pc => createEdge lim g pc.1 pc.2 true)
        ((parentModules m).foldl (createNode lim) (createNode lim g m)) := rfl
  rw [hnodes, hshape, mem_chainFold lim _ m hmid_pn hmid_closed, hmid_edges, hg.edges]
  simp only [hmid_nodes]
  constructor
  · rintro (⟨⟨hp, -, hb⟩, rfl⟩ | ⟨-, ⟨rfl, hp, hb⟩ | ⟨-, -, h⟩⟩)
    · exact Or.inl ⟨rfl, hp, hb⟩
    · exact Or.inl ⟨rfl, hp, Or.inl hb⟩
    · exact h.elim
  · rintro (⟨rfl, hp, hb⟩ | ⟨-, -, h⟩)
    · by_cases hbc : b ∈ chain (flattenNode lim m)
      · exact Or.inl ⟨⟨hp, hbc, hb⟩, rfl⟩
      · exact Or.inr ⟨fun h => hbc h.2.1, Or.inl ⟨rfl, hp, hb.resolve_right hbc⟩⟩
    · exact h.elim

theorem modules_inv (lim : Option Nat) (mods : List Str) (g : PGraph Str) (hg : Inv (fun _ _ => False) g) :
    Inv (fun _ _ => False) (addAllModules lim g mods) ∧
    ∀ s, s ∈ (addAllModules lim g mods).nodes ↔ s ∈ g.nodes ∨ ∃ m ∈ mods, s ∈ chain (flattenNode lim m) := by
  unfold addAllModules
  induction mods generalizing g with
  | nil => exact ⟨hg, by simp⟩
  | cons m ms ih =>
    simp only [List.foldl_cons]
    obtain ⟨s1, s2⟩ := step_module lim g m hg
    obtain ⟨i1, i2⟩ := ih _ s1
    refine ⟨i1, ?_⟩
    intro s
    rw [i2, s2]
    simp only [List.mem_cons, exists_eq_or_imp]
    exact or_assoc

theorem Inv_empty : Inv (fun _ _ => False) (PGraph.empty : PGraph Str) := by
  refine ⟨List.nodup_nil, fun e he => (by cases he), fun a b f => ?_⟩
  constructor
  · intro h; cases h
  · rintro (⟨-, -, h⟩ | ⟨-, -, h⟩)
    · cases h
    · exact h.elim

/-! ### phase 2: the imports -/

/-- the import pairs accounted for after the records `done`: what `Inv` is instantiated with in the import phase.
    `N` is the node list (fixed from then on), `known` the argument of `_is_import_between_known_modules`; a record
    counts when its guard lets it through and its flattened ends are distinct nodes -/
def Imp (lim : Option Nat) (known : List Str) (N : List Str) (done : List ImportRec) (a b : Str) : Prop :=
  a ≠ b ∧ a ∈ N ∧ b ∈ N ∧
    ∃ i ∈ done, skipImportEdge lim known i = false ∧ flattenNode lim i.importer = a ∧ flattenNode lim i.importee = b

/-- the first of the three writes of `addImport` (the import edge itself) happens: guard passed and `writes` -/
def writes1 (lim : Option Nat) (known : List Str) (g : PGraph Str) (i : ImportRec) : Prop :=
  skipImportEdge lim known i = false ∧ writes lim g i.importer i.importee

theorem mem_first (lim : Option Nat) (known : List Str) (g : PGraph Str) (hg : PairsNodup g) (i : ImportRec)
    (a b : Str) (f : Bool) :
    (⟨a, b, f⟩ : Edge Str) ∈
        (if skipImportEdge lim known i then g else createEdge lim g i.importer i.importee false).edges ↔
      ((writes1 lim known g i ∧ a = flattenNode lim i.importer ∧ b = flattenNode lim i.importee) ∧ f = false) ∨
      (¬ (writes1 lim known g i ∧ a = flattenNode lim i.importer ∧ b = flattenNode lim i.importee) ∧
        (⟨a, b, f⟩ : Edge Str) ∈ g.edges) := by
  unfold writes1
  cases hs : skipImportEdge lim known i with
  | true => simp
  | false =>
    simp only [Bool.false_eq_true, if_false, true_and]
    exact mem_createEdge lim g hg _ _ false a b f

theorem step_import (lim : Option Nat) (known : List Str) (done : List ImportRec) (g : PGraph Str) (i : ImportRec)
    (hg : Inv (Imp lim known g.nodes done) g) (hX : flattenNode lim i.importer ∈ g.nodes)
    (hpar : i.importeeParents = parentModules i.importee) :
    (addImport lim known g i).nodes = g.nodes ∧
      Inv (Imp lim known g.nodes (done ++ [i])) (addImport lim known g i) := by
  -- the three stages: the guarded import edge, the chain of the importer (its nodes exist), the chain of the importee
  let g1 := if skipImportEdge lim known i then g else createEdge lim g i.importer i.importee false
  have hn1 : g1.nodes = g.nodes := addImport_nodes_first lim known g i
  have hp1 : PairsNodup g1 := by
    show PairsNodup (if _ then _ else _)
    split
    · exact hg.pn
    · exact createEdge_pairsNodup lim g _ _ false hg.pn
  have hc1 : closed g1 := closed_congr hn1 hg.closed
  let g2 := (consecutive (chain i.importer)).foldl (fun g pc => createEdge lim g pc.1 pc.2 true) g1
  have hn2 : g2.nodes = g.nodes := (edgeFold_nodes lim true _ _).trans hn1
  have hshape : addImport lim known g i =
      (consecutive (chain i.importee)).foldl (fun g pc => createEdge lim g pc.1 pc.2 true) g2 := by
    unfold addImport addHierarchy
    simp only
    rw [hpar, nodeFold_of_mem lim _ g1 (fun p hp => by
      rw [hn1]; exact hg.closed _ hX _ (flatten_chain_mono lim (parent_mem_chain hp)))]
    rfl
  have hn3 : (addImport lim known g i).nodes = g.nodes := by rw [hshape, edgeFold_nodes]; exact hn2
  refine ⟨hn3, by rw [hshape]; exact edgeFold_pairsNodup lim true _ _ (edgeFold_pairsNodup lim true _ _ hp1),
    closed_congr hn3 hg.closed, fun a b f => ?_⟩
  rw [hshape, mem_chainFold lim g2 _ (edgeFold_pairsNodup lim true _ _ hp1) (closed_congr hn2 hg.closed),
    mem_chainFold lim g1 _ hp1 hc1, mem_first lim known g hg.pn, hg.edges, ← hshape, hn3, hn2, hn1]
  have hA : ∀ {P : Prop}, (writes1 lim known g i ∧ a = flattenNode lim i.importer ∧ b = flattenNode lim i.importee) →
      (b ∈ chain (flattenNode lim i.importee) → b ∈ g.nodes → P) → P := by
    rintro P ⟨⟨-, -, -, hb⟩, -, rfl⟩ h
    exact h (self_mem_chain _) hb
  have himp : Imp lim known g.nodes (done ++ [i]) a b ↔ Imp lim known g.nodes done a b ∨
      (writes1 lim known g i ∧ a = flattenNode lim i.importer ∧ b = flattenNode lim i.importee) := by
    unfold Imp writes1 writes
    constructor
    · rintro ⟨h1, h2, h3, j, hj, h6, h4, h5⟩
      rcases List.mem_append.1 hj with hj | hj
      · exact Or.inl ⟨h1, h2, h3, j, hj, h6, h4, h5⟩
      · rw [List.mem_singleton.1 hj] at h6 h4 h5
        subst h4 h5
        exact Or.inr ⟨⟨h6, h1, h2, h3⟩, rfl, rfl⟩
    · rintro (⟨h1, h2, h3, j, hj, h6, h4, h5⟩ | ⟨⟨h6, h1, h2, h3⟩, rfl, rfl⟩)
      · exact ⟨h1, h2, h3, j, List.mem_append_left _ hj, h6, h4, h5⟩
      · exact ⟨h1, h2, h3, i, by simp, h6, rfl, rfl⟩
  rw [himp]
  constructor
  · rintro (⟨⟨hp, -, hb⟩, rfl⟩ | ⟨n3, ⟨⟨hp, -, hb⟩, rfl⟩ | ⟨-, ⟨hw, rfl⟩ | ⟨-, ⟨rfl, hp, hb⟩ | ⟨rfl, hnp, hI⟩⟩⟩⟩)
    · exact Or.inl ⟨rfl, hp, hb⟩
    · exact Or.inl ⟨rfl, hp, hb⟩
    · -- on an immediate-parent pair the importee's chain would have overwritten it
      exact Or.inr ⟨rfl, fun hp => hA hw fun h1 h2 => n3 ⟨hp, h1, h2⟩, Or.inr hw⟩
    · exact Or.inl ⟨rfl, hp, hb⟩
    · exact Or.inr ⟨rfl, hnp, Or.inl hI⟩
  · rintro (⟨rfl, hp, hb⟩ | ⟨rfl, hnp, hI⟩)
    · by_cases c3 : b ∈ chain (flattenNode lim i.importee)
      · exact Or.inl ⟨⟨hp, c3, hb⟩, rfl⟩
      · refine Or.inr ⟨fun h => c3 h.2.1, ?_⟩
        by_cases c2 : b ∈ chain (flattenNode lim i.importer)
        · exact Or.inl ⟨⟨hp, c2, hb⟩, rfl⟩
        · exact Or.inr ⟨fun h => c2 h.2.1, Or.inr ⟨fun hw => hA hw fun h1 _ => c3 h1, Or.inl ⟨rfl, hp, hb⟩⟩⟩
    · refine Or.inr ⟨fun h => hnp h.1, Or.inr ⟨fun h => hnp h.1, ?_⟩⟩
      by_cases hw : writes1 lim known g i ∧ a = flattenNode lim i.importer ∧ b = flattenNode lim i.importee
      · exact Or.inl ⟨hw, rfl⟩
      · exact Or.inr ⟨hw, Or.inr ⟨rfl, hnp, hI.resolve_right hw⟩⟩

theorem imports_inv (lim : Option Nat) (known : List Str) (imps : List ImportRec) :
    ∀ (done : List ImportRec) (g : PGraph Str), Inv (Imp lim known g.nodes done) g →
      (∀ i ∈ imps, flattenNode lim i.importer ∈ g.nodes ∧ i.importeeParents = parentModules i.importee) →
      (imps.foldl (addImport lim known) g).nodes = g.nodes ∧
        Inv (Imp lim known g.nodes (done ++ imps)) (imps.foldl (addImport lim known) g) := by
  induction imps with
  | nil => intro done g hg _; exact ⟨rfl, by simpa using hg⟩
  | cons i is ih =>
    intro done g hg himp
    obtain ⟨hn, h1⟩ := step_import lim known done g i hg (himp i List.mem_cons_self).1 (himp i List.mem_cons_self).2
    rw [← hn] at h1
    obtain ⟨hn', h2⟩ := ih (done ++ [i]) _ h1 (fun j hj => by rw [hn]; exact himp j (List.mem_cons_of_mem _ hj))
    rw [List.foldl_cons, hn', hn]
    rw [hn, List.append_assoc] at h2
    exact ⟨rfl, h2⟩

/-- the nodes `buildGraph` creates for the module list -/
def NodeOf (lim : Option Nat) (mods : List Str) (s : Str) : Prop := ∃ m ∈ mods, s ∈ chain (flattenNode lim m)

theorem mem_knownModules_iff_nodeOf (mods : List Str) (s : Str) : s ∈ knownModules mods ↔ NodeOf none mods s := by
  rw [mem_knownModules]
  unfold NodeOf chain flattenNode
  simp only [List.mem_append, List.mem_singleton]
  constructor
  · rintro (h | ⟨m, hm, hp⟩)
    · exact ⟨s, h, Or.inr rfl⟩
    · exact ⟨m, hm, Or.inl hp⟩
  · rintro ⟨m, hm, hp | rfl⟩
    · exact Or.inr ⟨m, hm, hp⟩
    · exact Or.inl hm

theorem skip_iff (lim : Option Nat) (mods : List Str) (i : ImportRec) :
    skipImportEdge lim (knownModules mods) i = false ↔
      lim = none ∨ (NodeOf none mods i.importer ∧ NodeOf none mods i.importee) := by
  cases lim with
  | none => simp [skipImportEdge_none]
  | some k => simp [skipImportEdge_some, mem_knownModules_iff_nodeOf]

theorem nodeOf_flatten (lim : Option Nat) (mods : List Str) (n : Str) (h : NodeOf none mods n) :
    NodeOf lim mods (flattenNode lim n) := by
  obtain ⟨m, hm, hc⟩ := h
  exact ⟨m, hm, flatten_chain_mono lim hc⟩

theorem buildGraph_char (mods : List Str) (imps : List ImportRec) (lim : Option Nat)
    (himp : ∀ i ∈ imps, NodeOf lim mods (flattenNode lim i.importer) ∧ i.importeeParents = parentModules i.importee) :
    (∀ s, s ∈ (buildGraph mods imps lim).nodes ↔ NodeOf lim mods s) ∧
    (∀ a b, (⟨a, b, true⟩ : Edge Str) ∈ (buildGraph mods imps lim).edges ↔ hierPair a b ∧ NodeOf lim mods b) ∧
    (∀ a b, (⟨a, b, false⟩ : Edge Str) ∈ (buildGraph mods imps lim).edges ↔
      ¬ hierPair a b ∧ a ≠ b ∧ NodeOf lim mods a ∧ NodeOf lim mods b ∧
      ∃ i ∈ imps, skipImportEdge lim (knownModules mods) i = false ∧
        flattenNode lim i.importer = a ∧ flattenNode lim i.importee = b) := by
  obtain ⟨p1, p1n⟩ := modules_inv lim mods PGraph.empty Inv_empty
  have hn0 : ∀ s, s ∈ (addAllModules lim PGraph.empty mods).nodes ↔ NodeOf lim mods s := by
    intro s
    rw [p1n]
    simp [PGraph.empty, NodeOf]
  have h2 : Inv (Imp lim (knownModules mods) (addAllModules lim PGraph.empty mods).nodes [])
      (addAllModules lim PGraph.empty mods) := by
    refine ⟨p1.pn, p1.closed, fun a b f => ?_⟩
    rw [p1.edges]
    refine or_congr Iff.rfl (and_congr Iff.rfl (and_congr Iff.rfl ⟨fun h => h.elim, ?_⟩))
    rintro ⟨-, -, -, j, hj, -⟩
    cases hj
  obtain ⟨hN, h3⟩ := imports_inv lim (knownModules mods) imps [] _ h2
    (fun i hi => ⟨(hn0 _).2 (himp i hi).1, (himp i hi).2⟩)
  have hnodes : ∀ s, s ∈ (buildGraph mods imps lim).nodes ↔ NodeOf lim mods s := by
    intro s
    unfold buildGraph
    rw [hN]
    exact hn0 s
  have hE := h3.edges
  simp only [List.nil_append, ← hN] at hE
  refine ⟨hnodes, fun a b => ?_, fun a b => ?_⟩
  · rw [← hnodes]
    unfold buildGraph
    rw [hE]
    simp
  · simp only [← hnodes]
    unfold buildGraph
    rw [hE]
    simp [Imp]

/-- records of known modules: every importer is a node of the graph built without a limit, every parent list the one
    of an `AbsoluteImport` (true of scans and of architectures) -/
def KnownRecs (mods : List Str) (imps : List ImportRec) : Prop :=
  ∀ i ∈ imps, NodeOf none mods i.importer ∧ i.importeeParents = parentModules i.importee

theorem buildGraph_known (mods : List Str) (imps : List ImportRec) (lim : Option Nat)
    (h0 : KnownRecs mods imps) :
    (∀ s, s ∈ (buildGraph mods imps lim).nodes ↔ NodeOf lim mods s) ∧
    (∀ a b, (⟨a, b, true⟩ : Edge Str) ∈ (buildGraph mods imps lim).edges ↔ hierPair a b ∧ NodeOf lim mods b) ∧
    (∀ a b, (⟨a, b, false⟩ : Edge Str) ∈ (buildGraph mods imps lim).edges ↔
      ¬ hierPair a b ∧ a ≠ b ∧
      ∃ i ∈ imps, NodeOf none mods i.importee ∧ flattenNode lim i.importer = a ∧ flattenNode lim i.importee = b) := by
  obtain ⟨hn, ht, hf⟩ := buildGraph_char mods imps lim
    (fun i hi => ⟨nodeOf_flatten lim mods _ (h0 i hi).1, (h0 i hi).2⟩)
  refine ⟨hn, ht, fun a b => ?_⟩
  rw [hf]
  constructor
  · rintro ⟨h1, h2, -, hb, i, hi, hsk, rfl, rfl⟩
    refine ⟨h1, h2, i, hi, ?_, rfl, rfl⟩
    rcases (skip_iff lim mods i).1 hsk with rfl | h
    · exact hb
    · exact h.2
  · rintro ⟨h1, h2, i, hi, hy, rfl, rfl⟩
    exact ⟨h1, h2, nodeOf_flatten lim mods _ (h0 i hi).1, nodeOf_flatten lim mods _ hy, i, hi,
      (skip_iff lim mods i).2 (Or.inr ⟨(h0 i hi).1, hy⟩), rfl, rfl⟩

theorem buildGraph_edge_nodes (mods : List Str) (imps : List ImportRec) (lim : Option Nat)
    (h0 : KnownRecs mods imps) :
    ∀ x ∈ (buildGraph mods imps lim).edges,
      x.src ∈ (buildGraph mods imps lim).nodes ∧ x.dst ∈ (buildGraph mods imps lim).nodes := by
  obtain ⟨n1, t1, f1⟩ := buildGraph_known mods imps lim h0
  rintro ⟨a, b, inh⟩ hx
  cases inh with
  | true =>
    obtain ⟨hp, m, hm, hbm⟩ := (t1 a b).1 hx
    exact ⟨(n1 a).2 ⟨m, hm, hierPair_chain hp hbm⟩, (n1 b).2 ⟨m, hm, hbm⟩⟩
  | false =>
    obtain ⟨-, -, i, hi, hy, rfl, rfl⟩ := (f1 a b).1 hx
    exact ⟨(n1 _).2 (nodeOf_flatten lim mods _ (h0 i hi).1), (n1 _).2 (nodeOf_flatten lim mods _ hy)⟩

theorem buildGraph_nodup (mods : List Str) (imports : List ImportRec) (lim : Option Nat) :
    (buildGraph mods imports lim).nodes.Nodup :=
  buildGraph_induction (fun g => g.nodes.Nodup) List.nodup_nil createNode_nodup
    (fun lim g s e inh h => by rw [createEdge_nodes]; exact h) mods imports lim

theorem buildGraph_pairsNodup (mods : List Str) (imps : List ImportRec) (lim : Option Nat) :
    PairsNodup (buildGraph mods imps lim) :=
  buildGraph_induction PairsNodup List.nodup_nil
    (fun lim g n h => by unfold PairsNodup; rw [createNode_edges]; exact h) createEdge_pairsNodup mods imps lim

theorem pairs_nodup {g : PGraph Str} (h : PairsNodup g) (p : Edge Str → Bool) :
    ((g.edges.filter p).map (fun e => (e.src, e.dst))).Nodup :=
  List.Nodup.sublist (List.filter_sublist.map _) h

end ExtBuild

namespace BuildCond
open BuildGen

theorem addImport_nodes (lim : Option Nat) (known : List Str) (g : PGraph Str) (i : ImportRec) (s : Str) :
    s ∈ (addImport lim known g i).nodes ↔ s ∈ g.nodes ∨ ∃ p ∈ parentModules i.importer, s = flattenNode lim p := by
  unfold addImport
  simp only []
  rw [edgeFold_nodes, addHierarchy_nodes, addImport_nodes_first]

end BuildCond
end Pta
