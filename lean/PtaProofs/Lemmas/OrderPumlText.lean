/-
  PtaProofs.Lemmas.OrderPumlText —
  the order of the diagram lines is irrelevant for `pumlParse`, including the alias check of the repaired parser: here for
  the per-line results, on top of the description of the aggregate in Lemmas/PumlAgg.lean; the statements for whole files
  are proved in Props/C15.lean.
-/
import Bridge.OrderDefs
import PtaProofs.Lemmas.PumlRoundtrip
import PtaProofs.Lemmas.PumlAgg
import PtaProofs.Lemmas.DiagramE2E
namespace Pta.OrdD
open Pta.Ord

/-- `hc`: no alias is declared for two names, so both orders unify with the same map, through which `pumlAgg_spec`
    describes modules and dependencies -/
theorem aggregate_perm (modules modules' : List PModule) (rawDeps rawDeps' : List (Str × Str))
    (hm : modules.Perm modules') (hd : rawDeps.Perm rawDeps') (hc : aliasesConsistent modules = true) :
    (∀ x, x ∈ (pumlAggregate modules rawDeps).modules ↔ x ∈ (pumlAggregate modules' rawDeps').modules) ∧
    (∀ k v, (pumlAggregate modules rawDeps).hasDep k v = (pumlAggregate modules' rawDeps').hasDep k v) := by
  obtain ⟨ok1, -, d1, m1⟩ := pumlAgg_spec modules rawDeps
  obtain ⟨ok2, -, d2, m2⟩ := pumlAgg_spec modules' rawDeps'
  have hu : unifyWith (modules'.filterMap fun m => m.alias.map fun a => (a, m.name)) =
      unifyWith (modules.filterMap fun m => m.alias.map fun a => (a, m.name)) :=
    funext fun x => (lookup_congr unifyWith unifyWith_hit unifyWith_miss _ _ (SM.of_perm (hm.filterMap _))
      ((aliasesConsistent_eq_functionalTbl modules).symm.trans hc) x).symm
  have e1 : pumlAggregate modules rawDeps = pumlAgg modules rawDeps := rfl
  have e2 : pumlAggregate modules' rawDeps' = pumlAgg modules' rawDeps' := rfl
  rw [e1, e2]
  constructor
  · intro x
    rw [m1, m2, hu]
    simp only [(SM.of_perm hm).exists_congr, hd.mem_iff]
  · intro k v
    rw [Bool.eq_iff_iff, E2E.hasDep_iff_depsOf _ ok1.1, E2E.hasDep_iff_depsOf _ ok2.1, d1, d2, hu]
    simp only [hd.mem_iff]

/-- the alias check of `_get_modules_by_alias` looks at the SET of declarations only -/
theorem aliasesConsistent_congr {modules modules' : List PModule} (h : ∀ m, m ∈ modules ↔ m ∈ modules') :
    aliasesConsistent modules = aliasesConsistent modules' := by
  unfold aliasesConsistent
  simp only [all_congr h]

end Pta.OrdD

namespace Pta

theorem alias_check_perm_lemma (modules modules' : List PModule) (hm : modules.Perm modules') :
    aliasesConsistent modules = aliasesConsistent modules' := OrdD.aliasesConsistent_congr fun _ => hm.mem_iff

end Pta

namespace Pta.OrdD

/-- `_unify` (alias check, then aggregation): no side condition, an alias declared for two names is rejected in both orders -/
theorem unify_perm (modules modules' : List PModule) (rawDeps rawDeps' : List (Str × Str))
    (hm : modules.Perm modules') (hd : rawDeps.Perm rawDeps') :
    SameDiagram (pumlUnify modules rawDeps) (pumlUnify modules' rawDeps') := by
  have hcc := alias_check_perm_lemma _ _ hm
  unfold pumlUnify
  cases hc : aliasesConsistent modules with
  | true =>
    rw [← hcc, hc]
    exact aggregate_perm modules modules' rawDeps rawDeps' hm hd hc
  | false =>
    rw [← hcc, hc]
    exact ⟨rfl, rfl⟩

theorem eq_error_of_check (x : Except ErrKind Parsed') (h : isParsingError x = true) : x = .error .pumlParsingError := by
  cases x with
  | ok p => cases h
  | error e => cases e <;> first | rfl | cases h

end Pta.OrdD
