/-
  PtaProofs.Lemmas.ScanWalk — the directory walk (`parseWalk`, PtaModel/Scan.lean) visits exactly the surviving
  entries, each once (property C04: the modules and files of the walk). The walk is read as the list of entries it visits (`walkList`,
  `parseWalk_eq`). The specification's view (`survives`, `entryName`) is in ScanSpec.
-/
import Bridge.Abs
import Bridge.ScanTree
import PtaProofs.Lemmas.FlatTree
namespace Pta
namespace ScanWalk

/-! ### unpacking the Bool-valued tree predicates -/

theorem relsNodup_pairwise : ∀ (entries : List Entry), relsNodup entries = true →
    entries.Pairwise fun d d' => d.rel ≠ d'.rel
  | [], _ => List.Pairwise.nil
  | e :: es, h => by
    simp only [relsNodup, Bool.and_eq_true, Bool.not_eq_true', List.any_eq_false, beq_iff_eq] at h
    refine List.Pairwise.cons ?_ (relsNodup_pairwise es h.2)
    intro d hd heq
    exact absurd heq.symm (by simpa using h.1 d hd)

/-- what `treeShape entries = true` (Bridge/ScanTree.lean) gives the walk, as propositions: the listing — the paths
    below `root_path`, the root directory itself not listed — is a directory tree. A path names one entry (`inj`; `pw` is
    the pairwise form `walk_pairwise` consumes), no path is empty (`ne`), and an entry below the first level has its parent
    listed as a directory (`parent`; the parent of a first-level entry is the root). -/
structure Shape (entries : List Entry) : Prop where
  inj : ∀ d ∈ entries, ∀ d' ∈ entries, d.rel = d'.rel → d = d'
  pw : entries.Pairwise fun d d' => d.rel ≠ d'.rel
  ne : ∀ e ∈ entries, e.rel ≠ []
  parent : ∀ e ∈ entries, 2 ≤ e.rel.length → ∃ d ∈ entries, d.isDir = true ∧ d.rel = e.rel.dropLast

theorem shape_of (entries : List Entry) (h : treeShape entries = true) : Shape entries := by
  simp only [treeShape, Bool.and_eq_true, List.all_eq_true, Bool.not_eq_true', Bool.or_eq_true, beq_iff_eq,
    List.any_eq_true, List.isEmpty_eq_false_iff] at h
  have pw := relsNodup_pairwise entries h.1
  refine ⟨FlatTree.pairwise_inj pw, pw, fun e he => (h.2 e he).1, ?_⟩
  intro e he hl
  rcases (h.2 e he).2 with h1 | ⟨d, hd, hdir, hrel⟩
  · omega
  · exact ⟨d, hd, hdir, hrel⟩

theorem Shape.parent_root {entries : List Entry} (s : Shape entries) (e : Entry) (he : e ∈ rootEntry :: entries)
    (hne : e.rel ≠ []) : ∃ d ∈ rootEntry :: entries, d.isDir = true ∧ d.rel = e.rel.dropLast := by
  rcases List.mem_cons.1 he with rfl | he
  · exact absurd rfl hne
  · by_cases h2 : 2 ≤ e.rel.length
    · obtain ⟨d, hd, h⟩ := s.parent e he h2
      exact ⟨d, List.mem_cons_of_mem _ hd, h⟩
    · refine ⟨rootEntry, List.mem_cons_self, rfl, (List.length_eq_zero_iff.1 ?_).symm⟩
      rw [List.length_dropLast]; omega

theorem prefix_root {entries : List Entry} (s : Shape entries) (d : Entry) (hd : d ∈ rootEntry :: entries)
    (p : List Str) (hpre : p <+: d.rel) (hne : p ≠ d.rel) : ∃ c ∈ rootEntry :: entries, c.isDir = true ∧ c.rel = p :=
  FlatTree.prefix_closed (D := fun c => c.isDir = true) s.parent_root d hd p hpre hne

theorem prefix_dir {entries : List Entry} (s : Shape entries) (d : Entry) (hd : d ∈ entries) (p : List Str)
    (hp : p ≠ []) (hpre : p <+: d.rel) (hne : p ≠ d.rel) : ∃ c ∈ entries, c.isDir = true ∧ c.rel = p := by
  obtain ⟨c, hc, hcd, hcr⟩ := prefix_root s d (List.mem_cons_of_mem _ hd) p hpre hne
  rcases List.mem_cons.1 hc with rfl | hc
  · exact absurd hcr.symm hp
  · exact ⟨c, hc, hcd, hcr⟩

theorem prefix_isDir {entries : List Entry} (s : Shape entries) {c d : Entry} (hc : c ∈ entries) (hd : d ∈ entries)
    (hpre : c.rel <+: d.rel) (hne : c.rel ≠ d.rel) : c.isDir = true := by
  obtain ⟨c', hc', hcd, hcr⟩ := prefix_dir s d hd c.rel (s.ne c hc) hpre hne
  rw [← s.inj c' hc' c hc hcr]; exact hcd

theorem le_maxDepth (entries : List Entry) (e : Entry) (he : e ∈ entries) : e.rel.length ≤ maxDepth entries := by
  rw [maxDepth, ← List.foldl_map (f := fun e : Entry => e.rel.length) (g := max), List.foldl_max]
  exact Nat.le_trans (List.le_max?_getD_of_mem (List.mem_map_of_mem (f := fun e : Entry => e.rel.length) he))
    (Nat.le_max_right _ _)

/-- the entries `parseWalk` registers, in visiting order -/
def walkList (excl : Str → Bool) (base : Str) (entries : List Entry) : Nat → Entry → List Entry
  | 0, _ => []
  | fuel + 1, e =>
    if dirOrPy e && !excl (pathStr base e.rel) then
      e :: (if e.isDir then (childrenOf entries e.rel).flatMap fun c => walkList excl base entries fuel c else [])
    else []

theorem foldl_append (f : Entry → Parsed) (l : List Entry) (init : Parsed) :
    l.foldl (fun acc c => acc.append (f c)) init =
      ⟨init.allModules ++ l.flatMap (fun c => (f c).allModules), init.files ++ l.flatMap (fun c => (f c).files)⟩ := by
  induction l generalizing init with
  | nil => simp
  | cons x xs ih =>
    rw [List.foldl_cons, ih]
    simp [Parsed.append, List.append_assoc]

theorem parseWalk_eq (excl : Str → Bool) (base root : Str) (entries : List Entry) :
    ∀ fuel e, parseWalk excl base root entries fuel e =
      ⟨(walkList excl base entries fuel e).map fun d => moduleName root d.rel,
       ((walkList excl base entries fuel e).filter fun d => !d.isDir).map fun d => (moduleName root d.rel, d.stmts)⟩ := by
  intro fuel
  induction fuel with
  | zero => intro e; rfl
  | succ fuel ih =>
    intro e
    rw [parseWalk, walkList]
    cases hd : e.isDir with
    | true =>
      cases hx : excl (pathStr base e.rel) with
      | true => simp [dirOrPy, hd]
      | false =>
        rw [foldl_append]
        simp [dirOrPy, hd, ih, List.map_flatMap, List.filter_flatMap]
    | false =>
      simp only [dirOrPy, lastName, hd, Bool.false_or, Bool.false_eq_true, if_false]
      cases e.rel.getLast? with
      | none => rfl
      | some name =>
        simp only []
        split <;> simp [hd]

theorem mem_childrenOf (entries : List Entry) (p : List Str) (c : Entry) :
    c ∈ childrenOf entries p ↔ c ∈ entries ∧ c.rel.length = p.length + 1 ∧ c.rel.take p.length = p := by
  simp [childrenOf, List.mem_filter]

theorem child_prefix {entries : List Entry} {p : List Str} {c : Entry} (h : c ∈ childrenOf entries p) : p <+: c.rel := by
  have := ((mem_childrenOf entries p c).1 h).2.2
  rw [← this]
  exact List.take_prefix _ _

variable (excl : Str → Bool) (base : Str)

theorem dirOrPy_iff (e : Entry) :
    dirOrPy e = true ↔ (e.isDir = true ∨ ∃ name, e.rel.getLast? = some name ∧ isPyFile name = true) := by
  unfold dirOrPy lastName
  cases e.isDir
  · cases e.rel.getLast? with
    | none => simp [show isPyFile [] = false by decide]
    | some name => simp
  · simp

theorem survives_self (e : Entry) (hd : dirOrPy e = true)
    (hx : excl (pathStr base e.rel) = false) : Survives excl base e.rel e := by
  refine ⟨List.prefix_refl _, (dirOrPy_iff e).1 hd, fun k h1 h2 => ?_⟩
  rw [Nat.le_antisymm h2 h1, List.take_length]
  exact hx

theorem survives_excl {mp : List Str} {d : Entry} (h : Survives excl base mp d) : excl (pathStr base mp) = false := by
  have := h.2.2 mp.length (Nat.le_refl _) h.1.length_le
  rwa [← List.prefix_iff_eq_take.1 h.1] at this

theorem survives_dirOrPy {mp : List Str} {d : Entry} (h : Survives excl base mp d) : dirOrPy d = true :=
  (dirOrPy_iff d).2 h.2.1

theorem survives_mono {p q : List Str} {d : Entry} (hpq : p <+: q) (hq : Survives excl base q d)
    (hx : ∀ k, p.length ≤ k → k < q.length → excl (pathStr base (q.take k)) = false) : Survives excl base p d := by
  refine ⟨hpq.trans hq.1, hq.2.1, ?_⟩
  intro k h1 h2
  rcases Nat.lt_or_ge k q.length with hk | hk
  · have : d.rel.take k = q.take k := by
      obtain ⟨t, ht⟩ := hq.1
      rw [← ht, List.take_append_of_le_length (Nat.le_of_lt hk)]
    rw [this]; exact hx k h1 hk
  · exact hq.2.2 k hk h2

theorem survives_restrict {p q : List Str} {d : Entry} (hp : Survives excl base p d) (hqd : q <+: d.rel)
    (hpq : p.length ≤ q.length) : Survives excl base q d :=
  ⟨hqd, hp.2.1, fun k h1 h2 => hp.2.2 k (Nat.le_trans hpq h1) h2⟩

theorem survives_child_iff {entries : List Entry} (s : Shape entries) {p : List Str} {d : Entry} (hd : d ∈ entries)
    (hx : excl (pathStr base p) = false) :
    (∃ c ∈ childrenOf entries p, Survives excl base c.rel d) ↔ Survives excl base p d ∧ d.rel ≠ p := by
  constructor
  · rintro ⟨c, hc, hS⟩
    obtain ⟨-, hcl, hct⟩ := (mem_childrenOf entries p c).1 hc
    refine ⟨survives_mono excl base (child_prefix hc) hS fun k h1 h2 => ?_, fun heq => ?_⟩
    · rw [show k = p.length by omega, hct]; exact hx
    · have := hS.1.length_le
      rw [heq] at this
      omega
  · rintro ⟨hS, hne⟩
    have hlt : p.length < d.rel.length :=
      Nat.lt_of_le_of_ne hS.1.length_le fun h => hne (hS.1.eq_of_length h).symm
    -- the child of `p` on the way to `d`
    have hc : ∃ c ∈ entries, c.rel = d.rel.take (p.length + 1) := by
      by_cases hk : d.rel.take (p.length + 1) = d.rel
      · exact ⟨d, hd, hk.symm⟩
      · have hne' : d.rel.take (p.length + 1) ≠ [] := fun h => by
          have := congrArg List.length h
          rw [List.length_take, List.length_nil] at this
          omega
        obtain ⟨c, hc, -, hcr⟩ := prefix_dir s d hd _ hne' (List.take_prefix _ _) hk
        exact ⟨c, hc, hcr⟩
    obtain ⟨c, hce, hcr⟩ := hc
    have hcl : c.rel.length = p.length + 1 := by rw [hcr, List.length_take]; omega
    refine ⟨c, (mem_childrenOf entries p c).2 ⟨hce, hcl, ?_⟩,
      survives_restrict excl base hS (hcr ▸ List.take_prefix _ _) (by omega)⟩
    rw [hcr, List.take_take, Nat.min_eq_left (by omega)]
    exact (List.prefix_iff_eq_take.1 hS.1).symm

/-- one step of the walk, from a listed entry or from (a copy of) a directory, given what the walk does from the
    children -/
theorem mem_walk_step {entries : List Entry} (s : Shape entries) (e : Entry) (hn : e ∈ entries ∨ e.isDir = true)
    (fuel : Nat)
    (ih : ∀ c ∈ childrenOf entries e.rel, ∀ d, d ∈ walkList excl base entries fuel c ↔
      d ∈ entries ∧ Survives excl base c.rel d) (d : Entry) :
    d ∈ walkList excl base entries (fuel + 1) e ↔
      (d = e ∨ (d ∈ entries ∧ d.rel ≠ e.rel)) ∧ Survives excl base e.rel d := by
  have hdir : ∀ d ∈ entries, e.rel <+: d.rel → d.rel ≠ e.rel → e.isDir = true := fun d hd hp hne =>
    hn.elim (fun he => prefix_isDir s he hd hp (Ne.symm hne)) id
  rw [walkList]
  by_cases hk : (dirOrPy e && !excl (pathStr base e.rel)) = true
  · rw [if_pos hk]
    simp only [Bool.and_eq_true, Bool.not_eq_true'] at hk
    constructor
    · intro h
      rcases List.mem_cons.1 h with rfl | h
      · exact ⟨Or.inl rfl, survives_self excl base d hk.1 hk.2⟩
      · split at h
        · obtain ⟨c, hc, hdc⟩ := List.mem_flatMap.1 h
          obtain ⟨hde, hS⟩ := (ih c hc d).1 hdc
          obtain ⟨hSe, hne⟩ := (survives_child_iff excl base s hde hk.2).1 ⟨c, hc, hS⟩
          exact ⟨Or.inr ⟨hde, hne⟩, hSe⟩
        · cases h
    · rintro ⟨rfl | ⟨hde, hne⟩, hS⟩
      · exact List.mem_cons_self
      · rw [hdir d hde hS.1 hne, if_pos rfl]
        obtain ⟨c, hc, hcS⟩ := (survives_child_iff excl base s hde hk.2).2 ⟨hS, hne⟩
        exact List.mem_cons_of_mem _ (List.mem_flatMap.2 ⟨c, hc, (ih c hc d).2 ⟨hde, hcS⟩⟩)
  · rw [if_neg hk]
    simp only [List.not_mem_nil, false_iff]
    rintro ⟨h1, hS⟩
    apply hk
    have hdp : dirOrPy e = true := by
      rcases h1 with rfl | ⟨hde, hne⟩
      · exact survives_dirOrPy excl base hS
      · simp [dirOrPy, hdir d hde hS.1 hne]
    simp [hdp, survives_excl excl base hS]

theorem mem_walkList {entries : List Entry} (s : Shape entries) :
    ∀ fuel, ∀ e ∈ entries, maxDepth entries + 1 ≤ fuel + e.rel.length →
      ∀ d, d ∈ walkList excl base entries fuel e ↔ d ∈ entries ∧ Survives excl base e.rel d := by
  intro fuel
  induction fuel with
  | zero =>
    intro e he hf
    have := le_maxDepth entries e he
    omega
  | succ fuel ih =>
    intro e he hf d
    rw [mem_walk_step excl base s e (Or.inl he) fuel fun c hc =>
      ih c ((mem_childrenOf entries e.rel c).1 hc).1 (by have := ((mem_childrenOf entries e.rel c).1 hc).2.1; omega)]
    constructor
    · rintro ⟨rfl | ⟨hde, -⟩, hS⟩
      · exact ⟨he, hS⟩
      · exact ⟨hde, hS⟩
    · rintro ⟨hde, hS⟩
      refine ⟨?_, hS⟩
      by_cases heq : d.rel = e.rel
      · exact Or.inl (s.inj d hde e he heq)
      · exact Or.inr ⟨hde, heq⟩

theorem walk_prefix (entries : List Entry) : ∀ fuel e d, d ∈ walkList excl base entries fuel e → e.rel <+: d.rel := by
  intro fuel
  induction fuel with
  | zero => intro e d h; cases h
  | succ fuel ih =>
    intro e d h
    rw [walkList] at h
    split at h
    · rcases List.mem_cons.1 h with rfl | h
      · exact List.prefix_refl _
      · split at h
        · obtain ⟨c, hc, hdc⟩ := List.mem_flatMap.1 h
          exact (child_prefix hc).trans (ih c d hdc)
        · cases h
    · cases h

theorem walk_pairwise {entries : List Entry} (pw : entries.Pairwise fun d d' => d.rel ≠ d'.rel) :
    ∀ fuel e, (walkList excl base entries fuel e).Pairwise fun d d' => d.rel ≠ d'.rel := by
  intro fuel
  induction fuel with
  | zero => intro e; exact List.Pairwise.nil
  | succ fuel ih =>
    intro e
    rw [walkList]
    split
    · split
      · refine List.Pairwise.cons ?_ ?_
        · intro d hd heq
          obtain ⟨c, hc, hdc⟩ := List.mem_flatMap.1 hd
          have h1 := (walk_prefix excl base entries fuel c d hdc).length_le
          have h2 := ((mem_childrenOf entries e.rel c).1 hc).2.1
          rw [← heq] at h1
          omega
        · rw [List.pairwise_flatMap]
          refine ⟨fun c _ => ih c, ?_⟩
          have hsub : (childrenOf entries e.rel).Pairwise fun d d' => d.rel ≠ d'.rel :=
            List.Pairwise.sublist List.filter_sublist pw
          refine List.Pairwise.imp_of_mem ?_ hsub
          intro c1 c2 h1 h2 hne x hx y hy heq
          have p1 := walk_prefix excl base entries fuel c1 x hx
          have p2 := walk_prefix excl base entries fuel c2 y hy
          rw [heq] at p1
          have l1 := ((mem_childrenOf entries e.rel c1).1 h1).2.1
          have l2 := ((mem_childrenOf entries e.rel c2).1 h2).2.1
          have := List.prefix_of_prefix_length_le p1 p2 (by omega)
          exact hne (this.eq_of_length (by omega))
      · exact List.pairwise_singleton _ _
    · exact List.Pairwise.nil

/-! ### a listed root entry (empty relative path) is ignored by the model -/

theorem childrenOf_root (r : Entry) (hr : r.rel = []) (entries : List Entry) (p : List Str) :
    childrenOf (r :: entries) p = childrenOf entries p := by
  simp [childrenOf, hr]

theorem parseWalk_root (root : Str) (r : Entry) (hr : r.rel = []) (entries : List Entry) :
    ∀ fuel e, parseWalk excl base root (r :: entries) fuel e = parseWalk excl base root entries fuel e := by
  intro fuel
  induction fuel with
  | zero => intro e; rfl
  | succ fuel ih =>
    intro e
    rw [parseWalk, parseWalk, childrenOf_root r hr]
    have : (fun (acc : Parsed) c => acc.append (parseWalk excl base root (r :: entries) fuel c)) =
        (fun (acc : Parsed) c => acc.append (parseWalk excl base root entries fuel c)) := by
      funext acc c; rw [ih]
    rw [this]

theorem maxDepth_root (r : Entry) (hr : r.rel = []) (entries : List Entry) :
    maxDepth (r :: entries) = maxDepth entries := by
  simp [maxDepth, hr]

-- not about the root entry: without a level limit none is handed to the constructor (used by the scan lemmas downstream)
theorem shiftedLimit_none (o : ScanOptions) (mp : List Str) (h : o.levelLimit = none) : shiftedLimit o mp = none := by
  unfold shiftedLimit; rw [h]; rfl

theorem scanParsed_root (mt : Str → Str → Bool) (root : Str) (mp : List Str) (r : Entry) (hr : r.rel = [])
    (entries : List Entry) (o : ScanOptions) :
    scanParsed mt base root mp (r :: entries) o = scanParsed mt base root mp entries o := by
  unfold scanParsed
  rw [maxDepth_root r hr, parseWalk_root _ base root r hr]

theorem generateGraph_root (mt : Str → Str → Bool) (root : Str) (mp : List Str) (r : Entry) (hr : r.rel = [])
    (entries : List Entry) (o : ScanOptions) :
    generateGraph mt base root mp (r :: entries) o = generateGraph mt base root mp entries o := by
  unfold generateGraph
  rw [scanParsed_root base mt root mp r hr]

end ScanWalk
end Pta
