/-
  PtaProofs.Lemmas.RuleHist — Rule call histories: the model run against the specification classification.
-/
import PtaProofs.Lemmas.RuleSim
import PtaProofs.Lemmas.QueryErr
namespace Pta.Hist
open PtaSpec

theorem ite_ne {α : Type} {c : Prop} [Decidable c] {a b x : α} (ha : a ≠ x) (hb : b ≠ x) :
    (if c then a else b) ≠ x := by
  split <;> assumption

theorem classify_ne_errorAt (t : RTrack) (j : Nat) : t.classify ≠ .errorAtCall j :=
  ite_ne nofun (ite_ne nofun (ite_ne nofun (ite_ne nofun (ite_ne nofun nofun))))

/-- the run raises at the call where the automaton gets stuck, or reaches `assert_applies` (as call `i + ops.length`) on an
    object that still simulates the automaton's final state -/
theorem go_sim (glob : Str → Str) (mt : Str → Str → Bool) (g : PGraph Str) (ops : List RuleOp)
    (s : RuleState) (t : RTrack) (i : Nat) (h : RSim s t) :
    (∃ j, classifyRuleFrom t i (ops.map toRCall) = .errorAtCall j ∧
        runRuleOps.go glob mt g s i ops = (.err .improperlyConfigured, j)) ∨
    (∃ s' t', RSim s' t' ∧ classifyRuleFrom t i (ops.map toRCall) = t'.classify ∧
        runRuleOps.go glob mt g s i ops = ((assertApplies mt s' g).2, i + ops.length)) := by
  induction ops generalizing s t i with
  | nil => exact .inr ⟨s, t, h, rfl, rfl⟩
  | cons op rest ih =>
    have hs := rsim_step glob s t op h
    simp only [List.map_cons, classifyRuleFrom, runRuleOps.go, List.length_cons]
    cases ht : t.step (toRCall op) with
    | none =>
      rw [ht] at hs
      simp only [hs]
      exact .inl ⟨i, rfl, rfl⟩
    | some t' =>
      rw [ht] at hs
      obtain ⟨s', hs', hsim⟩ := hs
      simp only [hs']
      rw [show i + (rest.length + 1) = (i + 1) + rest.length by omega]
      exact ih s' t' (i + 1) hsim

theorem run_sim (glob : Str → Str) (mt : Str → Str → Bool) (ops : List RuleOp) (g : PGraph Str) :
    (∃ j, classifyRule (ops.map toRCall) = .errorAtCall j ∧
        runRuleOps glob mt ops g = (.err .improperlyConfigured, j)) ∨
    (∃ s' t', RSim s' t' ∧ classifyRule (ops.map toRCall) = t'.classify ∧
        runRuleOps glob mt ops g = ((assertApplies mt s' g).2, ops.length)) :=
  Nat.zero_add ops.length ▸ go_sim glob mt g ops {} {} 0 rsim_init

/-- a configuration the pre-checks reject never gets through the front end, whichever `assert_applies` runs it -/
theorem front_preFail (mt : Str → Str → Bool) (g : PGraph Str) (c : RuleConfig) (h : preFail c = true) :
    ∃ k, front mt g c = .error k := by
  rcases front_cases mt g c with ⟨_, hf⟩ | ⟨_, k, _, hf⟩ | ⟨h0, d, ss, os, ⟨h1, -, h3, -⟩, _⟩
  · exact ⟨_, hf⟩
  · exact ⟨k, hf⟩
  · rw [preFail, h0, h1, h3] at h
    cases h

theorem front_not_preFail (mt : Str → Str → Bool) (g : PGraph Str) (c : RuleConfig) (h : preFail c = false) (k : ErrKind)
    (hk : front mt g c = .error k) : k = .impossibleMatch ∨ k = .lookupError := by
  unfold preFail at h
  simp only [Bool.or_eq_false_iff] at h
  obtain ⟨h1, h2, h3⟩ := h
  rcases front_cases mt g c with ⟨h0, _⟩ | ⟨_, k', hg, hf⟩ | ⟨_, d, ss, os, _, hf⟩
  · rw [h1] at h0; cases h0
  · cases hf.symm.trans hk
    -- the check on the dropped subjects is the only one left to fail
    have := (gate_error_iff g _ _).1 hg
    rw [h2, h3, if_neg Bool.false_ne_true] at this
    split at this
    · exact .inr this
    · cases this.1
  · exact queries_error_kind mt g _ d ss os k (hf.symm.trans hk)

end Pta.Hist
