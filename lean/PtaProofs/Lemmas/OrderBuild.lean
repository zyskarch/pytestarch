/-
  PtaProofs.Lemmas.OrderBuild —
  the graph constructor on ARBITRARY inputs (raw strings, external modules, import ends that are not nodes) depends on its
  two lists only as SETS, provided every importer is a listed module and every import carries the parents of its importee
  (which is how `absImport` builds them). Both are read off the characterisation of `buildGraph` in Lemmas/ExtBuild.lean:
  under the second condition the hierarchy flag always wins a collision, because the import's own importee chain rewrites
  the hierarchy edge right after the import edge was written. Without it the last write wins and the result depends on the
  order (counterexample in Props/C15.lean).

  `par` … `modules_exact` state the module phase on its own, in the vocabulary "dotted parent of a string":
    nodes  = flattened modules and their flattened dotted prefixes,
    edges  = ⟨par e, e, true⟩ for every node e with at least two components.
-/
import Bridge.Abs
import PtaProofs.Lemmas.ExtBuild
import PtaProofs.Lemmas.BuildScan
import PtaProofs.Lemmas.SameMembers
namespace Pta.OrdB
open BuildGen ExtNames ExtBuild

def par (e : Str) : Str := joinDots (splitDots e).dropLast
def isCh (e : Str) : Prop := 2 ≤ (splitDots e).length

def Fn (g : PGraph Str) : Prop := ∀ x ∈ g.edges, ∀ y ∈ g.edges, x.src = y.src → x.dst = y.dst → x = y

section
variable (lim : Option Nat)

def NS (mods : List Str) (s : Str) : Prop := ∃ m ∈ mods, ∃ p ∈ parentModules m ++ [m], s = flattenNode lim p

def HS (mods : List Str) (s e : Str) : Prop := NS lim mods e ∧ isCh e ∧ s = par e

theorem NS_iff (mods : List Str) (s : Str) : NS lim mods s ↔ NodeOf lim mods s := by
  refine exists_congr fun m => and_congr_right fun _ => ?_
  rw [← flatten_nodes_iff]
  simp only [List.mem_append, List.mem_singleton, or_and_right, exists_or, exists_eq_left]
  exact or_comm

def ExM (g : PGraph Str) (D : List Str) : Prop :=
  Fn g ∧ (∀ s, s ∈ g.nodes ↔ NS lim D s) ∧ ∀ x, x ∈ g.edges ↔ x.inh = true ∧ HS lim D x.src x.dst

theorem modules_exact (mods : List Str) : ExM lim (addAllModules lim PGraph.empty mods) mods := by
  obtain ⟨hinv, hn⟩ := modules_inv lim mods PGraph.empty Inv_empty
  have hnodes : ∀ s, s ∈ (addAllModules lim PGraph.empty mods).nodes ↔ NS lim mods s := by
    intro s
    rw [hn, NS_iff]
    simp [PGraph.empty, NodeOf]
  refine ⟨fun x hx y hy h1 h2 => FlatTree.pairwise_inj (List.pairwise_map.1 hinv.pn) x hx y hy (Prod.ext h1 h2), hnodes, ?_⟩
  rintro ⟨a, b, f⟩
  rw [hinv.edges]
  unfold HS
  rw [← hnodes, hierPair_iff_parent]
  simp only [and_false, or_false]
  exact and_congr_right fun _ => and_comm

end

theorem nodeOf_congr (lim : Option Nat) {mods mods' : List Str} (h : ∀ x, x ∈ mods ↔ x ∈ mods') (s : Str) :
    NodeOf lim mods s ↔ NodeOf lim mods' s :=
  exists_congr fun m => and_congr_left fun _ => h m

theorem graphEquiv_of_mem {g g' : PGraph Str} (hn : ∀ s, s ∈ g.nodes ↔ s ∈ g'.nodes)
    (he : ∀ x, x ∈ g.edges ↔ x ∈ g'.edges) : GraphEquiv g g' := by
  refine ⟨hn, ?_, ?_, ?_⟩
  · intro s x; rw [BuildGen.mem_hierChildren, BuildGen.mem_hierChildren, he]
  · intro s x; rw [BuildGen.mem_importSuccs, BuildGen.mem_importSuccs, he]
  · intro s x; rw [BuildGen.mem_importPreds, BuildGen.mem_importPreds, he]

theorem buildGraph_equiv (lim : Option Nat) (mods mods' : List Str) (imps imps' : List ImportRec)
    (hm : ∀ x, x ∈ mods ↔ x ∈ mods') (hi : ∀ x, x ∈ imps ↔ x ∈ imps')
    (h1 : ∀ i ∈ imps, i.importer ∈ mods) (h2 : ∀ i ∈ imps, i.importeeParents = parentModules i.importee) :
    GraphEquiv (buildGraph mods imps lim) (buildGraph mods' imps' lim) := by
  obtain ⟨n, t, f⟩ := buildGraph_char mods imps lim
    fun i hi' => ⟨⟨_, h1 i hi', self_mem_chain _⟩, h2 i hi'⟩
  obtain ⟨n', t', f'⟩ := buildGraph_char mods' imps' lim
    fun i hi' => ⟨⟨_, (hm _).1 (h1 i ((hi i).2 hi')), self_mem_chain _⟩, h2 i ((hi i).2 hi')⟩
  have hk : ∀ i, skipImportEdge lim (knownModules mods) i = skipImportEdge lim (knownModules mods') i := fun i =>
    skipImportEdge_congr lim _ _ i fun s => by
      rw [mem_knownModules_iff_nodeOf, mem_knownModules_iff_nodeOf, nodeOf_congr none hm]
  refine graphEquiv_of_mem (fun s => by rw [n, n', nodeOf_congr lim hm]) ?_
  rintro ⟨a, b, inh⟩
  cases inh with
  | true => rw [t, t', nodeOf_congr lim hm]
  | false =>
    rw [f, f', nodeOf_congr lim hm, nodeOf_congr lim hm]
    simp only [hi, hk]

end Pta.OrdB

namespace Pta.Ord
open PtaSpec

theorem wf_perm (a a' : Arch) (hwf : a.wf = true) (hn : a.nodes.Perm a'.nodes) (hi : a.imports.Perm a'.imports) :
    a'.wf = true :=
  BuildNames.wf_congr a a' hwf (hn.nodup_iff.1 ((BuildNames.wf_iff a).1 hwf).1) (fun _ => hn.mem_iff.symm)
    fun _ he => hi.mem_iff.2 he

theorem quotient_equiv (a a' : Arch) (lim : Option Nat) (g g' : PGraph Str) (hn : a.nodes.Perm a'.nodes)
    (hi : a.imports.Perm a'.imports) (q : QuotientOf a lim g) (q' : QuotientOf a' lim g') : GraphEquiv g g' := by
  have hN := (SM.of_perm hn).exists_congr
  have hI := (SM.of_perm hi).exists_congr
  refine ⟨?_, ?_, ?_, ?_⟩
  · intro s
    rw [← BuildGen.hasNode_iff, ← BuildGen.hasNode_iff, q.nodes, q'.nodes]; exact hN _
  · intro s x; rw [q.hier, q'.hier]; exact hN _
  · intro s x; rw [q.succs, q'.succs]; exact hI _
  · intro s x; rw [q.preds, q'.preds]; exact hI _

theorem archGraphLim_equiv (a a' : Arch) (hwf : a.wf = true) (hn : a.nodes.Perm a'.nodes) (hi : a.imports.Perm a'.imports)
    (lim : Option Nat) : GraphEquiv (archGraphLim a lim) (archGraphLim a' lim) :=
  quotient_equiv a a' lim _ _ hn hi (buildGraph_quotient a hwf lim) (buildGraph_quotient a' (wf_perm a a' hwf hn hi) lim)

end Pta.Ord
