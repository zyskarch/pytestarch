/-
  PtaProofs.Lemmas.ScanExclude — one tree under two exclusion tests `excl0 ≤ excl` (property C08, Props/C08.lean):
  `Survives` / `treeWFFor` under the stronger test, one statement against the two module lists under the carve-out,
  and the specification's edges of the two scans (`scanImports_excl`, an instance of `ScanSim.sim_part`). Last part:
  `ImportConverter._convert` reads the list of internal modules at the `consulted` strings only (`convertStmt_consults`,
  with `adjust_congr`, `adjust_cases`, `mapM_congr`).
-/
import Bridge.Abs
import Bridge.ScanAbs
import Bridge.ScanTree
import Bridge.ScanExcl
import PtaProofs.Lemmas.ScanSpec
import PtaProofs.Lemmas.ScanGraph
import PtaProofs.Lemmas.ScanImports
import PtaProofs.Lemmas.ScanSim
namespace Pta
namespace ScanExclude
open PtaSpec ScanWalk ScanNames ScanSpec ScanSim

theorem Clear.congr {excl : Str → Bool} {base : Str} {mp : List Str} {e e' : Entry} (hr : e.rel = e'.rel)
    (h : Clear excl base mp e) : Clear excl base mp e' := by
  unfold Clear at h ⊢
  rw [← hr]; exact h

section
variable {excl0 excl : Str → Bool} (hsub : ∀ p, excl0 p = true → excl p = true) {base : Str}
include hsub

theorem excl0_false {p : Str} (h : excl p = false) : excl0 p = false := by
  cases h0 : excl0 p with
  | false => rfl
  | true => rw [hsub p h0] at h; cases h

theorem survives_split (mp : List Str) (e : Entry) :
    Survives excl base mp e ↔ Survives excl0 base mp e ∧ Clear excl base mp e := by
  constructor
  · rintro ⟨h1, h2, h3⟩
    exact ⟨⟨h1, h2, fun k a b => excl0_false hsub (h3 k a b)⟩, h3⟩
  · rintro ⟨⟨h1, h2, -⟩, h3⟩
    exact ⟨h1, h2, h3⟩

theorem rel_mono {mp q : List Str} (h : Rel excl base mp q) : Rel excl0 base mp q := by
  rcases h with h | ⟨h1, h2⟩
  · exact Or.inl h
  · exact Or.inr ⟨h1, fun k a b => excl0_false hsub (h2 k a b)⟩

theorem names_mono {mp : List Str} {entries : List Entry} (nm : Names (Rel excl0 base mp) entries) :
    Names (Rel excl base mp) entries :=
  ⟨fun e he hr => nm.dirWF e he (rel_mono hsub hr), fun e he hr => nm.pyWF e he (rel_mono hsub hr),
    fun e he hr => nm.noClash e he (rel_mono hsub hr), fun _ hq => hq.up⟩

/-- the tree predicate the theorems assume is monotone: what the scan with more exclusions can see, the scan with
    fewer can see -/
theorem treeWFFor_mono (mp : List Str) (entries : List Entry) (h : treeWFFor excl0 base mp entries = true) :
    treeWFFor excl base mp entries = true := by
  simp only [treeWFFor, Bool.and_eq_true, treeNamesFor_iff] at h ⊢
  exact ⟨h.1, fun e he hr => h.2 e he ((relevant_iff ..).2 (rel_mono hsub ((relevant_iff ..).1 hr)))⟩

end

theorem isExcluded_none (mt : Str → Str → Bool) (s : Str) :
    isExcluded mt (.globs []) s = false ∧ isExcluded mt (.regexes []) s = false := ⟨rfl, rfl⟩

section
variable {m0 m : List Name} (hsub : ∀ q ∈ m, q ∈ m0)
include hsub

theorem qualify_eq (ap : Option Name) (n : Name)
    (h : (match ap with | some pre => !gone m0 m (pre ++ n) | none => true) = true) :
    targets.qualify m ap n = targets.qualify m0 ap n := by
  cases ap with
  | none => rfl
  | some pre =>
    simp only [gone, Bool.not_eq_true', Bool.and_eq_false_iff, Bool.not_eq_false'] at h
    unfold targets.qualify
    simp only
    by_cases hm : m.contains (pre ++ n) = true
    · rw [if_pos hm, if_pos (List.contains_iff_mem.2 (hsub _ (List.contains_iff_mem.1 hm)))]
    · rcases h with hg | hg
      · rw [if_neg hm, if_neg (by rw [hg]; exact Bool.false_ne_true)]
      · exact absurd hg hm

theorem qualify_eq_pair (ap : Option Name) (a b : Name)
    (h : (match ap with | some pre => !gone m0 m (pre ++ a) && !gone m0 m (pre ++ b) | none => true) = true) :
    targets.qualify m ap a = targets.qualify m0 ap a ∧ targets.qualify m ap b = targets.qualify m0 ap b := by
  cases ap with
  | none => exact ⟨rfl, rfl⟩
  | some pre =>
    simp only [Bool.and_eq_true] at h
    exact ⟨qualify_eq hsub _ a h.1, qualify_eq hsub _ b h.2⟩

/-- a choice between a sub-module `sub` and its package `q`, made against `m` and against `m0`, names the same
    remaining module -/
theorem choice_congr (sub q t : Name) (hc : (!gone m0 m sub || !m.contains q) = true) (ht : t ∈ m) :
    (if m.contains sub = true then sub else q) = t ↔ (if m0.contains sub = true then sub else q) = t := by
  rw [← List.contains_iff_mem] at ht
  by_cases hm : m.contains sub = true
  · rw [if_pos hm, if_pos (List.contains_iff_mem.2 (hsub _ (List.contains_iff_mem.1 hm)))]
  · by_cases hm0 : m0.contains sub = true
    · rw [if_neg hm, if_pos hm0]
      -- `sub` is gone, so by the carve-out `q` is not a remaining module
      have hq : m.contains q = false := by
        simp only [gone, hm0, Bool.true_and, Bool.not_not, Bool.or_eq_true, Bool.not_eq_true'] at hc
        exact hc.resolve_left hm
      constructor
      · rintro rfl; rw [hq] at ht; cases ht
      · rintro rfl; exact absurd ht hm
    · rw [if_neg hm, if_neg hm0]

theorem targets_carve (ap : Option Name) (imp : Name) (st : SStmt) (hc : carveStmt m0 m ap imp st = true)
    (t : Name) (ht : t ∈ m) :
    t ∈ (targets m ap imp st).getD [] ↔ t ∈ (targets m0 ap imp st).getD [] := by
  cases st with
  | imp names =>
    simp only [carveStmt, List.all_eq_true] at hc
    have : names.map (targets.qualify m ap) = names.map (targets.qualify m0 ap) :=
      List.map_congr_left fun n hn => qualify_eq hsub ap n (hc n hn)
    rw [targets_imp, targets_imp, this]
  | impFrom mo names lvl =>
    cases lvl with
    | zero =>
      cases mo with
      | none => exact Iff.rfl
      | some p =>
        simp only [carveStmt, List.all_eq_true, Bool.and_eq_true] at hc
        rw [targets_from, targets_from]
        simp only [Option.getD_some, List.mem_map]
        refine exists_congr fun n => and_congr_right fun hn => ?_
        obtain ⟨hc1, hc2⟩ := hc n hn
        obtain ⟨e1, e2⟩ := qualify_eq_pair hsub ap (p ++ [n]) p hc1
        rw [e1, e2]
        exact choice_congr hsub _ _ t hc2 ht
    | succ l =>
      rw [targets_rel, targets_rel]
      split
      · exact Iff.rfl
      · cases mo with
        | none => exact Iff.rfl
        | some p =>
          simp only [carveStmt, List.all_eq_true] at hc
          simp only [Option.getD_some, List.mem_map]
          exact exists_congr fun n => and_congr_right fun hn => choice_congr hsub _ _ t (hc n hn) ht

end

section
open ScanImports
variable {root : Comp} {S0 S : List SEntry} {mp : List Comp}

theorem carve_stmt (h : carveOut root S0 S mp = true) {f : SEntry} (hf : f ∈ filesOf S mp) {st : SStmt}
    (hst : st ∈ f.stmts) :
    carveStmt (insideOf root S0 mp) (insideOf root S mp) (apOf root mp) (entryName root f) st = true := by
  simp only [carveOut, List.all_eq_true] at h
  exact h f hf st hst

theorem file_mem_scanModules {f : SEntry} (hf : f ∈ filesOf S mp) : entryName root f ∈ scanModules root S mp := by
  obtain ⟨hm, hc⟩ := List.mem_filter.1 hf
  simp only [Bool.and_eq_true] at hc
  exact (ScanGraph.mem_scanModules root S mp _).2 ⟨f, hm, hc.2, Or.inl rfl⟩

end

section
variable {excl0 excl : Str → Bool} (hsub : ∀ p, excl0 p = true → excl p = true) {base root : Str} {mp : List Str}
  {entries : List Entry} (s : Shape entries)
include hsub s

theorem survives_weaker {e : Entry} (he : e ∈ rootEntry :: entries)
    (h : survives (toSEntries excl base entries) mp (toSEntry excl base e) = true) :
    survives (toSEntries excl0 base entries) mp (toSEntry excl0 base e) = true :=
  (survives_iff _ base s mp e he).2 ((survives_split hsub mp e).1 ((survives_iff _ base s mp e he).1 h)).1

theorem inside_weaker (n : Name) (hn : n ∈ ScanImports.insideOf root (toSEntries excl base entries) mp) :
    n ∈ ScanImports.insideOf root (toSEntries excl0 base entries) mp := by
  obtain ⟨hm, hp⟩ := List.mem_filter.1 hn
  refine List.mem_filter.2 ⟨?_, hp⟩
  obtain ⟨se, hse, hsv, hor⟩ := (ScanGraph.mem_scanModules root _ mp n).1 hm
  obtain ⟨e, he, rfl⟩ := List.mem_map.1 hse
  exact (ScanGraph.mem_scanModules root _ mp n).2
    ⟨_, List.mem_map.2 ⟨e, he, rfl⟩, survives_weaker hsub s he hsv, hor⟩

theorem file_remains (nm0 : Names (Rel excl0 base mp) entries) (hmp : mpOK entries mp = true) {e0 : Entry}
    (he0 : e0 ∈ entries) (hsv0 : survives (toSEntries excl0 base entries) mp (toSEntry excl0 base e0) = true)
    (hn : relName root e0 ∈ scanModules root (toSEntries excl base entries) mp) :
    survives (toSEntries excl base entries) mp (toSEntry excl base e0) = true := by
  have he0' := List.mem_cons_of_mem rootEntry he0
  have hS0 := (survives_iff _ base s mp e0 he0').1 hsv0
  rcases (ScanGraph.mem_scanModules_explicit excl base root s (names_mono hsub nm0) hmp _).1 hn with
    ⟨e', he', hsv', hn'⟩ | ⟨-, k, -, hk, hn'⟩
  · have hS'0 := ((survives_split hsub mp e').1 ((survives_iff _ base s mp e' he').1 hsv')).1
    have hrel : e0.rel = e'.rel :=
      relName_inj s nm0 root e0 e' he0' he' (survives_dirOrPy _ base hS0)
        (survives_dirOrPy _ base hS'0) (Rel.of_survives hS0) (Rel.of_survives hS'0) hn'
    have hee' : e' ∈ entries := by
      rcases List.mem_cons.1 he' with rfl | h
      · exact absurd hrel (s.ne e0 he0)
      · exact h
    rw [s.inj e0 he0 e' hee' hrel]
    exact hsv'
  · -- a surviving entry's name is longer than any proper ancestor of `module_path`
    exfalso
    have hpre : (root :: mp) <+: relName root e0 :=
      (prefix_relName_iff s nm0 hmp root e0 he0' (survives_dirOrPy _ base hS0) (Rel.of_survives hS0)).2 hS0.1
    rw [hn'] at hpre
    have := hpre.length_le
    rw [List.length_take] at this
    simp only [List.length_cons] at this
    omega

/-- C08, imports, the specification's edges: under the carve-out the scan with the additional exclusions has an
    answer when the scan without them has, and its edges are those of the latter from a remaining file to a
    remaining module -/
theorem scanImports_excl (nm0 : Names (Rel excl0 base mp) entries) (hmp : mpOK entries mp = true)
    (hcarve : carveOut root (toSEntries excl0 base entries) (toSEntries excl base entries) mp = true)
    (is0 : List (Name × Name)) (his0 : scanImports root (toSEntries excl0 base entries) mp = some is0) :
    ∃ is, scanImports root (toSEntries excl base entries) mp = some is ∧
      ∀ e : Name × Name, e ∈ is ↔ e ∈ is0 ∧ e.1 ∈ scanModules root (toSEntries excl base entries) mp ∧
        e.2 ∈ ScanImports.insideOf root (toSEntries excl base entries) mp := by
  have hin := inside_weaker (base := base) (root := root) (mp := mp) hsub s
  -- a file of the scan with more exclusions is a file of the other scan, with the same statements
  have down : Sim root (toSEntries excl base entries) mp (toSEntries excl0 base entries) mp
      (fun _ => True) (fun _ => True) := by
    intro f hf _
    obtain ⟨e0, he0, hd, hsv, rfl⟩ := (mem_filesOf_tree f).1 hf
    exact ⟨toSEntry excl0 base e0,
      (mem_filesOf_tree _).2 ⟨e0, he0, hd, survives_weaker hsub s (List.mem_cons_of_mem _ he0) hsv, rfl⟩, rfl,
      fun st hst => ⟨st, hst, id, fun t ht _ => (targets_carve hin _ _ st (carve_stmt hcarve hf hst) t ht).1⟩⟩
  -- a file of the scan with fewer exclusions whose module remains is a file of the other scan
  have up : Sim root (toSEntries excl0 base entries) mp (toSEntries excl base entries) mp
      (· ∈ scanModules root (toSEntries excl base entries) mp)
      (· ∈ ScanImports.insideOf root (toSEntries excl base entries) mp) := by
    intro f0 hf0 hn
    obtain ⟨e0, he0, hd, hsv0, rfl⟩ := (mem_filesOf_tree f0).1 hf0
    have hf := (mem_filesOf_tree (toSEntry excl base e0)).2 ⟨e0, he0, hd, file_remains hsub s nm0 hmp he0 hsv0 hn, rfl⟩
    exact ⟨_, hf, rfl,
      fun st hst => ⟨st, hst, id, fun t _ ht => (targets_carve hin _ _ st (carve_stmt hcarve hf hst) t ht).2⟩⟩
  exact sim_part down up (fun f hf => file_mem_scanModules hf) (fun t ht => ⟨hin t ht, ht⟩) (fun t _ ht => ht) his0

end

theorem adjust_congr (name absPrefix : Str) (internal internal' : List Str)
    (h : internal.contains (absPrefix ++ '.' :: name) = internal'.contains (absPrefix ++ '.' :: name)) :
    adjustWithRootPrefix name absPrefix internal = adjustWithRootPrefix name absPrefix internal' := by
  unfold adjustWithRootPrefix
  simp only [h]

theorem adjust_cases (name absPrefix : Str) (internal : List Str) :
    adjustWithRootPrefix name absPrefix internal = absPrefix ++ '.' :: name ∨
    adjustWithRootPrefix name absPrefix internal = name := by
  unfold adjustWithRootPrefix
  simp only []
  split
  · exact Or.inl rfl
  · exact Or.inr rfl

theorem mapM_congr {α β ε : Type} (f f' : α → Except ε β) :
    ∀ (l : List α), (∀ x ∈ l, f x = f' x) → l.mapM f = l.mapM f'
  | [], _ => rfl
  | a :: l, h => by
    rw [List.mapM_cons, List.mapM_cons, h a List.mem_cons_self,
      mapM_congr f f' l (fun x hx => h x (List.mem_cons_of_mem _ hx))]

/-- `ImportConverter._convert` reads `internal` at the `consulted` strings only -/
theorem convertStmt_consults (importer absPrefix : Str) (internal internal' : List Str) (st : ImportStmt)
    (h : ∀ q ∈ consulted importer absPrefix st, internal.contains q = internal'.contains q) :
    convertStmt importer absPrefix internal st = convertStmt importer absPrefix internal' st := by
  cases st with
  | imp names =>
    simp only [convertStmt]
    congr 1
    apply List.map_congr_left
    intro n hn
    rw [adjust_congr n absPrefix internal internal' (h _ (List.mem_map.2 ⟨n, hn, rfl⟩))]
  | impFrom mo names lvl =>
    cases lvl with
    | zero =>
      cases mo with
      | none => rfl
      | some m =>
        simp only [convertStmt]
        congr 1
        apply List.map_congr_left
        intro n hn
        have hq : ∀ q ∈ [absPrefix ++ '.' :: (m ++ '.' :: n), m ++ '.' :: n, absPrefix ++ '.' :: m],
            internal.contains q = internal'.contains q :=
          fun q hq => h q (List.mem_flatMap.2 ⟨n, hn, hq⟩)
        have h1 := hq (absPrefix ++ '.' :: (m ++ '.' :: n)) (by simp)
        have h2 := hq (m ++ '.' :: n) (by simp)
        have h3 := hq (absPrefix ++ '.' :: m) (by simp)
        rw [adjust_congr _ absPrefix internal internal' h1,
          adjust_congr _ absPrefix internal internal' h3]
        have h4 : internal.contains (adjustWithRootPrefix (m ++ '.' :: n) absPrefix internal') =
            internal'.contains (adjustWithRootPrefix (m ++ '.' :: n) absPrefix internal') := by
          rcases adjust_cases (m ++ '.' :: n) absPrefix internal' with e | e <;> rw [e]
          · exact h1
          · exact h2
        simp only [h4]
    | succ l =>
      cases mo with
      | none => rfl
      | some m =>
        simp only [convertStmt]
        apply mapM_congr
        intro n hn
        cases hr : relativeImportee importer m (l + 1) with
        | error k => rfl
        | ok importee =>
          cases hs : relativeImportee importer (m ++ '.' :: n) (l + 1) with
          | error k => rfl
          | ok sub =>
            have hq : internal.contains sub = internal'.contains sub :=
              h _ (List.mem_flatMap.2 ⟨n, hn, by rw [hs]; exact List.mem_singleton.2 rfl⟩)
            simp only [bind, Except.bind, pure, Except.pure, hq]

end ScanExclude
end Pta
