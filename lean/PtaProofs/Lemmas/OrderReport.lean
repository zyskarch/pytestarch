/-
  PtaProofs.Lemmas.OrderReport —
  the MESSAGE of a rule (the literal list of lines, not only the verdict class) does not depend on the order in which
  subjects, objects, layers or graph elements were listed.

  Module rules: related fronts give the eight buckets as the same SETS (`Ord.violations_rel`, Lemmas/OrderCongr.lean), the
  report items are the same up to the order of the objects inside an item (`Itm.reportItems_perm`), which the renderer
  sorts (`ItemPerm.render`), and `sorted(set(lines))` is a function of the set of lines (`canon_ext`). Layer rules: the same
  with `MapRel` (Lemmas/OrderLayer.lean) for the layer mapping of the rule over two graphs and two definition orders
  (`layerMap_rel`, `linesL_congr`). The verdict class is a function of the outcome with text, so the class statements for
  layer rules (`OrdL.perm_layers`) are corollaries.
-/
import Bridge.Abs
import Bridge.Message
import Bridge.MessageAgg
import PtaProofs.Lemmas.OrderCongr
import PtaProofs.Lemmas.OrderLayer
import PtaProofs.Lemmas.OrderBuild
import PtaProofs.Lemmas.DiagramItems
import PtaProofs.Lemmas.MessageText
import PtaProofs.Lemmas.MessageTextLayer
import PtaProofs.Lemmas.AnythingDedup
namespace Pta.OrdR
open Pta.Ord Pta.OrdS Pta.OrdL Pta.Itm

theorem ItemPerm.render {i i' : Item} (h : ItemPerm i i') : renderItem i = renderItem i' := by
  cases h with
  | refl => rfl
  | miss n s d hp => exact renderItem_miss_congr n s _ _ d hp

theorem messageLines_congr (ir : Bool) (v v' : Violations) (h : VioRel v v') :
    messageLines ir v = messageLines ir v' := by
  rw [messageLines_eq_lemma, messageLines_eq_lemma]
  exact canon_ext _ _ ((reportItems_perm ir h).sm_map _ _ fun _ _ => ItemPerm.render)

theorem lines_congr {X X' : Except ErrKind Front} (hX : ERel FrontRel X X') :
    (X >>= Front.outcome Front.violations Front.lines) = (X' >>= Front.outcome Front.violations Front.lines) :=
  ERel.eq ((module_rel messageLines messageLines_congr hX).mono fun _ _ => ORel.eq)

def LinesSM (its its' : List LItem) : Prop := SM (its.map renderLItem) (its'.map renderLItem)

theorem LinesSM.append {a a' b b' : List LItem} (h1 : LinesSM a a') (h2 : LinesSM b b') : LinesSM (a ++ b) (a' ++ b') := by
  unfold LinesSM
  rw [List.map_append, List.map_append]
  exact SM.append h1 h2

theorem missOfPairsL_lines (any ir : Bool) (ls ls' : List (Option Str × Option Str)) (h : SM ls ls') :
    LinesSM (missOfPairsL any ir ls) (missOfPairsL any ir ls') := by
  have key : ∀ s, renderLItem (LItem.miss any s (dedup ((ls.filter fun d => d.1 = s).map (·.2))) (!ir)) =
      renderLItem (LItem.miss any s (dedup ((ls'.filter fun d => d.1 = s).map (·.2))) (!ir)) := by
    intro s
    rw [renderLItem_miss, renderLItem_miss]
    have hp : (dedup ((ls.filter fun d => d.1 = s).map (·.2))).Perm (dedup ((ls'.filter fun d => d.1 = s).map (·.2))) :=
      dedup_perm_of_sm ((SM.filter h _).map _)
    rw [sortBy_eq_of_perm optStrLe optStrLe_total optStrLe_trans optStrLe_antisymm _ _ hp]
  intro x
  unfold missOfPairsL
  simp only [List.mem_map, mem_dedup]
  constructor
  · rintro ⟨it, ⟨s, ⟨d, hd, rfl⟩, rfl⟩, rfl⟩
    exact ⟨_, ⟨_, ⟨d, (h d).1 hd, rfl⟩, rfl⟩, (key _).symm⟩
  · rintro ⟨it, ⟨s, ⟨d, hd, rfl⟩, rfl⟩, rfl⟩
    exact ⟨_, ⟨_, ⟨d, (h d).2 hd, rfl⟩, rfl⟩, key _⟩

theorem missItemsP_lines {m m' : LayerMap} (hm : MapRel m m') (any ir : Bool) {ds ds' : List Dep} (h : SM ds ds') :
    LinesSM (missItemsP m any ir ds) (missItemsP m' any ir ds') := by
  unfold missItemsP
  rw [tagS_rel hm]
  exact missOfPairsL_lines any ir _ _ (h.map _)

theorem impItemsP_lines {m m' : LayerMap} (hm : MapRel m m') (ir : Bool) {ds ds' : List Dep} (h : SM ds ds') :
    LinesSM (impItemsP m ir ds) (impItemsP m' ir ds') := by
  unfold impItemsP
  rw [tagS_rel hm]
  exact (h.map _).map _

theorem reportItemsL_lines {m m' : LayerMap} (hm : MapRel m m') (ir : Bool) {v v' : Violations} (h : VioRel v v') :
    ERel LinesSM (reportItemsL m ir v) (reportItemsL m' ir v') := by
  rw [reportItemsL_nf, reportItemsL_nf]
  refine guardL_rel hm (depIds_sm ?_) ?_
  · exact SM.append h.h1 (SM.append h.h2 (SM.append h.h3 (SM.append h.h4 (SM.append h.h5 (SM.append h.h6
      (SM.append h.h7 h.h8))))))
  · exact (((((((missItemsP_lines hm false ir h.h1).append (impItemsP_lines hm ir h.h2)).append
      (missItemsP_lines hm false ir h.h3)).append (impItemsP_lines hm ir h.h4)).append
      (missItemsP_lines hm true ir h.h5)).append (impItemsP_lines hm ir h.h6)).append
      (missItemsP_lines hm true ir h.h7)).append (impItemsP_lines hm ir h.h8)

theorem renderLItems_congr {its its' : List LItem} (h : LinesSM its its') : renderLItems its = renderLItems its' := by
  unfold renderLItems
  exact canon_ext _ _ h

theorem updateLayerMap_nodes (mt : Str → Str → Bool) {mods mods' : List Str} (hm : SM mods mods') (a : LArch) (c : List Str) :
    ListRel EntryRel (updateLayerMap mt mods a c) (updateLayerMap mt mods' a c) := by
  unfold updateLayerMap
  induction a with
  | nil => exact .nil
  | cons l a ih =>
    refine .cons ⟨rfl, fun x => ?_⟩ ih
    simp only [List.mem_flatMap]
    refine exists_congr fun f => and_congr Iff.rfl ?_
    cases f with
    | name i => exact Iff.rfl
    | parent i => exact Iff.rfl
    | regex p =>
      simp only
      split
      · exact SM.filter hm _ x
      · exact Iff.rfl

/-- an inconsistent mapping is inconsistent for every definition order and every enumeration of the modules; a
    consistent one looks the same to detector and generator -/
theorem layerMap_rel (mt : Str → Str → Bool) {g g' : PGraph Str} (hg : GraphEquiv g g') {a a' : LArch} (hp : a.Perm a')
    {x x' : Front} (h : FrontRel x x') :
    (x.layerMap mt g a).consistent = (x'.layerMap mt g' a').consistent ∧
    ((x.layerMap mt g a).consistent = true → MapRel (x.layerMap mt g a) (x'.layerMap mt g' a')) := by
  unfold Front.layerMap
  rw [← updateLayerMap_congr mt g'.nodes a' (SM.map (SM.filter (SM.append h.ss h.os) _) _)]
  exact ⟨(consistent_perm (updateLayerMap_perm mt g.nodes hp _)).trans (consistent_rel (updateLayerMap_nodes mt hg.nodes a' _)),
    fun hc => MapRel.trans (MapRel.of_perm (updateLayerMap_perm mt g.nodes hp _) ((consistent_iff _).1 hc))
      (mapRel_of_rel (updateLayerMap_nodes mt hg.nodes a' _))⟩

theorem linesL_congr (mt : Str → Str → Bool) {g g' : PGraph Str} (hg : GraphEquiv g g') {a a' : LArch} (hp : a.Perm a')
    {X X' : Except ErrKind Front} (hX : ERel FrontRel X X') :
    (X >>= Front.outcome (Front.violationsL mt g a) (Front.linesL mt g a)) =
      (X' >>= Front.outcome (Front.violationsL mt g' a') (Front.linesL mt g' a')) := by
  refine ERel.eq (hX.bind fun x x' h => ?_)
  obtain ⟨hcc, hm⟩ := layerMap_rel mt hg hp h
  cases hcons : (x.layerMap mt g a).consistent
  · unfold Front.outcome Front.violationsL
    rw [← hcc, hcons]
    rfl
  · refine (outcome_rel ?_ fun v v' hv => ?_).mono fun _ _ => ORel.eq
    · unfold Front.violationsL
      rw [← hcc, hcons, h.b, h.dir]
      exact detectL_congr (hm hcons) _ _ h.expl h.other (h.objs.map _)
    · unfold Front.linesL
      rw [h.dir, messageLinesL_eq_lemma, messageLinesL_eq_lemma]
      exact (reportItemsL_lines (hm hcons) _ hv).map_rel _ _ fun _ _ => renderLItems_congr

theorem toText_clsL (v : LVerdict) : v.toText.cls = v.cls := by cases v <;> rfl

theorem assertAppliesLayer_cls (mt : Str → Str → Bool) (s : LayerRuleState) (g : PGraph Str) :
    (assertAppliesLayer mt s g).cls = (assertAppliesLayerText mt s g).cls := by
  rw [assertAppliesLayerText_eq_lemma, toText_clsL]

end Pta.OrdR

namespace Pta
open PtaSpec Pta.Ord

/-- rule objects with the same verb / direction / `except` / `anything` settings whose subject lists, object lists and
    lists of subjects removed by an earlier alias conversion have the same MEMBERS (in particular: permutations of each
    other); `next` (which list the next `are_named` call would fill) is irrelevant for a finished rule -/
def SameRuleUpToOrder (r r' : RuleState) : Prop := OrdR.CfgRel r.cfg r'.cfg

theorem sameRule_mkRule (s o n dir exc : Bool) (subs subs' objs objs' : List Filter)
    (hs : subs.Perm subs') (ho : objs.Perm objs') :
    SameRuleUpToOrder (mkRule s o n dir exc subs objs) (mkRule s o n dir exc subs' objs') :=
  ⟨SM.of_perm hs, SM.of_perm ho, SM.refl _, rfl, rfl, rfl, rfl, rfl, rfl⟩

theorem sameRule_anything (S S' : List Filter) (dir : Bool) (h : S.Perm S') :
    SameRuleUpToOrder (anythingRule dir S) (anythingRule dir S') :=
  ⟨SM.of_perm h, trivial, SM.refl _, rfl, rfl, rfl, rfl, rfl, rfl⟩

theorem report_congr_lemma (mt : Str → Str → Bool) (g g' : PGraph Str) (hg : GraphEquiv g g') (r r' : RuleState)
    (h : SameRuleUpToOrder r r') : (assertAppliesText mt r g).2 = (assertAppliesText mt r' g').2 := by
  rw [assertAppliesText_front, assertAppliesText_front]
  exact congrArg TextVerdict.ofRes (OrdR.lines_congr (OrdR.front_rel mt hg h))

theorem report_congr_graph_lemma (mt : Str → Str → Bool) (g g' : PGraph Str) (h : GraphEquiv g g') (r : RuleState) :
    (assertAppliesText mt r g).2 = (assertAppliesText mt r g').2 :=
  report_congr_lemma mt g g' h r r (OrdR.CfgRel.refl _)

theorem report_layer_congr_lemma (mt : Str → Str → Bool) (g g' : PGraph Str) (hg : GraphEquiv g g') (a a' : LArch)
    (hp : a.Perm a') (r r' : RuleState) (h : SameRuleUpToOrder r r') :
    assertAppliesLayerText mt ⟨some a, some r⟩ g = assertAppliesLayerText mt ⟨some a', some r'⟩ g' := by
  rw [assertAppliesLayerText_front, assertAppliesLayerText_front]
  exact congrArg TextVerdict.ofRes (OrdR.linesL_congr mt hg hp (OrdR.front_rel mt hg h))

theorem report_perm_subjects_lemma (mt : Str → Str → Bool) (g : PGraph Str) (s o n dir exc : Bool)
    (subs subs' objs : List Filter) (h : subs.Perm subs') :
    (assertAppliesText mt (mkRule s o n dir exc subs objs) g).2 = (assertAppliesText mt (mkRule s o n dir exc subs' objs) g).2 :=
  report_congr_lemma mt g g (graphEquiv_refl g) _ _ (sameRule_mkRule s o n dir exc subs subs' objs objs h (List.Perm.refl _))

theorem report_perm_objects_lemma (mt : Str → Str → Bool) (g : PGraph Str) (s o n dir exc : Bool)
    (subs objs objs' : List Filter) (h : objs.Perm objs') :
    (assertAppliesText mt (mkRule s o n dir exc subs objs) g).2 = (assertAppliesText mt (mkRule s o n dir exc subs objs') g).2 :=
  report_congr_lemma mt g g (graphEquiv_refl g) _ _ (sameRule_mkRule s o n dir exc subs subs objs objs' (List.Perm.refl _) h)

theorem report_perm_anything_lemma (mt : Str → Str → Bool) (g : PGraph Str) (S S' : List Filter) (dir : Bool)
    (h : S.Perm S') :
    (assertAppliesText mt (anythingRule dir S) g).2 = (assertAppliesText mt (anythingRule dir S') g).2 :=
  report_congr_lemma mt g g (graphEquiv_refl g) _ _ (sameRule_anything S S' dir h)

theorem report_perm_modules_imports_lemma (mt : Str → Str → Bool) (a a' : Arch) (hwf : a.wf = true)
    (hn : a.nodes.Perm a'.nodes) (hi : a.imports.Perm a'.imports) (lim : Option Nat) (r : RuleState) :
    (assertAppliesText mt r (archGraphLim a lim)).2 = (assertAppliesText mt r (archGraphLim a' lim)).2 :=
  report_congr_graph_lemma mt _ _ (archGraphLim_equiv a a' hwf hn hi lim) r

theorem report_perm_layers_lemma (mt : Str → Str → Bool) (larch larch' : LArch) (rule : Option RuleState) (g : PGraph Str)
    (hp : larch.Perm larch') :
    assertAppliesLayerText mt ⟨some larch, rule⟩ g = assertAppliesLayerText mt ⟨some larch', rule⟩ g := by
  cases rule with
  | none => rfl
  | some r => exact report_layer_congr_lemma mt g g (graphEquiv_refl g) larch larch' hp r r (OrdR.CfgRel.refl _)

theorem report_perm_layer_rule_filters_lemma (mt : Str → Str → Bool) (g : PGraph Str) (a : LArch) (s o n dir exc : Bool)
    (subs subs' objs objs' : List Filter) (hs : subs.Perm subs') (ho : objs.Perm objs') :
    assertAppliesLayerText mt ⟨some a, some (mkRule s o n dir exc subs objs)⟩ g =
      assertAppliesLayerText mt ⟨some a, some (mkRule s o n dir exc subs' objs')⟩ g :=
  report_layer_congr_lemma mt g g (graphEquiv_refl g) a a (List.Perm.refl _) _ _ (sameRule_mkRule s o n dir exc subs subs' objs objs' hs ho)

end Pta

namespace Pta.OrdL
open Pta.OrdR

theorem perm_layers (mt : Str → Str → Bool) (larch larch' : LArch) (rule : Option RuleState) (g : PGraph Str)
    (hp : larch.Perm larch') :
    (assertAppliesLayer mt ⟨some larch, rule⟩ g).cls = (assertAppliesLayer mt ⟨some larch', rule⟩ g).cls := by
  rw [assertAppliesLayer_cls, assertAppliesLayer_cls, report_perm_layers_lemma mt larch larch' rule g hp]

end Pta.OrdL
