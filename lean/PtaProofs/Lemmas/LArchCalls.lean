/-
  PtaProofs.Lemmas.LArchCalls — LayeredArchitecture histories with both argument forms of `containing_modules`
  (`LArchCall`, `runLArchCalls`): reduction to the list-form histories of `runLArch`, kind and index of a run's error,
  and on list-form histories "a module name supplied twice is rejected, at the second call at the latest". The
  refinement and the invariant lifted to both forms are `C16.larch_calls_refine`, `C16.larch_calls_invariant`.
-/
import Bridge.Abs
import Bridge.BuilderCalls
import PtaProofs.Lemmas.LArchSim
namespace Pta.Hist

theorem stepCall_eq_step (a : LArch) (c : LArchCall) : a.stepCall c = a.step c.toOp := by
  cases c <;> rfl

theorem runLArchCallsFrom_stepCall (cs : List LArchCall) (a : LArch) (i : Nat) :
    runLArchCallsFrom LArch.stepCall a i cs = runLArch.go a i (cs.map LArchCall.toOp) := by
  induction cs generalizing a i with
  | nil => rfl
  | cons c rest ih =>
    simp only [runLArchCallsFrom, List.map_cons, runLArch.go, stepCall_eq_step]
    cases a.step c.toOp with
    | error k => rfl
    | ok a' => exact ih a' (i + 1)

theorem toLCall_toOp (c : LArchCall) : toLCall c.toOp = callToLCall c := by
  cases c with
  | op o => rfl
  | containing a => cases a <;> rfl

theorem toOp_listForm (c : LArchCall) : c.listForm.toOp = c.toOp := by
  cases c with
  | op o => rfl
  | containing a => cases a <;> rfl

theorem map_toOp_listForm (cs : List LArchCall) : (cs.map LArchCall.listForm).map LArchCall.toOp = cs.map LArchCall.toOp := by
  rw [List.map_map]
  exact List.map_congr_left fun c _ => toOp_listForm c

theorem listForm_idem (c : LArchCall) : c.listForm.listForm = c.listForm := by
  cases c with
  | op o => rfl
  | containing a => cases a <;> rfl

theorem step_error_kind (a : LArch) (op : LArchOp) (k : ErrKind) (h : a.step op = .error k) :
    k = .improperlyConfigured := by
  cases op with
  | withLayer => simp [LArch.step] at h
  | layer n =>
    simp only [LArch.step] at h
    split at h
    · cases h; rfl
    · split at h
      · cases h; rfl
      · cases h
  | containingModules ms =>
    simp only [LArch.step] at h
    split at h
    · split at h
      · cases h; rfl
      · cases h
    · cases h; rfl
  | matching r =>
    simp only [LArch.step] at h
    split at h
    · cases h
    · cases h; rfl

theorem go_error (ops : List LArchOp) (a : LArch) (i : Nat) (k : ErrKind) (j : Nat)
    (h : runLArch.go a i ops = .error (k, j)) : k = .improperlyConfigured ∧ i ≤ j ∧ j < i + ops.length := by
  induction ops generalizing a i with
  | nil => cases h
  | cons op rest ih =>
    simp only [runLArch.go] at h
    cases hs : a.step op with
    | error k' =>
      rw [hs] at h
      simp only [Except.error.injEq, Prod.mk.injEq] at h
      obtain ⟨rfl, rfl⟩ := h
      exact ⟨step_error_kind a op _ hs, Nat.le_refl _, by simp⟩
    | ok a1 =>
      rw [hs] at h
      obtain ⟨h1, h2, h3⟩ := ih a1 (i + 1) h
      refine ⟨h1, by omega, ?_⟩
      simp only [List.length_cons]
      omega

theorem allIds_append (a b : LArch) : LArch.allIds (a ++ b) = LArch.allIds a ++ LArch.allIds b := by
  simp [LArch.allIds]

theorem allIds_mono_step (a a' : LArch) (op : LArchOp) (h : LInv a) (hs : a.step op = .ok a') :
    ∀ x ∈ a.allIds, x ∈ a'.allIds := by
  obtain ⟨c, o, hsh, _⟩ := h
  intro x hx
  rw [allIds_shape hsh] at hx
  rcases step_ok hsh op hs with ⟨rfl, -⟩ | ⟨n, -, -, rfl⟩ | ⟨p, fs, rfl, -⟩
  · rw [allIds_shape hsh]; exact hx
  · rw [allIds_append]; exact List.mem_append_left _ hx
  · rw [allIds_append]; exact List.mem_append_left _ hx

theorem allIds_mono_go (ops : List LArchOp) (a a' : LArch) (i : Nat) (h : LInv a)
    (hr : runLArch.go a i ops = .ok a') : ∀ x ∈ a.allIds, x ∈ a'.allIds :=
  (go_ok_preserves (P := fun b => LInv b ∧ ∀ x ∈ a.allIds, x ∈ b.allIds)
    (fun b b' op hb hs => ⟨linv_step b b' op hb.1 hs, fun x hx => allIds_mono_step b b' op hb.1 hs x (hb.2 x hx)⟩)
    ops a a' i ⟨h, fun _ hx => hx⟩ hr).2

theorem step_modules_assigns (a a' : LArch) (ms : List Str) (h : LInv a)
    (hs : a.step (.containingModules ms) = .ok a') : ∀ m ∈ ms, m ∈ a'.allIds := by
  obtain ⟨c, o, hsh, _⟩ := h
  rcases step_ok hsh _ hs with ⟨-, hnil⟩ | ⟨n, e, -⟩ | ⟨p, fs, rfl, -, -, hfs⟩
  · rw [hnil ms rfl]; nofun
  · cases e
  · intro m hm
    rw [hfs ms rfl, allIds_append]
    refine List.mem_append_right _ ?_
    simp only [LArch.allIds, List.flatMap_cons, List.flatMap_nil, List.append_nil, List.map_map, List.mem_map]
    exact ⟨m, hm, rfl⟩

theorem step_modules_dup (a : LArch) (ms : List Str) (m : Str) (hm : m ∈ ms) (ha : m ∈ a.allIds) :
    a.step (.containingModules ms) = .error .improperlyConfigured := by
  simp only [LArch.step]
  split
  · have : ms.any (fun m => a.allIds.contains m) = true := by
      rw [List.any_eq_true]
      exact ⟨m, hm, by simpa using ha⟩
    rw [if_pos this]
  · rfl

/-- list-form histories: a module supplied to `containing_modules` at call `pre.length` and again at call
    `pre.length + 1 + mid.length`: the history is rejected, at the second of the two calls at the latest, and exactly
    there when everything before it was accepted -/
theorem module_twice_ops (pre mid rest : List LArchOp) (ys xs : List Str) (m : Str) (hy : m ∈ ys) (hx : m ∈ xs) :
    ∃ i, i ≤ pre.length + 1 + mid.length ∧
      runLArch (pre ++ .containingModules ys :: mid ++ .containingModules xs :: rest) = .error (.improperlyConfigured, i) ∧
      ((∃ a, runLArch (pre ++ .containingModules ys :: mid) = .ok a) → i = pre.length + 1 + mid.length) := by
  have hsplit : pre ++ LArchOp.containingModules ys :: mid ++ LArchOp.containingModules xs :: rest =
      (pre ++ LArchOp.containingModules ys :: mid) ++ (LArchOp.containingModules xs :: rest) := by simp
  have hlen : (pre ++ LArchOp.containingModules ys :: mid).length = pre.length + 1 + mid.length := by
    simp only [List.length_append, List.length_cons]; omega
  unfold runLArch
  rw [hsplit, runLArch_go_append_bind, hlen]
  cases hP : runLArch.go [] 0 (pre ++ LArchOp.containingModules ys :: mid) with
  | error e =>
    obtain ⟨k, i⟩ := e
    obtain ⟨hk, _, hi⟩ := go_error _ [] 0 k i hP
    subst hk
    exact ⟨i, by omega, rfl, nofun⟩
  | ok a =>
    refine ⟨pre.length + 1 + mid.length, Nat.le_refl _, ?_, fun _ => rfl⟩
    -- the module is assigned in `a`
    rw [runLArch_go_append_bind] at hP
    cases h0 : runLArch.go [] 0 pre with
    | error e => rw [h0] at hP; cases hP
    | ok a0 =>
      rw [h0] at hP
      have hinv0 : LInv a0 := go_ok_preserves linv_step pre [] a0 0 linv_nil h0
      simp only [Except.bind, runLArch.go] at hP
      cases hs : a0.step (.containingModules ys) with
      | error k => rw [hs] at hP; cases hP
      | ok a1 =>
        rw [hs] at hP
        have hm1 : m ∈ a1.allIds := step_modules_assigns a0 a1 ys hinv0 hs m hy
        have hinv1 : LInv a1 := linv_step a0 a1 _ hinv0 hs
        have hma : m ∈ a.allIds := allIds_mono_go mid a1 a _ hinv1 hP m hm1
        simp only [Except.bind, runLArch.go, step_modules_dup a xs m hx hma, Nat.zero_add]

end Pta.Hist
