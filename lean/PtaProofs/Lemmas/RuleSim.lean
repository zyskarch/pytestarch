/-
  PtaProofs.Lemmas.RuleSim — simulation between the Rule builder (`RuleState`) and the specification
  automaton (`RTrack`): every call keeps it (`rsim_step`), and on a simulating pair the pre-checks of `assert_applies`
  (`preFail`, Lemmas/Pipeline.lean) fail exactly when the automaton's classification demands an error (`rsim_preFail`).
-/
import Bridge.Abs
import PtaProofs.Lemmas.Pipeline
namespace Pta.Hist
open PtaSpec

/-- the `Rule` object `s` and the automaton state `t` agree on the position the next naming call fills
    (`_modules_to_check_to_be_specified_next`), on whether subjects / objects are a non-empty list (the automaton keeps
    that bit only, `neOpt`), the verbs, whether an import type was chosen, the `anything` flag. `t.objectAfterAnything` is
    not related (the builder keeps no such bit): whether a step succeeds never depends on it, and `classify` consults it
    only to choose between `.unspecified` and `.complete`, never for a class that must raise -/
structure RSim (s : RuleState) (t : RTrack) : Prop where
  target : t.target = s.next
  subject : t.subject = neOpt s.cfg.subjects
  object : t.object = neOpt s.cfg.objects
  should : t.should = s.cfg.should
  only : t.only = s.cfg.shouldOnly
  not_ : t.not_ = s.cfg.shouldNot
  importType : t.importType = s.cfg.importDir.isSome
  anything : t.anything = s.cfg.anything

theorem rsim_init : RSim {} {} := by
  constructor <;> rfl

/-- `_set_modules` against a `naming` call: both fail without a target, both fill the position the target names -/
theorem rsim_setModules {s : RuleState} {t : RTrack} (h : RSim s t) (ms : List Filter) (ne : Bool)
    (hne : ne = !ms.isEmpty) :
    match t.step (.naming ne) with
    | none => s.setModules ms = .error .improperlyConfigured
    | some t' => ∃ s', s.setModules ms = .ok s' ∧ RSim s' t' := by
  subst hne
  simp only [RTrack.step, RuleState.setModules, h.target]
  rcases s.next with _ | _ | _
  · rfl
  · exact ⟨_, rfl, { h with target := rfl, object := rfl }⟩
  · exact ⟨_, rfl, { h with target := rfl, subject := rfl }⟩

theorem rsim_step (glob : Str → Str) (s : RuleState) (t : RTrack) (op : RuleOp) (h : RSim s t) :
    match t.step (toRCall op) with
    | none => s.step glob op = .error .improperlyConfigured
    | some t' => ∃ s', s.step glob op = .ok s' ∧ RSim s' t' := by
  cases op
  case areNamed ns => exact rsim_setModules h _ _ (by simp)
  case areSubModulesOf ns => exact rsim_setModules h _ _ (by simp)
  case haveNameMatching p => exact rsim_setModules h _ _ rfl
  case haveNameContaining ps => exact rsim_setModules h _ _ (by simp)
  case modulesThat => exact ⟨_, rfl, { h with target := rfl }⟩
  case should => exact ⟨_, rfl, { h with should := rfl }⟩
  case shouldOnly => exact ⟨_, rfl, { h with only := rfl }⟩
  case shouldNot => exact ⟨_, rfl, { h with not_ := rfl }⟩
  case importThat => exact ⟨_, rfl, { h with target := rfl, importType := rfl }⟩
  case beImportedByThat => exact ⟨_, rfl, { h with target := rfl, importType := rfl }⟩
  case importExcept => exact ⟨_, rfl, { h with target := rfl, importType := rfl }⟩
  case beImportedByExcept => exact ⟨_, rfl, { h with target := rfl, importType := rfl }⟩
  case importAnything => exact ⟨_, rfl, { h with target := rfl, importType := rfl, anything := rfl }⟩
  case beImportedByAnything => exact ⟨_, rfl, { h with target := rfl, importType := rfl, anything := rfl }⟩

/-- which final states of the automaton demand an error: the first three tests of `classify` -/
theorem classify_mustRaise (t : RTrack) :
    t.classify.mustRaise = ((t.anything && !t.not_) ||
      !(t.subject && (t.should || t.only || t.not_) && t.importType && (if t.anything then t.subject else t.object)) ||
      (t.not_ && (t.should || t.only))) := by
  unfold RTrack.classify
  simp only []
  cases (t.anything && !t.not_)
  · cases (t.subject && (t.should || t.only || t.not_) && t.importType && (if t.anything then t.subject else t.object))
    · rfl
    · cases (t.not_ && (t.should || t.only))
      · simp only [Bool.false_eq_true, if_false, Bool.not_true, Bool.or_false]
        split
        · rfl
        · split <;> rfl
      · rfl
  · rfl

theorem rsim_preFail {s : RuleState} {t : RTrack} (h : RSim s t) : preFail s.cfg = t.classify.mustRaise := by
  rw [preFail_eq, classify_mustRaise, h.subject, h.object, h.should, h.only, h.not_, h.importType, h.anything]
end Pta.Hist
