/-
  PtaProofs.Lemmas.MessageText — the message TEXT (PtaModel/Message.lean) against the report items
  (PtaModel/Rule.lean `reportItems`) and the line shapes of Bridge/Message.lean: the message lines are the rendered report items
  (`sorted(set(lines))` depends on the SET of lines only, `canon_ext` of Lemmas/Str.lean); the parser
  inverts the renderer on names without `"`; and a line of the shape `"X" imports "Y".` / `"X" is imported by "Y".`
  comes from exactly that item, by counting `"`.
-/
import Bridge.Message
import PtaProofs.Lemmas.Pipeline
import PtaProofs.Lemmas.MissingLines
namespace Pta

theorem quotedName_eq (n : Str) : quotedName n = quoted n := rfl

theorem ruleObjectText_eq (o : Mod) : ruleObjectText o = objText o := by
  unfold ruleObjectText objText
  cases o.group <;> rfl

theorem ruleSubjectText_eq (s : Mod) : ruleSubjectText s = subjText s := by
  unfold ruleSubjectText subjText
  cases s.group <;> rfl

theorem sortObjs_map (objs : List Mod) : (sortObjs objs).map objText = sortStr (objs.map objText) := by
  unfold sortObjs sortStr
  exact (sortBy_map strLe (fun a b => strLe (objText a) (objText b)) objText (fun _ _ => rfl) objs).symm

theorem renderItem_miss (any : Bool) (s : Mod) (objs : List Mod) (d : Bool) :
    renderItem (.miss any s objs d) =
      subjText s ++ (missVerb d s.group ++ (anyText any ++ (joinWith ", ".toList (sortStr (objs.map objText)) ++ ['.']))) := by
  unfold renderItem Item.canon renderLine
  simp only [sortObjs_map]

/-- the renderer sorts the objects of a `does not import` item -/
theorem renderItem_miss_congr (any : Bool) (s : Mod) (objs objs' : List Mod) (d : Bool) (h : objs.Perm objs') :
    renderItem (.miss any s objs d) = renderItem (.miss any s objs' d) := by
  rw [renderItem_miss, renderItem_miss, sortStr_eq_of_perm _ _ (h.map objText)]

/-- the verb of a `does not import` message between its two blanks: a table of four strings -/
theorem missVerb_text (ir singular : Bool) (rest : Str) :
    ' ' :: (concatVerb (baseVerb ir) (verbPrefix ir true singular) [] ++ ' ' :: rest) =
      missVerb (!ir) (!singular) ++ rest := by
  -- the closed table first: with the variable `rest` in place the string literals are unfolded step by step (slow to check)
  have h : ∀ ir singular, ' ' :: (concatVerb (baseVerb ir) (verbPrefix ir true singular) [] ++ [' ']) =
      missVerb (!ir) (!singular) := by
    decide +kernel
  rw [← h, List.cons_append, List.append_assoc]
  rfl

theorem impVerb_text (ir : Bool) (rest : Str) :
    ' ' :: (concatVerb (baseVerb ir) (verbPrefix ir false true) (verbSuffix ir true) ++ ' ' :: rest) =
      (if ir = true then " imports ".toList else " is imported by ".toList) ++ rest := by
  have h : ∀ ir, ' ' :: (concatVerb (baseVerb ir) (verbPrefix ir false true) (verbSuffix ir true) ++ [' ']) =
      if ir = true then " imports ".toList else " is imported by ".toList := by
    decide +kernel
  rw [← h, List.cons_append, List.append_assoc]
  rfl

theorem missText_eq (ir any : Bool) (s : Mod) (objsT : Str) :
    Msg.text ⟨ruleSubjectText s, concatVerb (baseVerb ir) (verbPrefix ir true (!s.group)) [], anyText any ++ objsT⟩ =
      subjText s ++ (missVerb (!ir) s.group ++ (anyText any ++ (objsT ++ ['.']))) := by
  rw [Msg.text, missVerb_text, Bool.not_not, ruleSubjectText_eq, List.append_assoc]

theorem impText_eq (ir : Bool) (d : Dep) :
    Msg.text ⟨(subjectAndObjectOfDependency d).1,
        concatVerb (baseVerb ir) (verbPrefix ir false true) (verbSuffix ir true), (subjectAndObjectOfDependency d).2⟩ =
      renderItem (.imp (userOrder ir (d.1.id, d.2.id)).1 (userOrder ir (d.1.id, d.2.id)).2 (!ir)) := by
  rw [Msg.text, impVerb_text]
  simp only [subjectAndObjectOfDependency, moduleSuffix, List.append_nil]
  cases ir <;> rfl

theorem nodup_map_on {α β : Type} (f : α → β) (l : List α) (hn : l.Nodup)
    (hinj : ∀ a ∈ l, ∀ b ∈ l, f a = f b → a = b) : (l.map f).Nodup :=
  List.pairwise_map.2 (hn.imp_of_mem fun ha hb hne e => hne (hinj _ ha _ hb e))

/-- the objects the generator collects for one subject are those of the report item, up to order -/
theorem objs_perm (ds : List Dep) (s : Mod) :
    (((setIter ds).filter fun d => d.1 = s).map (·.2)).Perm (dedup ((ds.filter fun d => d.1 = s).map (·.2))) := by
  rw [List.perm_ext_iff_of_nodup _ (nodup_dedup _)]
  · intro o
    simp only [setIter, mem_dedup, List.mem_map, List.mem_filter]
  · apply nodup_map_on
    · exact ((nodup_dedup ds).sublist List.filter_sublist)
    · intro a ha b hb hab
      simp only [List.mem_filter, decide_eq_true_eq] at ha hb
      exact Prod.ext (ha.2.trans hb.2.symm) hab

theorem objTexts_eq (ds : List Dep) (s : Mod) :
    sortStr ((((setIter ds).filter fun d => d.1 = s).map (·.2)).map ruleObjectText) =
      sortStr ((dedup ((ds.filter fun d => d.1 = s).map (·.2))).map objText) := by
  have : ruleObjectText = objText := funext ruleObjectText_eq
  rw [this]
  exact sortStr_eq_of_perm _ _ ((objs_perm ds s).map objText)

theorem objText_ne_nil (o : Mod) : objText o ≠ [] := by
  unfold objText quoted
  cases o.group <;> simp

theorem flatMap_singleton_on {α β : Type} (l : List α) (h : α → List β) (F : α → β) (hh : ∀ a ∈ l, h a = [F a]) :
    l.flatMap h = l.map F := by
  rw [List.flatMap_def, List.map_congr_left hh, ← List.flatMap_def, ← List.map_eq_flatMap]

/-- the line of the `miss` item `missItems` builds for subject `s` -/
def missLineOf (any ir : Bool) (ds : List Dep) (s : Mod) : Str :=
  renderItem (.miss any s (dedup ((ds.filter fun d => d.1 = s).map (·.2))) (!ir))

theorem missItems_render (any ir : Bool) (ds : List Dep) :
    (missItems any ir ds).map renderItem = (dedup (ds.map (·.1))).map (missLineOf any ir ds) := by
  simp only [missItems, List.map_map]
  rfl

theorem objs_of_subject_ne_nil {α β : Type} [DecidableEq α] [DecidableEq β] (ds : List (α × β)) (s : α)
    (hs : s ∈ ds.map (·.1)) : dedup ((ds.filter fun d => d.1 = s).map (·.2)) ≠ [] := by
  obtain ⟨d, hd, rfl⟩ := List.mem_map.1 hs
  apply List.ne_nil_of_mem (a := d.2)
  rw [mem_dedup]
  exact List.mem_map.2 ⟨d, List.mem_filter.2 ⟨hd, by simp⟩, rfl⟩

theorem objTexts_ok (ds : List Dep) (s : Mod) (hs : s ∈ ds.map (·.1)) :
    sortStr ((dedup ((ds.filter fun d => d.1 = s).map (·.2))).map objText) ≠ [] ∧
      ∀ x ∈ sortStr ((dedup ((ds.filter fun d => d.1 = s).map (·.2))).map objText), x ≠ [] := by
  constructor
  · exact sortBy_ne_nil _ _ fun e => objs_of_subject_ne_nil ds s hs (List.map_eq_nil_iff.1 e)
  · intro x hx
    rw [mem_sortStr] at hx
    obtain ⟨o, _, rfl⟩ := List.mem_map.1 hx
    exact objText_ne_nil o

theorem subjects_mem (ds : List Dep) (s : Mod) :
    s ∈ setIter ((setIter ds).map (·.1)) ↔ s ∈ dedup (ds.map (·.1)) := by
  simp only [setIter, mem_dedup, List.mem_map]

theorem addCombinedRuleObjects_of_ne (objs : List Str) (subj verb : Str) (h : joinWith kwCommaSpace objs ≠ []) :
    addCombinedRuleObjects objs subj verb = [⟨subj, verb, joinWith kwCommaSpace objs⟩] := by
  unfold addCombinedRuleObjects
  simp only [List.isEmpty_eq_false_iff.2 h, Bool.not_false, if_true]

theorem addCombinedAnyRuleObjects_of_ne (objs : List Str) (subj verb ty : Str) (h : objs ≠ []) :
    addCombinedAnyRuleObjects objs subj verb ty = [⟨subj, verb, ty ++ joinWith kwCommaSpace objs⟩] := by
  unfold addCombinedAnyRuleObjects
  simp only [List.isEmpty_eq_false_iff.2 h, Bool.not_false, if_true]

/-- the `does not import` messages of one bucket, for either way `combine` of putting the objects of a subject into
    one message (`_add_combined_rule_objects`, `_add_combined_any_rule_objects`): on the non-empty object lists that
    occur both emit exactly one message per subject, and its text is the line of that subject's `miss` item -/
theorem noImport_texts (any ir : Bool) (ds : List Dep) (combine : List Str → Str → Str → List Msg)
    (hc : ∀ objs subj verb, objs ≠ [] → (∀ x ∈ objs, x ≠ []) →
      combine objs subj verb = [⟨subj, verb, anyText any ++ joinWith kwCommaSpace objs⟩]) (x : Str) :
    x ∈ ((violatingSubjectsAndObjects ds).flatMap fun so =>
        combine (sortStr (so.2.map ruleObjectText)) (ruleSubjectText so.1)
          (concatVerb (baseVerb ir) (verbPrefix ir true (!so.1.group)) [])).map Msg.text ↔
      x ∈ (missItems any ir ds).map renderItem := by
  have h : ∀ s ∈ setIter ((setIter ds).map (·.1)),
      (combine (sortStr ((((setIter ds).filter fun d => d.1 = s).map (·.2)).map ruleObjectText)) (ruleSubjectText s)
        (concatVerb (baseVerb ir) (verbPrefix ir true (!s.group)) [])).map Msg.text = [missLineOf any ir ds s] := by
    intro s hs
    rw [subjects_mem, mem_dedup] at hs
    obtain ⟨h1, h2⟩ := objTexts_ok ds s hs
    rw [objTexts_eq, hc _ _ _ h1 h2, missLineOf, renderItem_miss]
    exact congrArg (· :: []) (missText_eq ir any s _)
  unfold violatingSubjectsAndObjects
  simp only [List.flatMap_map, List.map_flatMap]
  rw [flatMap_singleton_on _ _ _ h, missItems_render]
  simp only [List.mem_map, subjects_mem]

theorem mem_noImportBetween (ir : Bool) (ds : List Dep) (x : Str) :
    x ∈ (noImportBetweenMsgs ir ds).map Msg.text ↔ x ∈ (missItems false ir ds).map renderItem :=
  noImport_texts false ir ds addCombinedRuleObjects
    (fun _ _ _ h1 h2 => addCombinedRuleObjects_of_ne _ _ _ (joinWith_ne_nil _ _ h1 h2)) x

theorem mem_noImportOtherThan (ir : Bool) (ds : List Dep) (x : Str) :
    x ∈ (noImportOtherThanMsgs ir ds).map Msg.text ↔ x ∈ (missItems true ir ds).map renderItem :=
  noImport_texts true ir ds (addCombinedAnyRuleObjects · · · kwAnyModule)
    (fun _ _ _ h1 _ => addCombinedAnyRuleObjects_of_ne _ _ _ _ h1) x

/-- `_create_other_violating_dependencies_message` emits one message per pair of completed names -/
theorem mem_otherViolatingOfNames (ir : Bool) (names : List (Str × Str)) (x : Str) :
    x ∈ (otherViolatingOfNames ir names).map Msg.text ↔ x ∈ names.map fun n =>
      Msg.text ⟨n.1, concatVerb (baseVerb ir) (verbPrefix ir false true) (verbSuffix ir true), n.2⟩ := by
  unfold otherViolatingOfNames
  rw [((sortBy_perm msgKeyLe _).map Msg.text).mem_iff, List.map_map]
  rfl

theorem mem_otherViolating (ir : Bool) (ds : List Dep) (x : Str) :
    x ∈ (otherViolatingMsgs ir ds).map Msg.text ↔ x ∈ (impItems ir ds).map renderItem := by
  unfold otherViolatingMsgs impItems
  rw [mem_otherViolatingOfNames]
  simp only [List.map_map, List.mem_map, setIter, mem_dedup, Function.comp_apply, impText_eq]

theorem mem_violationMessages (ir : Bool) (v : Violations) (x : Str) :
    x ∈ (violationMessages ir v).map Msg.text ↔ x ∈ (reportItems ir v).map renderItem := by
  unfold violationMessages reportItems
  simp only [List.map_append, List.mem_append, mem_noImportBetween, mem_noImportOtherThan, mem_otherViolating]
  simp only [or_assoc]

/-- `line_of_item`: the message lines are the rendered report items, sorted and without duplicates -/
theorem messageLines_eq_lemma (ir : Bool) (v : Violations) :
    messageLines ir v = renderItems (reportItems ir v) := by
  unfold messageLines finishLines renderItems setIter
  exact canon_ext _ _ (mem_violationMessages ir v)

theorem mem_renderItems (items : List Item) (line : Str) :
    line ∈ renderItems items ↔ ∃ x ∈ items, renderItem x = line := by
  unfold renderItems
  rw [mem_sortStr, mem_dedup, List.mem_map]

theorem Front.lines_eq (x : Front) (v : Violations) : x.lines v = (x.items v).map renderItems :=
  congrArg Except.ok (messageLines_eq_lemma x.dir v)

theorem matchRuleText_eq (mt : Str → Str → Bool) (g : PGraph Str) (b : Behavior) (d : Bool) (ss os : List Filter) :
    matchRuleText mt g b d ss os = (matchRule mt g b d ss os).toText := by
  rw [matchRuleText_queries, matchRule_queries, Verdict.toText_ofRes, Front.bind_outcome_map Front.lines_eq]

theorem assertAppliesText_eq_lemma (mt : Str → Str → Bool) (s : RuleState) (g : PGraph Str) :
    assertAppliesText mt s g = ((assertApplies mt s g).1, (assertApplies mt s g).2.toText) := by
  rw [assertAppliesText_front, assertApplies_front, Verdict.toText_ofRes, Front.bind_outcome_map Front.lines_eq]

theorem runRuleOpsTextGo_eq (glob : Str → Str) (mt : Str → Str → Bool) (g : PGraph Str) (ops : List RuleOp) :
    ∀ (s : RuleState) (i : Nat), runRuleOpsTextGo glob mt g s i ops =
      ((runRuleOps.go glob mt g s i ops).1.toText, (runRuleOps.go glob mt g s i ops).2) := by
  induction ops with
  | nil =>
    intro s i
    simp only [runRuleOpsTextGo, runRuleOps.go, assertAppliesText_eq_lemma]
  | cons op rest ih =>
    intro s i
    simp only [runRuleOpsTextGo, runRuleOps.go]
    cases RuleState.step glob s op with
    | error k => rfl
    | ok s' => exact ih _ _

theorem stripPrefix_append (p s : Str) : stripPrefix p (p ++ s) = some s := by
  unfold stripPrefix
  rw [startsWith_append_self]
  simp

def apart (p q : Str) : Bool := !startsWith p q && !startsWith q p

theorem startsWith_of_apart : ∀ (p q t : Str), apart p q = true → startsWith p (q ++ t) = false
  | [], q, _, h => by cases q <;> simp [apart, startsWith] at h
  | _ :: _, [], _, h => by simp [apart, startsWith] at h
  | a :: p, b :: q, t, h => by
    have ih := startsWith_of_apart p q t
    simp only [apart, startsWith, List.cons_append] at h ih ⊢
    by_cases hab : a = b
    · subst hab
      simpa using ih (by simpa using h)
    · simp [hab]

theorem stripPrefix_apart (p q t : Str) (h : apart p q = true) : stripPrefix p (q ++ t) = none := by
  unfold stripPrefix
  rw [startsWith_of_apart p q t h]
  rfl

theorem stripPrefix_quoted (p : Str) (h : apart p ['"'] = true) (n rest : Str) : stripPrefix p (quoted n ++ rest) = none :=
  stripPrefix_apart p ['"'] _ h

theorem stripPrefix_opt (kw t : Str) (b : Bool) (h : stripPrefix kw t = none) :
    stripPrefix kw ((if b = true then kw else []) ++ t) = if b = true then some t else none := by
  cases b
  · exact h
  · exact stripPrefix_append kw t

/-! the keywords of the line shapes are apart where the parser has to tell them from each other (closed facts about
    strings: evaluated once here, so that no proof below has to unfold a string literal next to a variable tail) -/

theorem apart_quote :
    apart "Sub modules of ".toList ['"'] = true ∧ apart "a sub module of ".toList ['"'] = true ∧
    apart "any module that is not ".toList ['"'] = true := by decide +kernel

theorem apart_any_sub : apart "any module that is not ".toList "a sub module of ".toList = true := by decide +kernel

theorem apart_imports_importedBy : apart " imports ".toList " is imported by ".toList = true := by decide +kernel

theorem apart_imp_missVerb : ∀ d, apart " imports ".toList (missVerb d false) = true ∧
    apart " is imported by ".toList (missVerb d false) = true := by decide +kernel

theorem apart_missVerb : ∀ g, apart (missVerb false g) (missVerb true g) = true := by decide +kernel

theorem noQuote_iff (n : Str) : noQuote n = true ↔ '"' ∉ n := by simp [noQuote]

theorem takeWhile_dropWhile_quote (rest n : Str) (h : '"' ∉ n) :
    (n ++ '"' :: rest).dropWhile (· != '"') = '"' :: rest ∧ (n ++ '"' :: rest).takeWhile (· != '"') = n := by
  have hn : ∀ c ∈ n, (c != '"') = true := fun c hc => bne_iff_ne.2 fun e => h (e ▸ hc)
  rw [List.dropWhile_append_of_pos hn, List.takeWhile_append_of_pos hn]
  simp

theorem takeQuoted_quoted (n rest : Str) (h : noQuote n = true) : takeQuoted (quoted n ++ rest) = some (n, rest) := by
  obtain ⟨h1, h2⟩ := takeWhile_dropWhile_quote rest n ((noQuote_iff n).1 h)
  have : quoted n ++ rest = '"' :: (n ++ '"' :: rest) := by simp [quoted]
  rw [this]
  simp only [takeQuoted, h1, h2]

theorem parseObj_objText (o : Mod) (rest : Str) (h : noQuote o.id = true) :
    parseObj (objText o ++ rest) = some (o, rest) := by
  obtain ⟨g, n⟩ := o
  unfold parseObj objText
  rw [List.append_assoc, stripPrefix_opt _ _ g (stripPrefix_quoted _ apart_quote.2.1 n rest)]
  cases g <;> simp only [Bool.false_eq_true, if_false, if_true, List.nil_append, takeQuoted_quoted n rest h, Option.map_some]

theorem objText_length (o : Mod) : 1 ≤ (objText o).length := by
  unfold objText quoted
  simp only [List.length_append, List.length_cons]
  omega

theorem parseObjs_join : ∀ (objs : List Mod) (fuel : Nat), objs ≠ [] →
    (joinWith ", ".toList (objs.map objText) ++ ['.']).length ≤ fuel → (∀ o ∈ objs, noQuote o.id = true) →
    parseObjs fuel (joinWith ", ".toList (objs.map objText) ++ ['.']) = some objs
  | [], _, h, _, _ => absurd rfl h
  | o :: r, fuel, _, hf, hq => by
    rw [List.map_cons, joinWith_cons_append] at hf ⊢
    rw [List.length_append] at hf
    have hlen := objText_length o
    cases fuel with
    | zero => omega
    | succ fuel =>
      rw [parseObjs, parseObj_objText o _ (hq o (by simp))]
      cases r with
      | nil => simp
      | cons o2 r2 =>
        rw [if_neg (by simp)] at hf ⊢
        have hne : ", ".toList ++ (joinWith ", ".toList ((o2 :: r2).map objText) ++ ['.']) ≠ ['.'] := by
          intro h; cases h
        have ih := parseObjs_join (o2 :: r2) fuel (by simp) (by rw [List.length_append] at hf; omega)
          fun x hx => hq x (List.mem_cons_of_mem _ hx)
        simp only [hne, if_false, stripPrefix_append, ih, Option.map_some]

theorem stripAny_objText (o : Mod) (t : Str) : stripPrefix "any module that is not ".toList (objText o ++ t) = none := by
  unfold objText
  cases o.group
  · rw [if_neg Bool.false_ne_true, List.nil_append]
    exact stripPrefix_quoted _ apart_quote.2.2 _ _
  · rw [if_pos rfl, List.append_assoc]
    exact stripPrefix_apart _ _ _ apart_any_sub

theorem parseMissTail_render (s : Mod) (byDir any : Bool) (objs : List Mod) (hne : objs ≠ [])
    (hq : ∀ o ∈ objs, noQuote o.id = true) :
    parseMissTail s byDir (anyText any ++ (joinWith ", ".toList (objs.map objText) ++ ['.'])) =
      some (.miss any s objs byDir) := by
  have hp := parseObjs_join objs _ hne (Nat.le_refl _) hq
  have hnone : stripPrefix "any module that is not ".toList (joinWith ", ".toList (objs.map objText) ++ ['.']) = none := by
    obtain ⟨o, r, rfl⟩ := List.exists_cons_of_ne_nil hne
    rw [List.map_cons, joinWith_cons_append]
    exact stripAny_objText o _
  unfold parseMissTail anyText
  rw [stripPrefix_opt _ _ any hnone]
  cases any <;> simp only [Bool.false_eq_true, if_false, if_true, List.nil_append, hp, Option.map_some]

theorem parseMiss_render (s : Mod) (byDir any : Bool) (objs : List Mod) (hne : objs ≠ [])
    (hq : ∀ o ∈ objs, noQuote o.id = true) :
    parseMiss s (missVerb byDir s.group ++ (anyText any ++ (joinWith ", ".toList (objs.map objText) ++ ['.']))) =
      some (.miss any s objs byDir) := by
  unfold parseMiss
  cases byDir
  · rw [stripPrefix_append]
    exact parseMissTail_render s false any objs hne hq
  · rw [stripPrefix_apart _ _ _ (apart_missVerb s.group)]
    simp only [stripPrefix_append]
    exact parseMissTail_render s true any objs hne hq

theorem parseAfterName_miss (n : Str) (byDir : Bool) (tail : Str) :
    parseAfterName n (missVerb byDir false ++ tail) = parseMiss ⟨false, n⟩ (missVerb byDir false ++ tail) := by
  unfold parseAfterName
  rw [stripPrefix_apart _ _ _ (apart_imp_missVerb byDir).1, stripPrefix_apart _ _ _ (apart_imp_missVerb byDir).2]

/-- `parse_render`: the parser inverts the renderer on items whose names are free of `"` -/
theorem parseLine_renderLine_lemma (x : Item) (h : x.parsable = true) : parseLine (renderLine x) = some x := by
  have hsub := stripPrefix_quoted _ apart_quote.1
  cases x with
  | imp u v d =>
    simp only [Item.parsable, Bool.and_eq_true] at h
    cases d
    · rw [renderLine, parseLine, hsub]
      simp only [takeQuoted_quoted u _ h.1, parseAfterName, stripPrefix_append, takeQuoted_quoted v _ h.2]
    · rw [renderLine, parseLine, hsub]
      simp only [takeQuoted_quoted v _ h.2, parseAfterName, stripPrefix_apart _ _ _ apart_imports_importedBy,
        stripPrefix_append, takeQuoted_quoted u _ h.1]
  | miss any s objs d =>
    simp only [Item.parsable, Bool.and_eq_true, List.all_eq_true, Bool.not_eq_true', List.isEmpty_eq_false_iff] at h
    obtain ⟨⟨hs, hq⟩, hne⟩ := h
    have hm := parseMiss_render s d any objs hne hq
    obtain ⟨g, n⟩ := s
    rw [renderLine, subjText, List.append_assoc, parseLine, stripPrefix_opt _ _ g (hsub n _)]
    cases g
    · simp only [Bool.false_eq_true, if_false, List.nil_append, takeQuoted_quoted n _ hs, parseAfterName_miss, hm]
    · simp only [if_true, takeQuoted_quoted n _ hs, hm]

/-! ### counting `"`: which item a line of the shape `"X" imports "Y".` comes from -/

def nq (s : Str) : Nat := s.count '"'

theorem nq_append (a b : Str) : nq (a ++ b) = nq a + nq b := List.count_append

theorem nq_quoted (n : Str) : nq (quoted n) = nq n + 2 := by
  simp [nq, quoted, List.count_append]

theorem noQuote_iff_nq (n : Str) : noQuote n = true ↔ nq n = 0 := by
  rw [noQuote_iff, nq, List.count_eq_zero]

theorem nq_literals :
    nq " imports ".toList = 0 ∧ nq " is imported by ".toList = 0 ∧ nq "Sub modules of ".toList = 0 ∧
    nq "a sub module of ".toList = 0 ∧ nq ", ".toList = 0 ∧ nq ['.'] = 0 ∧ (∀ a, nq (anyText a) = 0) ∧
    ∀ d g, nq (missVerb d g) = 0 := by decide +kernel

theorem nq_renderLine_imp (u v : Str) (d : Bool) : nq (renderLine (.imp u v d)) = nq u + nq v + 4 := by
  obtain ⟨h1, h2, _, _, _, h3, _⟩ := nq_literals
  cases d
  · rw [renderLine]
    simp only [nq_append, nq_quoted, h1, h3]
    omega
  · rw [renderLine]
    simp only [nq_append, nq_quoted, h2, h3]
    omega

def nqObjs (objs : List Mod) : Nat := (objs.map fun o => nq o.id + 2).sum

/-- subject and object of a `does not import` line -/
theorem nq_optKw (b : Bool) (kw n : Str) (h : nq kw = 0) : nq ((if b = true then kw else []) ++ quoted n) = nq n + 2 := by
  rw [nq_append, nq_quoted]
  cases b
  · exact Nat.zero_add _
  · rw [if_pos rfl, h, Nat.zero_add]

theorem nq_objs : ∀ objs : List Mod, nq (joinWith ", ".toList (objs.map objText)) = nqObjs objs
  | [] => rfl
  | [o] => by
    simp only [List.map_cons, List.map_nil, joinWith, objText, nq_optKw _ _ _ nq_literals.2.2.2.1, nqObjs, List.sum_cons,
      List.sum_nil, Nat.add_zero]
  | o :: o2 :: r => by
    have ih := nq_objs (o2 :: r)
    obtain ⟨_, _, _, h, h1, _⟩ := nq_literals
    simp only [List.map_cons, joinWith, nq_append, objText, nq_optKw _ _ _ h, h1, nqObjs, List.sum_cons] at ih ⊢
    omega

theorem nq_renderLine_miss (any : Bool) (s : Mod) (objs : List Mod) (d : Bool) :
    nq (renderLine (.miss any s objs d)) = nq s.id + 2 + nqObjs objs := by
  obtain ⟨_, _, h, _, _, h1, h2, h3⟩ := nq_literals
  rw [renderLine]
  simp only [nq_append, subjText, nq_optKw _ _ _ h, nq_objs, h1, h2, h3]
  omega

/-- an item whose line has exactly four `"` has names free of `"` (and, if it is a `miss` item with objects, exactly one) -/
theorem parsable_of_nq (x : Item) (hne : ∀ any s objs d, x = .miss any s objs d → objs ≠ [])
    (h : nq (renderLine x) = 4) : x.parsable = true := by
  cases x with
  | imp u v d =>
    rw [nq_renderLine_imp] at h
    simp only [Item.parsable, Bool.and_eq_true, noQuote_iff_nq]
    omega
  | miss any s objs d =>
    rw [nq_renderLine_miss] at h
    cases objs with
    | nil => exact absurd rfl (hne _ _ _ _ rfl)
    | cons o r =>
      cases r with
      | nil =>
        simp only [nqObjs, List.map_cons, List.map_nil, List.sum_cons, List.sum_nil] at h
        simp only [Item.parsable, Bool.and_eq_true, noQuote_iff_nq, List.all_cons, List.all_nil, List.isEmpty_cons,
          Bool.not_false, and_true]
        omega
      | cons o2 r2 =>
        simp only [nqObjs, List.map_cons, List.sum_cons] at h
        omega

theorem renderLine_eq_imp_lemma (x : Item) (hne : ∀ any s objs d, x = .miss any s objs d → objs ≠ [])
    (X Y : Str) (d : Bool) (hX : noQuote X = true) (hY : noQuote Y = true)
    (h : renderLine x = renderLine (.imp X Y d)) : x = .imp X Y d := by
  have hp : (Item.imp X Y d).parsable = true := by simp [Item.parsable, hX, hY]
  have hn : nq (renderLine x) = 4 := by
    rw [h, nq_renderLine_imp, (noQuote_iff_nq X).1 hX, (noQuote_iff_nq Y).1 hY]
  have h1 := parseLine_renderLine_lemma x (parsable_of_nq x hne hn)
  rw [h, parseLine_renderLine_lemma _ hp] at h1
  exact (Option.some.inj h1).symm


theorem reportItems_objs_ne_nil (ir : Bool) (v : Violations) :
    ∀ x ∈ reportItems ir v, ∀ a s objs d, x = Item.miss a s objs d → objs ≠ [] := by
  rintro _ hx a s objs d rfl
  have key : ∀ ds, Item.miss a s objs d ∈ missItems a ir ds → objs ≠ [] := by
    intro ds h
    obtain ⟨_, _, ⟨y, hy, rfl⟩, rfl⟩ := (Miss.mem_missItems_iff _ _ _ _ _ _ _).1 h
    exact objs_of_subject_ne_nil ds _ (List.mem_map_of_mem hy)
  exact ((Miss.miss_mem_reportItems ir v a s objs d).1 hx).elim (key _) (key _)

theorem imp_line_mem_lemma (items : List Item)
    (hne : ∀ x ∈ items, ∀ a s objs d, x = Item.miss a s objs d → objs ≠ [])
    (X Y : Str) (d : Bool) (hX : noQuote X = true) (hY : noQuote Y = true)
    (h : renderLine (.imp X Y d) ∈ renderItems items) : Item.imp X Y d ∈ items := by
  obtain ⟨x, hx, hxl⟩ := (mem_renderItems items _).1 h
  have hc : x.canon = .imp X Y d := by
    apply renderLine_eq_imp_lemma _ _ X Y d hX hY hxl
    intro a s objs dd he
    cases x with
    | imp u v d' => cases he
    | miss a' s' objs' d' =>
      simp only [Item.canon] at he
      cases he
      exact sortBy_ne_nil _ _ (hne _ hx _ _ _ _ rfl)
  cases x with
  | imp u v d' => simpa [Item.canon] using hc ▸ hx
  | miss a' s' objs' d' => simp [Item.canon] at hc

theorem assertAppliesText_fail_lemma (mt : Str → Str → Bool) (r : RuleState) (g : PGraph Str) (lines : List Str)
    (h : (assertAppliesText mt r g).2 = .fail lines) :
    ∃ items, (assertApplies mt r g).2 = .fail items ∧ lines = renderItems items := by
  rw [assertAppliesText_eq_lemma] at h
  cases hv : (assertApplies mt r g).2 with
  | fail items => rw [hv] at h; cases h; exact ⟨items, rfl, rfl⟩
  | pass => rw [hv] at h; cases h
  | err k => rw [hv] at h; cases h

theorem assertApplies_fail_objs_ne_nil (mt : Str → Str → Bool) (g : PGraph Str) (r : RuleState) (items : List Item)
    (h : (assertApplies mt r g).2 = .fail items) :
    ∀ x ∈ items, ∀ a s objs d, x = Item.miss a s objs d → objs ≠ [] := by
  obtain ⟨d, ss, os, subs, objs, expl, other, _, _, _, _, _, _, rfl⟩ := assertApplies_fail mt g r items h
  exact reportItems_objs_ne_nil _ _

end Pta
