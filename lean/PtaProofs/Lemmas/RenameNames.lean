/-
  PtaProofs.Lemmas.RenameNames — every module name occurring in a report is a well-formed dotted name (so that
  `renStr ρ` acts on reports as the plain component-wise renaming). Proved by "parametricity": the model commutes
  with the injective map that fixes exactly the well-formed dotted names.
-/
import Bridge.Abs
import Bridge.Rename
import PtaProofs.Lemmas.RenameModel
import PtaProofs.Lemmas.RenameBuild
import PtaProofs.Lemmas.BuildScan
namespace Pta.RM
open PtaSpec

/-- fixes exactly the strings with `P`: the others get a `c` in front, which (`hc`) never yields a string with `P` -/
def fixBy (P : Str → Bool) (c : Char) (s : Str) : Str := if P s then s else c :: s

theorem fixBy_eq_iff {P : Str → Bool} {c : Char} (s : Str) : fixBy P c s = s ↔ P s = true := by
  unfold fixBy
  cases h : P s
  · simp only [Bool.false_eq_true, if_false, iff_false]
    intro e
    have := congrArg List.length e
    simp at this
  · simp

theorem fixBy_inj {P : Str → Bool} {c : Char} (hc : ∀ s, P (c :: s) = false) :
    ∀ x y, fixBy P c x = fixBy P c y → x = y := by
  intro x y h
  unfold fixBy at h
  cases hx : P x <;> cases hy : P y <;> simp only [hx, hy, if_true, if_false, Bool.false_eq_true] at h
  · exact (List.cons.inj h).2
  · rw [← h, hc] at hy; cases hy
  · rw [h, hc] at hx; cases hx
  · exact h

/-- fixes exactly the well-formed dotted names -/
def fixW : Str → Str := fixBy (fun s => nameWF (splitDots s)) '.'

theorem splitDots_dot_cons (s : Str) : nameWF (splitDots ('.' :: s)) = false := by
  have hne := splitDots_ne_nil s
  cases h : splitDots s with
  | nil => exact absurd h hne
  | cons x t => simp [splitDots, h, nameWF, compWF]

theorem fixW_eq_iff (s : Str) : fixW s = s ↔ wfStr s := fixBy_eq_iff s

theorem fixW_inj : ∀ x y, fixW x = fixW y → x = y := fixBy_inj splitDots_dot_cons

theorem fixW_render (n : Name) (hn : nameWF n = true) : fixW (render n) = render n :=
  (fixW_eq_iff _).2 (wfStr_render n hn)

theorem archGraph_fix_of (φ : Str → Str) (a : Arch) (hwf : a.wf = true)
    (hfix : ∀ n ∈ a.nodes, φ (render n) = render n) : mapGraph φ (archGraph a) = archGraph a := by
  obtain ⟨hn, he⟩ := archGraph_nodes a hwf
  refine (mapGraph_congr φ id _ (fun x hx => ?_) he).trans (mapGraph_id _)
  obtain ⟨n, h, rfl⟩ := hn x hx
  exact hfix n h

theorem archGraph_fix (a : Arch) (hwf : a.wf = true) : mapGraph fixW (archGraph a) = archGraph a :=
  archGraph_fix_of fixW a hwf fun n hn => fixW_render n (BuildNames.wf_nodes a hwf n hn)

theorem compile_fix_of (φ : Str → Str) (r : RuleSpec) (hs : ∀ f ∈ r.subjects, φ (render f.id) = render f.id)
    (ho : r.anything = false → ∀ f ∈ r.objects, φ (render f.id) = render f.id) : (compile r).mapId φ = compile r := by
  have hc : ∀ f : SFilter, φ (render f.id) = render f.id → compileFilter (id f) = (compileFilter f).mapId φ := by
    intro f h
    cases f <;> simpa [compileFilter, Filter.mapId, SFilter.id] using h.symm
  -- `id` as the map of filters: the rule itself, written `{ r with subjects := r.subjects.map id, … }`
  refine (compile_mapFilters id φ r (fun f hf => hc f (hs f hf)) fun h f hf => hc f (ho h f hf)).symm.trans ?_
  rw [List.map_id, List.map_id]

theorem item_mapId_eq (φ ψ : Str → Str) (i : Item) : i.mapId φ = i.mapId ψ ↔ ∀ s ∈ i.names, φ s = ψ s := by
  cases i with
  | imp u v b =>
    simp only [Item.mapId, Item.imp.injEq, and_true, Item.names, List.mem_cons, List.not_mem_nil, or_false, forall_eq_or_imp,
      forall_eq]
  | miss any m os b =>
    simp only [Item.mapId, Mod.mapId, Item.miss.injEq, Mod.mk.injEq, true_and, List.map_inj_left, and_true, Item.names,
      List.mem_cons, List.mem_map, forall_eq_or_imp, forall_exists_index, and_imp, forall_apply_eq_imp_iff₂]

theorem atoms_mapId (φ : Str → Str) (i : Item) : (i.mapId φ).atoms = i.atoms.map (Atom.mapId φ) := by
  cases i with
  | imp u v b => rfl
  | miss any m os b => simp only [Item.mapId, Item.atoms, List.map_map, Function.comp_def, Atom.mapId]

theorem verdict_mapId_eq (φ ψ : Str → Str) (v : Verdict) : v.mapId φ = v.mapId ψ ↔ ∀ s ∈ v.names, φ s = ψ s := by
  cases v with
  | fail items =>
    simp only [Verdict.mapId, Verdict.fail.injEq, List.map_inj_left, item_mapId_eq, Verdict.names, List.mem_flatMap]
    exact ⟨fun h s ⟨i, hi, hs⟩ => h i hi s hs, fun h i hi s hs => h s ⟨i, hi, hs⟩⟩
  | _ => simp [Verdict.mapId, Verdict.names]

theorem verdict_mapId_id (v : Verdict) : v.mapId id = v := by
  have hm : Mod.mapId id = id := rfl
  have hi : Item.mapId id = id := by funext i; cases i <;> simp [Item.mapId, hm]
  cases v <;> simp [Verdict.mapId, hi]

/-- Parametricity: an injective map that fixes the module names of the architecture and the identifiers of the rule
    fixes every module name in the report. -/
theorem report_names_fixed (φ : Str → Str) (hφ : ∀ x y, φ x = φ y → x = y) (mt : Str → Str → Bool) (a : Arch)
    (hwf : a.wf = true) (r : RuleSpec) (ha : ∀ n ∈ a.nodes, φ (render n) = render n)
    (hs : ∀ f ∈ r.subjects, φ (render f.id) = render f.id)
    (ho : r.anything = false → ∀ f ∈ r.objects, φ (render f.id) = render f.id) :
    ∀ s ∈ (assertApplies mt (compile r) (archGraph a)).2.names, φ s = s := by
  have h := assertApplies_map φ hφ mt (archGraph a) (compile r) (compile_noRegex r)
    (cfgSubOK_compile φ r fun f hf f' hf' => by rw [hs f hf, hs f' hf'])
  rw [compile_fix_of φ r hs ho, archGraph_fix_of φ a hwf ha] at h
  exact (verdict_mapId_eq φ id _).1 ((congrArg Prod.snd h).symm.trans (verdict_mapId_id _).symm)

theorem report_names_wf_lemma (mt : Str → Str → Bool) (a : Arch) (hwf : a.wf = true) (r : RuleSpec) (hr : ruleWF r = true) :
    ∀ s ∈ (assertApplies mt (compile r) (archGraph a)).2.names, wfStr s := by
  obtain ⟨hs, ho⟩ := (ruleWF_iff r).1 hr
  intro s hs'
  exact (fixW_eq_iff s).1 (report_names_fixed fixW fixW_inj mt a hwf r
    (fun n hn => fixW_render n (BuildNames.wf_nodes a hwf n hn)) (fun f hf => fixW_render _ (hs f hf))
    (fun h f hf => fixW_render _ (ho h f hf)) s hs')

end Pta.RM
