/-
  PtaProofs.Lemmas.AnythingDedup — the parent/sub-module de-duplication `_convert_aliases` applies to the subjects of
  `import_anything` / `be_imported_by_anything` rules (`dedupSubjects`) does not change the verdict CLASS of the rule
  `S should not import / be imported by modules except S`, provided every name of `S` is a node and the graph's
  hierarchy edges cover the dotted nesting of its nodes (`HierClosed`; true of every `buildGraph`, with or without a
  level limit, and of every `GraphOf a g`).

  Idea: with objects = subjects = `S` (name filters) the rule passes iff no import edge leaves (resp. enters) the union
  `Cover g S` of the subjects' sub trees; a subject dropped by the de-duplication lies in the sub tree of a kept one.
-/
import Bridge.Abs
import PtaProofs.Lemmas.Expansion
import PtaProofs.Lemmas.QueryErr
import PtaProofs.Lemmas.SemHier
import PtaProofs.Lemmas.ExtBuild
namespace Pta
open PtaSpec

/-- the hierarchy edges cover the dotted nesting of the nodes: a node whose identifier extends another node's
    identifier by `.`-separated components is reachable from it along hierarchy edges -/
def HierClosed (g : PGraph Str) : Prop :=
  ∀ a b, g.hasNode a = true → g.hasNode b = true → isStrictSub a b = true → Reach g a b

/-- name filters only (no regex, no `are_sub_modules_of`) -/
def namesOnly (S : List Filter) : Bool := S.all fun f => !f.isRegex && !f.isParent

theorem namesOnly_iff (S : List Filter) :
    namesOnly S = true ↔ ∀ f ∈ S, f.isRegex = false ∧ f.isParent = false := by
  simp [namesOnly, List.all_eq_true]

theorem namesOnly_map_name (ns : List Str) : namesOnly (ns.map Filter.name) = true := by
  rw [namesOnly_iff]
  intro f hf
  obtain ⟨n, _, rfl⟩ := List.mem_map.1 hf
  exact ⟨rfl, rfl⟩

theorem dedup_ancestor (g : PGraph Str) (hc : HierClosed g) (S : List Filter)
    (hn : ∀ f ∈ S, g.hasNode f.id = true) :
    ∀ f ∈ S, ∃ r ∈ dedupSubjects S, Reach g r.id f.id :=
  dedup_chain S (fun r f => Reach g r.id f.id) (fun _ => .refl _)
    fun _ o f ho hf hr hs => hr.trans (hc _ _ (hn o ho) (hn f hf) hs)

def Cover (g : PGraph Str) (S : List Filter) (x : Str) : Prop := ∃ f ∈ S, Reach g f.id x

/-- no import edge leaves (`dir = true`) resp. enters (`dir = false`) the union of the subjects' sub trees -/
def NoEscape (g : PGraph Str) (dir : Bool) (S : List Filter) : Prop :=
  ∀ u v, v ∈ g.importSuccs u →
    if dir = true then Cover g S u → Cover g S v else Cover g S v → Cover g S u

theorem cover_dedup (g : PGraph Str) (hc : HierClosed g) (S : List Filter)
    (hn : ∀ f ∈ S, g.hasNode f.id = true) (x : Str) :
    Cover g (dedupSubjects S) x ↔ Cover g S x := by
  constructor
  · rintro ⟨f, hf, hr⟩; exact ⟨f, dedupSubjects_subset S f hf, hr⟩
  · rintro ⟨f, hf, hr⟩
    obtain ⟨r, hr', hreach⟩ := dedup_ancestor g hc S hn f hf
    exact ⟨r, hr', hreach.trans hr⟩

theorem noEscape_dedup (g : PGraph Str) (hc : HierClosed g) (dir : Bool) (S : List Filter)
    (hn : ∀ f ∈ S, g.hasNode f.id = true) :
    NoEscape g dir (dedupSubjects S) ↔ NoEscape g dir S := by
  unfold NoEscape
  simp only [cover_dedup g hc S hn]

theorem parentIds_namesOnly (S : List Filter) (hS : namesOnly S = true) : parentIds S = [] := by
  unfold parentIds
  rw [List.map_eq_nil_iff, List.filter_eq_nil_iff]
  intro f hf
  simp [((namesOnly_iff S).1 hS f hf).2]

theorem list_eq_nil_iff_pairs {α β : Type} (l : List (α × β)) : l = [] ↔ ∀ u v, (u, v) ∉ l := by
  rw [List.eq_nil_iff_forall_not_mem, Prod.forall]

theorem not_escape_iff (g : PGraph Str) (S : List Filter) (s : Filter) (hs : s ∈ S) (near edge : Prop) (far : Str) :
    ¬ (near ∧ edge ∧ ¬ Reach g s.id far ∧ ¬ ∃ o, o ∈ S ∧ o ≠ s ∧ Reach g o.id far) ↔ (edge → near → Cover g S far) := by
  constructor
  · intro h he hnear
    apply Classical.byContradiction
    intro hcov
    exact h ⟨hnear, he, fun hv => hcov ⟨s, hs, hv⟩, fun ⟨o, ho, _, hov⟩ => hcov ⟨o, ho, hov⟩⟩
  · rintro h ⟨hnear, he, hnv, hno⟩
    obtain ⟨o, ho, hov⟩ := h he hnear
    by_cases hos : o = s
    · subst hos; exact hnv hov
    · exact hno ⟨o, ho, hos, hov⟩

theorem parentIds_dedup_namesOnly (S : List Filter) (hS : namesOnly S = true) : parentIds (dedup S) = [] :=
  parentIds_namesOnly _ ((namesOnly_iff _).2 fun f hf => (namesOnly_iff S).1 hS f ((mem_dedup _ _).1 hf))

/-- the one question the rule asks about a subject has an empty answer iff no import escapes from its sub tree -/
theorem anything_subject_iff (g : PGraph Str) (S : List Filter) (hS : namesOnly S = true)
    (hn : ∀ f ∈ S, g.hasNode f.id = true) (s : Filter) (hs : s ∈ S) (dir : Bool) :
    Answered g ⟨false, false, true, true⟩ dir S s ∧ (Holds g ⟨false, false, true, true⟩ dir S s ↔
      ∀ u v, v ∈ g.importSuccs u → Reach g s.id (if dir = true then u else v) → Cover g S (if dir = true then v else u)) := by
  have hd : ∀ o ∈ dedup S, g.hasNode o.id = true := fun o ho => hn o ((mem_dedup _ _).1 ho)
  unfold Answered Holds
  simp (config := {decide := true}) only [false_implies, true_and, forall_const]
  cases dir
  · obtain ⟨l, hl, hm⟩ := otherTo_ok g (dedup S) s (hn s hs) hd
    simp only [otherQuery, hl, Bool.false_eq_true, if_false, Except.ok.injEq, exists_eq', okD_ok, list_eq_nil_iff_pairs, hm, ((namesOnly_iff S).1 hS s hs).2,
      false_imp_iff, true_and, parentIds_dedup_namesOnly S hS, List.not_mem_nil, not_false_eq_true,
      and_true, mem_dedup, mem_importPreds_iff]
    exact forall_congr' fun u => forall_congr' fun v => not_escape_iff g S s hs _ _ u
  · obtain ⟨l, hl, hm⟩ := otherFrom_ok g s (dedup S) (hn s hs) hd
    simp only [otherQuery, hl, if_true, Except.ok.injEq, exists_eq', okD_ok, list_eq_nil_iff_pairs, hm, ((namesOnly_iff S).1 hS s hs).2,
      Bool.false_eq_true, false_imp_iff, true_and, parentIds_dedup_namesOnly S hS, List.not_mem_nil, not_false_eq_true,
      and_true, mem_dedup]
    exact forall_congr' fun u => forall_congr' fun v => not_escape_iff g S s hs _ _ v

theorem namesOnly_noregex (S : List Filter) (hS : namesOnly S = true) : ∀ f ∈ S, f.isRegex = false :=
  fun f hf => ((namesOnly_iff S).1 hS f hf).1

theorem anything_ofBool_iff (mt : Str → Str → Bool) (g : PGraph Str) (dir : Bool) (S : List Filter) (hne : S ≠ [])
    (hS : namesOnly S = true) (hn : ∀ f ∈ S, g.hasNode f.id = true) (p : Bool) :
    verdictOf mt g (mkRule false false true dir true S S) = .ofBool p ↔ (NoEscape g dir S ↔ p = true) := by
  rw [verdictOf_ofBool_iff, expand_of_noregex mt g.nodes (namesOnly_noregex S hS)]
  have hb : (Behavior.mk false false true true).inconsistent = false := rfl
  have hq := fun s hs => anything_subject_iff g S hS hn s hs dir
  simp only [Bool.or_true, hb, ne_eq, hne, not_false_eq_true, true_and, allMatch_of_noregex mt g.nodes (namesOnly_noregex S hS), forall₂_congr fun s hs => (hq s hs).2]
  rw [and_iff_right fun s hs => (hq s hs).1]
  refine iff_congr ?_ Iff.rfl
  unfold NoEscape
  cases dir <;> simp only [Bool.false_eq_true, if_false, if_true] <;>
    exact ⟨fun h u v huv ⟨s, hs, hr⟩ => h s hs u v huv hr, fun h s hs u v huv hr => h u v huv ⟨s, hs, hr⟩⟩

open Classical in
/-- **de-duplication is irrelevant to the verdict class** of `S should not import / be imported by modules except S` -/
theorem anything_dedup_irrelevant (mt : Str → Str → Bool) (g : PGraph Str) (hc : HierClosed g) (dir : Bool)
    (S : List Filter) (hS : namesOnly S = true) (hn : ∀ f ∈ S, g.hasNode f.id = true) :
    verdictOf mt g (mkRule false false true dir true S S) =
    verdictOf mt g (mkRule false false true dir true (dedupSubjects S) (dedupSubjects S)) := by
  by_cases hne : S = []
  · subst hne; rfl
  have hS' : namesOnly (dedupSubjects S) = true :=
    (namesOnly_iff _).2 fun f hf => (namesOnly_iff S).1 hS f (dedupSubjects_subset S f hf)
  -- both sides are `ofBool` of "no import escapes", which the de-duplication does not change
  rw [(anything_ofBool_iff mt g dir S hne hS hn (decide (NoEscape g dir S))).2 decide_eq_true_iff.symm,
    (anything_ofBool_iff mt g dir _ (dedupSubjects_ne_nil S hne) hS'
      (fun f hf => hn f (dedupSubjects_subset S f hf)) (decide (NoEscape g dir S))).2
      ((noEscape_dedup g hc dir S hn).trans decide_eq_true_iff.symm)]

theorem mkRule_lookup_error (mt : Str → Str → Bool) (g : PGraph Str) (dir : Bool) (S : List Filter)
    (hS : ∀ f ∈ S, f.isRegex = false) (hmiss : ∃ f ∈ S, g.hasNode f.id = false) :
    (assertApplies mt (mkRule false false true dir true S S) g).2 = .err .lookupError := by
  obtain ⟨f, hf, hm⟩ := hmiss
  have hne : S ≠ [] := List.ne_nil_of_mem hf
  rw [assertApplies_mkRule_of_ok mt g dir true rfl hne hne rfl, matchRule_err_iff_queries]
  exact (queries_lookupError_iff mt g _ dir S S (.inr (.inr rfl)) hne hne).2 ⟨allMatch_of_noregex mt g.nodes hS,
    allMatch_of_noregex mt g.nodes hS, f, List.mem_append_left _ (mem_expand_of_noregex hf (hS f hf)), hm⟩

theorem anything_lookup_error (mt : Str → Str → Bool) (g : PGraph Str) (dir : Bool) (S : List Filter)
    (hS : namesOnly S = true) (hmiss : ∃ f ∈ S, g.hasNode f.id = false) :
    verdictOf mt g (mkRule false false true dir true S S) = .err .lookupError := by
  unfold verdictOf
  rw [mkRule_lookup_error mt g dir S (namesOnly_noregex S hS) hmiss]
  rfl

theorem DottedHier.hierClosed {g : PGraph Str} (hd : DottedHier g) : HierClosed g := by
  intro a b _ hb hs
  obtain ⟨hp, _⟩ := (ExtNames.isStrictSub_iff a b).1 hs
  have hle := hp.length_le
  exact hd.reach a ((splitDots b).length - (splitDots a).length) b ((BuildGen.hasNode_iff g b).1 hb) hp (by omega)

/-- every graph `NetworkxGraph(all_modules, imports, level_limit)` builds from absolute imports whose importers are
    among the modules is `HierClosed` — arbitrary module strings, with or without a level limit -/
theorem buildGraph_dottedHier (mods : List Str) (imps : List ImportRec) (lim : Option Nat)
    (himp : ∀ i ∈ imps, ExtBuild.NodeOf lim mods (flattenNode lim i.importer) ∧
      i.importeeParents = parentModules i.importee) :
    DottedHier (buildGraph mods imps lim) := by
  obtain ⟨hnodes, hhier, _⟩ := ExtBuild.buildGraph_char mods imps lim himp
  constructor
  · intro e he s hs
    rw [hnodes] at he ⊢
    obtain ⟨m, hm, hc⟩ := he
    exact ⟨m, hm, ExtNames.chain_trans hs hc⟩
  · intro a b hp hb
    rw [BuildGen.mem_hierChildren, hhier]
    exact ⟨hp, (hnodes b).1 hb⟩

theorem buildGraph_hierClosed (mods : List Str) (imps : List ImportRec) (lim : Option Nat)
    (himp : ∀ i ∈ imps, ExtBuild.NodeOf lim mods (flattenNode lim i.importer) ∧
      i.importeeParents = parentModules i.importee) :
    HierClosed (buildGraph mods imps lim) :=
  (buildGraph_dottedHier mods imps lim himp).hierClosed

/-- the rule object after `modules_that()…should_not().import_anything()` / `be_imported_by_anything()` -/
abbrev anythingRule (dir : Bool) (S : List Filter) : RuleState :=
  { cfg := { subjects := some S, shouldNot := true, importDir := some dir, anything := true }, next := some false }

theorem droppedSubjects_nil : droppedSubjects [] = [] := rfl

/-- the outcome of the alias: the existence check on the removed subjects (repair of F-C13b), then the `except` rule on
    the de-duplicated subjects -/
theorem anything_alias_verdict (mt : Str → Str → Bool) (g : PGraph Str) (S : List Filter) (dir : Bool) :
    (assertApplies mt (anythingRule dir S) g).2 =
      if droppedAbsentIn g S = true then .err .lookupError
      else (assertApplies mt (mkRule false false true dir true (dedupSubjects S) (dedupSubjects S)) g).2 := by
  by_cases hS : S = []
  · subst hS; rfl
  have hne := dedupSubjects_ne_nil S hS
  cases hd : droppedAbsentIn g S
  · -- both rules pass the checks and ask the same queries
    rw [assertApplies_mkRule_of_ok mt g dir true rfl hne hne rfl]
    exact assertApplies_of_front (s := anythingRule dir S)
      (front_finished mt g false false true dir false true S [] rfl rfl (fun _ => rfl) hne (.inl rfl) fun _ => hd)
  · have hcm : configMissing (convertAliases (anythingRule dir S).cfg) = false := by
      simpa [configMissing, convertAliases] using hne
    have hda := (droppedAbsent_convert g (anythingRule dir S).cfg S rfl rfl).trans hd
    exact (assertApplies_err_iff_front mt g _ _).2 (front_of_gate_error rfl
      ((gate_error_iff g _ _).2 (by simp only [hcm, hda, Bool.false_eq_true, if_false, if_true])))

theorem anything_alias_dedup (mt : Str → Str → Bool) (g : PGraph Str) (S : List Filter) (dir : Bool)
    (hd : droppedAbsentIn g S = false) :
    (assertApplies mt (anythingRule dir S) g).2 =
      (assertApplies mt (mkRule false false true dir true (dedupSubjects S) (dedupSubjects S)) g).2 := by
  rw [anything_alias_verdict, hd]; rfl

theorem anything_congr (mt : Str → Str → Bool) (g : PGraph Str) (dir : Bool) (A B : List Filter)
    (hA : dedupSubjects A = A) (hB : dedupSubjects B = B) (hAe : A.isEmpty = false) (hBe : B.isEmpty = false)
    (hc : convertFilters mt g.nodes A = convertFilters mt g.nodes B) :
    (assertApplies mt (anythingRule dir A) g).2 = (assertApplies mt (anythingRule dir B) g).2 := by
  rw [anything_alias_dedup mt g A dir (droppedAbsentIn_of_dedup_eq g A hA),
    anything_alias_dedup mt g B dir (droppedAbsentIn_of_dedup_eq g B hB), hA, hB]
  exact assertApplies_mkRule_congr mt g _ _ _ dir _ A B A B hc hc (hAe.trans hBe.symm) (hAe.trans hBe.symm)

theorem anything_alias_dedup_of_nodes (mt : Str → Str → Bool) (g : PGraph Str) (S : List Filter) (dir : Bool)
    (hn : ∀ f ∈ S, f.isRegex = false → g.hasNode f.id = true) :
    (assertApplies mt (anythingRule dir S) g).2 =
      (assertApplies mt (mkRule false false true dir true (dedupSubjects S) (dedupSubjects S)) g).2 :=
  anything_alias_dedup mt g S dir (droppedAbsentIn_of_nodes g S hn)

/-- nothing is removed: the alias IS the `except` rule (outcome and rule object afterwards) -/
theorem anything_alias_of_dedup_eq (mt : Str → Str → Bool) (g : PGraph Str) (S : List Filter) (dir : Bool)
    (hS : dedupSubjects S = S) :
    assertApplies mt (anythingRule dir S) g = assertApplies mt (mkRule false false true dir true S S) g := by
  have hc : convertAliases (anythingRule dir S).cfg = (mkRule false false true dir true S S).cfg := by
    simp [convertAliases, mkRule, hS, droppedSubjects_of_dedup_eq S hS]
  have hm : convertAliases (mkRule false false true dir true S S).cfg = (mkRule false false true dir true S S).cfg := rfl
  rw [assertApplies_front, assertApplies_front]
  unfold front
  rw [hc, hm]
  rfl

/-- **an unknown subject of an `anything` rule is a lookup error** — whether the de-duplication drops it (the
    check on the removed subjects) or keeps it (the ordinary lookup of the queries). Name and parent filters, both directions, any graph. -/
theorem anything_unknown_name_lemma (mt : Str → Str → Bool) (g : PGraph Str) (dir : Bool) (S : List Filter)
    (hS : ∀ f ∈ S, f.isRegex = false) (hmiss : ∃ f ∈ S, g.hasNode f.id = false) :
    (assertApplies mt (anythingRule dir S) g).2 = .err .lookupError := by
  rw [anything_alias_verdict]
  split
  · rfl
  · rename_i hd
    rw [Bool.not_eq_true, droppedAbsentIn_false_iff] at hd
    obtain ⟨f, hf, hm⟩ := hmiss
    have hfd : f ∈ dedupSubjects S := by
      apply Classical.byContradiction
      intro hnot
      rw [hd f hf hnot (hS f hf)] at hm; cases hm
    exact mkRule_lookup_error mt g dir (dedupSubjects S) (fun x hx => hS x (dedupSubjects_subset S x hx)) ⟨f, hfd, hm⟩

/-- the alias has the verdict class of `S should not … modules except S` for EVERY batch of names, existing or not (an absent
    name makes both sides raise a lookup error) -/
theorem alias_anything_verdict_lemma (mt : Str → Str → Bool) (g : PGraph Str) (hc : HierClosed g) (S : List Filter)
    (dir : Bool) (hS : namesOnly S = true) :
    verdictOf mt g (anythingRule dir S) = verdictOf mt g (mkRule false false true dir true S S) := by
  by_cases hn : ∀ f ∈ S, g.hasNode f.id = true
  · unfold verdictOf
    rw [anything_alias_dedup_of_nodes mt g S dir (fun f hf _ => hn f hf)]
    exact (anything_dedup_irrelevant mt g hc dir S hS hn).symm
  · have hmiss : ∃ f ∈ S, g.hasNode f.id = false := by simpa using hn
    rw [anything_lookup_error mt g dir S hS hmiss]
    unfold verdictOf
    rw [anything_unknown_name_lemma mt g dir S (namesOnly_noregex S hS) hmiss]
    rfl

/-! ### the subject batches the fluent API can build

  A batch of `sub modules of` filters is left unchanged by `_convert_aliases`, so the alias IS the spelled-out `except`
  rule (whole outcome, every graph); hence the verdict-class law on `HierClosed` graphs for: names only |
  `sub modules of` only | one regex. -/

theorem dedupSubjects_eq_self_iff (S : List Filter) :
    dedupSubjects S = S ↔ ∀ o ∈ S, ∀ f ∈ S, o.isParent = false → isStrictSub o.id f.id = false := by
  unfold dedupSubjects
  rw [List.filter_eq_self]
  constructor
  · intro h o ho f hf hp
    have := h f hf
    rw [Bool.not_eq_true', List.any_eq_false] at this
    have h2 := this o ho
    rw [hp] at h2
    simpa using h2
  · intro h f hf
    rw [Bool.not_eq_true', List.any_eq_false]
    intro o ho
    cases hp : o.isParent
    · rw [h o ho f hf hp]; simp
    · simp

theorem dedupSubjects_parents (S : List Filter) (hS : S.all Filter.isParent = true) : dedupSubjects S = S := by
  rw [dedupSubjects_eq_self_iff]
  intro o ho f _ hp
  rw [List.all_eq_true] at hS
  rw [hS o ho] at hp
  cases hp

/-- a `sub modules of` filter in front of a batch never removes anything: e.g. `[sub modules of p, p.a]` -/
theorem dedupSubjects_parent_cons (p : Str) (S : List Filter) (hS : dedupSubjects S = S)
    (hp : ∀ o ∈ S, o.isParent = false → isStrictSub o.id p = false) :
    dedupSubjects (.parent p :: S) = .parent p :: S := by
  rw [dedupSubjects_eq_self_iff] at hS ⊢
  intro o ho f hf hpar
  rcases List.mem_cons.1 ho with rfl | ho
  · cases hpar
  · rcases List.mem_cons.1 hf with rfl | hf
    · exact hp o ho hpar
    · exact hS o ho f hf hpar

theorem alias_anything_parents_lemma (mt : Str → Str → Bool) (g : PGraph Str) (S : List Filter) (dir : Bool)
    (hS : S.all Filter.isParent = true) :
    assertApplies mt (anythingRule dir S) g = assertApplies mt (mkRule false false true dir true S S) g :=
  anything_alias_of_dedup_eq mt g S dir (dedupSubjects_parents S hS)

theorem alias_anything_verdict_names_or_fixed (mt : Str → Str → Bool) (g : PGraph Str) (hc : HierClosed g)
    (S : List Filter) (dir : Bool) (hS : namesOnly S = true ∨ dedupSubjects S = S) :
    verdictOf mt g (anythingRule dir S) = verdictOf mt g (mkRule false false true dir true S S) := by
  rcases hS with hS | hS
  · exact alias_anything_verdict_lemma mt g hc S dir hS
  · unfold verdictOf
    rw [anything_alias_of_dedup_eq mt g S dir hS]

/-- the batches one naming call of the fluent API builds — `are_named([...])`, `are_sub_modules_of([...])`,
    `have_name_matching(...)` — are names only or left unchanged by the de-duplication -/
theorem apiBatch_names_or_fixed (S : List Filter)
    (h : namesOnly S = true ∨ S.all Filter.isParent = true ∨ ∃ p, S = [.regex p]) :
    namesOnly S = true ∨ dedupSubjects S = S := by
  rcases h with h | h | ⟨p, rfl⟩
  · exact .inl h
  · exact .inr (dedupSubjects_parents S h)
  · exact .inr (dedupSubjects_single _)

end Pta
