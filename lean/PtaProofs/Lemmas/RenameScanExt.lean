/-
  PtaProofs.Lemmas.RenameScanExt — scan-level renaming (property C14), external modules in or out, any level limit,
  no external exclusion patterns: the records `ImportConverter` produces for the renamed tree are, as a set, the renamed
  records; the module list is the renamed module list as a set; hence the graph of the renamed scan has the node / edge
  sets of the image of the original graph.
-/
import PtaProofs.Lemmas.RenameScan
import PtaProofs.Lemmas.ExtScan
import PtaProofs.Lemmas.OrderBuild
namespace Pta.RS
open PtaSpec ScanImports ScanCompose

section ext
variable {mt mt' : Str → Str → Bool} {base base' root : Str} {mp : List Str} {entries : List Entry} {o : ScanOptions}
  {ps' : Patterns} {ρ : Comp → Comp} (hρ : GoodRen ρ)
  (hwf : treeWFFor (isExcluded mt o.exclusions) base mp entries = true) (hmp : mpOK entries mp = true)
  (hroot : compWF root = true)
  (hst : ∀ e ∈ entries, ∀ st ∈ e.stmts, stmtOK (toSStmt st) = true)
  (hx : ExclTransported ρ (isExcluded mt o.exclusions) (isExcluded mt' ps') base base' entries)
include hρ hwf hmp hroot hst hx

/-- a statement of a surviving file of the renamed tree names `b` iff `b` is the renamed target of the renamed importer -/
theorem acc_ren (a b : Name) :
    ScanImports.Acc mt' base' (ρ root) (mp.map (renFile ρ)) (rootEntry :: renEntries ρ entries) (o.withExclusions ps').forScanHyps a b ↔
      ∃ e : Name × Name, ScanImports.Acc mt base root mp (rootEntry :: entries) o.forScanHyps e.1 e.2 ∧ Ren.renPair ρ e = (a, b) := by
  have hown := ScanSpec.own_wf (root := root) hwf hroot
  have hrm := rootmp_wf hwf hmp hroot
  unfold ScanImports.Acc
  rw [ScanCompose.sentriesOf_root, ScanCompose.sentriesOf_root]
  dsimp only [ScanOptions.forScanHyps, ScanOptions.withExclusions]
  rw [toSEntries_ren hρ hx hst, insideOf_ren hρ root _ mp hown hrm, apOf_ren root mp hrm]
  have hse : ∀ e0 ∈ entries, toSEntry (isExcluded mt' ps') base' (renEntry ρ e0) =
      renSEntry ρ (toSEntry (isExcluded mt o.exclusions) base e0) := fun e0 h0 =>
    toSEntry_ren hρ e0 (hx e0.rel (Or.inr ⟨e0, h0, List.prefix_refl _⟩)) (hst e0 h0)
  have hname : ∀ e0 ∈ entries,
      survives (toSEntries (isExcluded mt o.exclusions) base entries) mp (toSEntry (isExcluded mt o.exclusions) base e0) = true →
      entryName (ρ root) (renSEntry ρ (toSEntry (isExcluded mt o.exclusions) base e0)) =
        renName ρ (entryName root (toSEntry (isExcluded mt o.exclusions) base e0)) := fun e0 h0 hs =>
    entryName_ren root _ (hown _ ((ScanSpec.mem_ownNames ..).2 ⟨e0, List.mem_cons_of_mem _ h0, hs, rfl⟩))
  constructor
  · rintro ⟨e0', he0', hd, hs, rfl, st', hst', ts', hts', hb⟩
    rcases List.mem_cons.1 he0' with rfl | he0'
    · cases hd
    obtain ⟨e0, he0, rfl⟩ := List.mem_map.1 he0'
    obtain ⟨st, hst0, rfl⟩ := List.mem_map.1 hst'
    rw [hse e0 he0, survives_ren hρ] at hs
    rw [hse e0 he0, hname e0 he0 hs, toSStmt_ren hρ st (hst e0 he0 st hst0), targets_ren hρ] at hts'
    obtain ⟨ts, hts, rfl⟩ := Option.map_eq_some_iff.1 hts'
    obtain ⟨t, ht, rfl⟩ := List.mem_map.1 hb
    exact ⟨(entryName root (toSEntry (isExcluded mt o.exclusions) base e0), t),
      ⟨e0, List.mem_cons_of_mem _ he0, hd, hs, rfl, st, hst0, ts, hts, ht⟩, by rw [hse e0 he0, hname e0 he0 hs]; rfl⟩
  · rintro ⟨⟨_, t⟩, ⟨e0, he0, hd, hs, rfl, st, hst0, ts, hts, ht⟩, h⟩
    obtain ⟨rfl, rfl⟩ := Prod.mk.inj h
    rcases List.mem_cons.1 he0 with rfl | he0
    · cases hd
    refine ⟨renEntry ρ e0, List.mem_cons_of_mem _ (List.mem_map.2 ⟨e0, he0, rfl⟩), hd, ?_, ?_, renStmt ρ st,
      List.mem_map.2 ⟨st, hst0, rfl⟩, ts.map (renName ρ), ?_, List.mem_map.2 ⟨t, ht, rfl⟩⟩
    · rw [hse e0 he0, survives_ren hρ]
      exact hs
    · rw [hse e0 he0, hname e0 he0 hs]
    · rw [toSStmt_ren hρ st (hst e0 he0 st hst0), targets_ren hρ, hts]
      rfl
variable (hext : o.externalExclusions.isEmpty = true)
include hext

theorem scanHyps_both :
    ScanHyps mt base root mp (rootEntry :: entries) o.forScanHyps ∧
    ScanHyps mt' base' (ρ root) (mp.map (renFile ρ)) (rootEntry :: renEntries ρ entries) (o.withExclusions ps').forScanHyps := by
  have hwf' : treeWFFor (isExcluded mt' (o.withExclusions ps').forScanHyps.exclusions) base' (mp.map (renFile ρ))
      (renEntries ρ entries) = true := treeWFFor_ren hρ hx hwf
  have hmp' : mpOK (renEntries ρ entries) (mp.map (renFile ρ)) = true := by rw [mpOK_ren hρ]; exact hmp
  exact ⟨ScanCompose.scanHyps_of_tree (o := o.forScanHyps) (root := root) hwf hmp hroot rfl rfl hext hst,
    ScanCompose.scanHyps_of_tree (o := (o.withExclusions ps').forScanHyps) (root := ρ root) hwf' hmp' (hρ.wf root hroot) rfl rfl hext
      (stmts_ren_ok hρ entries hst)⟩

theorem rawOf_ren (e' : Name × Name) :
    e' ∈ rawOf mt' base' (ρ root) (mp.map (renFile ρ)) (rootEntry :: renEntries ρ entries) (o.withExclusions ps').forScanHyps ↔
      e' ∈ (rawOf mt base root mp (rootEntry :: entries) o.forScanHyps).map (Ren.renPair ρ) := by
  obtain ⟨H, H'⟩ := scanHyps_both hρ hwf hmp hroot hst hx hext
  rw [mem_rawOf H', acc_ren hρ hwf hmp hroot hst hx, List.mem_map]
  exact exists_congr fun e => and_congr_left' (mem_rawOf H e).symm

theorem parsed_ren (x : Str) :
    x ∈ (scanParsed mt' base' (ρ root) (mp.map (renFile ρ)) (rootEntry :: renEntries ρ entries)
        (o.withExclusions ps').forScanHyps).allModules ↔
      x ∈ (scanParsed mt base root mp (rootEntry :: entries) o.forScanHyps).allModules.map (renStr ρ) := by
  obtain ⟨H, H'⟩ := scanHyps_both hρ hwf hmp hroot hst hx hext
  rw [H'.mods, show sentriesOf mt' base' (rootEntry :: renEntries ρ entries) (o.withExclusions ps').forScanHyps =
      (sentriesOf mt base (rootEntry :: entries) o.forScanHyps).map (renSEntry ρ) from toSEntries_ren hρ hx hst,
    ownNames_ren hρ root (sentriesOf mt base (rootEntry :: entries) o.forScanHyps) mp (ScanSpec.own_wf hwf hroot)]
  simp only [List.mem_map, H.mods]
  constructor
  · rintro ⟨n', ⟨n, hn, rfl⟩, rfl⟩
    exact ⟨render n, ⟨n, hn, rfl⟩, RM.renStr_render ρ n (H.ownWF n hn)⟩
  · rintro ⟨s, ⟨n, hn, rfl⟩, rfl⟩
    exact ⟨renName ρ n, ⟨n, hn, rfl⟩, RM.renStr_render ρ n (H.ownWF n hn)⟩

omit hρ hwf hmp hroot hst hx in
theorem mem_moduleList_ext (pre : Str) (P : List Str) (R : List ImportRec) (m : Str) :
    m ∈ moduleList mt base o pre P R ↔ m ∈ P ∨ (o.excludeExternal = false ∧
      ∃ i ∈ R, isInternal i.importee pre = false ∧ m ∈ i.importee :: i.importeeParents) := by
  rw [ExtScan.mem_moduleList]
  simp only [hext, true_or, and_true]

omit hρ hwf hmp hroot hst hx in
theorem moduleList_image (φ : Str → Str) (o' : ScanOptions) (hxx' : o'.excludeExternal = o.excludeExternal)
    (hext' : o'.externalExclusions.isEmpty = true) (pre pre' : Str) (P P' : List Str) (R R' : List ImportRec)
    (hP : ∀ x, x ∈ P' ↔ x ∈ P.map φ) (hR : ∀ x, x ∈ R' ↔ x ∈ R.map (RM.mapImp φ))
    (hint : ∀ i ∈ R, isInternal (φ i.importee) pre' = isInternal i.importee pre) (x : Str) :
    x ∈ moduleList mt' base' o' pre' P' R' ↔ x ∈ (moduleList mt base o pre P R).map φ := by
  rw [mem_moduleList_ext hext', List.mem_map]
  constructor
  · rintro (h | ⟨hxx, i', hi', hni, hxi⟩)
    · obtain ⟨m, hmP, rfl⟩ := List.mem_map.1 ((hP x).1 h)
      exact ⟨m, (mem_moduleList_ext hext _ _ _ m).2 (Or.inl hmP), rfl⟩
    · obtain ⟨i, hi, rfl⟩ := List.mem_map.1 ((hR i').1 hi')
      obtain ⟨m, hmm, rfl⟩ := List.mem_map.1 (show x ∈ (i.importee :: i.importeeParents).map φ from hxi)
      exact ⟨m, (mem_moduleList_ext hext _ _ _ m).2
        (Or.inr ⟨hxx'.symm.trans hxx, i, hi, (hint i hi).symm.trans hni, hmm⟩), rfl⟩
  · rintro ⟨m, hmm, rfl⟩
    rcases (mem_moduleList_ext hext _ _ _ m).1 hmm with h | ⟨hxx, i, hi, hni, hmi⟩
    · exact Or.inl ((hP _).2 (List.mem_map.2 ⟨m, h, rfl⟩))
    · exact Or.inr ⟨hxx'.trans hxx, RM.mapImp φ i, (hR _).2 (List.mem_map.2 ⟨i, hi, rfl⟩), (hint i hi).trans hni,
        show φ m ∈ (i.importee :: i.importeeParents).map φ from List.mem_map.2 ⟨m, hmi, rfl⟩⟩

omit hwf hmp hroot hst hx in
/-- from module lists and lists of (importer, target) pairs that correspond as sets under the renaming, `buildGraph`
    makes graphs that correspond, under every map that renames rendered well-formed names -/
theorem graph_image (o' : ScanOptions) (hxx' : o'.excludeExternal = o.excludeExternal)
    (hext' : o'.externalExclusions.isEmpty = true) (lim : Option Nat) (pre : Name) (hpre : nameWF pre = true)
    (P P' : List Str) (N N' : List (Name × Name)) (hP : ∀ m ∈ P, ∃ n, nameWF n = true ∧ m = render n)
    (hN : ∀ e ∈ N, nameWF e.1 = true ∧ nameWF e.2 = true) (hP' : ∀ x, x ∈ P' ↔ x ∈ P.map (renStr ρ))
    (hN' : ∀ e, e ∈ N' ↔ e ∈ N.map (Ren.renPair ρ)) (himp : ∀ e ∈ N, render e.1 ∈ P)
    (φ : Str → Str) (hφ : ∀ n, nameWF n = true → φ (render n) = render (renName ρ n)) :
    GraphEquiv (buildGraph (moduleList mt' base' o' (render (renName ρ pre)) P' (N'.map mkRec)) (N'.map mkRec) lim)
      (mapGraph φ (buildGraph (moduleList mt base o (render pre) P (N.map mkRec)) (N.map mkRec) lim)) := by
  have hmk : (N.map mkRec).map (RM.mapImp (renStr ρ)) = (N.map (Ren.renPair ρ)).map mkRec := by
    rw [List.map_map, List.map_map]
    exact List.map_congr_left fun e he => (RM.absImport_ren hρ e.1 e.2 (hN e he).1 (hN e he).2).symm
  have hrecs : ∀ x, x ∈ N'.map mkRec ↔ x ∈ (N.map mkRec).map (RM.mapImp (renStr ρ)) := fun x => by
    simp only [hmk, List.mem_map, hN']
  -- every listed module is the rendering of a well-formed name
  have hM : ∀ m ∈ moduleList mt base o (render pre) P (N.map mkRec), ∃ n, nameWF n = true ∧ m = render n := by
    intro m hmm
    rcases (mem_moduleList_ext hext _ _ _ m).1 hmm with h | ⟨-, i, hi, -, hmi⟩
    · exact hP m h
    · obtain ⟨e, he, rfl⟩ := List.mem_map.1 hi
      obtain ⟨p, hne, hp, rfl⟩ := (ExtNames.mem_chain_render (hN e he).2 m).1 (ExtNames.mem_cons_parents_chain.1 hmi)
      exact ⟨p, nameWF_of_prefix (hN e he).2 hne hp, rfl⟩
  -- so every name in the graph is one, and all such maps agree with `renStr ρ` on it
  have h0 : ∀ i ∈ N.map mkRec, ExtBuild.NodeOf none (moduleList mt base o (render pre) P (N.map mkRec)) i.importer ∧
      i.importeeParents = parentModules i.importee := fun i hi => by
    obtain ⟨e, he, rfl⟩ := List.mem_map.1 hi
    exact ⟨⟨_, (mem_moduleList_ext hext _ _ _ _).2 (Or.inl (himp e he)), ExtNames.self_mem_chain _⟩, rfl⟩
  rw [RM.mapGraph_congr φ (renStr ρ) _ (fun x hx => by
      obtain ⟨m, hm, hc⟩ := ((ExtBuild.buildGraph_known _ _ lim h0).1 x).1 hx
      obtain ⟨n, hn, rfl⟩ := hM m hm
      obtain ⟨p, hne, hp, rfl⟩ := (ExtNames.mem_chain_render hn x).1
        (ExtNames.chain_trans hc (ExtNames.flatten_mem_chain lim _))
      have hx' := nameWF_of_prefix hn hne hp
      exact (hφ _ hx').trans (RM.renStr_render ρ _ hx').symm)
    (ExtBuild.buildGraph_edge_nodes _ _ lim h0)]
  rw [← RM.buildGraph_map (renStr ρ) (RM.renStr_inj hρ) lim _ _
    (fun m hmm => by
      obtain ⟨n, hn, rfl⟩ := hM m hmm
      exact RM.renStr_parentModules hρ n hn)
    (fun i hi => by
      obtain ⟨e, he, rfl⟩ := List.mem_map.1 hi
      exact RM.renStr_parentModules hρ e.1 (hN e he).1)
    (fun m hmm => by
      obtain ⟨n, hn, rfl⟩ := hM m hmm
      exact RM.renStr_flatOK_chain hρ lim n hn)
    (fun i hi x hx => by
      obtain ⟨e, he, rfl⟩ := List.mem_map.1 hi
      rcases List.mem_append.1 hx with h | h
      · exact RM.renStr_flatOK_chain hρ lim e.1 (hN e he).1 x h
      · exact RM.renStr_flatOK_chain hρ lim e.2 (hN e he).2 x h)]
  refine OrdB.buildGraph_equiv lim _ _ _ _
    (moduleList_image hext (renStr ρ) o' hxx' hext' _ _ _ _ _ _ hP' hrecs fun i hi => ?_) hrecs
    (fun i' hi' => ?_) fun i' hi' => ?_
  · obtain ⟨e, he, rfl⟩ := List.mem_map.1 hi
    rw [show (mkRec e).importee = render e.2 from rfl, RM.renStr_render ρ _ (hN e he).2]
    exact RM.isInternal_ren_lemma ρ hρ _ _ (hN e he).2 hpre
  · obtain ⟨e', he', rfl⟩ := List.mem_map.1 hi'
    obtain ⟨e, he, rfl⟩ := List.mem_map.1 ((hN' e').1 he')
    exact (mem_moduleList_ext hext' _ _ _ _).2
      (Or.inl ((hP' _).2 (List.mem_map.2 ⟨_, himp e he, RM.renStr_render ρ _ (hN e he).1⟩)))
  · obtain ⟨e', -, rfl⟩ := List.mem_map.1 hi'
    rfl

omit hwf hmp hroot hst hx in
theorem retained_ren (o' : ScanOptions) (hxx' : o'.excludeExternal = o.excludeExternal)
    (hext' : o'.externalExclusions.isEmpty = true) (pre : Name) (hpre : nameWF pre = true) (e : Name × Name)
    (h2 : nameWF e.2 = true) :
    retained mt' o' (render (renName ρ pre)) (mkRec (Ren.renPair ρ e)) = retained mt o (render pre) (mkRec e) := by
  simp only [retained, hext, hext', hxx', Bool.not_true, Bool.false_eq_true, if_false, Bool.and_true]
  rw [show (mkRec (Ren.renPair ρ e)).importee = render (renName ρ e.2) from rfl,
    show (mkRec e).importee = render e.2 from rfl, RM.isInternal_ren_lemma ρ hρ _ _ h2 hpre]

/-- The renamed scan (external modules in or out, any level limit, no external exclusion patterns): both scans raise
    the `LookupError` of a relative import above the root, or both succeed, and then the graph of the renamed tree is, up
    to the order of nodes and edges, the image of the original graph under every map that sends the rendering of a
    well-formed name to the rendering of the renamed name (`renDotted ρ`, `renStr ρ`). -/
theorem scan_ren_cases :
    (generateGraph mt base root mp entries o = .error .lookupError ∧
      generateGraph mt' base' (ρ root) (mp.map (renFile ρ)) (renEntries ρ entries) (o.withExclusions ps') =
        .error .lookupError) ∨
    ∃ g g', generateGraph mt base root mp entries o = .ok g ∧
      generateGraph mt' base' (ρ root) (mp.map (renFile ρ)) (renEntries ρ entries) (o.withExclusions ps') = .ok g' ∧
      ∀ φ : Str → Str, (∀ n, nameWF n = true → φ (render n) = render (renName ρ n)) → GraphEquiv g' (mapGraph φ g) := by
  obtain ⟨H, H'⟩ := scanHyps_both hρ hwf hmp hroot hst hx hext
  have h := gen_outcome H
  have h' := gen_outcome H'
  -- the specification of the renamed tree is the renamed specification: both scans fail, or neither
  rw [show (o.withExclusions ps').exclusions = ps' from rfl, scanImports_tree_ren hρ hwf hmp hroot hst hx,
    Option.isSome_map] at h'
  cases hs : (scanImports root (toSEntries (isExcluded mt o.exclusions) base entries) mp).isSome <;> rw [hs] at h h'
  · exact .inl ⟨h, h'⟩
  · refine .inr ⟨_, _, h, h', fun φ hφ => ?_⟩
    have hrm := rootmp_wf hwf hmp hroot
    have hlim : shiftedLimit (o.withExclusions ps') (mp.map (renFile ρ)) = shiftedLimit o mp := by
      simp only [shiftedLimit, ScanOptions.withExclusions, List.isEmpty_map, List.length_map]
    have hfacts : ∀ e ∈ rawOf mt base root mp (rootEntry :: entries) o.forScanHyps, nameWF e.1 = true ∧ nameWF e.2 = true ∧
        render e.1 ∈ (scanParsed mt base root mp (rootEntry :: entries) o.forScanHyps).allModules := fun e he => by
      obtain ⟨ho, hw⟩ := Acc_facts H e.1 e.2 ((mem_rawOf H e).1 he)
      exact ⟨H.ownWF _ ho, hw, (H.mods _).2 ⟨e.1, ho, rfl⟩⟩
    have hret := fun e he => retained_ren (mt := mt) (mt' := mt') hρ hext (o.withExclusions ps') rfl hext (root :: mp) hrm e (hfacts e he).2.1
    rw [hlim, internalPrefix_eq, internalPrefix_eq, show ρ root :: mp.map (renFile ρ) = renName ρ (root :: mp) from
      congrArg (ρ root :: ·) (mp_map_renFile root mp hrm), ExtScan.retainImports_eq, ExtScan.retainImports_eq,
      List.filter_map, List.filter_map]
    refine graph_image hρ hext (o.withExclusions ps') rfl hext _ (root :: mp) hrm _ _ _ _
      (fun m hm => by
        obtain ⟨n, hn, rfl⟩ := (H.mods m).1 hm
        exact ⟨n, H.ownWF n hn, rfl⟩)
      (fun e he => ⟨(hfacts e (List.mem_filter.1 he).1).1, (hfacts e (List.mem_filter.1 he).1).2.1⟩)
      (parsed_ren hρ hwf hmp hroot hst hx hext)
      (fun e' => (OrdS.SM.filter (rawOf_ren hρ hwf hmp hroot hst hx hext) _ e').trans ?_)
      (fun e he => (hfacts e (List.mem_filter.1 he).1).2.2) φ hφ
    simp only [List.filter_map, Function.comp_def, List.filter_congr hret]

end ext

end Pta.RS
