/-
  PtaProofs.Lemmas.BuildNames — what the graph-construction proof needs beside Render: the consecutive pairs of a
  mapped list and of a range, well-formed architectures unpacked (`wf_iff`, `wf_nodes`, `wf_import`, `wf_congr`),
  and truncation along a prefix (`trunc_prefix`, `trunc_of_prefix`, `trunc_parent_sdesc`). The lemmas about
  `properPrefixes` and `nameWF` of prefixes are in Render.
-/
import Bridge.Abs
import PtaProofs.Lemmas.Render
namespace Pta
namespace BuildNames
open PtaSpec

theorem consecutive_map {β γ : Type} (f : β → γ) :
    ∀ l : List β, consecutive (l.map f) = (consecutive l).map (fun p => (f p.1, f p.2))
  | [] => rfl
  | [_] => rfl
  | a :: b :: r => by
    have ih := consecutive_map f (b :: r)
    simp only [List.map_cons] at ih
    simp only [List.map_cons, consecutive, ih]

theorem consecutive_map_range' {β : Type} (f : Nat → β) : ∀ (m s : Nat),
    consecutive ((List.range' s (m + 1)).map f) = (List.range' s m).map fun k => (f k, f (k + 1))
  | 0, s => rfl
  | m + 1, s => by
    have ih := consecutive_map_range' f m (s + 1)
    simp only [List.range'_succ, List.map_cons] at ih ⊢
    rw [consecutive, ih]

theorem wf_iff (a : Arch) : a.wf = true ↔
    a.nodes.Nodup ∧ (∀ n ∈ a.nodes, nameWF n = true) ∧ (∀ n ∈ a.nodes, ∀ p ∈ properPrefixes n, p ∈ a.nodes) ∧
      ∀ e ∈ a.imports, e.1 ∈ a.nodes ∧ e.2 ∈ a.nodes ∧ e.1 ≠ e.2 ∧ sdesc e.1 e.2 = false := by
  unfold Arch.wf
  simp only [Bool.and_eq_true, List.all_eq_true, List.contains_iff_mem, bne_iff_ne, ne_eq, Bool.not_eq_true', nodupB_iff,
    and_assoc]

theorem wf_congr (a b : Arch) (hwf : a.wf = true) (hn : b.nodes.Nodup) (h1 : ∀ n, n ∈ b.nodes ↔ n ∈ a.nodes)
    (h2 : ∀ e, e ∈ b.imports → e ∈ a.imports) : b.wf = true := by
  obtain ⟨-, w1, w2, w3⟩ := (wf_iff a).1 hwf
  refine (wf_iff b).2 ⟨hn, fun n hn' => w1 n ((h1 n).1 hn'), fun n hn' p hp => (h1 p).2 (w2 n ((h1 n).1 hn') p hp),
    fun e he => ?_⟩
  obtain ⟨i1, i2, i3⟩ := w3 e (h2 e he)
  exact ⟨(h1 _).2 i1, (h1 _).2 i2, i3⟩

theorem wf_nodes (a : Arch) (hwf : a.wf = true) (n : Name) (hn : n ∈ a.nodes) : nameWF n = true :=
  ((wf_iff a).1 hwf).2.1 n hn

theorem wf_of_prefix (a : Arch) (hwf : a.wf = true) {n p : Name} (hn : n ∈ a.nodes) (hne : p ≠ []) (hp : p <+: n) :
    p ∈ a.nodes := by
  rcases eq_or_mem_properPrefixes hne hp with rfl | h
  · exact hn
  · exact ((wf_iff a).1 hwf).2.2.1 n hn p h

theorem wf_import (a : Arch) (hwf : a.wf = true) (e : Name × Name) (he : e ∈ a.imports) :
    e.1 ∈ a.nodes ∧ e.2 ∈ a.nodes ∧ e.1 ≠ e.2 ∧ sdesc e.1 e.2 = false :=
  ((wf_iff a).1 hwf).2.2.2 e he

theorem trunc_prefix (lim : Option Nat) (n : Name) : trunc lim n <+: n := by
  cases lim with
  | none => exact List.prefix_refl n
  | some k => exact List.take_prefix _ n

theorem trunc_of_prefix (lim : Option Nat) {p n : Name} (h : p <+: trunc lim n) : trunc lim p = p := by
  cases lim with
  | none => rfl
  | some k =>
    have := h.length_le
    simp only [trunc, List.length_take] at this
    exact List.take_of_length_le (by omega)

theorem trunc_take (lim : Option Nat) (n : Name) (k : Nat) : trunc lim (n.take k) = (trunc lim n).take k := by
  cases lim with
  | none => rfl
  | some j => simp only [trunc, List.take_take, Nat.min_comm]

theorem trunc_parent_sdesc (lim : Option Nat) (u v : Name) (hl : 2 ≤ (trunc lim v).length)
    (h : trunc lim u = (trunc lim v).dropLast) : sdesc u v = true := by
  have hlen := congrArg List.length h
  rw [List.length_dropLast] at hlen
  -- `trunc lim u` is shorter than a truncated name, so `u` was not cut
  have hu : trunc lim u = u := by
    cases lim with
    | none => rfl
    | some j =>
      simp only [trunc, List.length_take] at hlen hl ⊢
      exact List.take_of_length_le (by omega)
  rw [hu] at h hlen
  rw [sdesc_iff]
  refine ⟨h ▸ (List.dropLast_prefix _).trans (trunc_prefix lim v), ?_⟩
  rintro rfl
  have := (trunc_prefix lim u).length_le
  omega

end BuildNames
end Pta
