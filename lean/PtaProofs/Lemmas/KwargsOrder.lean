/-
  PtaProofs.Lemmas.KwargsOrder — audit finding F12: the keyword arguments the drawing backend receives, with values and
  order.  `draw` pops `spacing` / `aliases` from the `kwargs` dict and appends `pos` / `labels`; everything else stays
  where it was, with the value it had.
-/
import PtaModel
namespace Pta

/-- the (key, value) pair of a passed-through keyword -/
def KwArg.pair? : KwArg → Option (Str × Str)
  | .other k v => some (k, v)
  | _ => none

def KwArg.kept : KwArg → Bool
  | .spacing => false
  | .aliases => false
  | _ => true

theorem filter_ne_of_not_mem (kw : List KwArg) (x : KwArg) (h : x ∉ kw) : kw.filter (· != x) = kw := by
  rw [List.filter_eq_self]
  intro a ha
  simp only [bne_iff_ne, ne_eq]
  rintro rfl
  exact h ha

/-- `kwargs.pop(x)` and `kwargs[y] = …` if `x` was given: the key goes from where it stood, the new one comes last -/
theorem pop_push (l : List KwArg) (x y : KwArg) :
    (if l.contains x = true then l.filter (· != x) ++ [y] else l) = l.filter (· != x) ++ if x ∈ l then [y] else [] := by
  by_cases h : x ∈ l
  · simp only [List.contains_iff_mem, h, if_true]
  · simp only [List.contains_iff_mem, h, if_false, List.append_nil, filter_ne_of_not_mem l x h]

/-- the exact list the backend receives: the kept keywords in their order, then `pos` (iff `spacing` was given), then
    `labels` (iff `aliases` was given) -/
theorem drawKwargs_shape (kw : List KwArg) :
    drawKwargs kw = kw.filter KwArg.kept ++ (if KwArg.spacing ∈ kw then [KwArg.pos] else []) ++
      (if KwArg.aliases ∈ kw then [KwArg.labels] else []) := by
  have hk : (kw.filter (· != KwArg.spacing)).filter (· != KwArg.aliases) = kw.filter KwArg.kept := by
    rw [List.filter_filter]
    exact List.filter_congr fun a _ => by cases a <;> rfl
  have hpos : (if KwArg.spacing ∈ kw then [KwArg.pos] else []).filter (· != KwArg.aliases) =
      if KwArg.spacing ∈ kw then [KwArg.pos] else [] := by
    split <;> rfl
  have hal : KwArg.aliases ∈ kw.filter (· != KwArg.spacing) ++ (if KwArg.spacing ∈ kw then [KwArg.pos] else []) ↔
      KwArg.aliases ∈ kw := by
    split <;> simp [List.mem_filter]
  unfold drawKwargs
  simp only [pop_push]
  simp only [List.filter_append, hk, hpos, hal]

theorem filterMap_pair_kept (kw : List KwArg) : (kw.filter KwArg.kept).filterMap KwArg.pair? = kw.filterMap KwArg.pair? := by
  rw [List.filterMap_filter]
  congr 1
  funext a
  cases a <;> rfl

end Pta
