/-
  PtaProofs.Lemmas.ScanGraph — from the parsed walk to the graph (property C04: nodes, hierarchy and sub modules of the graph): the specification's
  `scanModules` is a duplicate-free, well-formed, prefix-closed node list; together with the leaf property of `.py`
  files the inputs of the graph constructor are `ScanLike`, so the scan graph is a graph of a well-formed architecture
  on `scanModules`.
-/
import Bridge.Abs
import Bridge.ScanTree
import PtaProofs.Lemmas.Render
import PtaProofs.Lemmas.BuildNames
import PtaProofs.Lemmas.BuildScan
import PtaProofs.Lemmas.ScanWalk
import PtaProofs.Lemmas.ScanNames
import PtaProofs.Lemmas.ScanSpec
import PtaProofs.Lemmas.ScanImports
import PtaProofs.Lemmas.ExtScan
namespace Pta
namespace ScanGraph
open PtaSpec BuildGen BuildNames BuildScan ScanWalk ScanNames ScanSpec

theorem nodup_eraseDups {α : Type} [BEq α] [LawfulBEq α] : ∀ (l : List α), l.eraseDups.Nodup
  | [] => by simp
  | a :: as => by
    rw [List.eraseDups_cons, List.nodup_cons]
    refine ⟨?_, nodup_eraseDups (as.filter fun b => !b == a)⟩
    simp [List.mem_eraseDups]
termination_by l => l.length
decreasing_by
  simp only [List.length_cons]
  exact Nat.lt_succ_of_le (List.length_filter_le _ _)

/-- the import pairs among `N` that the records account for -/
def scanImportPairs (N : List Name) (imps : List ImportRec) : List (Name × Name) :=
  (imps.filter fun i => (N.map render).contains i.importee && i.importer != i.importee).map
    fun i => (splitDots i.importer, splitDots i.importee)

def scanArch (N : List Name) (imps : List ImportRec) : Arch := ⟨N, scanImportPairs N imps⟩

/-- what the graph part needs to know about the node list, the module list and the records -/
structure ScanInputs (N : List Name) (mods : List Str) (imps : List ImportRec) : Prop where
  nodup : N.Nodup
  wf : ∀ n ∈ N, nameWF n = true
  closed : ∀ n ∈ N, ∀ p ∈ properPrefixes n, p ∈ N
  mods_in : ∀ m ∈ mods, ∃ n ∈ N, m = render n
  cover : ∀ n ∈ N, ∃ m ∈ N, render m ∈ mods ∧ n <+: m
  /-- importers are leaves of `N` -/
  recs : ∀ i ∈ imps, i.importeeParents = parentModules i.importee ∧
    ∃ f ∈ N, i.importer = render f ∧ ∀ n ∈ N, f <+: n → n = f

theorem mem_scanImportPairs (N : List Name) (imps : List ImportRec) (e : Name × Name) :
    e ∈ scanImportPairs N imps ↔ ∃ i ∈ imps, (∃ n ∈ N, i.importee = render n) ∧ i.importer ≠ i.importee ∧
      e = (splitDots i.importer, splitDots i.importee) := by
  simp only [scanImportPairs, List.mem_map, List.mem_filter, Bool.and_eq_true, List.contains_iff_mem, bne_iff_ne, ne_eq]
  constructor
  · rintro ⟨i, ⟨hi, ⟨n, hn, hr⟩, hne⟩, rfl⟩
    exact ⟨i, hi, ⟨n, hn, hr.symm⟩, hne, rfl⟩
  · rintro ⟨i, hi, ⟨n, hn, hr⟩, hne, rfl⟩
    exact ⟨i, ⟨hi, ⟨n, hn, hr.symm⟩, hne⟩, rfl⟩

section
variable {N : List Name} {mods : List Str} {imps : List ImportRec} (h : ScanInputs N mods imps)
include h

theorem scanArch_wf : (scanArch N imps).wf = true := by
  refine (wf_iff _).2 ⟨h.nodup, h.wf, h.closed, ?_⟩
  intro e he
  obtain ⟨i, hi, ⟨n, hn, hnr⟩, hne, rfl⟩ := (mem_scanImportPairs N imps e).1 he
  obtain ⟨-, f, hf, hfr, hleaf⟩ := h.recs i hi
  have e1 : splitDots i.importer = f := by rw [hfr]; exact splitDots_render f (h.wf f hf)
  have e2 : splitDots i.importee = n := by rw [hnr]; exact splitDots_render n (h.wf n hn)
  simp only [e1, e2]
  have hfn : f ≠ n := by
    rintro rfl
    exact hne (hfr.trans hnr.symm)
  refine ⟨hf, hn, hfn, ?_⟩
  cases hsd : sdesc f n with
  | false => rfl
  | true =>
    exfalso
    have := ((sdesc_iff f n).1 hsd).1
    exact hfn (hleaf n hn this).symm

theorem scanArch_scanLike : ScanLike (scanArch N imps) mods imps := by
  refine ⟨h.mods_in, h.cover, ?_, ?_⟩
  · intro i hi
    obtain ⟨hpar, f, hf, hfr, -⟩ := h.recs i hi
    refine ⟨hpar, f, hf, hfr, ?_⟩
    intro n hn hnr hfn
    refine (mem_scanImportPairs N imps (f, n)).2 ⟨i, hi, ⟨n, hn, hnr⟩, ?_, ?_⟩
    · intro heq
      apply hfn
      exact render_injective _ _ (h.wf f hf) (h.wf n hn) (hfr.symm.trans (heq.trans hnr))
    · rw [hfr, hnr, splitDots_render f (h.wf f hf), splitDots_render n (h.wf n hn)]
  · intro e he
    obtain ⟨i, hi, -, -, rfl⟩ := (mem_scanImportPairs N imps e).1 he
    show absImport (render (splitDots i.importer)) (render (splitDots i.importee)) ∈ imps
    rw [render_splitDots, render_splitDots]
    unfold absImport
    rw [← (h.recs i hi).1]
    exact hi

theorem scanArch_graphOf : GraphOf (scanArch N imps) (buildGraph mods imps none) :=
  buildGraph_scanlike (scanArch N imps) (scanArch_wf h) mods imps (scanArch_scanLike h)

end

theorem mem_scanModules (root : Comp) (sents : List SEntry) (mp : List Comp) (n : Name) :
    n ∈ scanModules root sents mp ↔
      ∃ se ∈ sents, survives sents mp se = true ∧ (n = entryName root se ∨ n ∈ properPrefixes (entryName root se)) := by
  unfold scanModules
  simp only [List.mem_eraseDups, List.mem_append, List.mem_map, List.mem_filter, List.mem_flatMap]
  constructor
  · rintro (⟨se, ⟨h1, h2⟩, rfl⟩ | ⟨m, ⟨se, ⟨h1, h2⟩, rfl⟩, hp⟩)
    · exact ⟨se, h1, h2, Or.inl rfl⟩
    · exact ⟨se, h1, h2, Or.inr hp⟩
  · rintro ⟨se, h1, h2, rfl | hp⟩
    · exact Or.inl ⟨se, ⟨h1, h2⟩, rfl⟩
    · exact Or.inr ⟨_, ⟨se, ⟨h1, h2⟩, rfl⟩, hp⟩

theorem scanModules_nodup (root : Comp) (sents : List SEntry) (mp : List Comp) : (scanModules root sents mp).Nodup := by
  unfold scanModules
  exact nodup_eraseDups _

section
variable (mt : Str → Str → Bool) (base root : Str) (mp : List Str) (entries : List Entry) (o : ScanOptions)

abbrev specModules : List Name := scanModules root (toSEntries (isExcluded mt o.exclusions) base entries) mp

/-- with externals excluded the module list is the walk's -/
theorem scan_ok_iff (hxx : o.excludeExternal = true) (g : PGraph Str) :
    generateGraph mt base root mp entries o = .ok g ↔
      ∃ R, scanRetained mt base root mp entries o = .ok R ∧
        g = buildGraph (scanParsed mt base root mp entries o).allModules R (shiftedLimit o mp) := by
  rw [ExtScan.generateGraph_ok_iff]
  simp only [moduleList, hxx, if_true]

theorem scan_inputs_retained (hwf : treeWFFor (isExcluded mt o.exclusions) base mp entries = true)
    (hmp : mpOK entries mp = true) (hroot : compWF root = true) (R : List ImportRec)
    (hR : scanRetained mt base root mp entries o = .ok R) :
    ScanInputs (specModules mt base root mp entries o) (scanParsed mt base root mp entries o).allModules R := by
  obtain ⟨hshape, s, nm⟩ := tree_facts hwf
  have hown := own_wf (root := root) hwf hroot
  -- a module of the specification is a non-empty prefix of a surviving entry's name
  have hmem := ScanImports.mem_scanModules root (toSEntries (isExcluded mt o.exclusions) base entries) mp
  have hmods := modules_own (mt := mt) (base := base) (root := root) (o := o) hshape hmp
  refine ⟨scanModules_nodup _ _ _, fun n hn => BuildImports.Cl_wf hown ((hmem n).1 hn), ?_, ?_, ?_, ?_⟩
  · intro n hn p hp
    obtain ⟨-, m, hm, hnm⟩ := (hmem n).1 hn
    exact (hmem p).2 ⟨mem_properPrefixes_ne_nil hp, m, hm, (properPrefixes_prefix hp).trans hnm⟩
  · intro m hm
    obtain ⟨n, hn, rfl⟩ := (hmods m).1 hm
    exact ⟨n, (hmem n).2 (BuildImports.Cl_self hown hn), rfl⟩
  · intro n hn
    obtain ⟨-, m, hm, hnm⟩ := (hmem n).1 hn
    exact ⟨m, (hmem m).2 (BuildImports.Cl_self hown hm), (hmods _).2 ⟨m, hm, rfl⟩, hnm⟩
  · intro i hi
    obtain ⟨f, hf, hrec⟩ := ExtScan.retained_recs mt base root mp entries o R hR i hi
    obtain ⟨e, he, hed, hsv, rfl⟩ := (scan_files_lemma base mt root mp entries o hshape hmp f).1 hf
    have he' := List.mem_cons_of_mem rootEntry he
    have hS := (survives_iff _ base s mp e he').1 hsv
    refine ⟨hrec.2, _, (hmem _).2 (BuildImports.Cl_self hown ((mem_ownNames _ base root mp entries _).2 ⟨e, he', hsv, rfl⟩)),
      hrec.1, fun n hn hpre => ?_⟩
    -- a `.py` file is a leaf: `n` lies between its name and the name of a surviving entry
    obtain ⟨-, m, hm, hnm⟩ := (hmem n).1 hn
    obtain ⟨d, hd, -, rfl⟩ := (mem_ownNames _ base root mp entries m).1 hm
    exact file_leaf s nm root e he hed (survives_dirOrPy _ base hS) (Rel.of_survives hS)
      d hd n hpre hnm

/-- C04, graph: with external modules excluded and no level limit, the scan graph is a graph of a well-formed
    architecture whose node list is the specification's `scanModules` -/
theorem scan_graph_lemma (hwf : treeWFFor (isExcluded mt o.exclusions) base mp entries = true) (hmp : mpOK entries mp = true) (hroot : compWF root = true)
    (hxx : o.excludeExternal = true) (hlim : o.levelLimit = none) (g : PGraph Str)
    (h : generateGraph mt base root mp entries o = .ok g) :
    ∃ a : Arch, a.nodes = specModules mt base root mp entries o ∧ a.wf = true ∧ GraphOf a g ∧ g.nodes.Nodup := by
  obtain ⟨R, hR, rfl⟩ := (scan_ok_iff mt base root mp entries o hxx g).1 h
  have hin := scan_inputs_retained mt base root mp entries o hwf hmp hroot R hR
  rw [shiftedLimit_none o mp hlim]
  exact ⟨scanArch _ _, rfl, scanArch_wf hin, scanArch_graphOf hin, ExtBuild.buildGraph_nodup _ _ _⟩

end

theorem graphArch_of_graphOf (a : Arch) (g : PGraph Str) (hwf : a.wf = true) (hg : GraphOf a g) (hnd : g.nodes.Nodup) :
    (graphArch g).wf = true ∧ GraphOf (graphArch g) g ∧ ∀ n, n ∈ (graphArch g).nodes ↔ n ∈ a.nodes := by
  have hnode : ∀ s ∈ g.nodes, ∃ n ∈ a.nodes, s = render n ∧ splitDots s = n := by
    intro s hs
    obtain ⟨n, hn, rfl⟩ := (hg.nodes s).1 ((hasNode_iff g s).2 hs)
    exact ⟨n, hn, rfl, splitDots_render n (wf_nodes a hwf n hn)⟩
  have h1 : ∀ n, n ∈ (graphArch g).nodes ↔ n ∈ a.nodes := by
    intro n
    simp only [graphArch, List.mem_map]
    constructor
    · rintro ⟨s, hs, rfl⟩
      obtain ⟨m, hm, -, hsm⟩ := hnode s hs
      rw [hsm]; exact hm
    · intro hn
      exact ⟨render n, (hasNode_iff g _).1 ((hg.nodes _).2 ⟨n, hn, rfl⟩), splitDots_render n (wf_nodes a hwf n hn)⟩
  have h2 : ∀ e, e ∈ (graphArch g).imports ↔ e ∈ a.imports := by
    intro e
    simp only [graphArch, List.mem_map]
    constructor
    · rintro ⟨⟨u, v⟩, huv, rfl⟩
      rw [mem_importPairs, ← mem_importSuccs] at huv
      obtain ⟨e, he, rfl, rfl⟩ := (hg.succs u v).1 huv
      obtain ⟨i1, i2, -, -⟩ := wf_import a hwf e he
      simp only [splitDots_render _ (wf_nodes a hwf _ i1), splitDots_render _ (wf_nodes a hwf _ i2)]
      exact he
    · intro he
      obtain ⟨i1, i2, -, -⟩ := wf_import a hwf e he
      refine ⟨(render e.1, render e.2), ?_, ?_⟩
      · rw [mem_importPairs, ← mem_importSuccs]
        exact (hg.succs _ _).2 ⟨e, he, rfl, rfl⟩
      · simp only [splitDots_render _ (wf_nodes a hwf _ i1), splitDots_render _ (wf_nodes a hwf _ i2)]
  have hnd' : (graphArch g).nodes.Nodup :=
    List.pairwise_map.2 (hnd.imp fun hne e => hne (ExtNames.splitDots_injective e))
  exact ⟨wf_congr a _ hwf hnd' h1 (fun e => (h2 e).1), hg.congr h1 h2, h1⟩

section
variable (excl : Str → Bool) (base root : Str) {entries : List Entry} {mp : List Str} (s : Shape entries)
  (nm : Names (Rel excl base mp) entries) (hmp : mpOK entries mp = true)
include s nm

include hmp in
theorem mem_scanModules_explicit (n : Name) :
    n ∈ scanModules root (toSEntries excl base entries) mp ↔
      (∃ e ∈ rootEntry :: entries, survives (toSEntries excl base entries) mp (toSEntry excl base e) = true ∧
        n = entryName root (toSEntry excl base e)) ∨
      (excl (pathStr base mp) = false ∧ ∃ k, 0 < k ∧ k ≤ mp.length ∧ n = (root :: mp).take k) := by
  rw [mem_scanModules]
  constructor
  · rintro ⟨_, hse, hsv, hor⟩
    obtain ⟨d, hd, rfl⟩ := List.mem_map.1 hse
    rcases hor with rfl | hp
    · exact Or.inl ⟨d, hd, hsv, rfl⟩
    · have hS := (survives_iff excl base s mp d hd).1 hsv
      rcases prefix_explicit excl base root s nm d hd hS n (mem_properPrefixes_ne_nil hp)
        (by rw [← entryName_toSEntry excl base]; exact properPrefixes_prefix hp) with ⟨e, he, heS, hen⟩ | hk
      · exact Or.inl ⟨e, he, (survives_iff excl base s mp e he).2 heS, by rw [entryName_toSEntry]; exact hen⟩
      · exact Or.inr ⟨survives_excl excl base hS, hk⟩
  · rintro (⟨e, he, hsv, rfl⟩ | ⟨hx, k, k0, hk, rfl⟩)
    · exact ⟨_, List.mem_map_of_mem he, hsv, Or.inl rfl⟩
    · obtain ⟨e, he, hr, hdir⟩ := start_repr hmp
      have hS : Survives excl base mp e :=
        Survives.congr excl base (d := startEntry mp) hr.symm hdir.symm
          (survives_self excl base (startEntry mp) rfl hx)
      refine ⟨_, List.mem_map_of_mem he, (survives_iff excl base s mp e he).2 hS, Or.inr ?_⟩
      rw [entryName_toSEntry, relName_dir s nm root e he hdir (Rel.of_survives hS), hr]
      exact (mem_properPrefixes _ _).2 ⟨k, k0, by simpa using Nat.lt_succ_of_le hk, rfl⟩

end

section
variable (mt : Str → Str → Bool) (base root : Str) (mp : List Str) (entries : List Entry) (o : ScanOptions)
  (hwf : treeWFFor (isExcluded mt o.exclusions) base mp entries = true) (hmp : mpOK entries mp = true)
  (hroot : compWF root = true)
  (hxx : o.excludeExternal = true) (hlim : o.levelLimit = none) (g : PGraph Str)
  (h : generateGraph mt base root mp entries o = .ok g)
include hwf hmp hroot hxx hlim h

theorem scan_nodes_lemma (s : Str) :
    s ∈ g.nodes ↔ ∃ n ∈ specModules mt base root mp entries o, s = render n := by
  obtain ⟨a, ha, -, hg, -⟩ := scan_graph_lemma mt base root mp entries o hwf hmp hroot hxx hlim g h
  rw [← hasNode_iff, hg.nodes, ha]

/-- nodes, explicitly: names of surviving entries, and the ancestor packages of `module_path` up to the root -/
theorem scan_nodes_explicit_lemma (s : Str) :
    s ∈ g.nodes ↔
      (∃ e ∈ rootEntry :: entries,
        survives (toSEntries (isExcluded mt o.exclusions) base entries) mp
          (toSEntry (isExcluded mt o.exclusions) base e) = true ∧
        s = render (entryName root (toSEntry (isExcluded mt o.exclusions) base e))) ∨
      (isExcluded mt o.exclusions (pathStr base mp) = false ∧
        ∃ k, 0 < k ∧ k ≤ mp.length ∧ s = render ((root :: mp).take k)) := by
  rw [scan_nodes_lemma mt base root mp entries o hwf hmp hroot hxx hlim g h s]
  obtain ⟨-, s, nm⟩ := tree_facts hwf
  have hm := mem_scanModules_explicit (isExcluded mt o.exclusions) base root s nm hmp
  constructor
  · rintro ⟨n, hn, rfl⟩
    rcases (hm n).1 hn with ⟨e, he, hsv, rfl⟩ | ⟨hx, k, k0, hk, rfl⟩
    · exact Or.inl ⟨e, he, hsv, rfl⟩
    · exact Or.inr ⟨hx, k, k0, hk, rfl⟩
  · rintro (⟨e, he, hsv, rfl⟩ | ⟨hx, k, k0, hk, rfl⟩)
    · exact ⟨_, (hm _).2 (Or.inl ⟨e, he, hsv, rfl⟩), rfl⟩
    · exact ⟨_, (hm _).2 (Or.inr ⟨hx, k, k0, hk, rfl⟩), rfl⟩

end

end ScanGraph
end Pta
