/-
  PtaProofs.Lemmas.AstWalk — the AST walk of `ImportConverter.convert` (`walkLoop` / `collectImports`) on a flat,
  prefix-closed node list with unique paths reaches every import node exactly once: the collected statements are a
  permutation of the statements of all import nodes, and `nodes.length + 1` iterations suffice.

  Invariant of the loop: the paths on the stack are pairwise incomparable (no one is a prefix of another), so the
  sub-trees below the stack elements partition the nodes still to visit; one iteration either emits a leaf or
  replaces a node by its children (whose sub-trees partition the node's strict descendants, by prefix-closure).
-/
import PtaModel.Scan
import Bridge.ScanAst
import PtaProofs.Lemmas.FlatTree
namespace Pta.AstWalk

theorem filter_or_perm {α : Type} (p q : α → Bool) (l : List α) (h : ∀ x ∈ l, ¬(p x = true ∧ q x = true)) :
    (l.filter fun x => p x || q x).Perm (l.filter p ++ l.filter q) := by
  induction l with
  | nil => simp
  | cons x xs ih =>
    have ih := ih fun y hy => h y (List.mem_cons_of_mem _ hy)
    have hx := h x (by simp)
    cases hp : p x <;> cases hq : q x
    · simpa [List.filter_cons, hp, hq] using ih
    · simp only [List.filter_cons, hp, hq, Bool.or_true, if_true, Bool.false_eq_true, if_false]
      exact (List.Perm.cons x ih).trans List.perm_middle.symm
    · simp only [List.filter_cons, hp, hq, Bool.or_false, if_true, Bool.false_eq_true, if_false, List.cons_append]
      exact List.Perm.cons x ih
    · exact absurd ⟨hp, hq⟩ hx

theorem filter_eq_singleton {α : Type} (p : α → Bool) (l : List α) (a : α) (hn : l.Nodup) (ha : a ∈ l)
    (hp : ∀ x ∈ l, p x = true ↔ x = a) : l.filter p = [a] := by
  -- both sides are duplicate-free lists with the one member `a`
  refine List.perm_singleton.1 ((List.perm_ext_iff_of_nodup (hn.filter p) (List.pairwise_singleton _ a)).2 fun x => ?_)
  simp only [List.mem_filter, List.mem_singleton]
  exact ⟨fun ⟨hx, hpx⟩ => (hp x hx).1 hpx, fun e => e ▸ ⟨ha, (hp a ha).2 rfl⟩⟩

/-- a tree: paths are unique, every node but the root has its parent in the list, and no import node lies below an
    import node (in the real AST the children of `Import` / `ImportFrom` are `alias` nodes) -/
structure AstWF (nodes : List AstNode) : Prop where
  uniq : (nodes.map (·.path)).Nodup
  parent : ∀ m ∈ nodes, m.path ≠ [] → ∃ p ∈ nodes, p.path = m.path.dropLast
  leaf : ∀ n ∈ nodes, n.stmt?.isSome = true → ∀ m ∈ nodes, n.path <+: m.path → m.path ≠ n.path → m.stmt? = none

theorem AstWF.pairwise {nodes : List AstNode} (h : AstWF nodes) : nodes.Pairwise fun a b => a.path ≠ b.path := by
  have := h.uniq
  rwa [List.Nodup, List.pairwise_map] at this

theorem AstWF.nodup {nodes : List AstNode} (h : AstWF nodes) : nodes.Nodup :=
  h.pairwise.imp fun hab heq => hab (by rw [heq])

theorem AstWF.closed {nodes : List AstNode} (h : AstWF nodes) :
    ∀ (k : Nat) (m : AstNode), m ∈ nodes → m.path.length = k → ∀ p, p <+: m.path → ∃ n ∈ nodes, n.path = p := by
  intro k m hm _ p hp
  by_cases hpe : p = m.path
  · exact ⟨m, hm, hpe.symm⟩
  · obtain ⟨n, hn, -, hnp⟩ := FlatTree.prefix_closed (D := fun _ => True)
      (fun m hm hne => (h.parent m hm hne).imp fun p hp => ⟨hp.1, trivial, hp.2⟩) m hm p hp hpe
    exact ⟨n, hn, hnp⟩

/-! ### the region below a stack -/

def under (S : List AstNode) (m : AstNode) : Bool := S.any fun s => s.path.isPrefixOf m.path

def strictlyUnder (p : List Nat) (m : AstNode) : Bool := p.isPrefixOf m.path && m.path != p

def Incomp (S : List AstNode) : Prop := S.Pairwise fun a b => ¬ a.path <+: b.path ∧ ¬ b.path <+: a.path

theorem under_iff {S : List AstNode} {m : AstNode} : under S m = true ↔ ∃ s ∈ S, s.path <+: m.path := by
  simp [under, List.any_eq_true, List.isPrefixOf_iff_prefix]

theorem under_append (A B : List AstNode) (m : AstNode) : under (A ++ B) m = (under A m || under B m) := by
  simp [under, List.any_append]

theorem under_reverse (A : List AstNode) (m : AstNode) : under A.reverse m = under A m := by
  simp [under]

theorem under_nil (m : AstNode) : under [] m = false := rfl

theorem under_disjoint {A B : List AstNode} (h : Incomp (A ++ B)) (m : AstNode) :
    ¬(under A m = true ∧ under B m = true) := by
  rintro ⟨ha, hb⟩
  obtain ⟨a, haA, hpa⟩ := under_iff.mp ha
  obtain ⟨b, hbB, hpb⟩ := under_iff.mp hb
  have := (List.pairwise_append.mp h).2.2 a haA b hbB
  rcases List.prefix_or_prefix_of_prefix hpa hpb with h1 | h1
  · exact this.1 h1
  · exact this.2 h1

theorem under_split {A B : List AstNode} (h : Incomp (A ++ B)) (nodes : List AstNode) :
    (nodes.filter (under (A ++ B))).Perm (nodes.filter (under A) ++ nodes.filter (under B)) := by
  have : nodes.filter (under (A ++ B)) = nodes.filter (fun m => under A m || under B m) :=
    List.filter_congr fun m _ => under_append A B m
  rw [this]
  exact filter_or_perm _ _ _ fun m _ => under_disjoint h m

theorem under_single {nodes : List AstNode} (h : AstWF nodes) {n : AstNode} (hn : n ∈ nodes) :
    (nodes.filter (under [n])).Perm (n :: nodes.filter (strictlyUnder n.path)) := by
  have h1 : nodes.filter (under [n]) = nodes.filter (fun m => (m.path == n.path) || strictlyUnder n.path m) := by
    apply List.filter_congr
    intro m _
    rw [Bool.eq_iff_iff]
    simp only [under, List.any_cons, List.any_nil, Bool.or_false, strictlyUnder, Bool.or_eq_true, Bool.and_eq_true,
      beq_iff_eq, bne_iff_ne, ne_eq, List.isPrefixOf_iff_prefix]
    constructor
    · intro hp
      by_cases hm : m.path = n.path
      · exact .inl hm
      · exact .inr ⟨hp, hm⟩
    · rintro (hm | hm)
      · rw [hm]; exact List.prefix_refl _
      · exact hm.1
  rw [h1]
  refine (filter_or_perm _ _ _ ?_).trans ?_
  · intro m _ ⟨ha, hb⟩
    simp only [strictlyUnder, Bool.and_eq_true, bne_iff_ne, ne_eq, beq_iff_eq] at ha hb
    exact hb.2 ha
  · rw [filter_eq_singleton (fun m => m.path == n.path) nodes n h.nodup hn]
    · rfl
    · intro x hx
      simp only [beq_iff_eq]
      exact ⟨FlatTree.pairwise_inj h.pairwise x hx n hn, fun hp => by rw [hp]⟩

theorem strict_leaf {nodes : List AstNode} (h : AstWF nodes) {n : AstNode} (hn : n ∈ nodes)
    (hs : n.stmt?.isSome = true) : (nodes.filter (strictlyUnder n.path)).filterMap AstNode.stmt? = [] := by
  rw [List.filterMap_eq_nil_iff]
  intro m hm
  rw [List.mem_filter] at hm
  obtain ⟨hm, hsu⟩ := hm
  simp only [strictlyUnder, Bool.and_eq_true, bne_iff_ne, ne_eq, List.isPrefixOf_iff_prefix] at hsu
  exact h.leaf n hn hs m hm hsu.1 hsu.2

theorem mem_astChildren {nodes : List AstNode} {p : List Nat} {c : AstNode} :
    c ∈ astChildren nodes p ↔ c ∈ nodes ∧ c.path.length = p.length + 1 ∧ p <+: c.path := by
  simp [astChildren, List.mem_filter, List.isPrefixOf_iff_prefix]

theorem strict_eq_children {nodes : List AstNode} (h : AstWF nodes) (p : List Nat) :
    nodes.filter (strictlyUnder p) = nodes.filter (under (astChildren nodes p)) := by
  apply List.filter_congr
  intro m hm
  rw [Bool.eq_iff_iff, under_iff]
  simp only [strictlyUnder, Bool.and_eq_true, bne_iff_ne, ne_eq, List.isPrefixOf_iff_prefix]
  constructor
  · rintro ⟨hpre, hne⟩
    obtain ⟨t, ht⟩ := hpre
    cases t with
    | nil => rw [List.append_nil] at ht; exact absurd ht.symm hne
    | cons i t =>
      have hpi : p ++ [i] <+: m.path := ⟨t, by rw [← ht]; simp⟩
      obtain ⟨c, hc, hcp⟩ := h.closed _ m hm rfl (p ++ [i]) hpi
      refine ⟨c, mem_astChildren.mpr ⟨hc, ?_, ?_⟩, ?_⟩
      · rw [hcp]; simp
      · rw [hcp]; exact List.prefix_append _ _
      · rw [hcp]; exact hpi
  · rintro ⟨c, hc, hcm⟩
    obtain ⟨_, hlen, hpc⟩ := mem_astChildren.mp hc
    refine ⟨hpc.trans hcm, ?_⟩
    intro heq
    have := hcm.length_le
    rw [heq] at this
    omega

theorem incomp_children {nodes : List AstNode} (h : AstWF nodes) (p : List Nat) :
    Incomp (astChildren nodes p) := by
  have hpw := h.pairwise
  have hc : (astChildren nodes p).Pairwise fun a b => a.path ≠ b.path := hpw.sublist List.filter_sublist
  refine hc.imp_of_mem ?_
  intro a b ha hb hab
  have hla := (mem_astChildren.mp ha).2.1
  have hlb := (mem_astChildren.mp hb).2.1
  exact ⟨fun hp => hab (hp.eq_of_length (by omega)), fun hp => hab (hp.eq_of_length (by omega)).symm⟩

theorem incomp_push {nodes : List AstNode} (h : AstWF nodes) {n : AstNode} {rest : List AstNode}
    (hS : Incomp (n :: rest)) : Incomp ((astChildren nodes n.path).reverse ++ rest) := by
  unfold Incomp at hS ⊢
  rw [List.pairwise_cons] at hS
  rw [List.pairwise_append]
  refine ⟨List.pairwise_reverse.mpr ((incomp_children h n.path).imp fun hab => ⟨hab.2, hab.1⟩), hS.2, ?_⟩
  intro c hc r hr
  rw [List.mem_reverse] at hc
  obtain ⟨_, hlen, hpc⟩ := mem_astChildren.mp hc
  have hnr := hS.1 r hr
  constructor
  · intro hcr
    exact hnr.1 (hpc.trans hcr)
  · intro hrc
    -- r.path <+: c.path = n.path ++ [i]: either r.path <+: n.path or r.path = c.path
    rcases Nat.lt_or_ge r.path.length c.path.length with hl | hl
    · apply hnr.2
      have : r.path.length ≤ n.path.length := by omega
      exact List.prefix_of_prefix_length_le hrc hpc this
    · have : r.path = c.path := hrc.eq_of_length (Nat.le_antisymm hrc.length_le hl)
      exact hnr.1 (this ▸ hpc)

theorem filter_true' {α : Type} (l : List α) : l.filter (fun _ => true) = l := by simp

theorem region_cons {nodes : List AstNode} (h : AstWF nodes) {n : AstNode} {rest : List AstNode} (hn : n ∈ nodes)
    (hinc : Incomp (n :: rest)) :
    (nodes.filter (under (n :: rest))).Perm
      (n :: nodes.filter (strictlyUnder n.path) ++ nodes.filter (under rest)) :=
  (under_split (A := [n]) (B := rest) hinc nodes).trans ((under_single h hn).append_right _)

theorem region_push {nodes : List AstNode} (h : AstWF nodes) {n : AstNode} {rest : List AstNode}
    (hinc : Incomp (n :: rest)) :
    (nodes.filter (under ((astChildren nodes n.path).reverse ++ rest))).Perm
      (nodes.filter (strictlyUnder n.path) ++ nodes.filter (under rest)) := by
  have hsplit' := under_split (incomp_push h hinc) nodes
  have hrev : nodes.filter (under (astChildren nodes n.path).reverse) = nodes.filter (strictlyUnder n.path) := by
    rw [strict_eq_children h]
    exact List.filter_congr fun m _ => under_reverse _ m
  rwa [hrev] at hsplit'

theorem mem_push {nodes : List AstNode} {n : AstNode} {rest : List AstNode} (hrest : ∀ s ∈ rest, s ∈ nodes) :
    ∀ s ∈ (astChildren nodes n.path).reverse ++ rest, s ∈ nodes := by
  intro s hs
  rcases List.mem_append.mp hs with hs | hs
  · exact (mem_astChildren.mp (List.mem_reverse.mp hs)).1
  · exact hrest s hs

/-- the loop emits, up to order, the statements of the import nodes in the region below the stack — each once —
    provided the fuel exceeds the size of that region; fuel beyond that is never used -/
theorem walkLoop_perm {nodes : List AstNode} (h : AstWF nodes) :
    ∀ (fuel : Nat) (S : List AstNode) (acc : List ImportStmt), (∀ s ∈ S, s ∈ nodes) → Incomp S →
      (nodes.filter (under S)).length < fuel →
      (walkLoop (fun _ => true) nodes fuel S acc).Perm (acc ++ (nodes.filter (under S)).filterMap AstNode.stmt?) ∧
      ∀ k, walkLoop (fun _ => true) nodes (fuel + k) S acc = walkLoop (fun _ => true) nodes fuel S acc := by
  intro fuel
  induction fuel with
  | zero => intro S acc _ _ hf; omega
  | succ fuel ih =>
    intro S acc hmem hinc hf
    have hk : ∀ k, fuel + 1 + k = (fuel + k) + 1 := fun k => by omega
    simp only [hk]
    cases S with
    | nil =>
      have : nodes.filter (under []) = [] := List.filter_eq_nil_iff.mpr fun m _ => by simp [under_nil]
      simp [walkLoop, this]
    | cons n rest =>
      have hn : n ∈ nodes := hmem n (by simp)
      have hrest : ∀ s ∈ rest, s ∈ nodes := fun s hs => hmem s (List.mem_cons_of_mem _ hs)
      have hsplit := region_cons h hn hinc
      have hlen := hsplit.length_eq
      simp only [List.cons_append, List.length_cons, List.length_append] at hlen
      have h2 := hsplit.filterMap AstNode.stmt?
      cases hst : n.stmt? with
      | some st =>
        have hleaf := strict_leaf h hn (by rw [hst]; rfl)
        obtain ⟨hp, hfuel⟩ := ih rest (acc ++ [st]) hrest (List.pairwise_cons.mp hinc).2 (by omega)
        simp only [walkLoop, hst]
        refine ⟨hp.trans ?_, hfuel⟩
        simp only [List.cons_append, List.filterMap_cons, hst, List.filterMap_append, hleaf, List.nil_append] at h2
        rw [List.append_assoc]
        exact (List.Perm.append_left acc h2.symm)
      | none =>
        have hsplit' := region_push h hinc
        have hlen' := hsplit'.length_eq
        simp only [List.length_append] at hlen'
        obtain ⟨hp, hfuel⟩ := ih _ acc (mem_push hrest) (incomp_push h hinc) (by omega)
        simp only [walkLoop, hst, filter_true']
        refine ⟨hp.trans (List.Perm.append_left acc ?_), hfuel⟩
        simp only [List.cons_append, List.filterMap_cons, hst] at h2
        exact (hsplit'.filterMap AstNode.stmt?).trans h2.symm

theorem under_roots {nodes : List AstNode} (h : AstWF nodes) : nodes.filter (under (astRoots nodes)) = nodes := by
  rw [List.filter_eq_self]
  intro m hm
  obtain ⟨r, hr, hrp⟩ := h.closed _ m hm rfl [] (List.nil_prefix)
  exact under_iff.mpr ⟨r, by simp [astRoots, List.mem_filter, hr, hrp], by rw [hrp]; exact List.nil_prefix⟩

theorem incomp_roots {nodes : List AstNode} (h : AstWF nodes) : Incomp (astRoots nodes) := by
  have hpw := h.pairwise
  have hc : (astRoots nodes).Pairwise fun a b => a.path ≠ b.path := hpw.sublist List.filter_sublist
  refine hc.imp_of_mem ?_
  intro a b ha hb hab
  simp only [astRoots, List.mem_filter, List.isEmpty_iff] at ha hb
  exact absurd (ha.2.trans hb.2.symm) hab

theorem collectImports_perm {nodes : List AstNode} (h : AstWF nodes) :
    (collectImports nodes).Perm (nodes.filterMap AstNode.stmt?) := by
  have := (walkLoop_perm h (nodes.length + 1) (astRoots nodes) []
    (fun s hs => (List.mem_filter.mp hs).1) (incomp_roots h) (by rw [under_roots h]; omega)).1
  rw [under_roots h] at this
  simpa [collectImports] using this

/-! ### against the specification -/

open PtaSpec

theorem nodup_of_nodupP : ∀ (l : List (List Nat)), nodupP l = true → l.Nodup
  | [], _ => List.nodup_nil
  | x :: xs, h => by
    simp only [nodupP, Bool.and_eq_true, Bool.not_eq_true', List.contains_eq_mem, decide_eq_false_iff_not] at h
    exact List.nodup_cons.mpr ⟨h.1, nodup_of_nodupP xs h.2⟩

theorem toSNode_stmt (n : AstNode) : (toSNode n).stmt? = n.stmt?.map toSStmt := by
  cases n with
  | mk path kind field => cases kind <;> rfl

theorem astWF_of_astOK {nodes : List AstNode} (h : astOK nodes = true) : AstWF nodes := by
  simp only [astOK, treeOK, Bool.and_eq_true] at h
  obtain ⟨⟨h1, h2⟩, h3⟩ := h
  refine ⟨?_, ?_, ?_⟩
  · have := nodup_of_nodupP _ h1
    rwa [List.map_map] at this
  · intro m hm hne
    rw [List.all_eq_true] at h2
    have := h2 (toSNode m) (List.mem_map_of_mem hm)
    simp only [toSNode, Bool.or_eq_true, List.isEmpty_iff, hne, false_or, List.any_eq_true, List.mem_map,
      beq_iff_eq] at this
    obtain ⟨_, ⟨p, hp, rfl⟩, hpp⟩ := this
    exact ⟨p, hp, hpp⟩
  · intro n hn hs m hm hpre hne
    rw [List.all_eq_true] at h3
    have := h3 (toSNode n) (List.mem_map_of_mem hn)
    rw [toSNode_stmt] at this
    cases hst : n.stmt? with
    | none => rw [hst] at hs; cases hs
    | some st =>
      rw [hst] at this
      simp only [Option.map_some, Option.isNone_some, Bool.false_or, List.all_eq_true, List.mem_map,
        forall_exists_index, and_imp, forall_apply_eq_imp_iff₂] at this
      have := this m hm
      rw [toSNode_stmt] at this
      have hpre' : (toSNode n).path.isPrefixOf (toSNode m).path = true := List.isPrefixOf_iff_prefix.mpr hpre
      have hne' : ((toSNode m).path != (toSNode n).path) = true := bne_iff_ne.mpr hne
      rw [hpre', hne'] at this
      cases hm' : m.stmt? with
      | none => rfl
      | some st' => rw [hm'] at this; simp at this

theorem allImports_map (nodes : List AstNode) :
    allImports (nodes.map toSNode) = (nodes.filterMap AstNode.stmt?).map toSStmt := by
  unfold allImports
  rw [List.filterMap_map, List.map_filterMap]
  congr 1
  funext n
  simp [toSNode_stmt]

end Pta.AstWalk
