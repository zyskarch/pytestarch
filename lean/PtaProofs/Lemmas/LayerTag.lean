/-
  PtaProofs.Lemmas.LayerTag — `LayerMap.layerOf` on rendered names is the specification's `layerTag`
  (the layer listing an ancestor of the module) whenever listed modules of the mapping are unrelated:
  it never raises `layerMismatch`. First the lookup on component lists (`Ren.layerOfC`) and its agreement with
  `LayerMap.layerOf` through an injective encoding of names (`Ren.layerOf_enc`; also what the renaming property uses).
-/
import Bridge.LayerAbs
import PtaProofs.Lemmas.Render
import PtaProofs.Lemmas.SemHier
import PtaProofs.Lemmas.LayerConsistent
namespace Pta.Ren
open PtaSpec

/-! ### layer lookup through an injective encoding of names -/

/-- `LayerMap.layerOfListed` / `layerOf` on component lists (`sdesc` for the raw `isStrictSub`) -/
def layerOfListedC (m : List (Str × List Name)) (n : Name) : Option Str :=
  ((m.filter fun l => l.2.contains n).getLast?).map (·.1)

def layerOfC (m : List (Str × List Name)) (n : Name) : Except ErrKind (Option Str) :=
  match layerOfListedC m n with
  | some l => .ok (some l)
  | none =>
    let cands := (m.flatMap (·.2)).filter fun c => sdesc c n
    let layers := dedup (cands.filterMap (layerOfListedC m))
    match layers with
    | [] => .ok none
    | [l] => .ok (some l)
    | _ => .error .layerMismatch

theorem layerOfListed_enc (e : Name → Str) (hinj : ∀ x y, nameWF x = true → nameWF y = true → e x = e y → x = y)
    (m : List (Str × List Name)) (hm : ∀ l ∈ m, ∀ x ∈ l.2, nameWF x = true) (n : Name) (hn : nameWF n = true) :
    LayerMap.layerOfListed (m.map fun l => (l.1, l.2.map e)) (e n) = layerOfListedC m n := by
  simp only [LayerMap.layerOfListed, layerOfListedC, List.filter_map, Function.comp_def, List.getLast?_map,
    Option.map_map]
  congr 2
  apply List.filter_congr
  intro l hl
  exact contains_map_of_inj_on e l.2 n fun y hy h => hinj y n (hm l hl y hy) hn h

theorem layerOf_enc (e : Name → Str) (hinj : ∀ x y, nameWF x = true → nameWF y = true → e x = e y → x = y)
    (m : List (Str × List Name)) (hm : ∀ l ∈ m, ∀ x ∈ l.2, nameWF x = true) (n : Name) (hn : nameWF n = true)
    (hsub : ∀ c, nameWF c = true → isStrictSub (e c) (e n) = sdesc c n) :
    LayerMap.layerOf (m.map fun l => (l.1, l.2.map e)) (e n) = layerOfC m n := by
  have hlisted : LayerMap.listed (m.map fun l => (l.1, l.2.map e)) = (m.flatMap (·.2)).map e := by
    simp only [LayerMap.listed, List.flatMap_map, List.map_flatMap]
  have hwf : ∀ c ∈ m.flatMap (·.2), nameWF c = true := by
    intro c hc
    obtain ⟨l, hl, hcl⟩ := List.mem_flatMap.1 hc
    exact hm l hl c hcl
  have hcands : ((LayerMap.listed (m.map fun l => (l.1, l.2.map e))).filter fun c => isStrictSub c (e n)).filterMap
        (LayerMap.layerOfListed (m.map fun l => (l.1, l.2.map e))) =
      ((m.flatMap (·.2)).filter fun c => sdesc c n).filterMap (layerOfListedC m) := by
    rw [hlisted, List.filter_map, List.filterMap_map]
    have h1 : (m.flatMap (·.2)).filter ((fun c => isStrictSub c (e n)) ∘ e) =
        (m.flatMap (·.2)).filter fun c => sdesc c n := by
      apply List.filter_congr
      intro c hc
      exact hsub c (hwf c hc)
    rw [h1]
    apply filterMap_congr'
    intro c hc
    exact layerOfListed_enc e hinj m hm c (hwf c (List.mem_filter.1 hc).1)
  unfold LayerMap.layerOf layerOfC
  rw [layerOfListed_enc e hinj m hm n hn]
  simp only [hcands]
  rfl

end Pta.Ren

namespace Pta
open PtaSpec

/-- related listed modules sit in layers of the same name (inside one layer a module and its sub module, or the same
    module twice, may be listed) -/
def UnrelMap (m : Layers) : Prop :=
  ∀ l₁ ∈ m, ∀ l₂ ∈ m, ∀ x ∈ l₁.2, ∀ y ∈ l₂.2, related x y = true → l₁.1 = l₂.1

theorem related_self (x : Name) : related x x = true := by
  simp [related, desc]

theorem inLayer_iff (l : List Name) (n : Name) : inLayer l n = true ↔ ∃ x ∈ l, x <+: n := by
  simp only [inLayer, List.any_eq_true, desc_iff]

theorem inLayer_self (l : List Name) (n : Name) (h : n ∈ l) : inLayer l n = true :=
  (inLayer_iff l n).2 ⟨n, h, List.prefix_refl _⟩

theorem layerTag_some {m : Layers} {n : Name} {t : List Char} (h : layerTag m n = some t) :
    ∃ l ∈ m, l.1 = t ∧ inLayer l.2 n = true := by
  unfold layerTag at h
  cases hf : m.find? (fun l => inLayer l.2 n) with
  | none => rw [hf] at h; cases h
  | some l =>
    rw [hf] at h
    simp only [Option.map_some, Option.some.injEq] at h
    exact ⟨l, List.mem_of_find?_eq_some hf, h, List.find?_some (p := fun l : List Char × List Name => inLayer l.2 n) hf⟩

theorem layerTag_of_mem {m : Layers} (hU : UnrelMap m) {n : Name} {l : List Char × List Name} (hl : l ∈ m)
    (hin : inLayer l.2 n = true) : layerTag m n = some l.1 := by
  unfold layerTag
  cases hf : m.find? (fun l => inLayer l.2 n) with
  | none =>
    rw [List.find?_eq_none] at hf
    exact absurd hin (hf l hl)
  | some l' =>
    have hl' := List.mem_of_find?_eq_some hf
    have hin' : inLayer l'.2 n = true := List.find?_some (p := fun l : List Char × List Name => inLayer l.2 n) hf
    obtain ⟨x, hx, hxn⟩ := (inLayer_iff _ _).1 hin
    obtain ⟨y, hy, hyn⟩ := (inLayer_iff _ _).1 hin'
    have := hU l' hl' l hl y hy x hx (related_of_prefixes hyn hxn)
    simp only [Option.map_some, this]

theorem layerTag_none {m : Layers} {n : Name} (h : layerTag m n = none) :
    ∀ l ∈ m, inLayer l.2 n = false := by
  unfold layerTag at h
  cases hf : m.find? (fun l => inLayer l.2 n) with
  | some l => rw [hf] at h; cases h
  | none =>
    rw [List.find?_eq_none] at hf
    intro l hl
    simpa using hf l hl

theorem dedup_all_eq {α : Type} [DecidableEq α] (l : List α) (t : α) (h : ∀ x ∈ l, x = t) (hne : l ≠ []) :
    dedup l = [t] := by
  obtain ⟨y, hy⟩ := List.exists_mem_of_ne_nil l hne
  refine List.perm_singleton.1 ((List.perm_ext_iff_of_nodup (nodup_dedup l) (List.pairwise_singleton _ t)).2 fun x => ?_)
  rw [mem_dedup, List.mem_singleton]
  exact ⟨h x, fun e => e ▸ h y hy ▸ hy⟩

theorem layerOfListedC_some {m : Layers} {n : Name} {t : Str} (h : Ren.layerOfListedC m n = some t) :
    ∃ l ∈ m, l.1 = t ∧ n ∈ l.2 := by
  unfold Ren.layerOfListedC at h
  cases hg : (m.filter fun l => l.2.contains n).getLast? with
  | none => rw [hg] at h; cases h
  | some l =>
    rw [hg] at h
    simp only [Option.map_some, Option.some.injEq] at h
    have := List.mem_filter.1 (List.mem_of_getLast? hg)
    exact ⟨l, this.1, h, by simpa using this.2⟩

theorem layerOfListedC_none {m : Layers} {n : Name} (h : Ren.layerOfListedC m n = none) :
    ∀ l ∈ m, n ∉ l.2 := by
  unfold Ren.layerOfListedC at h
  cases hg : (m.filter fun l => l.2.contains n).getLast? with
  | some l => rw [hg] at h; cases h
  | none =>
    rw [List.getLast?_eq_none_iff, List.filter_eq_nil_iff] at hg
    intro l hl
    simpa using hg l hl

theorem layerOfListedC_of_mem {m : Layers} {n : Name} {l : List Char × List Name} (hl : l ∈ m) (hn : n ∈ l.2) :
    ∃ t, Ren.layerOfListedC m n = some t := by
  cases h : Ren.layerOfListedC m n with
  | some t => exact ⟨t, rfl⟩
  | none => exact absurd hn (layerOfListedC_none h l hl)

theorem layerOfC_correct (m : Layers) (hU : UnrelMap m) (n : Name) :
    Ren.layerOfC m n = .ok (layerTag m n) := by
  unfold Ren.layerOfC
  cases hL : Ren.layerOfListedC m n with
  | some t =>
    obtain ⟨l, hl, rfl, hn⟩ := layerOfListedC_some hL
    simp only
    rw [layerTag_of_mem hU hl (inLayer_self _ _ hn)]
  | none =>
    simp only
    have hnot := layerOfListedC_none hL
    have claim1 : ∀ t ∈ ((m.flatMap (·.2)).filter fun c => sdesc c n).filterMap (Ren.layerOfListedC m),
        layerTag m n = some t := by
      intro t ht
      obtain ⟨c, hc, hct⟩ := List.mem_filterMap.1 ht
      obtain ⟨_, hsd⟩ := List.mem_filter.1 hc
      obtain ⟨l', hl', rfl, hcl'⟩ := layerOfListedC_some hct
      exact layerTag_of_mem hU hl' ((inLayer_iff _ _).2 ⟨c, hcl', ((sdesc_iff _ _).1 hsd).1⟩)
    have claim2 : ∀ t, layerTag m n = some t →
        ((m.flatMap (·.2)).filter fun c => sdesc c n).filterMap (Ren.layerOfListedC m) ≠ [] := by
      intro t ht
      obtain ⟨l, hl, _, hin⟩ := layerTag_some ht
      obtain ⟨x, hx, hxn⟩ := (inLayer_iff _ _).1 hin
      have hne : x ≠ n := by rintro rfl; exact hnot l hl hx
      obtain ⟨t', ht'⟩ := layerOfListedC_of_mem hl hx
      intro h0
      have : t' ∈ ((m.flatMap (·.2)).filter fun c => sdesc c n).filterMap (Ren.layerOfListedC m) :=
        List.mem_filterMap.2 ⟨x, List.mem_filter.2 ⟨List.mem_flatMap.2 ⟨l, hl, hx⟩, (sdesc_iff _ _).2 ⟨hxn, hne⟩⟩, ht'⟩
      rw [h0] at this; cases this
    cases hT : layerTag m n with
    | none =>
      have : ((m.flatMap (·.2)).filter fun c => sdesc c n).filterMap (Ren.layerOfListedC m) = [] := by
        cases hh : ((m.flatMap (·.2)).filter fun c => sdesc c n).filterMap (Ren.layerOfListedC m) with
        | nil => rfl
        | cons t ts =>
          have := claim1 t (by rw [hh]; simp)
          rw [hT] at this; cases this
      rw [this]
      rfl
    | some t =>
      rw [dedup_all_eq _ t (fun x hx => by
        have := claim1 x hx
        rw [hT] at this
        exact (Option.some.inj this).symm) (claim2 t hT)]

theorem layerOf_correct (m : Layers) (hU : UnrelMap m) (hm : ∀ l ∈ m, ∀ x ∈ l.2, nameWF x = true) (n : Name)
    (hn : nameWF n = true) :
    LayerMap.layerOf (m.map fun l => (l.1, l.2.map render)) (render n) = .ok (layerTag m n) := by
  rw [Ren.layerOf_enc render render_injective m hm n hn (fun c hc => isStrictSub_render c n hc hn)]
  exact layerOfC_correct m hU n

/-- on a mapping that lists rendered, pairwise unrelated modules the check of `_update_layer_mapping` passes: listed
    modules are in particular pairwise distinct, unless they sit in layers of the same name -/
theorem consistent_of_unrelMap (m : Layers) (hU : UnrelMap m) (hm : ∀ l ∈ m, ∀ x ∈ l.2, nameWF x = true) :
    LayerMap.consistent (m.map fun l => (l.1, l.2.map render)) = true := by
  rw [consistent_iff]
  intro l1 h1 l2 h2 id i1 i2
  obtain ⟨k1, hk1, rfl⟩ := List.mem_map.1 h1
  obtain ⟨k2, hk2, rfl⟩ := List.mem_map.1 h2
  simp only [List.mem_map] at i1 i2
  obtain ⟨x, hx, rfl⟩ := i1
  obtain ⟨y, hy, hxy⟩ := i2
  have e : y = x := render_injective y x (hm k2 hk2 y hy) (hm k1 hk1 x hx) hxy
  subst e
  exact hU k1 hk1 k2 hk2 y hx y hy (related_self y)

theorem pairwise_of_crossUnrelated (m : Layers) (h : crossUnrelated m = true) :
    m.Pairwise fun l₁ l₂ => ∀ x ∈ l₁.2, ∀ y ∈ l₂.2, related x y = false := by
  induction m with
  | nil => exact List.Pairwise.nil
  | cons l ls ih =>
    simp only [crossUnrelated, Bool.and_eq_true, List.all_eq_true, Bool.not_eq_true'] at h
    exact List.Pairwise.cons (fun l' hl' x hx y hy => h.1 x hx l' hl' y hy) (ih h.2)

theorem unrelMap_of_cross (m : Layers) (h : crossUnrelated m = true) : UnrelMap m := by
  have hout := pairwise_of_crossUnrelated m h
  intro l₁ h₁ l₂ h₂ x hx y hy hrel
  have hsym : ∀ a b : List Char × List Name,
      (∀ x ∈ a.2, ∀ y ∈ b.2, related x y = false) → (∀ x ∈ b.2, ∀ y ∈ a.2, related x y = false) :=
    fun a b hab x hx y hy => by rw [related_comm]; exact hab y hy x hx
  rcases pairwise_sym_mem hsym hout l₁ h₁ l₂ h₂ with rfl | hne
  · rfl
  · rw [hne x hx y hy] at hrel; cases hrel

theorem cross_of_pairwiseUnrelated (m : Layers) (h : pairwiseUnrelated (m.flatMap (·.2)) = true) :
    crossUnrelated m = true := by
  induction m with
  | nil => rfl
  | cons l ls ih =>
    have hp := (pu_iff _).1 h
    rw [List.flatMap_cons, List.pairwise_append] at hp
    obtain ⟨_, h2, h3⟩ := hp
    simp only [crossUnrelated, Bool.and_eq_true, List.all_eq_true, Bool.not_eq_true']
    refine ⟨fun x hx l' hl' y hy => h3 x hx y (List.mem_flatMap.2 ⟨l', hl', hy⟩), ih ?_⟩
    exact (pu_iff _).2 h2

theorem unrelMap_of_pairwise (m : Layers) (h : pairwiseUnrelated (m.flatMap (·.2)) = true) : UnrelMap m :=
  unrelMap_of_cross m (cross_of_pairwiseUnrelated m h)

end Pta
