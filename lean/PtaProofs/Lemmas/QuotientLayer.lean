/-
  PtaProofs.Lemmas.QuotientLayer — property C09, second sentence, for LAYER rules and DIAGRAM rules: when the listed
  modules of the layers (the components of the diagram) lie at or above the level limit, the documented semantics
  (`layerVerdict`, `conforms`) do not see the truncation, the domain of the core lemma of C05 (`ldom_quotient`) and the
  domain of C07 (`diagramDomain_trunc`) transfer to the quotient architecture (that `layerDomain'` itself transfers is
  `C09.layer_domain_transfers`, Props/C09Layer.lean), and hence the model returns the same verdict class on the
  flattened and on the full graph.
-/
import Bridge.Abs
import Bridge.Quotient
import Bridge.QuotientLayer
import Bridge.LayerAbs
import PtaProofs.Lemmas.LimitVerdict
import PtaProofs.Lemmas.LayerRegex
import PtaProofs.Lemmas.DiagramSem
import PtaProofs.Lemmas.DiagramE2E
namespace Pta.QL
open PtaSpec

theorem nameAbove_iff (k : Nat) (m : Name) : nameAbove k m = true ↔ m.length ≤ k + 1 := by
  simp [nameAbove]

theorem inLayer_trunc (k : Nat) (l : List Name) (hl : ∀ x ∈ l, x.length ≤ k + 1) (n : Name) :
    inLayer l (trunc (some k) n) = inLayer l n := by
  unfold inLayer
  exact any_congr_mem l _ _ (fun x hx => desc_take k x n (hl x hx))

theorem nearE_trunc (lim : Option Nat) (dir : Bool) (e : Name × Name) :
    nearE dir (trunc lim e.1, trunc lim e.2) = trunc lim (nearE dir e) := by
  cases dir <;> rfl

theorem farE_trunc (lim : Option Nat) (dir : Bool) (e : Name × Name) :
    farE dir (trunc lim e.1, trunc lim e.2) = trunc lim (farE dir e) := by
  cases dir <;> rfl

theorem inLayer_collapse (k : Nat) (l : List Name) (hl : ∀ x ∈ l, x.length ≤ k + 1) (dir : Bool) (e : Name × Name)
    (hc : trunc (some k) e.1 = trunc (some k) e.2) : inLayer l (nearE dir e) = inLayer l (farE dir e) := by
  cases dir
  · exact collapse_congr (inLayer_trunc k l hl) hc.symm
  · exact collapse_congr (inLayer_trunc k l hl) hc

/-- a module of two layers makes two of their listed modules related -/
theorem related_of_inLayer_both (s o : List Name) (n : Name) (hs : inLayer s n = true) (ho : inLayer o n = true) :
    ∃ x ∈ s, ∃ y ∈ o, related x y = true := by
  rw [inLayer_iff] at hs ho
  obtain ⟨x, hx, hxp⟩ := hs
  obtain ⟨y, hy, hyp⟩ := ho
  exact ⟨x, hx, y, hy, related_of_prefixes hxp hyp⟩

theorem access_trunc (k : Nat) (a : Arch) (dir : Bool) (s o : List Name) (hs : ∀ x ∈ s, x.length ≤ k + 1)
    (ho : ∀ x ∈ o, x.length ≤ k + 1) (hso : ∀ x ∈ s, ∀ y ∈ o, related x y = false) :
    (access (truncArch (some k) a) dir s o).isEmpty = (access a dir s o).isEmpty := by
  apply isEmpty_congr
  simp only [mem_access]
  refine exists_import_trunc k a (fun e => inLayer s (nearE dir e) = true ∧ inLayer o (farE dir e) = true) ?_ ?_
  · intro e
    simp only [nearE_trunc, farE_trunc, inLayer_trunc k s hs, inLayer_trunc k o ho]
  · rintro e ⟨h1, h2⟩ hc
    rw [inLayer_collapse k s hs dir e hc] at h1
    obtain ⟨x, hx, y, hy, hr⟩ := related_of_inLayer_both s o _ h1 h2
    rw [hso x hx y hy] at hr
    cases hr

theorem otherAccess_trunc (k : Nat) (a : Arch) (dir : Bool) (s : List Name) (os : List (List Name))
    (hs : ∀ x ∈ s, x.length ≤ k + 1) (hos : ∀ o ∈ os, ∀ x ∈ o, x.length ≤ k + 1) :
    (otherAccess (truncArch (some k) a) dir s os).isEmpty = (otherAccess a dir s os).isEmpty := by
  apply isEmpty_congr
  simp only [mem_otherAccess]
  refine exists_import_trunc k a (fun e => inLayer s (nearE dir e) = true ∧ inLayer s (farE dir e) = false ∧
    ∀ o ∈ os, inLayer o (farE dir e) = false) ?_ ?_
  · intro e
    simp only [nearE_trunc, farE_trunc, inLayer_trunc k s hs]
    refine and_congr_right fun _ => and_congr_right fun _ => forall₂_congr fun o ho => ?_
    rw [inLayer_trunc k o (hos o ho)]
  · rintro e ⟨h1, h2, _⟩ hc
    rw [inLayer_collapse k s hs dir e hc, h2] at h1
    cases h1

/-- the documented layer semantics do not see the truncation: only the layers the rule mentions matter, their listed
    modules must lie at or above the limit, and subject and object layers must not share a module -/
theorem layerVerdict_trunc (k : Nat) (a : Arch) (ls : Layers) (r : LRuleSpec)
    (hS : ∀ x ∈ ls.get r.subject, x.length ≤ k + 1)
    (hO : r.anything = false → ∀ on ∈ r.objects, ∀ x ∈ ls.get on, x.length ≤ k + 1)
    (hun : r.anything = false → ∀ on ∈ r.objects, ∀ x ∈ ls.get r.subject, ∀ y ∈ ls.get on, related x y = false) :
    layerVerdict (truncArch (some k) a) ls r = layerVerdict a ls r := by
  apply layerVerdict_congr_isEmpty
  · exact fun hany on hon => access_trunc k a r.importDir _ _ hS (hO hany on hon) (hun hany on hon)
  · apply otherAccess_trunc k a r.importDir _ _ hS
    intro o ho
    split at ho
    · cases ho
    · rename_i hany
      obtain ⟨on, hon, rfl⟩ := List.mem_map.1 ho
      exact hO (by simpa using hany) on hon

theorem mem_truncArch_nodes_of_le (k : Nat) (a : Arch) {x : Name} (hx : x ∈ a.nodes) (hl : x.length ≤ k + 1) :
    x ∈ (truncArch (some k) a).nodes :=
  (mem_truncArch_nodes _ a x).2 ⟨x, hx, (List.take_of_length_le hl).symm⟩

theorem layersAbove_iff (k : Nat) (ls : Layers) :
    layersAbove k ls = true ↔ ∀ l ∈ ls, ∀ x ∈ l.2, x.length ≤ k + 1 := by
  simp [layersAbove, nameAbove]

theorem ruleLayersAbove_iff (k : Nat) (ls : Layers) (r : LRuleSpec) :
    ruleLayersAbove k ls r = true ↔
      (∀ x ∈ ls.get r.subject, x.length ≤ k + 1) ∧
      (r.anything = false → ∀ on ∈ r.objects, ∀ x ∈ ls.get on, x.length ≤ k + 1) := by
  cases h : r.anything <;> simp [ruleLayersAbove, nameAbove, h]

theorem ruleLayersAbove_of_layersAbove (k : Nat) (ls : Layers) (r : LRuleSpec) (h : layersAbove k ls = true) :
    ruleLayersAbove k ls r = true := by
  rw [layersAbove_iff] at h
  rw [ruleLayersAbove_iff]
  refine ⟨fun x hx => ?_, fun _ on _ x hx => ?_⟩
  · obtain ⟨l, hl, _, hxl⟩ := mem_of_mem_get ls _ x hx
    exact h l hl x hxl
  · obtain ⟨l, hl, _, hxl⟩ := mem_of_mem_get ls _ x hx
    exact h l hl x hxl

theorem subject_object_unrelated {a : Arch} {ls : Layers} {r : LRuleSpec} (hd : LDom' a ls r) (hany : r.anything = false) :
    ∀ on ∈ r.objects, ∀ x ∈ ls.get r.subject, ∀ y ∈ ls.get on, related x y = false := by
  intro on hon x hx y hy
  obtain ⟨lS, hlS, hS1, hS2⟩ := get_of_any ls r.subject hd.subj
  obtain ⟨lO, hlO, hO1, hO2⟩ := get_of_any ls on (hd.obj hany on hon).1
  rw [hS2] at hx
  rw [hO2] at hy
  cases hr : related x y with
  | false => rfl
  | true =>
    have := unrelMap_of_cross ls hd.cross lS hlS lO hlO x hx y hy hr
    rw [hS1, hO1] at this
    exact absurd this.symm (hd.obj hany on hon).2

/-- C09 for layer rules, specification side, on the domain of C05 -/
theorem layerVerdict_trunc_dom (k : Nat) (a : Arch) (ls : Layers) (r : LRuleSpec) (hd : LDom' a ls r)
    (habove : ruleLayersAbove k ls r = true) :
    layerVerdict (truncArch (some k) a) ls r = layerVerdict a ls r := by
  rw [ruleLayersAbove_iff] at habove
  exact layerVerdict_trunc k a ls r habove.1 habove.2 (fun hany => subject_object_unrelated hd hany)

/-- one layer of the resolution of `larch` on the node list `nodesK`, given its resolution `l` on some node list: a name
    layer is kept, a regex layer is evaluated on `nodesK` -/
def limEntry (mt : Str → Str → Bool) (nodesK : List Str) (F : List Filter) (l : List Name) : List Name :=
  if F == l.map nmF then l else
    match F with
    | [.regex p] => (nodesK.filter (mt p)).map splitDots
    | _ => l

theorem limEntry_cases {mt : Str → Str → Bool} {nodes0 : List Str} (nodesK : List Str) {F : List Filter} {l : List Name}
    (h : layerRes mt nodes0 F l = true) :
    (F = l.map nmF ∧ limEntry mt nodesK F l = l) ∨
    ∃ p, F = [.regex p] ∧ nodes0.filter (mt p) = l.map render ∧ limEntry mt nodesK F l = (nodesK.filter (mt p)).map splitDots := by
  rcases layerRes_cases h with rfl | ⟨p, rfl, hp⟩
  · exact .inl ⟨rfl, if_pos (beq_self_eq_true _)⟩
  · refine .inr ⟨p, rfl, hp, if_neg ?_⟩
    rcases l with _ | ⟨x, _ | _⟩ <;> simp [nmF]

def limLayers (mt : Str → Str → Bool) (nodesK : List Str) : LArch → Layers → Layers
  | L :: Ls, l :: ls => (l.1, limEntry mt nodesK L.2 l.2) :: limLayers mt nodesK Ls ls
  | _, _ => []

theorem resolves_limLayers (mt : Str → Str → Bool) (nodes0 nodesK : List Str) (larch : LArch) (ls : Layers)
    (hres : resolves mt nodes0 larch ls = true) :
    resolves mt nodesK larch (limLayers mt nodesK larch ls) = true := by
  induction larch, ls, hres using resolves_induction with
  | nil => rfl
  | cons L Ls l ls h1 h2 _ _ ih =>
    unfold limLayers
    rw [resolves_cons]
    refine ⟨h1, ?_, ih⟩
    show layerRes mt nodesK L.2 (limEntry mt nodesK L.2 l.2) = true
    rcases limEntry_cases nodesK h2 with ⟨e1, e⟩ | ⟨p, e1, _, e⟩ <;> rw [e, e1]
    · exact Bool.or_eq_true_iff.2 (.inl (beq_self_eq_true _))
    · exact Bool.or_eq_true_iff.2 (.inr (beq_iff_eq.2 (map_render_splitDots _).symm))

theorem quotient_nodes_sub {a : Arch} (hw : ArchWF a) (lim : Option Nat) {g0 g : PGraph Str} (hg0 : GraphOf a g0)
    (hg : GraphOf (truncArch lim a) g) : ∀ s ∈ g.nodes, s ∈ g0.nodes := by
  intro s hs
  obtain ⟨c, hc, rfl⟩ := (hg.nodes s).1 ((BuildGen.hasNode_iff g s).2 hs)
  obtain ⟨n, hn, rfl⟩ := (mem_truncArch_nodes lim a c).1 hc
  have hin : trunc lim n ∈ a.nodes := hw.pref n hn _
    (nameWF_ne_nil (nameWF_trunc lim n (hw.nwf n hn))) (BuildNames.trunc_prefix lim n)
  exact (BuildGen.hasNode_iff g0 _).1 ((hg0.nodes _).2 ⟨_, hin, rfl⟩)

/-! ### C09 for layer rules on the model side; depth condition on the layers the rule MENTIONS only

A layer the rule does not mention may list modules below the limit: they are not nodes of the flattened graph, a regex
layer matches fewer modules there, but such a layer only has to stay unrelated to the others (`LDom`). -/

theorem names_limLayers (mt : Str → Str → Bool) (nodes0 nodesK : List Str) (larch : LArch) (ls : Layers)
    (hres : resolves mt nodes0 larch ls = true) :
    (limLayers mt nodesK larch ls).map (·.1) = ls.map (·.1) := by
  induction larch, ls, hres using resolves_induction with
  | nil => rfl
  | cons L Ls l ls _ _ _ _ ih =>
    unfold limLayers
    rw [List.map_cons, List.map_cons, ih]

theorem limEntry_sub (mt : Str → Str → Bool) (nodes0 nodesK : List Str) (hsub : ∀ s ∈ nodesK, s ∈ nodes0)
    (F : List Filter) (l : List Name) (hl : ∀ x ∈ l, nameWF x = true) (h2 : layerRes mt nodes0 F l = true) (x : Name)
    (hx : x ∈ limEntry mt nodesK F l) : x ∈ l := by
  rcases limEntry_cases nodesK h2 with ⟨_, e⟩ | ⟨p, _, hflt, e⟩ <;> rw [e] at hx
  · exact hx
  · obtain ⟨s, hs, rfl⟩ := List.mem_map.1 hx
    have : s ∈ nodes0.filter (mt p) := List.mem_filter.2 ⟨hsub s (List.mem_filter.1 hs).1, (List.mem_filter.1 hs).2⟩
    rw [hflt] at this
    obtain ⟨m, hml, rfl⟩ := List.mem_map.1 this
    rwa [splitDots_render m (hl m hml)]

theorem limEntry_sup (mt : Str → Str → Bool) (nodes0 nodesK : List Str)
    (F : List Filter) (l : List Name) (hl : ∀ x ∈ l, nameWF x = true ∧ render x ∈ nodesK)
    (h2 : layerRes mt nodes0 F l = true) (x : Name) (hx : x ∈ l) :
    x ∈ limEntry mt nodesK F l := by
  rcases limEntry_cases nodesK h2 with ⟨_, e⟩ | ⟨p, _, hflt, e⟩ <;> rw [e]
  · exact hx
  · have : render x ∈ nodes0.filter (mt p) := by rw [hflt]; exact List.mem_map_of_mem hx
    exact List.mem_map.2 ⟨render x, List.mem_filter.2 ⟨(hl x hx).2, (List.mem_filter.1 this).2⟩, splitDots_render x (hl x hx).1⟩

theorem sub_limLayers (mt : Str → Str → Bool) (nodes0 nodesK : List Str) (hsub : ∀ s ∈ nodesK, s ∈ nodes0)
    (larch : LArch) (ls : Layers) (hls : ∀ l ∈ ls, ∀ x ∈ l.2, nameWF x = true)
    (hres : resolves mt nodes0 larch ls = true) :
    ∀ l' ∈ limLayers mt nodesK larch ls, ∃ l ∈ ls, l'.1 = l.1 ∧ ∀ x ∈ l'.2, x ∈ l.2 := by
  induction larch, ls, hres using resolves_induction with
  | nil => intro l' hl'; simp [limLayers] at hl'
  | cons L Ls l ls _ h2 _ _ ih =>
    intro l' hl'
    unfold limLayers at hl'
    rcases List.mem_cons.1 hl' with rfl | hl'
    · exact ⟨l, List.mem_cons_self, rfl, fun x hx =>
        limEntry_sub mt nodes0 nodesK hsub L.2 l.2 (hls l List.mem_cons_self) h2 x hx⟩
    · obtain ⟨m, hm, h⟩ := ih (fun l' hl' => hls l' (List.mem_cons_of_mem _ hl')) l' hl'
      exact ⟨m, List.mem_cons_of_mem _ hm, h⟩

/-- a layer whose listed modules are well-formed names rendered among `nodesK` is re-resolved to the same set -/
theorem get_limLayers (mt : Str → Str → Bool) (nodes0 nodesK : List Str) (hsub : ∀ s ∈ nodesK, s ∈ nodes0)
    (larch : LArch) (ls : Layers) (hres : resolves mt nodes0 larch ls = true) (n : List Char)
    (hn : ∀ x ∈ ls.get n, nameWF x = true ∧ render x ∈ nodesK) (x : Name) :
    x ∈ (limLayers mt nodesK larch ls).get n ↔ x ∈ ls.get n := by
  induction larch, ls, hres using resolves_induction with
  | nil => exact Iff.rfl
  | cons L Ls l ls _ h2 _ _ ih =>
    unfold limLayers
    rw [layers_get_cons, layers_get_cons] at *
    cases hl : l.1 == n with
    | false =>
      simp only [hl, Bool.false_eq_true, if_false] at hn ⊢
      exact ih hn
    | true =>
      simp only [hl, if_true] at hn ⊢
      exact ⟨limEntry_sub mt nodes0 nodesK hsub L.2 l.2 (fun y hy => (hn y hy).1) h2 x,
        limEntry_sup mt nodes0 nodesK L.2 l.2 hn h2 x⟩

/-- the domain of the core lemma of C05 on the quotient architecture, for the layers the rule works with after
    re-resolution on the flattened graph: only the MENTIONED layers need lie at or above the limit -/
theorem ldom_quotient {a : Arch} (hw : ArchWF a) (k : Nat) {ls : Layers} {r : LRuleSpec} (hd0 : LDom a ls r)
    (habove : ruleLayersAbove k ls r = true) (mt : Str → Str → Bool) (nodes0 nodesK : List Str)
    (hsub : ∀ s ∈ nodesK, s ∈ nodes0)
    (hK : ∀ x ∈ (truncArch (some k) a).nodes, render x ∈ nodesK)
    (larch : LArch) (hres : resolves mt nodes0 larch ls = true) :
    LDom (truncArch (some k) a) (ruleLayers larch (limLayers mt nodesK larch ls) r) r ∧
    (∀ x, x ∈ (limLayers mt nodesK larch ls).get r.subject ↔ x ∈ ls.get r.subject) ∧
    (r.anything = false → ∀ on ∈ r.objects, ∀ x, x ∈ (limLayers mt nodesK larch ls).get on ↔ x ∈ ls.get on) := by
  rw [ruleLayersAbove_iff] at habove
  have hresK := resolves_limLayers mt nodes0 nodesK larch ls hres
  have hTS : ∀ x ∈ ls.get r.subject, x ∈ (truncArch (some k) a).nodes :=
    fun x hx => mem_truncArch_nodes_of_le k a (hd0.nodesS x hx) (habove.1 x hx)
  have hTO : r.anything = false → ∀ on ∈ r.objects, ∀ x ∈ ls.get on, x ∈ (truncArch (some k) a).nodes :=
    fun hany on hon x hx => mem_truncArch_nodes_of_le k a (hd0.nodesO hany on hon x hx) (habove.2 hany on hon x hx)
  have hgS : ∀ x, x ∈ (limLayers mt nodesK larch ls).get r.subject ↔ x ∈ ls.get r.subject :=
    get_limLayers mt nodes0 nodesK hsub larch ls hres _ fun x hx => ⟨hw.nwf x (hd0.nodesS x hx), hK x (hTS x hx)⟩
  have hgO : r.anything = false → ∀ on ∈ r.objects, ∀ x, x ∈ (limLayers mt nodesK larch ls).get on ↔ x ∈ ls.get on :=
    fun hany on hon => get_limLayers mt nodes0 nodesK hsub larch ls hres _ fun x hx =>
      ⟨hw.nwf x (hd0.nodesO hany on hon x hx), hK x (hTO hany on hon x hx)⟩
  refine ⟨ldom_kept ?_ mt nodesK larch hresK, hgS, hgO⟩
  exact hd0.of_sub (sub_limLayers mt nodes0 nodesK hsub larch ls hd0.wf hres)
    (names_limLayers mt nodes0 nodesK larch ls hres) hgS hgO hTS hTO

/-- C09, second sentence, for LAYER rules, depth condition on the MENTIONED layers only -/
theorem layer_verdict_quotient_lemma' (mt : Str → Str → Bool) (a : Arch) (hwf : a.wf = true) (k : Nat)
    (g0 g : PGraph Str) (hg0 : GraphOf a g0) (hg : GraphOf (truncArch (some k) a) g)
    (ls : Layers) (r : LRuleSpec) (hdom : layerDomain' a ls r = true)
    (hany : r.anything = true → r.verb = .shouldNot) (habove : ruleLayersAbove k ls r = true)
    (larch : LArch) (hres : resolves mt g0.nodes larch ls = true) :
    (assertAppliesLayer mt (compileLayerRule larch r) g).cls = VClass.ofBool (layerVerdict a ls r) ∧
    (assertAppliesLayer mt (compileLayerRule larch r) g0).cls = VClass.ofBool (layerVerdict a ls r) := by
  have hw := archWF_of_wf a hwf
  have hd := ldom'_of_layerDomain' a ls r hdom
  have hwfT := truncArch_wf (some k) a hwf
  have hnodes := quotient_nodes_sub hw (some k) hg0 hg
  refine ⟨?_, layer_verdict_lemma mt a g0 hg0 hwf ls r hdom hany larch hres⟩
  have hresK := resolves_limLayers mt g0.nodes g.nodes larch ls hres
  obtain ⟨hL, hgS, hgO⟩ := ldom_quotient hw k (ldom_of_ldom' hw hd) habove mt g0.nodes g.nodes hnodes
    (fun x hx => (BuildGen.hasNode_iff g _).1 ((hg.nodes _).2 ⟨x, hx, rfl⟩)) larch hres
  rw [layer_verdict_ldom mt _ g hg hwfT _ r hany larch hresK hL,
    layerVerdict_congr_sets _ _ ls r hgS hgO, layerVerdict_trunc_dom k a ls r hd habove]

/-- C09, second sentence, for LAYER rules: on any graph `g0` of a well-formed architecture and any graph `g` of its
    quotient under truncation to level `k`, a layer rule in the domain of C05 (layers resolved on `g0`) all of whose
    listed modules lie at or above level `k` has on both graphs the verdict class of the documented semantics on the
    FULL architecture -/
theorem layer_verdict_quotient_lemma (mt : Str → Str → Bool) (a : Arch) (hwf : a.wf = true) (k : Nat)
    (g0 g : PGraph Str) (hg0 : GraphOf a g0) (hg : GraphOf (truncArch (some k) a) g)
    (ls : Layers) (r : LRuleSpec) (hdom : layerDomain' a ls r = true)
    (hany : r.anything = true → r.verb = .shouldNot) (habove : layersAbove k ls = true)
    (larch : LArch) (hres : resolves mt g0.nodes larch ls = true) :
    (assertAppliesLayer mt (compileLayerRule larch r) g).cls = VClass.ofBool (layerVerdict a ls r) ∧
    (assertAppliesLayer mt (compileLayerRule larch r) g0).cls = VClass.ofBool (layerVerdict a ls r) :=
  layer_verdict_quotient_lemma' mt a hwf k g0 g hg0 hg ls r hdom hany (ruleLayersAbove_of_layersAbove k ls r habove)
    larch hres

theorem diagramAbove_iff (k : Nat) (d : Diagram) :
    diagramAbove k d = true ↔ ∀ c ∈ d.components, c.length ≤ k + 1 := by
  simp [diagramAbove, nameAbove]

theorem importsBetween_trunc (k : Nat) (a : Arch) (x y : Name) (hx : x.length ≤ k + 1) (hy : y.length ≤ k + 1)
    (hxy : related x y = false) :
    importsBetween (truncArch (some k) a) x y = importsBetween a x y := by
  unfold importsBetween
  rw [Bool.eq_iff_iff, List.any_eq_true, List.any_eq_true]
  simp only [Bool.and_eq_true]
  refine exists_import_trunc k a (fun e => desc x e.1 = true ∧ desc y e.2 = true) ?_ ?_
  · intro e
    simp only [trunc, desc_take k x _ hx, desc_take k y _ hy]
  · rintro e ⟨h1, h2⟩ hc
    rw [collapse_congr (fun n => desc_take k x n hx) hc] at h1
    rw [related_of_common x y e.2 h1 h2] at hxy
    cases hxy

/-- the should-only clause: "a component with outgoing arrows imports nothing outside its targets and itself" -/
theorem onlyClause_trunc (k : Nat) (a : Arch) (x : Name) (ts : List Name) (hx : x.length ≤ k + 1)
    (hts : ∀ t ∈ ts, t.length ≤ k + 1) :
    Dg.noOther (truncArch (some k) a) x ts = Dg.noOther a x ts := by
  unfold Dg.noOther
  -- an import that breaks the clause has its importer below `x` and its importee not: it does not collapse
  have := exists_import_trunc k a (fun e => (!desc x e.1 || desc x e.2 || ts.any fun t => desc t e.2) = false)
    (fun e => by
      simp only [trunc, desc_take k x _ hx, any_congr_mem ts _ _ (fun t ht => desc_take k t e.2 (hts t ht))])
    (fun e h hc => by
      rw [collapse_congr (fun n => desc_take k x n hx) hc] at h
      cases hd : desc x e.2 <;> simp [hd] at h)
  rw [Bool.eq_iff_iff, List.all_eq_true, List.all_eq_true]
  simpa only [not_exists, not_and, Bool.not_eq_false] using not_congr this

/-- C09 for diagram rules, specification side: conformance does not see the truncation -/
theorem conforms_trunc (k : Nat) (a : Arch) (d : Diagram) (so : Bool) (hd : Dg.Dom a d)
    (habove : diagramAbove k d = true) :
    conforms (truncArch (some k) a) d so = conforms a d so := by
  rw [diagramAbove_iff] at habove
  have hun : ∀ x ∈ d.components, ∀ y ∈ d.components, x = y ∨ related x y = false :=
    pairwise_sym_mem (fun x y h => by rw [related_comm]; exact h) ((pu_iff _).1 hd.unrel)
  unfold conforms
  congr 1
  · refine all_congr_mem _ _ _ (fun x hx => all_congr_mem _ _ _ (fun y hy => ?_))
    rcases hun x hx y hy with rfl | hxy
    · simp
    · rw [importsBetween_trunc k a x y (habove x hx) (habove y hy) hxy]
  · congr 1
    refine all_congr_mem _ _ _ (fun x hx => ?_)
    simp only []
    congr 1
    refine onlyClause_trunc k a x _ (habove x hx) (fun t ht => ?_)
    obtain ⟨e, he, rfl⟩ := List.mem_map.1 ht
    exact habove _ (hd.arr e (List.mem_filter.1 he).1).2.1

theorem dom_trunc (k : Nat) (a : Arch) (d : Diagram) (hd : Dg.Dom a d) (habove : diagramAbove k d = true) :
    Dg.Dom (truncArch (some k) a) d := by
  rw [diagramAbove_iff] at habove
  refine ⟨truncArch_wf (some k) a hd.wf, hd.nodup, hd.unrel, fun c hc => ?_, hd.arr⟩
  exact mem_truncArch_nodes_of_le k a (hd.nodes c hc) (habove c hc)

theorem diagramDomain_of_dom (a : Arch) (d : Diagram) (hd : Dg.Dom a d) : diagramDomain a d = true := by
  unfold diagramDomain
  simp only [Bool.and_eq_true, List.all_eq_true, List.contains_iff_mem, bne_iff_ne, ne_eq, nodupB_iff]
  exact ⟨⟨⟨⟨hd.wf, hd.nodup⟩, hd.unrel⟩, hd.nodes⟩, fun e he => ⟨⟨(hd.arr e he).1, (hd.arr e he).2.1⟩, (hd.arr e he).2.2⟩⟩

theorem diagramDomain_trunc (k : Nat) (a : Arch) (d : Diagram) (h : diagramDomain a d = true)
    (habove : diagramAbove k d = true) : diagramDomain (truncArch (some k) a) d = true :=
  diagramDomain_of_dom _ d (dom_trunc k a d (Dg.dom_of a d h) habove)

/-- C09, second sentence, for DIAGRAM rules: on any graph `g` of the quotient architecture the generated rules of a
    diagram in the domain of C07 whose components lie at or above level `k` have the verdict class "the imports of the
    FULL architecture conform to the diagram" (which by C07, `Dg.diagram_cls`, is their class on a graph of `a`) -/
theorem diagram_verdict_quotient_lemma (mt : Str → Str → Bool) (a : Arch) (k : Nat) (g : PGraph Str)
    (hg : GraphOf (truncArch (some k) a) g) (d : Diagram) (so : Bool)
    (hdom : diagramDomain a d = true) (habove : diagramAbove k d = true) :
    (applyAll mt g (diagramRules so (parsedOf d))).cls = VClass.ofBool (conforms a d so) := by
  rw [Dg.diagram_cls mt _ g hg d so (diagramDomain_trunc k a d hdom habove),
    conforms_trunc k a d so (Dg.dom_of a d hdom) habove]

/-- the same from the diagram FILE (C06 ∘ C07 ∘ C09): `DiagramRule.assert_applies` on a rendered diagram -/
theorem diagram_file_quotient_lemma (mt : Str → Str → Bool) (a : Arch) (k : Nat) (g : PGraph Str)
    (hg : GraphOf (truncArch (some k) a) g) (n1 n2 : Str) (d : List DLine)
    (hwf : diagramWF d = true) (hn : isInfix "@enduml".toList n2 = false) (D : Diagram) (hM : E2E.Means d D) (so : Bool)
    (hdom : diagramDomain a D = true) (habove : diagramAbove k D = true) :
    (diagramAssert mt (some (diagramText n1 d n2)) none so g).cls = VClass.ofBool (conforms a D so) := by
  rw [(E2E.file_conforms_lemma mt _ g hg n1 n2 d hwf hn D hM so (diagramDomain_trunc k a D hdom habove)).1,
    conforms_trunc k a D so (Dg.dom_of a D hdom) habove]

end Pta.QL
