/-
  PtaProofs.Lemmas.BuildScan — the graph constructor on inputs as a scan produces them (`ScanLike`): a module list
  that covers a well-formed architecture up to ancestors, and import records whose importers are modules while their
  importees are arbitrary strings. Under any level limit such inputs build the quotient of the architecture (`quotient`;
  property C04 (nodes, hierarchy, sub modules) and C09), read off `ExtBuild.buildGraph_known` through the dictionary between chains of
  strings and prefixes of well-formed names. The lists of a well-formed architecture are such inputs (`arch_scanLike`).
-/
import PtaProofs.Lemmas.Render
import PtaProofs.Lemmas.ExtBuild
namespace Pta
namespace BuildScan
open PtaSpec BuildGen BuildNames ExtNames ExtBuild

/-- inputs of the graph constructor as a scan produces them, relative to an architecture `a` -/
structure ScanLike (a : Arch) (mods : List Str) (imports : List ImportRec) : Prop where
  mods_in : ∀ m ∈ mods, ∃ n ∈ a.nodes, m = render n
  cover : ∀ n ∈ a.nodes, ∃ m ∈ a.nodes, render m ∈ mods ∧ n <+: m
  /-- records are `AbsoluteImport`s of a node; if the importee is another node, the pair is an import of `a` -/
  imp_shape : ∀ i ∈ imports, i.importeeParents = parentModules i.importee ∧
    ∃ f ∈ a.nodes, i.importer = render f ∧ ∀ n ∈ a.nodes, i.importee = render n → f ≠ n → (f, n) ∈ a.imports
  imp_cover : ∀ e ∈ a.imports, absImport (render e.1) (render e.2) ∈ imports

theorem ScanLike.congr {a b : Arch} {mods : List Str} {imports : List ImportRec} (hs : ScanLike a mods imports)
    (h1 : ∀ n, n ∈ b.nodes ↔ n ∈ a.nodes) (h2 : ∀ e, e ∈ b.imports ↔ e ∈ a.imports) : ScanLike b mods imports where
  mods_in m hm := by obtain ⟨n, hn, e⟩ := hs.mods_in m hm; exact ⟨n, (h1 n).2 hn, e⟩
  cover n hn := by obtain ⟨m, hm, e⟩ := hs.cover n ((h1 n).1 hn); exact ⟨m, (h1 m).2 hm, e⟩
  imp_shape i hi := by
    obtain ⟨hp, f, hf, e, himp⟩ := hs.imp_shape i hi
    exact ⟨hp, f, (h1 f).2 hf, e, fun n hn hin hfn => (h2 _).2 (himp n ((h1 n).1 hn) hin hfn)⟩
  imp_cover e he := hs.imp_cover e ((h2 e).1 he)

theorem _root_.Pta.GraphOf.congr {a b : Arch} {g : PGraph Str} (hg : GraphOf a g) (h1 : ∀ n, n ∈ b.nodes ↔ n ∈ a.nodes)
    (h2 : ∀ e, e ∈ b.imports ↔ e ∈ a.imports) : GraphOf b g :=
  ⟨fun s => by simp only [hg.nodes, h1], fun s x => by simp only [hg.hier, h1], fun s x => by simp only [hg.succs, h2],
    fun s x => by simp only [hg.preds, h2]⟩

theorem nodeOf_iff (a : Arch) (hwf : a.wf = true) (mods : List Str) (imports : List ImportRec)
    (hs : ScanLike a mods imports) (lim : Option Nat) (s : Str) :
    NodeOf lim mods s ↔ ∃ n ∈ a.nodes, s = render (trunc lim n) := by
  constructor
  · rintro ⟨m, hm, hc⟩
    obtain ⟨n, hn, rfl⟩ := hs.mods_in m hm
    have wn := wf_nodes a hwf n hn
    rw [flatten_render lim n wn, mem_chain_render (nameWF_trunc lim n wn)] at hc
    obtain ⟨p, hne, hp, rfl⟩ := hc
    -- a non-empty prefix of a truncated node is a node, and the truncation leaves it alone
    exact ⟨p, wf_of_prefix a hwf hn hne (hp.trans (trunc_prefix lim n)), by rw [trunc_of_prefix lim hp]⟩
  · rintro ⟨n, hn, rfl⟩
    obtain ⟨m, hm, hmm, hpre⟩ := hs.cover n hn
    have wn := wf_nodes a hwf n hn
    rw [← flatten_render lim n wn]
    exact ⟨render m, hmm, flatten_chain_mono lim
      ((mem_chain_render (wf_nodes a hwf m hm) _).2 ⟨n, nameWF_ne_nil wn, hpre, rfl⟩)⟩

theorem quotient (a : Arch) (hwf : a.wf = true) (mods : List Str) (imports : List ImportRec)
    (hs : ScanLike a mods imports) (lim : Option Nat) : QuotientOf a lim (buildGraph mods imports lim) := by
  have hN := nodeOf_iff a hwf mods imports hs
  have wt : ∀ n ∈ a.nodes, nameWF (trunc lim n) = true := fun n h => nameWF_trunc lim n (wf_nodes a hwf n h)
  have hfl : ∀ n ∈ a.nodes, flattenNode lim (render n) = render (trunc lim n) :=
    fun n h => flatten_render lim n (wf_nodes a hwf n h)
  obtain ⟨hn, hh, hi⟩ := buildGraph_known mods imports lim (by
    intro i hi
    obtain ⟨hpar, f, hf, hif, -⟩ := hs.imp_shape i hi
    exact ⟨by rw [hif]; exact (hN none _).2 ⟨f, hf, rfl⟩, hpar⟩)
  have hI : ∀ s x, (⟨s, x, false⟩ : Edge Str) ∈ (buildGraph mods imports lim).edges ↔
      ∃ e ∈ a.imports, trunc lim e.1 ≠ trunc lim e.2 ∧ s = render (trunc lim e.1) ∧ x = render (trunc lim e.2) := by
    intro s x
    rw [hi]
    constructor
    · rintro ⟨-, hne, i, hi', hy, rfl, rfl⟩
      obtain ⟨-, f, hf, hif, himp⟩ := hs.imp_shape i hi'
      obtain ⟨n, hn', hin⟩ := (hN none _).1 hy
      have hin : i.importee = render n := hin
      rw [hif, hin, hfl f hf, hfl n hn'] at hne ⊢
      have hfn : f ≠ n := fun h => hne (by rw [h])
      exact ⟨(f, n), himp n hn' hin hfn, fun h => hne (congrArg render h), rfl, rfl⟩
    · rintro ⟨e, he, hne, rfl, rfl⟩
      obtain ⟨i1, i2, -, hsd⟩ := wf_import a hwf e he
      have w1 := wt _ i1
      have w2 := wt _ i2
      refine ⟨?_, fun h => hne (render_injective _ _ w1 w2 h), _, hs.imp_cover e he, (hN none _).2 ⟨_, i2, rfl⟩,
        hfl _ i1, hfl _ i2⟩
      -- an importer is never a strict ancestor of its importee, so the truncated pair is not parent → child
      intro hp
      obtain ⟨hl, h⟩ := (hierPair_render w2 _).1 hp
      have := trunc_parent_sdesc lim e.1 e.2 hl (render_injective _ _ w1 (nameWF_dropLast _ w2 hl) h)
      rw [hsd] at this
      cases this
  refine ⟨fun s => ?_, fun s x => ?_, fun s x => ?_, fun s x => ?_⟩
  · rw [hasNode_iff, hn, hN]
  · rw [mem_hierChildren, hh, hN]
    constructor
    · rintro ⟨hp, c, hc, rfl⟩
      obtain ⟨hl, rfl⟩ := (hierPair_render (wt c hc) _).1 hp
      exact ⟨c, hc, hl, rfl, rfl⟩
    · rintro ⟨c, hc, hl, rfl, rfl⟩
      exact ⟨(hierPair_render (wt c hc) _).2 ⟨hl, rfl⟩, c, hc, rfl⟩
  · rw [mem_importSuccs]
    exact hI s x
  · rw [mem_importPreds]
    exact hI x s

theorem graphOf_of_quotient_none (a : Arch) (hwf : a.wf = true) (g : PGraph Str) (h : QuotientOf a none g) :
    GraphOf a g := by
  -- the ends of an import of a well-formed architecture are distinct
  have key : ∀ s x, (∃ e ∈ a.imports, trunc none e.1 ≠ trunc none e.2 ∧ s = render (trunc none e.1) ∧
      x = render (trunc none e.2)) ↔ ∃ e ∈ a.imports, s = render e.1 ∧ x = render e.2 := by
    intro s x
    constructor
    · rintro ⟨e, he, -, h1, h2⟩; exact ⟨e, he, h1, h2⟩
    · rintro ⟨e, he, h1, h2⟩; exact ⟨e, he, (wf_import a hwf e he).2.2.1, h1, h2⟩
  exact ⟨h.nodes, h.hier, fun s x => (h.succs s x).trans (key s x), fun s x => (h.preds s x).trans (key x s)⟩

theorem buildGraph_scanlike (a : Arch) (hwf : a.wf = true) (mods : List Str) (imports : List ImportRec)
    (hs : ScanLike a mods imports) : GraphOf a (buildGraph mods imports none) :=
  graphOf_of_quotient_none a hwf _ (quotient a hwf mods imports hs none)

end BuildScan
open PtaSpec BuildNames

theorem arch_scanLike (a : Arch) (hwf : a.wf = true) :
    BuildScan.ScanLike a (a.nodes.map render) (a.imports.map fun e => absImport (render e.1) (render e.2)) := by
  refine ⟨fun m hm => ?_, fun n hn => ⟨n, hn, List.mem_map_of_mem hn, List.prefix_refl n⟩, fun i hi => ?_,
    fun e he => List.mem_map.2 ⟨e, he, rfl⟩⟩
  · obtain ⟨n, hn, rfl⟩ := List.mem_map.1 hm
    exact ⟨n, hn, rfl⟩
  · obtain ⟨e, he, rfl⟩ := List.mem_map.1 hi
    obtain ⟨i1, i2, -, -⟩ := wf_import a hwf e he
    refine ⟨rfl, e.1, i1, rfl, fun n hn hen _ => ?_⟩
    have : e.2 = n := render_injective _ _ (wf_nodes a hwf _ i2) (wf_nodes a hwf n hn) hen
    rw [← this]
    exact he

theorem buildGraph_quotient (a : Arch) (hwf : a.wf = true) (lim : Option Nat) : QuotientOf a lim (archGraphLim a lim) :=
  BuildScan.quotient a hwf _ _ (arch_scanLike a hwf) lim

theorem archGraph_graphOf (a : Arch) (hwf : a.wf = true) : GraphOf a (archGraph a) :=
  BuildScan.buildGraph_scanlike a hwf _ _ (arch_scanLike a hwf)

theorem archGraph_nodes (a : Arch) (hwf : a.wf = true) :
    (∀ s ∈ (archGraph a).nodes, ∃ n ∈ a.nodes, s = render n) ∧
    ∀ e ∈ (archGraph a).edges, e.src ∈ (archGraph a).nodes ∧ e.dst ∈ (archGraph a).nodes := by
  refine ⟨fun s hs => ((archGraph_graphOf a hwf).nodes s).1 ((BuildGen.hasNode_iff _ s).2 hs),
    ExtBuild.buildGraph_edge_nodes _ _ none fun i hi => ?_⟩
  obtain ⟨e, he, rfl⟩ := List.mem_map.1 hi
  exact ⟨⟨_, List.mem_map_of_mem (BuildNames.wf_import a hwf e he).1, ExtNames.self_mem_chain _⟩, rfl⟩

namespace C13M

theorem too_deep_not_node (a : Arch) (hwf : a.wf = true) (k : Nat) (n : Name) (hn : nameWF n = true)
    (hdeep : k + 1 < n.length) : (archGraphLim a (some k)).hasNode (render n) = false := by
  cases h : (archGraphLim a (some k)).hasNode (render n)
  · rfl
  · exfalso
    obtain ⟨n', hn', he⟩ := ((buildGraph_quotient a hwf (some k)).nodes (render n)).1 h
    have hwf' : nameWF (trunc (some k) n') = true := nameWF_trunc (some k) n' (BuildNames.wf_nodes a hwf n' hn')
    have := render_injective n (trunc (some k) n') hn hwf' he
    rw [this] at hdeep
    simp only [trunc, List.length_take] at hdeep
    omega

end C13M

end Pta
