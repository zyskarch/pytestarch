/-
  PtaProofs.Lemmas.Semantics — lemmas behind Props/C01.lean: model verdict / report = declarative semantics.

  The searches need of the filters of a rule only that no member of one is the parent identifier of another (`PFree`,
  SemHier), so the oracle theorems hold for every `parentFree` rule; strict, compatible, all-named and admissible rules
  are special cases.

  For the `anything` aliases `_convert_aliases` de-duplicates the subjects (`dedupSubjects`); the specification keeps
  them all. Every removed subject lies below a NAMED subject (this is how `dedupSubjects` chooses what to remove, the
  repair of F-C12a), so the rule on the retained subjects has the same verdict and the same violating imports
  (spec-level lemma `others_dedup`).
-/
import Bridge.Abs
import Bridge.RuleChain
import PtaProofs.Lemmas.Render
import PtaProofs.Lemmas.SameMembers
import PtaProofs.Lemmas.SemQueries
import PtaProofs.Lemmas.AnythingDedup
namespace Pta
open PtaSpec

theorem all_transfer_E {a : Arch} {r : RuleSpec} {e : ExplDeps} (he : ESpec a r e)
    (P : List (Str × Str) → Bool) (Q : List (Name × Name) → Bool) (hPQ : ∀ l es, Rep l es → P l = Q es) :
    e.all (fun kd => P kd.2) = r.subjects.all fun s => r.effObjects.all fun o => Q (edges a r.importDir s o) := by
  rw [Bool.eq_iff_iff]
  simp only [List.all_eq_true]
  constructor
  · intro h s hs o ho
    obtain ⟨kd, hkd, _, hrep⟩ := he.2 (s, o) ⟨hs, ho⟩
    rw [← hPQ _ _ hrep]; exact h kd hkd
  · intro h kd hkd
    obtain ⟨so, ⟨hs, ho⟩, _, hrep⟩ := he.1 kd hkd
    rw [hPQ _ _ hrep]; exact h so.1 hs so.2 ho

theorem all_transfer_O {a : Arch} {r : RuleSpec} {e : OtherDeps} (he : OSpec a r e)
    (P : List (Str × Str) → Bool) (Q : List (Name × Name) → Bool) (hPQ : ∀ l es, Rep l es → P l = Q es) :
    e.all (fun kd => P kd.2) = r.subjects.all fun s => Q (others a r.importDir s r.effObjects) := by
  rw [Bool.eq_iff_iff]
  simp only [List.all_eq_true]
  constructor
  · intro h s hs
    obtain ⟨kd, hkd, _, hrep⟩ := he.2 s hs
    rw [← hPQ _ _ hrep]; exact h kd hkd
  · intro h kd hkd
    obtain ⟨s, hs, _, hrep⟩ := he.1 kd hkd
    rw [hPQ _ _ hrep]; exact h s hs

theorem effObjects_ne_nil (r : RuleSpec) (hs : r.subjects ≠ []) (ho : r.anything = true ∨ r.objects ≠ []) :
    r.effObjects ≠ [] := by
  unfold RuleSpec.effObjects
  cases h : r.anything
  · simpa [h] using ho
  · simpa using hs

/-- the buckets a rule with verb `v`, with (`x`) or without `except`, fills: `EA` the explicit dependencies required
    and absent, `EN` the explicit ones realised, `OA` / `ON` the same for "something else" -/
def buckets (v : Verb) (x : Bool) (EA EN OA ON : List Dep) : Violations :=
  match v, x with
  | .should, false => { should := EA }
  | .shouldNot, false => { shouldNot := EN }
  | .shouldOnly, false => { shouldOnlyNoImport := EA, shouldOnlyForbidden := ON }
  | .should, true => { shouldExcept := OA }
  | .shouldOnly, true => { shouldOnlyExceptNoImport := OA, shouldOnlyExceptForbidden := EN }
  | .shouldNot, true => { shouldNotExcept := ON }

theorem buckets_any (v : Verb) (x : Bool) (EA EN OA ON : List Dep) :
    (buckets v x EA EN OA ON).any =
      !(match v, x with
        | .should, false => EA.isEmpty
        | .shouldNot, false => EN.isEmpty
        | .shouldOnly, false => EA.isEmpty && ON.isEmpty
        | .should, true => OA.isEmpty
        | .shouldOnly, true => OA.isEmpty && EN.isEmpty
        | .shouldNot, true => ON.isEmpty) := by
  cases v <;> cases x <;> simp [buckets, Violations.any, Bool.or_comm]

theorem detect_buckets (b : Behavior) (v : Verb) (x : Bool)
    (hb : b = ⟨v == .should, v == .shouldOnly, v == .shouldNot, x⟩) (d : Bool) (e : ExplDeps) (o : OtherDeps)
    (objsM : List Mod) :
    detect b d (if (b.explReq || b.explForb) = true then some e else none)
      (if (b.otherReq || b.otherForb) = true then some o else none) objsM =
    buckets v x (abstractWithout d e) (realised d e) (missingOther o objsM) (realised d o) := by
  subst hb
  cases v <;> cases x <;> rfl

theorem atoms_impItems_realised (d : Bool) {κ : Type} (deps : List (κ × List (Str × Str))) (x : Atom) :
    x ∈ (impItems d (realised d deps)).flatMap Item.atoms ↔ ∃ kd ∈ deps, ∃ p ∈ kd.2, x = Atom.imp p.1 p.2 := by
  simp only [impItems, realised, List.mem_flatMap, List.mem_map]
  constructor
  · rintro ⟨it, ⟨dd, ⟨kd, hkd, p, hp, rfl⟩, rfl⟩, hx⟩
    refine ⟨kd, hkd, p, hp, ?_⟩
    cases d <;> simpa [userOrder, Item.atoms] using hx
  · rintro ⟨kd, hkd, p, hp, rfl⟩
    refine ⟨_, ⟨_, ⟨kd, hkd, p, hp, rfl⟩, rfl⟩, ?_⟩
    cases d <;> simp [userOrder, Item.atoms]

theorem atoms_missItems (any d : Bool) (ds : List Dep) (x : Atom) :
    x ∈ (missItems any d ds).flatMap Item.atoms ↔ ∃ dd ∈ ds, x = Atom.miss any dd.1 dd.2 := by
  simp only [missItems, List.mem_flatMap, List.mem_map, mem_dedup]
  constructor
  · rintro ⟨it, ⟨s, ⟨dd, hdd, rfl⟩, rfl⟩, hx⟩
    simp only [Item.atoms, List.mem_map, mem_dedup, List.mem_filter] at hx
    obtain ⟨o, ⟨y, ⟨hy, hy1⟩, rfl⟩, rfl⟩ := hx
    refine ⟨y, hy, ?_⟩
    rw [of_decide_eq_true hy1]
  · rintro ⟨dd, hdd, rfl⟩
    refine ⟨_, ⟨dd.1, ⟨dd, hdd, rfl⟩, rfl⟩, ?_⟩
    simp only [Item.atoms, List.mem_map, mem_dedup, List.mem_filter]
    exact ⟨dd.2, ⟨dd, ⟨hdd, by simp⟩, rfl⟩, rfl⟩

/-! ### atoms of the specification's violating set -/

def sEforb (a : Arch) (r : RuleSpec) : List SItem :=
  r.subjects.flatMap fun s => r.effObjects.flatMap fun o => (edges a r.importDir s o).map fun e => SItem.imp e.1 e.2
def sOforb (a : Arch) (r : RuleSpec) : List SItem :=
  r.subjects.flatMap fun s => (others a r.importDir s r.effObjects).map fun e => SItem.imp e.1 e.2
def sEneed (a : Arch) (r : RuleSpec) : List SItem :=
  r.subjects.filterMap fun s =>
    let missing := r.effObjects.filter fun o => (edges a r.importDir s o).isEmpty
    if missing.isEmpty then none else some (SItem.miss false s missing)
def sOneed (a : Arch) (r : RuleSpec) : List SItem :=
  r.subjects.filterMap fun s =>
    if (others a r.importDir s r.effObjects).isEmpty then some (SItem.miss true s r.effObjects) else none

/-- `violating` is written with four flags, and they are the query flags of `beh r` -/
theorem mem_violating_flags (a : Arch) (r : RuleSpec) (x : Atom) :
    x ∈ (violating a r).flatMap SItem.atoms ↔
      ((beh r).explReq = true ∧ x ∈ (sEneed a r).flatMap SItem.atoms) ∨
      ((beh r).explForb = true ∧ x ∈ (sEforb a r).flatMap SItem.atoms) ∨
      ((beh r).otherReq = true ∧ x ∈ (sOneed a r).flatMap SItem.atoms) ∨
      ((beh r).otherForb = true ∧ x ∈ (sOforb a r).flatMap SItem.atoms) := by
  have hv : violating a r =
      (if (beh r).explForb = true then sEforb a r else []) ++ (if (beh r).otherForb = true then sOforb a r else []) ++
      (if (beh r).explReq = true then sEneed a r else []) ++ (if (beh r).otherReq = true then sOneed a r else []) := by
    obtain ⟨verb, dir, exc, subjects, objects, anything⟩ := r
    cases verb <;> cases exc <;> cases anything <;> rfl
  simp only [hv, List.flatMap_append, List.mem_append, mem_block_iff (·.flatMap SItem.atoms) rfl]
  constructor
  · rintro (((h | h) | h) | h) <;> simp only [h, and_self, true_or, or_true]
  · rintro (h | h | h | h) <;> simp only [h, and_self, true_or, or_true]

theorem mem_sEforb (a : Arch) (r : RuleSpec) (x : Atom) :
    x ∈ (sEforb a r).flatMap SItem.atoms ↔
      ∃ so : SFilter × SFilter, (so.1 ∈ r.subjects ∧ so.2 ∈ r.effObjects) ∧
        ∃ e ∈ edges a r.importDir so.1 so.2, x = .imp (render e.1) (render e.2) := by
  simp only [sEforb, List.mem_flatMap, List.mem_map]
  constructor
  · rintro ⟨it, ⟨s, hs, o, ho, e, he, rfl⟩, hx⟩
    exact ⟨(s, o), ⟨hs, ho⟩, e, he, by simpa [SItem.atoms] using hx⟩
  · rintro ⟨so, ⟨hs, ho⟩, e, he, rfl⟩
    exact ⟨_, ⟨so.1, hs, so.2, ho, e, he, rfl⟩, by simp [SItem.atoms]⟩

theorem mem_sOforb (a : Arch) (r : RuleSpec) (x : Atom) :
    x ∈ (sOforb a r).flatMap SItem.atoms ↔
      ∃ s ∈ r.subjects, ∃ e ∈ others a r.importDir s r.effObjects, x = .imp (render e.1) (render e.2) := by
  simp only [sOforb, List.mem_flatMap, List.mem_map]
  constructor
  · rintro ⟨it, ⟨s, hs, e, he, rfl⟩, hx⟩
    exact ⟨s, hs, e, he, by simpa [SItem.atoms] using hx⟩
  · rintro ⟨s, hs, e, he, rfl⟩
    exact ⟨_, ⟨s, hs, e, he, rfl⟩, by simp [SItem.atoms]⟩

theorem mem_sEneed (a : Arch) (r : RuleSpec) (x : Atom) :
    x ∈ (sEneed a r).flatMap SItem.atoms ↔
      ∃ s ∈ r.subjects, ∃ o ∈ r.effObjects, (edges a r.importDir s o).isEmpty = true ∧
        x = .miss false (sfilterMod s) (sfilterMod o) := by
  simp only [sEneed, List.mem_flatMap, List.mem_filterMap]
  constructor
  · rintro ⟨it, ⟨s, hs, hit⟩, hx⟩
    split at hit
    · cases hit
    · cases hit
      simp only [SItem.atoms, List.mem_map, List.mem_filter] at hx
      obtain ⟨o, ⟨ho, he⟩, rfl⟩ := hx
      exact ⟨s, hs, o, ho, he, rfl⟩
  · rintro ⟨s, hs, o, ho, he, rfl⟩
    have hmem : o ∈ r.effObjects.filter fun o => (edges a r.importDir s o).isEmpty :=
      List.mem_filter.2 ⟨ho, he⟩
    refine ⟨SItem.miss false s (r.effObjects.filter fun o => (edges a r.importDir s o).isEmpty), ⟨s, hs, ?_⟩, ?_⟩
    · rw [if_neg]
      intro h0
      rw [List.isEmpty_iff] at h0
      rw [h0] at hmem; cases hmem
    · simp only [SItem.atoms, List.mem_map]
      exact ⟨o, hmem, rfl⟩

theorem mem_sOneed (a : Arch) (r : RuleSpec) (x : Atom) :
    x ∈ (sOneed a r).flatMap SItem.atoms ↔
      ∃ s ∈ r.subjects, (others a r.importDir s r.effObjects).isEmpty = true ∧ ∃ o ∈ r.effObjects,
        x = .miss true (sfilterMod s) (sfilterMod o) := by
  simp only [sOneed, List.mem_flatMap, List.mem_filterMap]
  constructor
  · rintro ⟨it, ⟨s, hs, hit⟩, hx⟩
    split at hit
    · rename_i he
      cases hit
      simp only [SItem.atoms, List.mem_map] at hx
      obtain ⟨o, ho, rfl⟩ := hx
      exact ⟨s, hs, he, o, ho, rfl⟩
    · cases hit
  · rintro ⟨s, hs, he, o, ho, rfl⟩
    refine ⟨SItem.miss true s r.effObjects, ⟨s, hs, by rw [if_pos he]⟩, ?_⟩
    simp only [SItem.atoms, List.mem_map]
    exact ⟨o, ho, rfl⟩

theorem eforb_iff {a : Arch} {r : RuleSpec} {e : ExplDeps} (he : ESpec a r e) (x : Atom) :
    x ∈ (impItems r.importDir (realised r.importDir e)).flatMap Item.atoms ↔ x ∈ (sEforb a r).flatMap SItem.atoms :=
  (atoms_impItems_realised _ e x).trans ((he.exists_pair _).trans (mem_sEforb a r x).symm)

theorem oforb_iff {a : Arch} {r : RuleSpec} {e : OtherDeps} (he : OSpec a r e) (x : Atom) :
    x ∈ (impItems r.importDir (realised r.importDir e)).flatMap Item.atoms ↔ x ∈ (sOforb a r).flatMap SItem.atoms :=
  (atoms_impItems_realised _ e x).trans ((he.exists_pair _).trans (mem_sOforb a r x).symm)

theorem eneed_iff {a : Arch} {r : RuleSpec} {e : ExplDeps} (he : ESpec a r e) (x : Atom) :
    x ∈ (missItems false r.importDir (abstractWithout r.importDir e)).flatMap Item.atoms ↔
      x ∈ (sEneed a r).flatMap SItem.atoms := by
  rw [atoms_missItems, mem_sEneed]
  simp only [abstractWithout, List.mem_map, List.mem_filter]
  constructor
  · rintro ⟨dd, ⟨kd, ⟨hkd, hemp⟩, rfl⟩, rfl⟩
    obtain ⟨so, ⟨hs, ho⟩, h1, hrep⟩ := he.1 kd hkd
    refine ⟨so.1, hs, so.2, ho, by rw [← hrep.isEmpty]; exact hemp, ?_⟩
    rw [h1, userOrder_userOrder]
  · rintro ⟨s, hs, o, ho, hemp, rfl⟩
    obtain ⟨kd, hkd, h1, hrep⟩ := he.2 (s, o) ⟨hs, ho⟩
    refine ⟨_, ⟨kd, ⟨hkd, by rw [hrep.isEmpty]; exact hemp⟩, rfl⟩, ?_⟩
    rw [h1, userOrder_userOrder]

theorem oneed_iff {a : Arch} {r : RuleSpec} {e : OtherDeps} (he : OSpec a r e) (x : Atom) :
    x ∈ (missItems true r.importDir
        (missingOther e ((r.effObjects.map compileFilter).map Filter.toMod))).flatMap Item.atoms ↔
      x ∈ (sOneed a r).flatMap SItem.atoms := by
  rw [atoms_missItems, mem_sOneed]
  simp only [missingOther, List.mem_flatMap, List.mem_map, List.mem_filter]
  constructor
  · rintro ⟨dd, ⟨kd, ⟨hkd, hemp⟩, m, ⟨F, ⟨o, ho, rfl⟩, rfl⟩, rfl⟩, rfl⟩
    obtain ⟨s, hs, h1, hrep⟩ := he.1 kd hkd
    refine ⟨s, hs, by rw [← hrep.isEmpty]; exact hemp, o, ho, ?_⟩
    simp [h1]
  · rintro ⟨s, hs, hemp, o, ho, rfl⟩
    obtain ⟨kd, hkd, h1, hrep⟩ := he.2 s hs
    refine ⟨_, ⟨kd, ⟨hkd, by rw [hrep.isEmpty]; exact hemp⟩, _, ⟨_, ⟨o, ho, rfl⟩, rfl⟩, rfl⟩, ?_⟩
    simp [h1]

/-- the model's outcome against the documented semantics: `pass` when `verdict a r` holds, otherwise a failure whose
    report names exactly the violating imports (no error on the domain) -/
theorem outcome_core {a : Arch} {g : PGraph Str} (mt : Str → Str → Bool) (hw : ArchWF a) (hg : GraphOf a g)
    (r : RuleSpec) (ctx : RuleCtx a r)
    (hs : r.subjects ≠ []) (ho : r.anything = true ∨ r.objects ≠ [])
    (hany : r.anything = true → r.verb = .shouldNot)
    (hdd : r.anything = true → dedupSubjects (r.subjects.map compileFilter) = r.subjects.map compileFilter) :
    ∃ items, (assertApplies mt (compile r) g).2 = (if (!verdict a r) = true then .fail items else .pass) ∧
      ∀ x, x ∈ items.flatMap Item.atoms ↔ x ∈ (violating a r).flatMap SItem.atoms := by
  obtain ⟨e, o, hE, hO, hq⟩ := runQueries_compile hw hg r ctx
  have hEn := (realised_isEmpty r.importDir e).trans (all_transfer_E hE _ _ (fun _ _ h => h.isEmpty))
  have hEa := (abstractWithout_isEmpty r.importDir e).trans
    (all_transfer_E hE (fun l => !l.isEmpty) (fun l => !l.isEmpty) (fun _ _ h => by simp only [h.isEmpty]))
  have hOn := (realised_isEmpty r.importDir o).trans (all_transfer_O hO _ _ (fun _ _ h => h.isEmpty))
  -- the rule has objects, so the "no objects" disjunct of `missingOther_isEmpty` is false
  have hOa := ((missingOther_isEmpty o ((r.effObjects.map compileFilter).map Filter.toMod)).trans
      (by rw [List.isEmpty_eq_false_iff.2 (by simpa using effObjects_ne_nil r hs ho), Bool.false_or])).trans
    (all_transfer_O hO (fun l => !l.isEmpty) (fun l => !l.isEmpty) (fun _ _ h => by simp only [h.isEmpty]))
  refine ⟨_, ?_, fun x => (mem_report_answers_of (·.flatMap Item.atoms) (fun _ _ => List.flatMap_append) rfl ..).trans <|
    (or_congr (and_congr_right' (eneed_iff hE x)) <| or_congr (and_congr_right' (eforb_iff hE x)) <|
      or_congr (and_congr_right' (oneed_iff hO x)) (and_congr_right' (oforb_iff hO x))).trans
        (mem_violating_flags a r x).symm⟩
  rw [assertApplies_compile mt g r hs ho hany hdd,
    matchRule_of_ok (convertFilters_map mt g.nodes _) (convertFilters_map mt g.nodes _) hq,
    detect_buckets (beh r) r.verb r.effExc rfl, buckets_any, hEa, hEn, hOa, hOn]
  rfl

theorem pw_compat (l : List SFilter) (h : pairwiseUnrelated (l.map (·.id)) = true) :
    ∀ f ∈ l, ∀ f' ∈ l, Compat f f' :=
  pairwise_sym_mem (R := fun f f' : SFilter => related f.id f'.id = false) (fun _ _ h => by rwa [related_comm])
    (List.pairwise_map.1 ((pu_iff _).1 h))

theorem strict_compat_pairs (r : RuleSpec) (hstrict : r.strict = true) :
    ∀ f ∈ filtersOf r, ∀ f' ∈ filtersOf r, Compat f f' := by
  unfold RuleSpec.strict at hstrict
  unfold filtersOf RuleSpec.effObjects
  cases hany : r.anything
  · rw [hany] at hstrict
    simp only [Bool.false_eq_true, if_false, ← List.map_append] at hstrict ⊢
    exact pw_compat _ hstrict
  · rw [hany] at hstrict
    simp only [if_true, List.append_nil] at hstrict ⊢
    have := pw_compat _ hstrict
    intro f hf f' hf'
    exact this f (by simpa using hf) f' (by simpa using hf')

theorem all_sub_iff (l : List SFilter) (Q : SFilter → Bool) :
    (l.all fun p => !p.isSub || Q p) = true ↔ ∀ p ∈ l, p.isSub = true → Q p = true := by
  simp only [List.all_eq_true, Bool.or_eq_true, Bool.not_eq_true']
  refine forall_congr' fun p => forall_congr' fun _ => ?_
  cases p.isSub <;> simp

theorem parentFree_iff (r : RuleSpec) :
    parentFree r = true ↔ ∀ f ∈ filtersOf r, ∀ p ∈ filtersOf r, PFree f p := by
  rw [parentFree, all_sub_iff]
  simp only [List.all_eq_true, Bool.not_eq_true', PFree]
  exact ⟨fun h f hf p hp hs => h p hp hs f hf, fun h p hp hs f hf => h f hf p hp hs⟩

theorem namesIn_iff (r : RuleSpec) (a : Arch) : r.namesIn a = true ↔ ∀ f ∈ filtersOf r, f.id ∈ a.nodes := by
  unfold RuleSpec.namesIn filtersOf
  simp only [List.all_eq_true, List.contains_iff_mem]

theorem ruleCtx_of (a : Arch) (r : RuleSpec) (hpf : parentFree r = true) (hnames : r.namesIn a = true) :
    RuleCtx a r :=
  ⟨(parentFree_iff r).1 hpf, (namesIn_iff r a).1 hnames⟩

theorem compatible_iff (r : RuleSpec) :
    compatible r = true ↔
      ∀ p ∈ filtersOf r, p.isSub = true → ∀ f ∈ filtersOf r, f = p ∨ related p.id f.id = false := by
  rw [compatible, all_sub_iff]
  simp only [List.all_eq_true, Bool.or_eq_true, Bool.not_eq_true', decide_eq_true_eq]

theorem strict_compatible (r : RuleSpec) (h : r.strict = true) : compatible r = true := by
  rw [compatible_iff]
  intro p hp _ f hf
  rcases strict_compat_pairs r h p hp f hf with h1 | h1
  · exact .inl h1.symm
  · exact .inr h1

theorem compatible_parentFree (r : RuleSpec) (h : compatible r = true) : parentFree r = true := by
  rw [parentFree_iff]
  rw [compatible_iff] at h
  intro f hf p hp hs
  exact pfree_of_compat ((h p hp hs f hf).imp id fun hr => by rwa [related_comm]) hs

theorem compatible_dedupSafe (r : RuleSpec) (h : compatible r = true) : dedupSafe r = true := by
  rw [compatible_iff] at h
  simp only [dedupSafe, List.all_eq_true, Bool.or_eq_true, Bool.not_eq_true', List.any_eq_true, Bool.and_eq_true,
    List.any_eq_false]
  refine .inr fun m hm => ?_
  by_cases hex : ∃ o ∈ r.subjects, sdesc o.id m.id = true
  · -- a subject strictly above `m` is related to it, so by compatibility it is given by name
    obtain ⟨o, ho, hsd⟩ := hex
    refine .inr ⟨o, ho, ?_, hsd⟩
    cases hs : o.isSub
    · rfl
    · have hsd' := (sdesc_iff _ _).1 hsd
      rcases h o (List.mem_append_left _ ho) hs m (List.mem_append_left _ hm) with rfl | hr
      · exact absurd rfl hsd'.2
      · unfold related at hr
        rw [(desc_iff _ _).2 hsd'.1] at hr
        cases hr
  · exact .inl fun o ho hsd => hex ⟨o, ho, hsd⟩

theorem compatible_admissible (r : RuleSpec) (h : compatible r = true) : admissible r = true := by
  unfold admissible
  rw [compatible_parentFree r h, compatible_dedupSafe r h]; rfl

theorem strict_admissible (r : RuleSpec) (h : r.strict = true) : admissible r = true :=
  compatible_admissible r (strict_compatible r h)

theorem mem_keptSubjects (S : List SFilter) (m : SFilter) :
    m ∈ keptSubjects S ↔ m ∈ S ∧ ∀ o ∈ S, (!o.isSub && sdesc o.id m.id) = false := by
  simp only [keptSubjects, keepSubject, List.mem_filter, Bool.not_eq_true', List.any_eq_false, Bool.not_eq_true]

theorem keptSubjects_subset (S : List SFilter) : ∀ m ∈ keptSubjects S, m ∈ S :=
  fun m hm => ((mem_keptSubjects S m).1 hm).1

theorem dedupSubjects_map (S : List SFilter) (hS : ∀ f ∈ S, nameWF f.id = true) :
    dedupSubjects (S.map compileFilter) = (keptSubjects S).map compileFilter := by
  unfold dedupSubjects keptSubjects
  rw [List.filter_map]
  congr 1
  apply List.filter_congr
  intro m hm
  simp only [Function.comp, keepSubject, List.any_map, compileFilter_id]
  congr 1
  apply any_congr_mem
  intro o ho
  simp only [Function.comp, compileFilter_id, compileFilter_isParent]
  rw [isStrictSub_render _ _ (hS o ho) (hS m hm)]

theorem desc_trans {x y z : Name} (h1 : desc x y = true) (h2 : desc y z = true) : desc x z = true :=
  (desc_iff _ _).2 (((desc_iff _ _).1 h1).trans ((desc_iff _ _).1 h2))

/-- only a subject given by name makes `_convert_aliases` remove another subject: the repair of F-C12a -/
theorem kept_cover (S : List SFilter) :
    ∀ m ∈ S, m ∈ keptSubjects S ∨ ∃ k ∈ keptSubjects S, k.isSub = false ∧ desc k.id m.id = true := by
  intro m hm
  obtain ⟨k, hk, hP⟩ := filter_minimal_cover S (fun o m => !o.isSub && sdesc o.id m.id) (·.id.length)
    (fun o m h => sdesc_length (Bool.and_eq_true_iff.1 h).2)
    (fun k m => k = m ∨ (k.isSub = false ∧ desc k.id m.id = true)) (fun _ => .inl rfl)
    (fun r o m _ _ hP h => by
      -- a subject given by name lies strictly above `m`
      obtain ⟨hon, hsd⟩ := Bool.and_eq_true_iff.1 h
      have hd : desc o.id m.id = true := (desc_iff _ _).2 ((sdesc_iff _ _).1 hsd).1
      rcases hP with rfl | ⟨hkn, hkd⟩
      · exact .inr ⟨by simpa using hon, hd⟩
      · exact .inr ⟨hkn, desc_trans hkd hd⟩) m hm
  rcases hP with rfl | h
  · exact .inl hk
  · exact .inr ⟨k, hk, h⟩

theorem mem_named {k : SFilter} (hk : k.isSub = false) (n : Name) : k.mem n = desc k.id n := by
  cases k with
  | named x => rfl
  | subOf x => cases hk

theorem mem_others (a : Arch) (dir : Bool) (s : SFilter) (os : List SFilter) (e : Name × Name) :
    e ∈ others a dir s os ↔ e ∈ a.imports ∧ s.mem (if dir then e.1 else e.2) = true ∧
      desc s.id (if dir then e.2 else e.1) = false ∧ ∀ o ∈ os, o.mem (if dir then e.2 else e.1) = false := by
  simp only [others, List.mem_filter, Bool.and_eq_true, Bool.not_eq_true', List.all_eq_true, and_assoc]

/-- the imports violating `S should_not … anything` are the imports violating the rule on the retained subjects -/
theorem others_dedup (a : Arch) (dir : Bool) (S : List SFilter) (e : Name × Name) :
    (∃ s ∈ keptSubjects S, e ∈ others a dir s (keptSubjects S)) ↔ (∃ s ∈ S, e ∈ others a dir s S) := by
  have hcov := kept_cover S
  have hall : ∀ far, (∀ o ∈ keptSubjects S, o.mem far = false) → ∀ o ∈ S, o.mem far = false := by
    intro far h o ho
    rcases hcov o ho with hk | ⟨k, hk, hkn, hkd⟩
    · exact h o hk
    · cases hm : o.mem far
      · rfl
      · have := h k hk
        rw [mem_named hkn, desc_trans hkd (mem_desc _ _ hm)] at this; cases this
  simp only [mem_others]
  constructor
  · rintro ⟨s, hs, he, h1, h2, h3⟩
    exact ⟨s, keptSubjects_subset S s hs, he, h1, h2, hall _ h3⟩
  · rintro ⟨s, hs, he, h1, h2, h3⟩
    have h3' : ∀ o ∈ keptSubjects S, o.mem (if dir = true then e.2 else e.1) = false :=
      fun o ho => h3 o (keptSubjects_subset S o ho)
    rcases hcov s hs with hk | ⟨k, hk, hkn, hkd⟩
    · exact ⟨s, hk, he, h1, h2, h3'⟩
    · refine ⟨k, hk, he, ?_, ?_, h3'⟩
      · rw [mem_named hkn]; exact desc_trans hkd (mem_desc _ _ h1)
      · rw [← mem_named hkn]; exact h3' k hk

theorem keptSubjects_ne_nil (S : List SFilter) (hne : S ≠ []) : keptSubjects S ≠ [] := by
  obtain ⟨m, hm⟩ := List.exists_mem_of_ne_nil S hne
  rcases kept_cover S m hm with hk | ⟨k, hk, _⟩
  · exact List.ne_nil_of_mem hk
  · exact List.ne_nil_of_mem hk

theorem assertApplies_deAlias {a : Arch} {g : PGraph Str} (mt : Str → Str → Bool) (hw : ArchWF a) (hg : GraphOf a g)
    (r : RuleSpec) (hS : ∀ f ∈ r.subjects, f.id ∈ a.nodes) (ha : r.anything = true) (hv : r.verb = .shouldNot) :
    (assertApplies mt (compile r) g).2 = (assertApplies mt (compile (deAlias r)) g).2 := by
  have h1 : compile r = anythingRule r.importDir (r.subjects.map compileFilter) := by
    obtain ⟨verb, dir, exc, subjects, objects, anything⟩ := r
    simp only at ha hv
    subst ha; subst hv
    rfl
  have h2 : compile (deAlias r) = mkRule false false true r.importDir true
      ((keptSubjects r.subjects).map compileFilter) ((keptSubjects r.subjects).map compileFilter) := rfl
  rw [h1, h2, ← dedupSubjects_map r.subjects (fun f hf => hw.nwf _ (hS f hf))]
  apply anything_alias_dedup_of_nodes
  intro F hF _
  obtain ⟨f, hf, rfl⟩ := List.mem_map.1 hF
  simpa using hasNode_render hg _ (hS f hf)

theorem verdict_anything (a : Arch) (r : RuleSpec) (ha : r.anything = true) (hv : r.verb = .shouldNot) :
    verdict a r = r.subjects.all fun s => (others a r.importDir s r.subjects).isEmpty := by
  unfold verdict RuleSpec.effObjects RuleSpec.effExc
  simp only [ha, hv, if_true, Bool.true_or]

theorem verdict_congr (a' a : Arch) (r : RuleSpec)
    (hE : ∀ s ∈ r.subjects, ∀ o ∈ r.effObjects,
      (edges a' r.importDir s o).isEmpty = (edges a r.importDir s o).isEmpty)
    (hO : ∀ s ∈ r.subjects,
      (others a' r.importDir s r.effObjects).isEmpty = (others a r.importDir s r.effObjects).isEmpty) :
    verdict a' r = verdict a r := by
  have hEN := all_congr_mem r.subjects _ _ fun s hs => all_congr_mem r.effObjects _ _ (hE s hs)
  have hEA := all_congr_mem r.subjects _ _ fun s hs => all_congr_mem r.effObjects _ _ fun o ho =>
    congrArg not (hE s hs o ho)
  have hON := all_congr_mem r.subjects _ _ hO
  have hOA := all_congr_mem r.subjects _ _ fun s hs => congrArg not (hO s hs)
  unfold verdict
  simp only [hEN, hEA, hON, hOA]

/-! ### the rule semantics see the imports as a set -/

section
variable (a b : Arch) (h : ∀ e, e ∈ a.imports ↔ e ∈ b.imports)
include h

theorem mem_edges_congr (dir : Bool) (s o : SFilter) (e : Name × Name) :
    e ∈ edges a dir s o ↔ e ∈ edges b dir s o := OrdS.SM.filter h _ e

theorem mem_others_congr (dir : Bool) (s : SFilter) (os : List SFilter) (e : Name × Name) :
    e ∈ others a dir s os ↔ e ∈ others b dir s os := OrdS.SM.filter h _ e

theorem edges_isEmpty_congr (dir : Bool) (s o : SFilter) :
    (edges a dir s o).isEmpty = (edges b dir s o).isEmpty :=
  Ord.isEmpty_congr (Ord.SM.nil_iff (OrdS.SM.filter h _))

theorem others_isEmpty_congr (dir : Bool) (s : SFilter) (os : List SFilter) :
    (others a dir s os).isEmpty = (others b dir s os).isEmpty :=
  Ord.isEmpty_congr (Ord.SM.nil_iff (OrdS.SM.filter h _))

end

theorem verdict_deAlias_eq (a : Arch) (r : RuleSpec) (ha : r.anything = true) (hv : r.verb = .shouldNot) :
    verdict a (deAlias r) = verdict a r := by
  have hd := others_dedup a r.importDir r.subjects
  rw [verdict_anything a r ha hv]
  have : verdict a (deAlias r) =
      (keptSubjects r.subjects).all fun s => (others a r.importDir s (keptSubjects r.subjects)).isEmpty := rfl
  rw [this, Bool.eq_iff_iff]
  simp only [List.all_eq_true, List.isEmpty_iff, List.eq_nil_iff_forall_not_mem]
  constructor
  · intro h s hs' e he
    obtain ⟨k, hk, hke⟩ := (hd e).2 ⟨s, hs', he⟩
    exact h k hk e hke
  · intro h k hk e he
    obtain ⟨s, hs', hse⟩ := (hd e).1 ⟨k, hk, he⟩
    exact h s hs' e hse

theorem mem_violating_shouldNot_exc (a : Arch) (r : RuleSpec) (hv : r.verb = .shouldNot) (hx : r.effExc = true)
    (x : Atom) :
    x ∈ (violating a r).flatMap SItem.atoms ↔
      ∃ s ∈ r.subjects, ∃ e ∈ others a r.importDir s r.effObjects, x = .imp (render e.1) (render e.2) := by
  have hb : beh r = ⟨false, false, true, true⟩ := by unfold beh; rw [hv, hx]; rfl
  rw [mem_violating_flags, hb]
  -- of the four query flags of `⟨false, false, true, true⟩` only `otherForb` is set
  exact ((or_iff_right fun h => Bool.false_ne_true h.1).trans <| (or_iff_right fun h => Bool.false_ne_true h.1).trans <|
    (or_iff_right fun h => Bool.false_ne_true h.1).trans (and_iff_right rfl)).trans (mem_sOforb a r x)

theorem violating_deAlias_iff (a : Arch) (r : RuleSpec) (ha : r.anything = true) (hv : r.verb = .shouldNot)
    (x : Atom) :
    x ∈ (violating a (deAlias r)).flatMap SItem.atoms ↔ x ∈ (violating a r).flatMap SItem.atoms := by
  have hd := others_dedup a r.importDir r.subjects
  have hO : r.effObjects = r.subjects := by simp [RuleSpec.effObjects, ha]
  rw [mem_violating_shouldNot_exc a (deAlias r) rfl rfl, mem_violating_shouldNot_exc a r hv (by simp [RuleSpec.effExc, ha]),
    hO]
  show (∃ k ∈ keptSubjects r.subjects, ∃ e ∈ others a r.importDir k (keptSubjects r.subjects), _) ↔ _
  constructor
  · rintro ⟨k, hk, e, he, rfl⟩
    obtain ⟨s, hs', hse⟩ := (hd e).1 ⟨k, hk, he⟩
    exact ⟨s, hs', e, hse, rfl⟩
  · rintro ⟨s, hs', e, he, rfl⟩
    obtain ⟨k, hk, hke⟩ := (hd e).2 ⟨s, hs', he⟩
    exact ⟨k, hk, e, hke, rfl⟩

theorem ruleCtx_deAlias {a : Arch} {r : RuleSpec} (ctx : RuleCtx a r) :
    RuleCtx a (deAlias r) := by
  have hsub : ∀ f ∈ (deAlias r).subjects ++ (deAlias r).effObjects, f ∈ r.subjects ++ r.effObjects := by
    intro f hf
    have : f ∈ keptSubjects r.subjects := by
      have e : (deAlias r).subjects ++ (deAlias r).effObjects = keptSubjects r.subjects ++ keptSubjects r.subjects := rfl
      rw [e] at hf
      simpa using hf
    exact List.mem_append_left _ (keptSubjects_subset _ f this)
  exact ⟨fun f hf f' hf' => ctx.pfree f (hsub f hf) f' (hsub f' hf'), fun f hf => ctx.names f (hsub f hf)⟩

/-- `parentFree` alone suffices: the `dedupSafe` half of `admissible` is not used -/
theorem outcome_pf_lemma (mt : Str → Str → Bool) (a : Arch) (g : PGraph Str) (hg : GraphOf a g)
    (hwf : a.wf = true) (r : RuleSpec) (hpf : parentFree r = true) (hnames : r.namesIn a = true)
    (hs : r.subjects ≠ []) (ho : r.anything = true ∨ r.objects ≠ [])
    (hany : r.anything = true → r.verb = .shouldNot) :
    ∃ items, (assertApplies mt (compile r) g).2 = (if (!verdict a r) = true then .fail items else .pass) ∧
      ∀ x, x ∈ items.flatMap Item.atoms ↔ x ∈ (violating a r).flatMap SItem.atoms := by
  have hw := archWF_of_wf a hwf
  have ctx := ruleCtx_of a r hpf hnames
  cases ha : r.anything
  · exact outcome_core mt hw hg r ctx hs ho hany (by rw [ha]; intro h; cases h)
  · -- an `anything` alias is the `except` rule over the retained subjects, on both sides
    have hv := hany ha
    have hS : ∀ f ∈ r.subjects, f.id ∈ a.nodes := fun f hf => ctx.names f (List.mem_append_left _ hf)
    rw [assertApplies_deAlias mt hw hg r hS ha hv, ← verdict_deAlias_eq a r ha hv]
    simp only [← violating_deAlias_iff a r ha hv]
    exact outcome_core mt hw hg (deAlias r) (ruleCtx_deAlias ctx) (keptSubjects_ne_nil _ hs)
      (.inr (keptSubjects_ne_nil _ hs)) (fun h => by cases h) (fun h => by cases h)

theorem verdict_spec_pf_lemma (mt : Str → Str → Bool) (a : Arch) (g : PGraph Str) (hg : GraphOf a g)
    (hwf : a.wf = true) (r : RuleSpec) (hpf : parentFree r = true) (hnames : r.namesIn a = true)
    (hs : r.subjects ≠ []) (ho : r.anything = true ∨ r.objects ≠ [])
    (hany : r.anything = true → r.verb = .shouldNot) :
    verdictOf mt g (compile r) = VClass.ofBool (verdict a r) := by
  obtain ⟨items, h, -⟩ := outcome_pf_lemma mt a g hg hwf r hpf hnames hs ho hany
  unfold verdictOf
  rw [h]
  cases verdict a r <;> rfl

theorem report_spec_pf_lemma (mt : Str → Str → Bool) (a : Arch) (g : PGraph Str) (hg : GraphOf a g)
    (hwf : a.wf = true) (r : RuleSpec) (hpf : parentFree r = true) (hnames : r.namesIn a = true)
    (hs : r.subjects ≠ []) (ho : r.anything = true ∨ r.objects ≠ [])
    (hany : r.anything = true → r.verb = .shouldNot) (items : List Item)
    (h : (assertApplies mt (compile r) g).2 = .fail items) :
    ∀ x, x ∈ items.flatMap Item.atoms ↔ x ∈ (violating a r).flatMap SItem.atoms := by
  obtain ⟨items', h', hx⟩ := outcome_pf_lemma mt a g hg hwf r hpf hnames hs ho hany
  rw [h'] at h
  split at h <;> cases h
  exact hx

theorem admissible_parentFree (r : RuleSpec) (hadm : admissible r = true) : parentFree r = true := by
  unfold admissible at hadm
  rw [Bool.and_eq_true] at hadm
  exact hadm.1

theorem verdict_spec_of_graph_lemma (mt : Str → Str → Bool) (a : Arch) (g : PGraph Str) (hg : GraphOf a g) (hwf : a.wf = true)
    (r : RuleSpec) (hstrict : r.strict = true) (hnames : r.namesIn a = true)
    (hs : r.subjects ≠ []) (ho : r.anything = true ∨ r.objects ≠ [])
    (hany : r.anything = true → r.verb = .shouldNot) :
    verdictOf mt g (compile r) = VClass.ofBool (verdict a r) :=
  verdict_spec_pf_lemma mt a g hg hwf r (compatible_parentFree r (strict_compatible r hstrict)) hnames hs ho hany

theorem report_spec_lemma (mt : Str → Str → Bool) (a : Arch) (g : PGraph Str) (hg : GraphOf a g) (hwf : a.wf = true)
    (r : RuleSpec) (hstrict : r.strict = true) (hnames : r.namesIn a = true)
    (hs : r.subjects ≠ []) (ho : r.anything = true ∨ r.objects ≠ [])
    (hany : r.anything = true → r.verb = .shouldNot) (items : List Item)
    (h : (assertApplies mt (compile r) g).2 = .fail items) :
    ∀ x, x ∈ items.flatMap Item.atoms ↔ x ∈ (violating a r).flatMap SItem.atoms :=
  report_spec_pf_lemma mt a g hg hwf r (compatible_parentFree r (strict_compatible r hstrict)) hnames hs ho hany items h

end Pta
