/-
  PtaProofs.Lemmas.SameMembers — lists compared by their MEMBERS. `LRel R l l'`: every member of either list has an
  `R`-partner in the other; `SM` is the case `R := Eq`. The list functions of the model (`map`, `filter`, `flatMap`,
  `++`, `dedup`) preserve `LRel`, the tests (`isEmpty`, `any`, `contains`) do not tell related lists apart: the
  congruences of Lemmas/Order*.lean are compositions of the lemmas below.
-/
import PtaProofs.Lemmas.Str
namespace Pta.Ord

/-- same members -/
def SM {α : Type} (l l' : List α) : Prop := ∀ x, x ∈ l ↔ x ∈ l'

/-- both directions of "every element has a related partner" -/
def LRel {α β : Type} (R : α → β → Prop) (r : List α) (r' : List β) : Prop :=
  (∀ y ∈ r, ∃ y' ∈ r', R y y') ∧ (∀ y' ∈ r', ∃ y ∈ r, R y y')

def ORel {α β : Type} (R : α → β → Prop) : Option α → Option β → Prop
  | none, none => True
  | some a, some b => R a b
  | _, _ => False

theorem ORel.inv {α β : Type} {R : α → β → Prop} {o : Option α} {o' : Option β} (h : ORel R o o') :
    (o = none ∧ o' = none) ∨ ∃ x y, o = some x ∧ o' = some y ∧ R x y := by
  cases o <;> cases o' <;> first | exact h.elim | exact .inl ⟨rfl, rfl⟩ | exact .inr ⟨_, _, rfl, rfl, h⟩

theorem ORel.eq {α : Type} {o o' : Option α} (h : ORel (fun a b => a = b) o o') : o = o' := by
  cases o <;> cases o' <;> first | exact h.elim | rfl | exact congrArg _ h

theorem LRel.of_SM {α : Type} {l l' : List α} (h : SM l l') : LRel (fun a b => a = b) l l' :=
  ⟨fun y hy => ⟨y, (h y).1 hy, rfl⟩, fun y hy => ⟨y, (h y).2 hy, rfl⟩⟩

theorem LRel.to_SM {α : Type} {l l' : List α} (h : LRel (fun a b => a = b) l l') : SM l l' := by
  intro x
  constructor
  · intro hx; obtain ⟨y, hy, rfl⟩ := h.1 x hx; exact hy
  · intro hx; obtain ⟨y, hy, rfl⟩ := h.2 x hx; exact hy

theorem LRel.mono {α β : Type} {R S : α → β → Prop} {l : List α} {l' : List β} (h : LRel R l l')
    (hRS : ∀ a b, R a b → S a b) : LRel S l l' :=
  ⟨fun y hy => (h.1 y hy).imp fun _ p => ⟨p.1, hRS _ _ p.2⟩, fun y hy => (h.2 y hy).imp fun _ p => ⟨p.1, hRS _ _ p.2⟩⟩

theorem LRel.map {α β γ δ : Type} {R : α → β → Prop} {S : γ → δ → Prop} {l : List α} {l' : List β} (h : LRel R l l')
    (f : α → γ) (g : β → δ) (hf : ∀ a b, R a b → S (f a) (g b)) : LRel S (l.map f) (l'.map g) := by
  refine ⟨fun y hy => ?_, fun y hy => ?_⟩
  · obtain ⟨a, ha, rfl⟩ := List.mem_map.1 hy
    obtain ⟨b, hb, r⟩ := h.1 a ha
    exact ⟨_, List.mem_map_of_mem hb, hf a b r⟩
  · obtain ⟨b, hb, rfl⟩ := List.mem_map.1 hy
    obtain ⟨a, ha, r⟩ := h.2 b hb
    exact ⟨_, List.mem_map_of_mem ha, hf a b r⟩

theorem LRel.filter {α β : Type} {R : α → β → Prop} {l : List α} {l' : List β} (h : LRel R l l')
    (p : α → Bool) (q : β → Bool) (hp : ∀ a b, R a b → p a = q b) : LRel R (l.filter p) (l'.filter q) := by
  refine ⟨fun a ha => ?_, fun b hb => ?_⟩
  · obtain ⟨ha1, ha2⟩ := List.mem_filter.1 ha
    obtain ⟨b, hb, r⟩ := h.1 a ha1
    exact ⟨b, List.mem_filter.2 ⟨hb, hp a b r ▸ ha2⟩, r⟩
  · obtain ⟨hb1, hb2⟩ := List.mem_filter.1 hb
    obtain ⟨a, ha, r⟩ := h.2 b hb1
    exact ⟨a, List.mem_filter.2 ⟨ha, (hp a b r).symm ▸ hb2⟩, r⟩

theorem LRel.flatMap {α β γ δ : Type} {R : α → β → Prop} {S : γ → δ → Prop} {l : List α} {l' : List β} (h : LRel R l l')
    (f : α → List γ) (g : β → List δ) (hf : ∀ a b, R a b → LRel S (f a) (g b)) : LRel S (l.flatMap f) (l'.flatMap g) := by
  refine ⟨fun y hy => ?_, fun y hy => ?_⟩
  · obtain ⟨a, ha, hy⟩ := List.mem_flatMap.1 hy
    obtain ⟨b, hb, r⟩ := h.1 a ha
    obtain ⟨y', hy', s⟩ := (hf a b r).1 y hy
    exact ⟨y', List.mem_flatMap.2 ⟨b, hb, hy'⟩, s⟩
  · obtain ⟨b, hb, hy⟩ := List.mem_flatMap.1 hy
    obtain ⟨a, ha, r⟩ := h.2 b hb
    obtain ⟨y', hy', s⟩ := (hf a b r).2 y hy
    exact ⟨y', List.mem_flatMap.2 ⟨a, ha, hy'⟩, s⟩

end Pta.Ord

namespace Pta.OrdL
open Pta.Ord

theorem LRel.nil_iff {α β : Type} {R : α → β → Prop} {l : List α} {l' : List β} (h : LRel R l l') : l = [] ↔ l' = [] := by
  rw [List.eq_nil_iff_forall_not_mem, List.eq_nil_iff_forall_not_mem]
  exact ⟨fun e y hy => (h.2 y hy).elim fun x p => e x p.1, fun e x hx => (h.1 x hx).elim fun y p => e y p.1⟩

end Pta.OrdL

namespace Pta.Ord
open Pta.OrdL

theorem LRel.isEmpty_eq {α β : Type} {R : α → β → Prop} {l : List α} {l' : List β} (h : LRel R l l') :
    l.isEmpty = l'.isEmpty := by
  rw [Bool.eq_iff_iff]; simpa using LRel.nil_iff h

theorem LRel.any_eq {α β : Type} {R : α → β → Prop} {l : List α} {l' : List β} (h : LRel R l l')
    (p : α → Bool) (q : β → Bool) (hp : ∀ a b, R a b → p a = q b) : l.any p = l'.any q := by
  rw [Bool.eq_iff_iff, List.any_eq_true, List.any_eq_true]
  constructor
  · rintro ⟨a, ha, pa⟩
    obtain ⟨b, hb, r⟩ := h.1 a ha
    exact ⟨b, hb, hp a b r ▸ pa⟩
  · rintro ⟨b, hb, qb⟩
    obtain ⟨a, ha, r⟩ := h.2 b hb
    exact ⟨a, ha, (hp a b r).symm ▸ qb⟩

theorem SM.refl {α : Type} (l : List α) : SM l l := fun _ => Iff.rfl
theorem SM.of_perm {α : Type} {l l' : List α} (h : l.Perm l') : SM l l' := fun _ => h.mem_iff
theorem SM.nil_iff {α : Type} {l l' : List α} (h : SM l l') : l = [] ↔ l' = [] := LRel.nil_iff (LRel.of_SM h)

theorem SM.exists_congr {α : Type} {l l' : List α} (h : SM l l') (P : α → Prop) : (∃ a ∈ l, P a) ↔ ∃ a ∈ l', P a :=
  _root_.exists_congr fun a => and_congr (h a) Iff.rfl

theorem SM.forall_congr {α : Type} {l l' : List α} (h : SM l l') (P : α → Prop) : (∀ a ∈ l, P a) ↔ ∀ a ∈ l', P a :=
  forall_congr' fun a => imp_congr (h a) Iff.rfl

theorem LRel.sm_map {α β γ : Type} {R : α → β → Prop} {l : List α} {l' : List β} (h : LRel R l l')
    (f : α → γ) (g : β → γ) (hf : ∀ a b, R a b → f a = g b) : SM (l.map f) (l'.map g) :=
  (h.map f g hf).to_SM

theorem LRel.sm_flatMap {α β γ : Type} {R : α → β → Prop} {l : List α} {l' : List β} (h : LRel R l l')
    (f : α → List γ) (g : β → List γ) (hf : ∀ a b, R a b → SM (f a) (g b)) : SM (l.flatMap f) (l'.flatMap g) :=
  (h.flatMap f g fun a b r => LRel.of_SM (hf a b r)).to_SM

theorem SM.map {α β : Type} {l l' : List α} (h : SM l l') (f : α → β) : SM (l.map f) (l'.map f) :=
  (LRel.of_SM h).sm_map f f fun _ _ e => e ▸ rfl

theorem SM.filterMap {α β : Type} {l l' : List α} (h : SM l l') (f : α → Option β) :
    SM (l.filterMap f) (l'.filterMap f) := by
  intro x
  simp only [List.mem_filterMap]
  exact h.exists_congr _

theorem SM.dedup {α : Type} [DecidableEq α] {l l' : List α} (h : SM l l') : SM (dedup l) (dedup l') := by
  intro x; rw [mem_dedup, mem_dedup]; exact h x

theorem dedup_perm_of_sm {α : Type} [DecidableEq α] {l l' : List α} (h : SM l l') : (dedup l).Perm (dedup l') := by
  rw [List.perm_ext_iff_of_nodup (nodup_dedup l) (nodup_dedup l')]
  exact h.dedup

theorem flatMap_perm_left {α β : Type} (l : List α) (f g : α → List β) (h : ∀ a ∈ l, (f a).Perm (g a)) :
    (l.flatMap f).Perm (l.flatMap g) := by
  induction l with
  | nil => simp
  | cons x xs ih =>
    simp only [List.flatMap_cons]
    exact (h x (by simp)).append (ih fun a ha => h a (List.mem_cons_of_mem _ ha))

theorem SM.flatten {α : Type} {l l' : List (List α)} (h : SM l l') : SM l.flatten l'.flatten := by
  intro x
  simp only [List.mem_flatten]
  exact h.exists_congr _

theorem contains_congr {α : Type} [BEq α] [LawfulBEq α] {l l' : List α} (h : SM l l') (x : α) :
    l.contains x = l'.contains x := by
  rw [Bool.eq_iff_iff]; simp only [List.contains_iff_mem]; exact h x

theorem isEmpty_congr {α β : Type} {l : List α} {l' : List β} (h : l = [] ↔ l' = []) : l.isEmpty = l'.isEmpty := by
  rw [Bool.eq_iff_iff]; simpa using h

theorem any_congr {α : Type} {l l' : List α} (h : SM l l') (p : α → Bool) : l.any p = l'.any p :=
  (LRel.of_SM h).any_eq p p fun _ _ e => e ▸ rfl

theorem all_congr {α : Type} {l l' : List α} (h : SM l l') (p : α → Bool) : l.all p = l'.all p := by
  rw [List.all_eq_not_any_not, List.all_eq_not_any_not, any_congr h]

end Pta.Ord

namespace Pta

theorem any_congr_mem {α : Type} (l : List α) (p q : α → Bool) (h : ∀ x ∈ l, p x = q x) : l.any p = l.any q := by
  rw [Bool.eq_iff_iff, List.any_eq_true, List.any_eq_true]
  exact exists_congr fun x => and_congr_right fun hx => by rw [h x hx]

theorem all_congr_mem {α : Type} (l : List α) (p q : α → Bool) (h : ∀ x ∈ l, p x = q x) : l.all p = l.all q := by
  rw [List.all_eq_not_any_not, List.all_eq_not_any_not, any_congr_mem l _ _ fun x hx => by rw [h x hx]]

end Pta

namespace Pta.OrdS
open Pta.Ord

theorem SM.filter {α : Type} {l l' : List α} (h : SM l l') (p : α → Bool) : SM (l.filter p) (l'.filter p) := by
  intro x; simp only [List.mem_filter, h x]

theorem SM.append {α : Type} {a a' b b' : List α} (h1 : SM a a') (h2 : SM b b') : SM (a ++ b) (a' ++ b') := by
  intro x; simp only [List.mem_append, h1 x, h2 x]

end Pta.OrdS

namespace Pta.Itm
open Pta.Ord

theorem LRel.append {α : Type} {R : α → α → Prop} {a a' b b' : List α} (h1 : LRel R a a') (h2 : LRel R b b') :
    LRel R (a ++ b) (a' ++ b') := by
  refine ⟨fun y hy => ?_, fun y hy => ?_⟩
  · rcases List.mem_append.1 hy with hy | hy
    · obtain ⟨x, hx, r⟩ := h1.1 y hy; exact ⟨x, List.mem_append_left _ hx, r⟩
    · obtain ⟨x, hx, r⟩ := h2.1 y hy; exact ⟨x, List.mem_append_right _ hx, r⟩
  · rcases List.mem_append.1 hy with hy | hy
    · obtain ⟨x, hx, r⟩ := h1.2 y hy; exact ⟨x, List.mem_append_left _ hx, r⟩
    · obtain ⟨x, hx, r⟩ := h2.2 y hy; exact ⟨x, List.mem_append_right _ hx, r⟩

end Pta.Itm
