/-
  PtaProofs.Lemmas.DiagramE2E — composition of the parser round trip (C06) with diagram conformance (C07).

  * the rules `DependencyToRuleConverter` generates depend on the parse result only through its module SET and
    its dependency RELATION (given the dictionary invariants the parser guarantees): `rules_sim`,
    `diagramRules_congr_lemma`;
  * hence a rendered diagram file (`diagramText`) is checked like the specification diagram it means:
    `file_conforms_lemma`, `file_conforms_base_lemma`.
-/
import Bridge.Abs
import Bridge.Diagram
import Bridge.OrderDefs
import Bridge.PumlRender
import PtaProofs.Lemmas.DiagramItems
import Bridge.DiagramE2E
import PtaProofs.Lemmas.DiagramApply
import PtaProofs.Lemmas.DiagramSem
import PtaProofs.Lemmas.PumlAgg
import PtaProofs.Lemmas.PumlRoundtrip
import PtaProofs.Lemmas.DiagramRepair
namespace Pta.E2E
open PtaSpec Pta.Ord Pta.Dg Pta.Itm C07 C06

theorem depsOf_eq_importedOf (p : Parsed') (x : Str) : p.depsOf x = importedOf p x := rfl

/-- the entries of two dictionaries with the same relation correspond (same key, same value SET) -/
theorem entry_sim (p q : Parsed') (hp : DepsOK p)
    (hd : ∀ x y, y ∈ p.depsOf x ↔ y ∈ q.depsOf x) (kv : Str × List Str) (h : kv ∈ p.dependencies) :
    ∃ kv' ∈ q.dependencies, kv'.1 = kv.1 ∧ SM kv.2 kv'.2 := by
  obtain ⟨v, hv⟩ := List.exists_mem_of_ne_nil _ (hp.2 kv h)
  have e := depsOf_of_mem p hp.1 kv h
  have hv' : v ∈ q.depsOf kv.1 := (hd _ _).1 (by rw [e]; exact hv)
  obtain ⟨kv', hm, h1, h2⟩ := entry_of_depsOf q kv.1 v hv'
  refine ⟨kv', hm, h1, fun y => ?_⟩
  rw [h2, ← e]
  exact hd _ _

theorem notImportedOf_sim (p q : Parsed') (hm : ∀ x, x ∈ p.modules ↔ x ∈ q.modules)
    (hd : ∀ x y, y ∈ p.depsOf x ↔ y ∈ q.depsOf x) (m : Str) :
    SM (notImportedOf p m) (notImportedOf q m) := by
  intro x
  rw [mem_notImportedOf, mem_notImportedOf, hm x, ← depsOf_eq_importedOf, ← depsOf_eq_importedOf, hd m x]

theorem mkD_eq_mkRule (s : Str) (os : List Str) (v : RuleOp) :
    mkD s os v = mkRule (v == .should) (v == .shouldOnly) (v == .shouldNot) true false [.name s] (os.map .name) := rfl

theorem vrel_mkD_sm (mt : Str → Str → Bool) (g : PGraph Str) (s : Str) (os os' : List Str) (v : RuleOp)
    (h : SM os os') : VRel (ruleVerdict mt g (mkD s os v)) (ruleVerdict mt g (mkD s os' v)) := by
  rw [mkD_eq_mkRule, mkD_eq_mkRule]
  exact mkRule_vrel mt g _ _ _ _ _ _ _ _ _ (SM.refl _) (h.map _)

theorem sm_sortStr {l l' : List Str} (h : SM l l') : SM (sortStr l) (sortStr l') := by
  intro x; rw [mem_sortStr, mem_sortStr]; exact h x

/-- every rule generated from `p` has a counterpart generated from `q` with the same outcome and the same report
    (up to `Item.sim`) on every graph -/
theorem rules_sim (so : Bool) (p q : Parsed') (hp : DepsOK p) (hs : SameParse p q)
    (r : RuleState) (hr : r ∈ diagramRules so p) :
    ∃ r' ∈ diagramRules so q, ∀ (mt : Str → Str → Bool) (g : PGraph Str),
      VRel (ruleVerdict mt g r) (ruleVerdict mt g r') := by
  rcases (mem_diagramRules so p r).1 hr with ⟨kv, hkv, rfl⟩ | ⟨m, hmm, hne, rfl⟩
  · obtain ⟨kv', hkv', h1, h2⟩ := entry_sim p q hp hs.2 kv hkv
    refine ⟨_, (mem_diagramRules so q _).2 (.inl ⟨kv', hkv', rfl⟩), fun mt g => ?_⟩
    rw [h1]; exact vrel_mkD_sm mt g _ _ _ _ h2
  · have hN := notImportedOf_sim p q hs.1 hs.2 m
    exact ⟨_, (mem_diagramRules so q _).2 (.inr ⟨m, (hs.1 m).1 hmm, fun e => hne (hN.nil_iff.2 e), rfl⟩),
      fun mt g => vrel_mkD_sm mt g _ _ _ _ (sm_sortStr hN)⟩

theorem sameItems_iff (l l' : List Item) : sameItems l l' = true ↔ LRel ItemSim l l' := by
  simp only [sameItems, Bool.and_eq_true, List.all_eq_true, List.any_eq_true, LRel, ItemSim]

/-- the outcome `v` of a check has the class the Bool `c` prescribes, and class and report (up to `sameItems`) of `w` -/
def Checks (v : DVerdict) (c : Bool) (w : DVerdict) : Prop :=
  v.cls = VClass.ofBool c ∧ v.cls = w.cls ∧ sameItems v.items w.items = true

theorem applyAll_sim (mt : Str → Str → Bool) (g : PGraph Str) (rs rs' : List RuleState)
    (h : ∀ r ∈ rs, ∃ r' ∈ rs', VRel (ruleVerdict mt g r) (ruleVerdict mt g r'))
    (h' : ∀ r' ∈ rs', ∃ r ∈ rs, VRel (ruleVerdict mt g r') (ruleVerdict mt g r))
    (hne' : ∀ r ∈ rs', ∀ k, ruleVerdict mt g r ≠ .err k) :
    (∀ k, applyAll mt g rs ≠ .err k) ∧ (applyAll mt g rs).cls = (applyAll mt g rs').cls ∧
      sameItems (applyAll mt g rs).items (applyAll mt g rs').items = true := by
  have hne : ∀ r ∈ rs, ∀ k, ruleVerdict mt g r ≠ .err k := fun r hr k hk => by
    obtain ⟨r', hr', e⟩ := h r hr
    rw [hk] at e
    exact hne' r' hr' k e.err_left
  -- the two lists of outcomes are related element by element, both ways
  have hL : LRel VRel (rs.map (ruleVerdict mt g)) (rs'.map (ruleVerdict mt g)) :=
    ⟨List.forall_mem_map.2 fun r hr => let ⟨r', hr', v⟩ := h r hr; ⟨_, List.mem_map_of_mem hr', v⟩,
      List.forall_mem_map.2 fun r' hr' => let ⟨r, hr, v⟩ := h' r' hr'; ⟨_, List.mem_map_of_mem hr, v.symm⟩⟩
  obtain ⟨c, i⟩ := agg_rel (LRel ItemSim) ⟨nofun, nofun⟩
    ((findSome_none_of_noErr mt g rs hne).trans (findSome_none_of_noErr mt g rs' hne').symm)
    (hL.any_eq _ _ fun _ _ => VRel.isFail_eq) (hL.flatMap _ _ fun _ _ => VRel.items)
  rw [← applyAll_eq_agg, ← applyAll_eq_agg] at c i
  exact ⟨applyAll_noErr_lemma mt g rs hne, c, (sameItems_iff _ _).2 i⟩

/-- **congruence of `diagramRules`** in the parse result: same module set, same dependency relation, unique keys and
    non-empty value lists on both sides; on every graph on which no rule generated from `q` errs, the rules generated
    from `p` do not err either, the outcome class is the same and the reports consist of the same lines (as sets, a
    `does not import` line listing its objects in any order) -/
theorem diagramRules_congr_lemma (mt : Str → Str → Bool) (g : PGraph Str) (so : Bool) (p q : Parsed')
    (hp : DepsOK p) (hq : DepsOK q) (hs : SameParse p q)
    (hne : ∀ r ∈ diagramRules so q, ∀ k, (assertApplies mt r g).2 ≠ .err k) :
    (∀ k, applyAll mt g (diagramRules so p) ≠ .err k) ∧
      (applyAll mt g (diagramRules so p)).cls = (applyAll mt g (diagramRules so q)).cls ∧
      sameItems (applyAll mt g (diagramRules so p)).items (applyAll mt g (diagramRules so q)).items = true := by
  apply applyAll_sim mt g _ _ _ _ hne
  · intro r hr
    obtain ⟨r', hr', e⟩ := rules_sim so p q hp hs r hr
    exact ⟨r', hr', e mt g⟩
  · intro r hr
    obtain ⟨r', hr', e⟩ := rules_sim so q p hq ⟨fun x => (hs.1 x).symm, fun x y => (hs.2 x y).symm⟩ r hr
    exact ⟨r', hr', e mt g⟩

theorem mem_depsOf_mapNames (φ : Str → Str) (hφ : ∀ x y, φ x = φ y → x = y) (p : Parsed') (x y : Str) :
    y ∈ (p.mapNames φ).depsOf x ↔ ∃ m v, x = φ m ∧ y = φ v ∧ v ∈ p.depsOf m := by
  constructor
  · intro h
    obtain ⟨kv, hkv, h1, _⟩ := entry_of_depsOf _ x y h
    obtain ⟨e, _, rfl⟩ := List.mem_map.1 (show kv ∈ p.dependencies.map fun kv => (φ kv.1, kv.2.map φ) from hkv)
    subst h1
    rw [depsOf_eq_importedOf, importedOf_map φ hφ, List.mem_map] at h
    obtain ⟨v, hv, rfl⟩ := h
    exact ⟨e.1, v, rfl, rfl, hv⟩
  · rintro ⟨m, v, rfl, rfl, hv⟩
    rw [depsOf_eq_importedOf, importedOf_map φ hφ]
    exact List.mem_map_of_mem hv

theorem prefix_sim (p q : Parsed') (base : Option Str) (hs : SameParse p q) :
    SameParse (prefixParsed p base) (prefixParsed q base) := by
  rw [prefixParsed_eq_mapNames, prefixParsed_eq_mapNames]
  exact ⟨SM.map hs.1 _, fun x y => by simp only [mem_depsOf_mapNames _ (withBase_inj base), hs.2]⟩

theorem depsOK_prefix (p : Parsed') (base : Option Str) (h : DepsOK p) : DepsOK (prefixParsed p base) := by
  unfold DepsOK
  rw [prefixParsed_eq_mapNames, mapNames_dependencies]
  refine ⟨?_, fun kv hkv hnil => ?_⟩
  · rw [List.map_map]
    exact List.pairwise_map.2 ((List.pairwise_map.1 h.1).imp fun hne e => hne (withBase_inj base _ _ e))
  · obtain ⟨e, he, rfl⟩ := List.mem_map.1 hkv
    exact h.2 e he (List.map_eq_nil_iff.1 hnil)

/-- `D` lists the components and arrows `d` means (as sets; names split into components) -/
structure Means (d : List DLine) (D : Diagram) : Prop where
  comps : ∀ c, c ∈ D.components ↔ c ∈ (diagramComponents d).map splitDots
  arrows : ∀ e, e ∈ D.arrows ↔ e ∈ (diagramArrows d).map fun e => (splitDots e.1, splitDots e.2)

theorem depsOK_parsedOf (D : Diagram) : DepsOK (parsedOf D) := .of_dictOK (dictOK_parsedOf D)

theorem parse_sim (d : List DLine) (D : Diagram) (hM : Means d D) (p : Parsed')
    (hpm : ∀ x, x ∈ p.modules ↔ x ∈ diagramComponents d)
    (hpd : ∀ x y, y ∈ p.depsOf x ↔ (x, y) ∈ diagramArrows d) : SameParse p (parsedOf D) := by
  -- `render` undoes `splitDots`
  refine ⟨fun x => ?_, fun x y => ?_⟩
  · rw [hpm]
    show _ ↔ x ∈ D.components.map render
    rw [SM.map hM.comps render x, List.map_map]
    simp [Function.comp_def, render_splitDots]
  · rw [hpd, depsOf_eq_importedOf, mem_importedOf, SM.map hM.arrows _ (x, y), List.map_map]
    simp [Function.comp_def, render_splitDots]

theorem assert_of_sim (mt : Str → Str → Bool) (a : Arch) (g : PGraph Str) (hg : GraphOf a g) (c : Str)
    (base : Option Str) (p : Parsed') (hp : pumlParse c = .ok p) (D : Diagram) (so : Bool)
    (hdom : diagramDomain a D = true) (ho : DepsOK (prefixParsed p base))
    (hs : SameParse (prefixParsed p base) (parsedOf D)) :
    Checks (diagramAssert mt (some c) base so g) (conforms a D so)
      (applyAll mt g (diagramRules so (parsedOf D))) := by
  obtain ⟨-, e3, e4⟩ := diagramRules_congr_lemma mt g so _ (parsedOf D) ho (depsOK_parsedOf D) hs
    (rules_noErr (dom_of a D hdom) hg mt so)
  -- in the domain the check of the repair (every component is a module) is a no-op
  rw [Pta.Repair.diagramAssert_of_noMissing mt g so _ base p hp (Pta.Repair.noMissing_of_modules a g hg D hdom _ hs.1)]
  exact ⟨e3.trans (diagram_cls mt a g hg D so hdom), e3, e4⟩

/-- a rendered diagram file, checked against any graph representing `a`: passes iff the imports conform to the
    diagram the file means; never an error -/
theorem file_conforms_lemma (mt : Str → Str → Bool) (a : Arch) (g : PGraph Str) (hg : GraphOf a g)
    (n1 n2 : Str) (d : List DLine) (hwf : diagramWF d = true) (hn : isInfix "@enduml".toList n2 = false)
    (D : Diagram) (hM : Means d D) (so : Bool) (hdom : diagramDomain a D = true) :
    Checks (diagramAssert mt (some (diagramText n1 d n2)) none so g) (conforms a D so)
      (applyAll mt g (diagramRules so (parsedOf D))) := by
  obtain ⟨p, hp, _, hpm, hpd, hok⟩ := roundtrip_lemma n1 n2 d hwf hn
  exact assert_of_sim mt a g hg _ none p hp D so hdom (.of_dictOK hok) (parse_sim d D hM p hpm hpd)

/-- the same with `with_base_module(q)`: the file is read as if every component were written `q.name` -/
theorem file_conforms_base_lemma (mt : Str → Str → Bool) (a : Arch) (g : PGraph Str) (hg : GraphOf a g)
    (n1 n2 : Str) (d : List DLine) (hwf : diagramWF d = true) (hn : isInfix "@enduml".toList n2 = false)
    (D : Diagram) (hM : Means d D) (q : Name) (hq : q ≠ []) (so : Bool)
    (hdom : diagramDomain a (prefixDiagram q D) = true) :
    Checks (diagramAssert mt (some (diagramText n1 d n2)) (some (render q)) so g)
      (conforms a (prefixDiagram q D) so) (applyAll mt g (diagramRules so (parsedOf (prefixDiagram q D)))) := by
  obtain ⟨p, hp, _, hpm, hpd, hok⟩ := roundtrip_lemma n1 n2 d hwf hn
  have hc : ∀ c ∈ D.components, c ≠ [] := by
    intro c hc
    obtain ⟨s, _, rfl⟩ := List.mem_map.1 ((hM.comps c).1 hc)
    exact splitDots_ne_nil s
  have ha : ∀ e ∈ D.arrows, e.1 ≠ [] ∧ e.2 ≠ [] := by
    intro e he
    obtain ⟨e0, _, rfl⟩ := List.mem_map.1 ((hM.arrows e).1 he)
    exact ⟨splitDots_ne_nil _, splitDots_ne_nil _⟩
  have t := prefix_sim p (parsedOf D) (some (render q)) (parse_sim d D hM p hpm hpd)
  rw [base_module_diagram_lemma q D hq hc ha] at t
  exact assert_of_sim mt a g hg _ (some (render q)) p hp _ so hdom (depsOK_prefix p _ (.of_dictOK hok)) t

theorem means_specDiagram (d : List DLine) : Means d (specDiagram d) :=
  ⟨fun c => mem_dedup _ c, fun _ => Iff.rfl⟩

theorem hasDep_iff_depsOf (p : Parsed') (hk : (p.dependencies.map (·.1)).Nodup) (k v : Str) :
    p.hasDep k v = true ↔ v ∈ p.depsOf k := by
  unfold Parsed'.hasDep
  simp only [List.any_eq_true, Bool.and_eq_true, beq_iff_eq, List.contains_iff_mem]
  exact (mem_depsOf p hk k v).symm

theorem noErr_of_check (mt : Str → Str → Bool) (g : PGraph Str) (rs : List RuleState)
    (h : (rs.all fun r => ((assertApplies mt r g).2.errKind).isNone) = true) :
    ∀ r ∈ rs, ∀ k, (assertApplies mt r g).2 ≠ .err k := by
  intro r hr k hk
  have := List.all_eq_true.1 h r hr
  rw [hk] at this
  cases this

theorem noErr_of_applyAll (mt : Str → Str → Bool) (g : PGraph Str) (rs : List RuleState)
    (h : ∀ k, applyAll mt g rs ≠ .err k) : ∀ r ∈ rs, ∀ k, (assertApplies mt r g).2 ≠ .err k :=
  fun r hr k hk => let ⟨k', h', _⟩ := applyAll_raises mt g rs ⟨r, hr, k, hk⟩; h k' h'

/-- the check of a file that parses depends on the parse result through its content only: if the check of `c'` does not
    raise, the check of `c` does not raise either, with the same class and the same report lines (as `diagramRules_congr_lemma`) -/
theorem diagramAssert_congr (mt : Str → Str → Bool) (g : PGraph Str) (so : Bool) (base : Option Str) (c c' : Str)
    (p p' : Parsed') (hp : pumlParse c = .ok p) (hp' : pumlParse c' = .ok p') (hs : SameParse p p')
    (o : DepsOK p) (o' : DepsOK p') (hne : ∀ k, diagramAssert mt (some c') base so g ≠ .err k) :
    (∀ k, diagramAssert mt (some c) base so g ≠ .err k) ∧
    (diagramAssert mt (some c) base so g).cls = (diagramAssert mt (some c') base so g).cls ∧
    sameItems (diagramAssert mt (some c) base so g).items (diagramAssert mt (some c') base so g).items = true := by
  -- the second check does not raise: no component is missing there, and the first file draws the same components
  have hm' := Pta.Repair.noMissing_of_noErr mt g so _ base p' hp' hne
  have t := prefix_sim p p' base hs
  rw [Pta.Repair.diagramAssert_of_noMissing mt g so _ base p' hp' hm'] at hne ⊢
  rw [Pta.Repair.diagramAssert_of_noMissing mt g so _ base p hp ((Pta.Repair.diagramMissing_congr _ _ g t.1).trans hm')]
  exact diagramRules_congr_lemma mt g so _ _ (depsOK_prefix p base o) (depsOK_prefix p' base o') t
    (noErr_of_applyAll mt g _ hne)

theorem sameParse_of_check (p q : Parsed') (h : sameParseB p q = true) : SameParse p q := by
  unfold sameParseB at h
  simp only [Bool.and_eq_true, List.all_eq_true, List.contains_iff_mem, List.mem_append, List.mem_map] at h
  obtain ⟨⟨h1, h2⟩, h3⟩ := h
  refine ⟨fun x => ⟨h1 x, h2 x⟩, fun x y => ⟨fun hy => ?_, fun hy => ?_⟩⟩
  · obtain ⟨kv, hkv, hk, _⟩ := entry_of_depsOf p x y hy
    exact (h3 x (.inl ⟨kv, hkv, hk⟩)).1 y hy
  · obtain ⟨kv, hkv, hk, _⟩ := entry_of_depsOf q x y hy
    exact (h3 x (.inr ⟨kv, hkv, hk⟩)).2 y hy

end Pta.E2E
