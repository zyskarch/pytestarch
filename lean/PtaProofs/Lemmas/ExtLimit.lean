/-
  PtaProofs.Lemmas.ExtLimit — property C10 with externals INCLUDED under a level limit: the fate of an external importee
  that `ExternalImportFilter` removes (not retained).  Everything is read off `ExtScan.mem_nodes` for the lists
  `generateGraph` hands to the constructor (`P` the parsed modules, `I` the converted imports).
-/
import Bridge.ExtAbs
import PtaProofs.Lemmas.ExtScan
namespace Pta
namespace ExtLimit
open ExtNames ExtBuild ExtScan

section
variable (mt : Str → Str → Bool) (base : Str) (o : ScanOptions) (pre : Str) (P : List Str) (I : List ImportRec)
  (hI : ∀ i ∈ I, i.importer ∈ P ∧ i.importeeParents = parentModules i.importee)
include hI

theorem no_edge_of_not_node (lim : Option Nat) (s : Str)
    (hs : s ∉ (buildGraph (moduleList mt base o pre P (retainImports mt o pre I)) (retainImports mt o pre I) lim).nodes) :
    ∀ x ∈ (buildGraph (moduleList mt base o pre P (retainImports mt o pre I)) (retainImports mt o pre I) lim).edges,
      x.src ≠ s ∧ x.dst ≠ s := by
  intro x hx
  have he := buildGraph_edge_nodes _ _ lim (lists_known mt base o pre P I hI) x hx
  exact ⟨fun e => hs (e ▸ he.1), fun e => hs (e ▸ he.2)⟩

/-- externals included, ANY level limit, a string `y` such that a pattern matches a member of the chain of the
    flattened `y` (for the importee of a not retained import: a member of its chain that survives the flattening).
    Then no retained external importee flattens onto or below the flattened `y`; so the flattened `y` is a node only
    if it is (an ancestor of) a flattened PARSED module, and otherwise no edge touches it. -/
theorem not_retained_lemma (lim : Option Nat) (hx : o.excludeExternal = false) (y : Str)
    (hhit : ∃ p ∈ chain (flattenNode lim y), isExcluded mt o.externalExclusions p = true)
    (hnp : ∀ m ∈ P, flattenNode lim y ∉ chain (flattenNode lim m)) :
    flattenNode lim y ∉
        (buildGraph (moduleList mt base o pre P (retainImports mt o pre I)) (retainImports mt o pre I) lim).nodes ∧
      ∀ x ∈ (buildGraph (moduleList mt base o pre P (retainImports mt o pre I)) (retainImports mt o pre I) lim).edges,
        x.src ≠ flattenNode lim y ∧ x.dst ≠ flattenNode lim y := by
  refine (fun hnot => ⟨hnot, no_edge_of_not_node mt base o pre P I hI lim _ hnot⟩) ?_
  rw [mem_nodes mt base o pre P I hI]
  rintro (⟨m, hm, hs⟩ | ⟨-, j, hjI, hjext, hjret, hs⟩)
  · exact hnp m hm hs
  · obtain ⟨p, hp, hpe⟩ := hhit
    rw [(retained_iff_chain mt o pre P I hI j hx hjI hjext).1 hjret p
      (chain_trans (chain_trans hp hs) (flatten_mem_chain _ _))] at hpe
    cases hpe

theorem not_retained_hit (i : ImportRec) (hx : o.excludeExternal = false) (hi : i ∈ I)
    (hext : isInternal i.importee pre = false) (hret : retained mt o pre i = false) :
    ∃ p ∈ chain i.importee, isExcluded mt o.externalExclusions p = true := by
  have h : ¬ ∀ p ∈ chain i.importee, isExcluded mt o.externalExclusions p = false := by
    intro hall
    rw [(retained_iff_chain mt o pre P I hI i hx hi hext).2 hall] at hret
    cases hret
  simpa using h

end

end ExtLimit
end Pta
