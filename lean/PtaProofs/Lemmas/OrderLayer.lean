/-
  PtaProofs.Lemmas.OrderLayer —
  layer rules do not depend on the order in which the layers were defined, nor on the order of the subject / object
  filters of the rule. The layer mapping enters the lenient detector only through `LayerMap.layerOf` and through the list
  of layer names (`MapRel`). `layerOf` is invariant under permutations of the mapping exactly when no identifier is listed
  under two different layer names (`LayerMap.consistent`); otherwise the LAST listing layer would win. The repaired
  `LayerRuleMatcher._update_layer_mapping` raises `LayerMismatch` on an inconsistent mapping (for every definition order,
  `Pta.consistent_perm` in Lemmas/LayerConsistent.lean), so the verdict class does not depend on the order of the layers at
  all. The theorems about `assert_applies` themselves are read off the message text in Lemmas/OrderReport.lean.
-/
import Bridge.OrderDefs
import PtaProofs.Lemmas.OrderCongr
import PtaProofs.Lemmas.LayerConsistent
import PtaProofs.Lemmas.LayerDetect
namespace Pta.OrdL
open Pta.Ord Pta.OrdS Pta.Itm

theorem layerOfListed_perm {m m' : LayerMap} (hp : m.Perm m') (hc : ConsP m) (id : Str) :
    m.layerOfListed id = m'.layerOfListed id := by
  have hc' : ConsP m' := (consistent_iff m').1 ((consistent_perm hp).symm.trans ((consistent_iff m).2 hc))
  refine Option.ext fun t => ?_
  rw [layerOfListed_eq_some_iff hc, layerOfListed_eq_some_iff hc']
  exact ⟨fun ⟨l, hl, h⟩ => ⟨l, hp.mem_iff.1 hl, h⟩, fun ⟨l, hl, h⟩ => ⟨l, hp.mem_iff.2 hl, h⟩⟩

theorem layerOf_congr {m m' : LayerMap} (hl : ∀ id, m.layerOfListed id = m'.layerOfListed id)
    (hs : SM m.listed m'.listed) (name : Str) : m.layerOf name = m'.layerOf name := by
  unfold LayerMap.layerOf
  rw [hl name, funext hl]
  cases m'.layerOfListed name with
  | some l => rfl
  | none =>
    simp only
    have hperm := dedup_perm_of_sm ((SM.filter hs fun c => isStrictSub c name).filterMap m'.layerOfListed)
    generalize dedup (List.filterMap m'.layerOfListed (List.filter (fun c => isStrictSub c name) m.listed)) = d at hperm
    generalize dedup (List.filterMap m'.layerOfListed (List.filter (fun c => isStrictSub c name) m'.listed)) = d' at hperm
    -- the outcome depends on whether the list has no, one or more elements
    cases d with
    | nil => have := hperm.nil_eq; subst this; rfl
    | cons x t =>
      cases t with
      | nil => have := List.singleton_perm.1 hperm; subst this; rfl
      | cons y r =>
        cases d' with
        | nil => exact absurd hperm.eq_nil (by simp)
        | cons x' t' =>
          cases t' with
          | nil => exact absurd (List.perm_singleton.1 hperm) (by simp)
          | cons y' r' => rfl

theorem ERel.trivial {α β : Type} {R : α → β → Prop} {x : Except ErrKind α} {y : Except ErrKind β} (h : ERel R x y) :
    ERel (fun _ _ => True) x y := h.mono (fun _ _ _ => True.intro)

/-- two layer mappings the lenient detector and the message generator cannot tell apart: a mapping enters both only through
    `layerOf` (the layer a module is tagged with) and through the list of layer names. Holds between a consistent mapping
    and its permutations (`MapRel.of_perm`) and between mappings whose entries list the same identifiers (`OrdR.mapRel_of_rel`) -/
def MapRel (m m' : LayerMap) : Prop := (∀ x, m.layerOf x = m'.layerOf x) ∧ SM (m.map (·.1)) (m'.map (·.1))

theorem MapRel.of_perm {m m' : LayerMap} (hp : m.Perm m') (hc : ConsP m) : MapRel m m' :=
  ⟨layerOf_congr (layerOfListed_perm hp hc) (SM.of_perm (hp.flatMap_right _)), SM.of_perm (hp.map _)⟩

/-! Mappings the detector cannot tell apart tag alike and guard alike, so by the normal forms of Lemmas/LayerDetect.lean the
congruences are statements about lists: the identifiers looked up and the pure buckets have the same members. -/

theorem tagS_rel {m m' : LayerMap} (hm : MapRel m m') : tagS m = tagS m' :=
  funext fun s => by unfold tagS; rw [hm.1]

theorem MapRel.layers {m m' : LayerMap} (hm : MapRel m m') : LRel (fun l l' : Str × List Str => l.1 = l'.1) m m' := by
  refine ⟨fun l hl => ?_, fun l' hl' => ?_⟩
  · obtain ⟨l', hl', e⟩ := List.mem_map.1 ((hm.2 l.1).1 (List.mem_map_of_mem hl))
    exact ⟨l', hl', e.symm⟩
  · obtain ⟨l, hl, e⟩ := List.mem_map.1 ((hm.2 l'.1).2 (List.mem_map_of_mem hl'))
    exact ⟨l, hl, e⟩

theorem guardL_rel {α β : Type} {R : α → β → Prop} {m m' : LayerMap} (hm : MapRel m m') {i j : List Str} (h : SM i j)
    {v : α} {v' : β} (hv : R v v') : ERel R (guardL m i v) (guardL m' j v') := by
  have : okAll m i = okAll m' j := by
    rw [okAll_congr m h]; unfold okAll; simp only [hm.1]
  unfold guardL
  rw [this]
  cases okAll m' j
  · exact rfl
  · exact hv

theorem depIds_sm {ds ds' : List Dep} (h : SM ds ds') : SM (depIds ds) (depIds ds') := fun s => by
  simp only [mem_depIds]; exact h.exists_congr _

section
variable {m m' : LayerMap} (hm : MapRel m m') (ir : Bool)
include hm

theorem realisedP_congr {κ : Type} {d d' : List (κ × List (Str × Str))} (h : LRel KR d d') :
    SM (realisedP m ir d) (realisedP m' ir d') := by
  unfold realisedP
  rw [tagS_rel hm]
  exact SM.filter (realised_rel ir h) _

theorem abstractP_congr {d d' : ExplDeps} (h : LRel KR d d') : SM (abstractP m ir d) (abstractP m' ir d') := by
  unfold abstractP
  rw [tagS_rel hm]
  refine hm.layers.sm_flatMap _ _ fun l l' e => ?_
  have hF : LRel KR (d.filter fun kd => tagS m' (relevantOf ir kd).id == some l.1)
      (d'.filter fun kd => tagS m' (relevantOf ir kd).id == some l'.1) :=
    h.filter _ _ fun kd kd' r => by unfold relevantOf; rw [r.1, e]
  simp only [hF.isEmpty_eq, hF.any_eq _ _ fun _ _ r => congrArg (!·) (isEmpty_congr r.2.nil_iff)]
  split
  · exact SM.refl _
  split
  · exact SM.refl _
  · exact hF.sm_map _ _ fun _ _ r => by rw [r.1]

theorem anyMissingP_congr {d d' : OtherDeps} (h : LRel KR d d') {objs objs' : List Mod} (ho : SM objs objs') :
    SM (anyMissingP m ir d objs) (anyMissingP m' ir d' objs') := by
  unfold anyMissingP
  rw [(LRel.of_SM (realisedP_congr hm ir h)).isEmpty_eq]
  split
  · exact SM.refl _
  · exact h.sm_flatMap _ _ fun _ _ r => by rw [r.1]; exact ho.map _

theorem detectL_congr (b : Behavior) {expl expl' : Option ExplDeps}
    {other other' : Option OtherDeps} {objs objs' : List Mod} (he : ORel (LRel KR) expl expl')
    (ho : ORel (LRel KR) other other') (hobj : SM objs objs') :
    ERel VioRel (detectL m b ir expl other objs) (detectL m' b ir expl' other' objs') := by
  have E := fun (β : Type) (c : Bool) (f f' : ExplDeps → List β) (hf : ∀ e e', LRel KR e e' → SM (f e) (f' e')) =>
    Det.onOpt_rel (SM (α := β)) (LRel KR) (SM.refl []) he.inv c hf
  have O := fun (β : Type) (c : Bool) (f f' : OtherDeps → List β) (hf : ∀ o o', LRel KR o o' → SM (f o) (f' o')) =>
    Det.onOpt_rel (SM (α := β)) (LRel KR) (SM.refl []) ho.inv c hf
  have pE : ∀ e e' : ExplDeps, LRel KR e e' → SM (pairIds ir e) (pairIds ir e') := fun _ _ h => depIds_sm (realised_rel ir h)
  have pO : ∀ o o' : OtherDeps, LRel KR o o' → SM (pairIds ir o) (pairIds ir o') := fun _ _ h => depIds_sm (realised_rel ir h)
  have kE : ∀ e e' : ExplDeps, LRel KR e e' → SM (keyIds ir e) (keyIds ir e') := fun _ _ h =>
    h.sm_flatMap _ _ fun _ _ r => by unfold relevantOf; rw [r.1]; exact SM.refl _
  rw [detectL_nf, detectL_nf]
  refine guardL_rel hm ?_ ⟨E _ _ _ _ fun _ _ => abstractP_congr hm ir, O _ _ _ _ fun _ _ => realisedP_congr hm ir,
    E _ _ _ _ fun _ _ => abstractP_congr hm ir, E _ _ _ _ fun _ _ => realisedP_congr hm ir,
    O _ _ _ _ fun _ _ h => anyMissingP_congr hm ir h hobj, E _ _ _ _ fun _ _ => realisedP_congr hm ir,
    O _ _ _ _ fun _ _ h => anyMissingP_congr hm ir h hobj, O _ _ _ _ fun _ _ => realisedP_congr hm ir⟩
  exact SM.append (E _ _ _ _ pE) (SM.append (E _ _ _ _ kE) (SM.append (E _ _ _ _ kE) (SM.append (O _ _ _ _ pO)
    (SM.append (O _ _ _ _ pO) (SM.append (O _ _ _ _ pO) (SM.append (E _ _ _ _ pE) (O _ _ _ _ pO)))))))

end

theorem updateLayerMap_congr (mt : Str → Str → Bool) (mods : List Str) (a : LArch) {c c' : List Str} (h : SM c c') :
    updateLayerMap mt mods a c = updateLayerMap mt mods a c' := by
  unfold updateLayerMap
  have hc : ∀ x, c.contains x = c'.contains x := contains_congr h
  simp only [hc]

/-- the mapping a rule uses lists a subset of what the fully expanded mapping lists -/
theorem consP_update_of_full (mt : Str → Str → Bool) (mods : List Str) (a : LArch) (c : List Str)
    (h : ConsP (fullLayerMap mt mods a)) : ConsP (updateLayerMap mt mods a c) := by
  refine h.of_sub fun l hl => ?_
  obtain ⟨k, hk, rfl⟩ := List.mem_map.1 hl
  refine ⟨_, List.mem_map.2 ⟨k, hk, rfl⟩, rfl, fun id hid => ?_⟩
  simp only [List.mem_flatMap] at hid ⊢
  obtain ⟨f, hf, hx⟩ := hid
  refine ⟨f, hf, ?_⟩
  cases f with
  | name i => exact hx
  | parent i => exact hx
  | regex p =>
    simp only at hx ⊢
    split at hx
    · exact hx
    · cases hx

theorem updateLayerMap_perm (mt : Str → Str → Bool) (mods : List Str) {a a' : LArch} (h : a.Perm a') (c : List Str) :
    (updateLayerMap mt mods a c).Perm (updateLayerMap mt mods a' c) := by
  unfold updateLayerMap
  exact h.map _

/-- `are_named(l₁, l₂, …)`: permuting the named layers permutes the blocks of filters that are appended to the rule -/
theorem layers_get_perm (a : LArch) {ls ls' : List Str} (h : ls.Perm ls') :
    ERel (fun ms ms' => ms.flatten.Perm ms'.flatten) (ls.mapM a.get) (ls'.mapM a.get) :=
  (mapM_perm a.get .lookupError h fun x _ => LArch.get_err a x).mono fun _ _ hp => hp.flatten

end Pta.OrdL

namespace Pta.OrdR
open Pta.Ord Pta.OrdL Pta.Itm

def EntryRel (l l' : Str × List Str) : Prop := l.1 = l'.1 ∧ SM l.2 l'.2

inductive ListRel {α : Type} (R : α → α → Prop) : List α → List α → Prop
  | nil : ListRel R [] []
  | cons {a b : α} {l l' : List α} : R a b → ListRel R l l' → ListRel R (a :: l) (b :: l')

theorem forall₂_lrel {α : Type} {R : α → α → Prop} {l l' : List α} (h : ListRel R l l') : LRel R l l' := by
  induction h with
  | nil => exact ⟨fun _ hy => absurd hy (List.not_mem_nil), fun _ hy => absurd hy (List.not_mem_nil)⟩
  | cons hab _ ih =>
    refine LRel.append (a := [_]) (a' := [_]) ⟨fun y hy => ?_, fun y hy => ?_⟩ ih
    · exact ⟨_, List.mem_singleton_self _, List.mem_singleton.1 hy ▸ hab⟩
    · exact ⟨_, List.mem_singleton_self _, List.mem_singleton.1 hy ▸ hab⟩

theorem layerOfListed_rel {m m' : LayerMap} (h : ListRel EntryRel m m') (id : Str) :
    m.layerOfListed id = m'.layerOfListed id := by
  unfold LayerMap.layerOfListed
  rw [← List.getLast?_map, ← List.getLast?_map]
  congr 1
  induction h with
  | nil => rfl
  | cons hab _ ih =>
    simp only [List.filter_cons]
    rw [contains_congr hab.2 id]
    split
    · simp only [List.map_cons, hab.1, ih]
    · exact ih

theorem mapRel_of_rel {m m' : LayerMap} (h : ListRel EntryRel m m') : MapRel m m' :=
  ⟨layerOf_congr (layerOfListed_rel h) ((forall₂_lrel h).sm_flatMap _ _ fun _ _ r => r.2),
    (forall₂_lrel h).sm_map _ _ fun _ _ r => r.1⟩

theorem consistent_rel {m m' : LayerMap} (h : ListRel EntryRel m m') : m.consistent = m'.consistent := by
  have hl := forall₂_lrel h
  rw [Bool.eq_iff_iff, consistent_iff, consistent_iff]
  constructor
  · refine fun hc => hc.of_sub fun l hl' => ?_
    obtain ⟨k, hk, r⟩ := hl.2 l hl'
    exact ⟨k, hk, r.1, fun id hid => (r.2 id).2 hid⟩
  · refine fun hc => hc.of_sub fun l hl' => ?_
    obtain ⟨k, hk, r⟩ := hl.1 l hl'
    exact ⟨k, hk, r.1.symm, fun id hid => (r.2 id).1 hid⟩

theorem MapRel.trans {m1 m2 m3 : LayerMap} (h1 : MapRel m1 m2) (h2 : MapRel m2 m3) : MapRel m1 m3 :=
  ⟨fun x => (h1.1 x).trans (h2.1 x), fun x => (h1.2 x).trans (h2.2 x)⟩

end Pta.OrdR
