/-
  PtaProofs.Lemmas.ScanNames — module names of directory entries (property C04): `moduleName` is the rendered
  `entryName`; under the naming hypotheses of `treeNamesFor` the names are well-formed, distinct for distinct
  surviving entries, and a `.py` file's name has no scanned module strictly below it.
-/
import Bridge.Abs
import Bridge.ScanTree
import Bridge.ScanExcl
import PtaProofs.Lemmas.Render
import PtaProofs.Lemmas.ScanWalk
import PtaSpec.GlobSem
namespace Pta
namespace ScanNames
open PtaSpec ScanWalk

theorem rel_split (e : Entry) (h : e.rel ≠ []) : e.rel = e.rel.dropLast ++ [lastName e] := by
  have : lastName e = e.rel.getLast h := by
    simp only [lastName, List.getLast?_eq_some_getLast h]
  rw [this, List.dropLast_concat_getLast]

theorem lastName_concat (e : Entry) (i : List Str) (x : Str) (h : e.rel = i ++ [x]) : lastName e = x := by
  simp [lastName, h]

theorem lastName_nil (e : Entry) (h : e.rel = []) : lastName e = [] := by
  simp [lastName, h]

theorem dropWhile_all {α : Type} (p : α → Bool) (l : List α) (h : ∀ x ∈ l, p x = true) : l.dropWhile p = [] := by
  simpa using List.dropWhile_append_of_pos (l₂ := []) h

theorem dropSuffix_nodot (name : Str) (h : '.' ∉ name) : dropSuffix name = name := by
  unfold dropSuffix
  rw [dropWhile_all]
  intro x hx
  have hx' : x ∈ name := List.mem_reverse.1 hx
  simp only [bne_iff_ne, ne_eq]
  rintro rfl
  exact h hx'

theorem dropSuffix_compWF (name : Str) (h : compWF name = true) : dropSuffix name = name :=
  dropSuffix_nodot name ((compWF_iff name).1 h).2

theorem dropSuffix_last_dot (s ext : Str) (hext : '.' ∉ ext) :
    dropSuffix (s ++ '.' :: ext) = if s = [] then '.' :: ext else s := by
  have h : (s ++ '.' :: ext).reverse.dropWhile (· != '.') = '.' :: s.reverse := by
    rw [List.reverse_append, List.reverse_cons, List.append_assoc, List.dropWhile_append_of_pos]
    · simp
    · intro a ha
      simp only [bne_iff_ne, ne_eq]
      rintro rfl
      exact hext (List.mem_reverse.1 ha)
  unfold dropSuffix
  rw [h]
  cases s <;> simp

theorem isPyFile_iff (name : Str) : isPyFile name = true ↔ ∃ stem, isPyName name stem := by
  unfold isPyFile isPyName
  rw [Bool.and_eq_true, endsWith_iff_suffix]
  have hpy : ".py".toList = ['.', 'p', 'y'] := by decide
  rw [hpy]
  constructor
  · rintro ⟨⟨stem, rfl⟩, hlen⟩
    refine ⟨stem, rfl, ?_⟩
    rintro rfl
    simp at hlen
  · rintro ⟨stem, rfl, hne⟩
    refine ⟨⟨stem, rfl⟩, ?_⟩
    cases stem with
    | nil => exact absurd rfl hne
    | cons c cs => simp

theorem isPyFile_split (name : Str) (h : isPyFile name = true) : name = dropSuffix name ++ ".py".toList := by
  obtain ⟨stem, rfl, hne⟩ := (isPyFile_iff name).1 h
  rw [dropSuffix_last_dot stem ['p', 'y'] (by decide), if_neg hne]
  rfl

/-- `entryName` through `toSEntry` depends on the path only -/
def relName (root : Str) (e : Entry) : Name :=
  if e.rel.isEmpty then [root] else root :: (e.rel.dropLast ++ [dropSuffix (lastName e)])

theorem entryName_toSEntry (excl : Str → Bool) (base root : Str) (e : Entry) :
    entryName root (toSEntry excl base e) = relName root e := rfl

theorem relName_congr (root : Str) {e e' : Entry} (h : e.rel = e'.rel) : relName root e = relName root e' := by
  simp [relName, lastName, h]

/-- `Parser._get_module_name` is the rendered specification name (no side conditions) -/
theorem moduleName_eq (root : Str) (e : Entry) : moduleName root e.rel = render (relName root e) := by
  unfold moduleName relName
  by_cases h : e.rel = []
  · simp [h, render, joinDots]
  · have hs := rel_split e h
    generalize lastName e = x at hs
    generalize e.rel.dropLast = i at hs
    rw [hs]
    simp [render]

/-- a path the scan from `mp` can see (Prop form of `relevant`) -/
def Rel (excl : Str → Bool) (base : Str) (mp : List Str) (q : List Str) : Prop :=
  q <+: mp ∨ (mp <+: q ∧ ∀ k, mp.length ≤ k → k ≤ q.length → excl (pathStr base (q.take k)) = false)

theorem clearB_iff (excl : Str → Bool) (base : Str) (mp : List Str) (e : Entry) :
    clearB excl base mp e = true ↔ Clear excl base mp e := by
  simp only [clearB, Clear, List.all_eq_true, List.mem_range, Bool.or_eq_true, decide_eq_true_eq, Bool.not_eq_true']
  constructor
  · intro h k hk1 hk2
    exact (h k (by omega)).resolve_left (by omega)
  · intro h k hk
    by_cases hkm : k < mp.length
    · exact Or.inl hkm
    · exact Or.inr (h k (by omega) (by omega))

theorem relevant_iff (excl : Str → Bool) (base : Str) (mp : List Str) (e : Entry) :
    relevant excl base mp e = true ↔ Rel excl base mp e.rel := by
  show (e.rel.isPrefixOf mp || (mp.isPrefixOf e.rel && clearB excl base mp e)) = true ↔ _
  simp only [Bool.or_eq_true, Bool.and_eq_true, List.isPrefixOf_iff_prefix, clearB_iff]
  rfl

theorem Rel.of_survives {excl : Str → Bool} {base : Str} {mp : List Str} {d : Entry}
    (h : Survives excl base mp d) : Rel excl base mp d.rel := Or.inr ⟨h.1, h.2.2⟩

theorem Rel.self (excl : Str → Bool) (base : Str) (mp : List Str) : Rel excl base mp mp := Or.inl (List.prefix_refl _)

theorem Rel.up {excl : Str → Bool} {base : Str} {mp q : List Str} (h : Rel excl base mp q) :
    Rel excl base mp q.dropLast := by
  rcases h with h | ⟨h1, h2⟩
  · exact Or.inl ((List.dropLast_prefix q).trans h)
  · by_cases heq : q = mp
    · left; rw [heq]; exact List.dropLast_prefix _
    · refine Or.inr ⟨FlatTree.prefix_dropLast h1 (Ne.symm heq), fun k hk1 hk2 => ?_⟩
      rw [List.length_dropLast] at hk2
      rw [List.dropLast_eq_take, List.take_take, Nat.min_eq_left (by omega)]
      exact h2 k hk1 (by omega)

/-- the naming conditions on the entries whose path satisfies `R` -/
structure Names (R : List Str → Prop) (entries : List Entry) : Prop where
  dirWF : ∀ e ∈ entries, R e.rel → e.isDir = true → compWF (lastName e) = true
  pyWF : ∀ e ∈ entries, R e.rel → e.isDir = false → isPyFile (lastName e) = true →
    compWF (dropSuffix (lastName e)) = true
  noClash : ∀ e ∈ entries, R e.rel → e.isDir = false → isPyFile (lastName e) = true →
    ∀ d ∈ entries, d.isDir = true → d.rel ≠ e.rel.dropLast ++ [dropSuffix (lastName e)]
  up : ∀ q, R q → R q.dropLast

theorem names_clause : ∀ r d p w1 w2 a : Bool,
    ((!r || (if d = true then w1 else (!p || w2))) = true ∧ (!r || d || !p || !a) = true) ↔
      (r = true → (d = true → w1 = true) ∧ (d = false → p = true → w2 = true ∧ a = false)) := by decide

theorem treeNamesFor_iff (excl : Str → Bool) (base : Str) (mp : List Str) (entries : List Entry) :
    treeNamesFor excl base mp entries = true ↔ ∀ e ∈ entries, relevant excl base mp e = true →
      (e.isDir = true → compWF (lastName e) = true) ∧
      (e.isDir = false → isPyFile (lastName e) = true → compWF (dropSuffix (lastName e)) = true ∧
        (entries.any fun d => d.isDir && d.rel == e.rel.dropLast ++ [dropSuffix (lastName e)]) = false) := by
  simp only [treeNamesFor, Bool.and_eq_true, List.all_eq_true, ← forall_and, names_clause]

theorem names_of (excl : Str → Bool) (base : Str) (mp : List Str) (entries : List Entry)
    (h : treeNamesFor excl base mp entries = true) : Names (Rel excl base mp) entries := by
  rw [treeNamesFor_iff] at h
  refine ⟨fun e he hr => (h e he ((relevant_iff ..).2 hr)).1, fun e he hr hd hp => ((h e he ((relevant_iff ..).2 hr)).2 hd hp).1,
    fun e he hr hd hp d hdm hdd heq => ?_, fun q hq => hq.up⟩
  have := List.any_eq_false.1 ((h e he ((relevant_iff ..).2 hr)).2 hd hp).2 d hdm
  simp [hdd, heq] at this

/-- what `treeWFFor` hands to the walk and naming lemmas -/
theorem tree_facts {excl : Str → Bool} {base : Str} {mp : List Str} {entries : List Entry}
    (h : treeWFFor excl base mp entries = true) :
    treeShape entries = true ∧ Shape entries ∧ Names (Rel excl base mp) entries := by
  simp only [treeWFFor, Bool.and_eq_true] at h
  exact ⟨h.1, shape_of entries h.1, names_of excl base mp entries h.2⟩

section
variable {R : List Str → Prop} {entries : List Entry} (s : Shape entries) (nm : Names R entries)
include s nm

theorem dropLast_wf (d : Entry) (hd : d ∈ entries) (hR : R d.rel) : ∀ x ∈ d.rel.dropLast, compWF x = true := by
  induction hn : d.rel.length generalizing d with
  | zero => intro x hx; rw [List.length_eq_zero_iff.1 hn] at hx; cases hx
  | succ n ih =>
    intro x hx
    by_cases h2 : 2 ≤ d.rel.length
    · obtain ⟨p, hp, hpd, hpr⟩ := s.parent d hd h2
      have hRp : R p.rel := hpr ▸ nm.up _ hR
      rw [← hpr, rel_split p (s.ne p hp)] at hx
      rcases List.mem_append.1 hx with h | h
      · exact ih p hp hRp (by rw [hpr, List.length_dropLast]; omega) x h
      · rw [List.mem_singleton.1 h]; exact nm.dirWF p hp hRp hpd
    · rw [List.length_eq_zero_iff.1 (by rw [List.length_dropLast]; omega : d.rel.dropLast.length = 0)] at hx
      cases hx

theorem relName_dir (root : Str) (d : Entry) (hd : d ∈ rootEntry :: entries) (hdir : d.isDir = true)
    (hR : R d.rel) : relName root d = root :: d.rel := by
  rcases List.mem_cons.1 hd with rfl | hde
  · rfl
  · have hne := s.ne d hde
    simp only [relName, List.isEmpty_iff, hne, if_false, dropSuffix_compWF _ (nm.dirWF d hde hR hdir)]
    rw [← rel_split d hne]

theorem relName_wf (root : Str) (hroot : compWF root = true) (d : Entry) (hd : d ∈ rootEntry :: entries)
    (hk : dirOrPy d = true) (hR : R d.rel) : nameWF (relName root d) = true := by
  rcases List.mem_cons.1 hd with rfl | he
  · simp [relName, rootEntry, nameWF, hroot]
  · have hne := s.ne d he
    rw [nameWF_iff]
    refine ⟨by simp [relName, hne], ?_⟩
    intro c hc
    rw [← compWF_iff]
    simp only [relName, List.isEmpty_iff, hne, if_false, List.mem_cons, List.mem_append, List.not_mem_nil, or_false] at hc
    rcases hc with rfl | h | rfl
    · exact hroot
    · exact dropLast_wf s nm d he hR c h
    · cases hdir : d.isDir with
      | true =>
        have := nm.dirWF d he hR hdir
        rw [dropSuffix_compWF _ this]; exact this
      | false =>
        simp only [dirOrPy, hdir, Bool.false_or] at hk
        exact nm.pyWF d he hR hdir hk

theorem relName_inj (root : Str) (d d' : Entry) (hd : d ∈ rootEntry :: entries) (hd' : d' ∈ rootEntry :: entries)
    (hk : dirOrPy d = true) (hk' : dirOrPy d' = true) (hR : R d.rel) (hR' : R d'.rel)
    (h : relName root d = relName root d') : d.rel = d'.rel := by
  have hf : ∀ e ∈ entries, relName root e = root :: (e.rel.dropLast ++ [dropSuffix (lastName e)]) := fun e he => by
    simp only [relName, List.isEmpty_iff, s.ne e he, if_false]
  rcases List.mem_cons.1 hd with rfl | he <;> rcases List.mem_cons.1 hd' with rfl | he'
  · rfl
  · have := congrArg List.length h
    rw [hf d' he'] at this
    simp [relName, rootEntry] at this
  · have := congrArg List.length h
    rw [hf d he] at this
    simp [relName, rootEntry] at this
  · cases hdir : d.isDir <;> cases hdir' : d'.isDir
    · simp only [dirOrPy, hdir, hdir', Bool.false_or] at hk hk'
      rw [hf d he, hf d' he'] at h
      obtain ⟨h1, h2⟩ := List.append_inj' (List.cons.inj h).2 rfl
      rw [rel_split d (s.ne d he), rel_split d' (s.ne d' he'), h1, isPyFile_split _ hk, isPyFile_split _ hk',
        List.singleton_inj.1 h2]
    · simp only [dirOrPy, hdir, Bool.false_or] at hk
      rw [hf d he, relName_dir s nm root d' hd' hdir' hR'] at h
      exact absurd (List.cons.inj h).2.symm (nm.noClash d he hR hdir hk d' he' hdir')
    · simp only [dirOrPy, hdir', Bool.false_or] at hk'
      rw [hf d' he', relName_dir s nm root d hd hdir hR] at h
      exact absurd (List.cons.inj h).2 (nm.noClash d' he' hR' hdir' hk' d he hdir)
    · rw [relName_dir s nm root d hd hdir hR, relName_dir s nm root d' hd' hdir' hR'] at h
      exact (List.cons.inj h).2

theorem moduleName_inj (root : Str) (hroot : compWF root = true) (d d' : Entry) (hd : d ∈ rootEntry :: entries)
    (hd' : d' ∈ rootEntry :: entries) (hk : dirOrPy d = true) (hk' : dirOrPy d' = true) (hR : R d.rel) (hR' : R d'.rel)
    (h : moduleName root d.rel = moduleName root d'.rel) : d.rel = d'.rel := by
  rw [moduleName_eq, moduleName_eq] at h
  exact relName_inj s nm root d d' hd hd' hk hk' hR hR'
    (render_injective _ _ (relName_wf s nm root hroot d hd hk hR) (relName_wf s nm root hroot d' hd' hk' hR') h)

/-- a relevant `.py` file is a leaf: no directory or `.py` file has a name strictly below the file's name -/
theorem file_leaf (root : Str) (f : Entry) (hf : f ∈ entries) (hfd : f.isDir = false) (hk : dirOrPy f = true)
    (hR : R f.rel)
    (d : Entry) (hd : d ∈ rootEntry :: entries) (n : Name) (h1 : relName root f <+: n) (h2 : n <+: relName root d) :
    n = relName root f := by
  have hpy : isPyFile (lastName f) = true := by simpa [dirOrPy, hfd] using hk
  rcases Nat.lt_or_ge (relName root f).length n.length with hlt | hge
  · exfalso
    have hfne := s.ne f hf
    have hpre : relName root f <+: relName root d := h1.trans h2
    have hlen : (relName root f).length < (relName root d).length := Nat.lt_of_lt_of_le hlt h2.length_le
    rcases List.mem_cons.1 hd with rfl | he
    · simp [relName, rootEntry, hfne] at hlen
    · have hene := s.ne d he
      simp only [relName, List.isEmpty_iff, hfne, hene, if_false, List.cons_prefix_cons, true_and,
        List.length_cons, List.length_append] at hpre hlen
      rcases List.prefix_concat_iff.1 hpre with heq | hp
      · have := congrArg List.length heq
        simp only [List.length_append, List.length_singleton] at this
        omega
      · have hq : f.rel.dropLast ++ [dropSuffix (lastName f)] <+: d.rel := hp.trans (List.dropLast_prefix _)
        have hqne : f.rel.dropLast ++ [dropSuffix (lastName f)] ≠ d.rel := by
          intro heq
          have := congrArg List.length heq
          have hl := List.length_dropLast (xs := d.rel)
          simp only [List.length_append, List.length_singleton] at this
          omega
        obtain ⟨c, hc, hcd, hcr⟩ := prefix_dir s d he _ (by simp) hq hqne
        exact nm.noClash f hf hR hfd hpy c hc hcd hcr
  · exact (h1.eq_of_length_le hge).symm

end

end ScanNames
end Pta
