/-
  PtaProofs.Lemmas.ScanCompose — the directory walk (property C04) composed with the import conversion (property
  C02): `ScanHyps` holds on a well-formed tree, and what `generateGraph` returns there — for any external options
  and level limit as an expression in the records of the walk (`gen_outcome`, `scan_none`), for the default options
  as the import pairs of the graph (`scan_some_imports`, `scan_error_iff_none`, `scan_ok_imports`).

  Listing convention: the C04 theorems take `entries` without the root directory and add `rootEntry`; `ScanHyps`
  (C02) is stated over any listing. Here `ScanHyps` is proved for the listing `rootEntry :: entries`, whose
  specification entries `sentriesOf … (rootEntry :: entries) o` are C04's `toSEntries … entries` by definition, and
  `scanParsed` / `generateGraph` ignore a listed root entry (`ScanWalk.scanParsed_root`, `generateGraph_root`).
-/
import Bridge.Abs
import Bridge.ScanAbs
import Bridge.ScanTree
import PtaProofs.Lemmas.ScanSpec
import PtaProofs.Lemmas.ScanImports
import PtaProofs.Lemmas.ScanSim
import PtaProofs.Lemmas.ExtScan
namespace Pta
namespace ScanCompose
open PtaSpec ScanWalk ScanNames ScanSpec ScanImports

theorem sentriesOf_root (mt : Str → Str → Bool) (base : Str) (entries : List Entry) (o : ScanOptions) :
    sentriesOf mt base (rootEntry :: entries) o = toSEntries (isExcluded mt o.exclusions) base entries := rfl

section
variable {excl : Str → Bool} {base : Str} {mp : List Str} {entries : List Entry}
  (s : Shape entries) (nm : Names (Rel excl base mp) entries)
include s nm

/-- C04 ⟹ no `x.py` next to `x/` among the surviving entries: a surviving file's module has no surviving entry's
    module strictly below it -/
theorem noFileParent_of_tree (root : Str) :
    ScanImports.noFileParent root (toSEntries excl base entries) mp = true := by
  simp only [ScanImports.noFileParent, List.all_eq_true, Bool.not_eq_true']
  intro f hf n hn
  obtain ⟨e, hee, hedir, hsv, rfl⟩ := (ScanSim.mem_filesOf_tree f).1 hf
  obtain ⟨d, hd, -, rfl⟩ := (mem_ownNames excl base root mp entries n).1 hn
  have hS := (survives_iff excl base s mp e (List.mem_cons_of_mem _ hee)).1 hsv
  rw [entryName_toSEntry, entryName_toSEntry, ← Bool.not_eq_true, sdesc_iff]
  rintro ⟨h1, h2⟩
  exact h2 (file_leaf s nm root e hee hedir (survives_dirOrPy excl base hS) (Rel.of_survives hS) d hd
    (relName root d) h1 (List.prefix_refl _)).symm

end

section
variable {mt : Str → Str → Bool} {base root : Str} {mp : List Str} {entries : List Entry} {o : ScanOptions}

/-- C04 ⟹ `ScanHyps.closed`: below `module_path`, the proper prefixes of a surviving entry's name are names of
    surviving entries -/
theorem own_cl (hwf : treeWFFor (isExcluded mt o.exclusions) base mp entries = true) :
    ∀ n ∈ ownNames root (toSEntries (isExcluded mt o.exclusions) base entries) mp, ∀ p ∈ properPrefixes n,
      desc (root :: mp) p = true → p ∈ ownNames root (toSEntries (isExcluded mt o.exclusions) base entries) mp := by
  obtain ⟨-, s, nm⟩ := tree_facts hwf
  intro n hn p hp hd
  obtain ⟨d, hd', hsv, rfl⟩ := (mem_ownNames _ base root mp entries n).1 hn
  have hS := (survives_iff _ base s mp d hd').1 hsv
  rcases prefix_explicit _ base root s nm d hd' hS p (mem_properPrefixes_ne_nil hp)
      (by rw [← entryName_toSEntry _ base]; exact properPrefixes_prefix hp) with
    ⟨e, he, heS, hen⟩ | ⟨k, -, hk, hpk⟩
  · exact (mem_ownNames _ base root mp entries p).2
      ⟨e, he, (survives_iff _ base s mp e he).2 heS, by rw [entryName_toSEntry]; exact hen⟩
  · exfalso
    have h1 := ((desc_iff _ _).1 hd).length_le
    rw [hpk, List.length_take] at h1
    simp only [List.length_cons] at h1
    omega

/-- the hypotheses C02 takes from the directory walk, discharged by C04 -/
theorem scanHyps_of_tree (hwf : treeWFFor (isExcluded mt o.exclusions) base mp entries = true)
    (hmp : mpOK entries mp = true) (hroot : compWF root = true)
    (hxx : o.excludeExternal = true) (hlim : o.levelLimit = none) (hext : o.externalExclusions.isEmpty = true)
    (hst : ∀ e ∈ entries, ∀ st ∈ e.stmts, stmtOK (toSStmt st) = true) :
    ScanHyps mt base root mp (rootEntry :: entries) o := by
  obtain ⟨hshape, s, nm⟩ := tree_facts hwf
  refine ⟨hxx, hlim, hext, mp_wf s nm hmp (Rel.self _ base mp) root hroot, own_wf hwf hroot, own_cl hwf, ?_, ?_, ?_⟩
  · intro e he st hs
    rcases List.mem_cons.1 he with rfl | h
    · cases hs
    · exact hst e h st hs
  · intro x
    rw [scanParsed_root base mt root mp rootEntry rfl]
    exact modules_own hshape hmp x
  · intro f
    rw [scanParsed_root base mt root mp rootEntry rfl, sentriesOf_root,
      scan_files_lemma base mt root mp entries o hshape hmp f]
    constructor
    · rintro ⟨e, he, hd, hsv, rfl⟩
      exact ⟨e, List.mem_cons_of_mem _ he, hd, hsv, rfl⟩
    · rintro ⟨e, he, hd, hsv, rfl⟩
      rcases List.mem_cons.1 he with rfl | h
      · cases hd
      · exact ⟨e, h, hd, hsv, rfl⟩

theorem scanImports_wf_tree (hwf : treeWFFor (isExcluded mt o.exclusions) base mp entries = true)
    (hroot : compWF root = true) (is : List (Name × Name))
    (his : scanImports root (toSEntries (isExcluded mt o.exclusions) base entries) mp = some is) :
    ∀ e ∈ is, nameWF e.1 = true ∧ nameWF e.2 = true :=
  scanImports_wf (own_wf hwf hroot) is his

/-- the options `ScanHyps` is stated for -/
def _root_.Pta.ScanOptions.forScanHyps (o : ScanOptions) : ScanOptions := { o with excludeExternal := true, levelLimit := none }

/-- the outcome of a scan, read off the records of the walk: a `LookupError` when a relative import reaches above the
    root; otherwise the graph of the module list (extended by the external importees and their parents, if asked for)
    and of the retained records, under the level limit counted from the root directory -/
theorem gen_outcome (H : ScanHyps mt base root mp (rootEntry :: entries) o.forScanHyps) :
    generateGraph mt base root mp entries o =
      if (scanImports root (toSEntries (isExcluded mt o.exclusions) base entries) mp).isSome then
        .ok (buildGraph (moduleList mt base o (internalPrefix root mp)
            (scanParsed mt base root mp (rootEntry :: entries) o.forScanHyps).allModules
            (retainImports mt o (internalPrefix root mp) ((rawOf mt base root mp (rootEntry :: entries) o.forScanHyps).map mkRec)))
          (retainImports mt o (internalPrefix root mp) ((rawOf mt base root mp (rootEntry :: entries) o.forScanHyps).map mkRec))
          (shiftedLimit o mp))
      else .error .lookupError := by
  have hb := (bad_iff H).trans scanImports_eq_none.symm
  rw [← ScanWalk.generateGraph_root base mt root mp rootEntry rfl, ExtScan.generateGraph_map, ExtScan.scanRetained_eq,
    ExtScan.scanParsed_congr mt base root mp _ o o.forScanHyps rfl]
  cases hs : scanImports root (toSEntries (isExcluded mt o.exclusions) base entries) mp with
  | none =>
    have hc := convertAll_error H (hb.2 hs)
    unfold internalOf at hc
    rw [hc]
    rfl
  | some is =>
    have hc := convertAll_ok H fun f hf st hst ht => nomatch hs.symm.trans (hb.1 ⟨f, hf, st, hst, ht⟩)
    unfold internalOf at hc
    rw [hc]
    rfl

theorem scan_none (hwf : treeWFFor (isExcluded mt o.exclusions) base mp entries = true) (hmp : mpOK entries mp = true)
    (hroot : compWF root = true) (hext : o.externalExclusions.isEmpty = true)
    (hst : ∀ e ∈ entries, ∀ st ∈ e.stmts, stmtOK (toSStmt st) = true)
    (his : scanImports root (toSEntries (isExcluded mt o.exclusions) base entries) mp = none) :
    generateGraph mt base root mp entries o = .error .lookupError := by
  rw [gen_outcome (scanHyps_of_tree (o := o.forScanHyps) (root := root) hwf hmp hroot rfl rfl hext hst), his]
  rfl

section
variable (hwf : treeWFFor (isExcluded mt o.exclusions) base mp entries = true) (hmp : mpOK entries mp = true)
  (hroot : compWF root = true) (hxx : o.excludeExternal = true) (hlim : o.levelLimit = none)
  (hext : o.externalExclusions.isEmpty = true)
  (hst : ∀ e ∈ entries, ∀ st ∈ e.stmts, stmtOK (toSStmt st) = true)
include hwf hmp hroot hxx hlim hext hst

/-- C02 at graph level without walk hypotheses, and without the collision exception (`treeWFFor` forbids a
    relevant `x.py` next to `x/`) -/
theorem scan_some_imports (is : List (Name × Name))
    (his : scanImports root (toSEntries (isExcluded mt o.exclusions) base entries) mp = some is) :
    ∃ g, generateGraph mt base root mp entries o = .ok g ∧
      ∀ u v, (u, v) ∈ g.importPairs ↔ ∃ e ∈ is, u = render e.1 ∧ v = render e.2 := by
  obtain ⟨-, s, nm⟩ := tree_facts hwf
  have := ScanImports.scan_imports_some_nocollision (scanHyps_of_tree (root := root) hwf hmp hroot hxx hlim hext hst)
    (noFileParent_of_tree s nm root) is his
  rwa [generateGraph_root base mt root mp rootEntry rfl] at this

theorem scan_error_iff_none :
    generateGraph mt base root mp entries o = .error .lookupError ↔
      scanImports root (toSEntries (isExcluded mt o.exclusions) base entries) mp = none :=
  (Answers.of_cases (scan_none hwf hmp hroot hext hst) (scan_some_imports hwf hmp hroot hxx hlim hext hst)).error_iff

theorem scan_ok_imports (g : PGraph Str) (hg : generateGraph mt base root mp entries o = .ok g) :
    ∃ is, scanImports root (toSEntries (isExcluded mt o.exclusions) base entries) mp = some is ∧
      ∀ u v, (u, v) ∈ g.importPairs ↔ ∃ e ∈ is, u = render e.1 ∧ v = render e.2 :=
  (Answers.of_cases (scan_none hwf hmp hroot hext hst) (scan_some_imports hwf hmp hroot hxx hlim hext hst)).of_ok g hg

end

end

end ScanCompose
end Pta
