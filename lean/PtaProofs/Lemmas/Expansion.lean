/-
  PtaProofs.Lemmas.Expansion — lemmas behind Props/C11.lean: regex expansion (`convertFilters` of a single regex is
  the list of matching names), and batching (a rule with several subjects passes iff every single-subject rule passes),
  via the verdict of a finished rule as a conjunction over expanded subjects: every question about the subject has an
  answer (`Answered`, Lemmas/Answers.lean) and the answers meet the demands (`Holds`; `matchRule_cls_subj`,
  `verdictOf_ofBool_iff`, `verdictOf_pass_iff`). Also the finished rules on which `assert_applies` is the matcher
  (`front_finished`).
-/
import PtaProofs.Lemmas.QueryErr
import PtaProofs.Lemmas.DroppedAbsent
import PtaProofs.Lemmas.Pipeline
namespace Pta

/-- every regex filter of `fs` matches some module of `mods` (`allMatch_iff`) -/
def convOK (mt : Str → Str → Bool) (mods : List Str) (fs : List Filter) : Prop :=
  ∀ r ∈ fs, r.isRegex = true → ∃ m ∈ mods, mt r.id m = true

theorem conv_ne_nil (mt : Str → Str → Bool) (mods : List Str) (fs R : List Filter) (hne : fs ≠ [])
    (h : convertFilters mt mods fs = .ok R) : R ≠ [] := by
  obtain ⟨hok, rfl⟩ := (convertFilters_ok_iff ..).1 h
  exact expand_ne_nil mt mods fs hne hok

/-- what a passing rule demands of the answers about one (expanded) subject: what is required is there, what is
    forbidden is not -/
def Holds (g : PGraph Str) (b : Behavior) (d : Bool) (O : List Filter) (s : Filter) : Prop :=
  (b.explReq = true → ∀ o ∈ O, okD (pairQuery g d s o) ≠ []) ∧ (b.explForb = true → ∀ o ∈ O, okD (pairQuery g d s o) = []) ∧
  (b.otherReq = true → okD (otherQuery g d s O) ≠ []) ∧ (b.otherForb = true → okD (otherQuery g d s O) = [])

/-- no violation iff the demands hold for every subject (the objects of a finished rule are never empty) -/
theorem pass_answers (g : PGraph Str) (b : Behavior) (d : Bool) (S O : List Filter) (hO : O ≠ []) :
    (detect b d (answers g b d S O).1 (answers g b d S O).2 (O.map Filter.toMod)).any = false ↔ ∀ s ∈ S, Holds g b d O s := by
  have hO' : O.map Filter.toMod ≠ [] := by simpa using hO
  -- not `show`: the unifier would unfold both sides to see through `(answers …).1`
  simp only [answers, any_answers, abstractWithout_eq_nil, realised_eq_nil, missingOther_eq_nil, hO', false_or,
    forall_ansE g d S O (· ≠ []), forall_ansE g d S O (· = []), forall_ansO g d S O (· ≠ []), forall_ansO g d S O (· = []), Holds]
  exact ⟨fun ⟨h1, h2, h3, h4⟩ s hs => ⟨fun c => h1 c s hs, fun c => h2 c s hs, fun c => h3 c s hs, fun c => h4 c s hs⟩,
    fun h => ⟨fun c s hs => (h s hs).1 c, fun c s hs => (h s hs).2.1 c, fun c s hs => (h s hs).2.2.1 c, fun c s hs => (h s hs).2.2.2 c⟩⟩

theorem Err.runQueries_ok_of_nodes (g : PGraph Str) (b : Behavior) (d : Bool) (ss os : List Filter)
    (hn : ∀ f ∈ ss ++ os, g.hasNode f.id = true) : ∃ r, runQueries g b d ss os = .ok r :=
  (runQueries_lookup g b d ss os).isOk_iff.2 (answered_of_nodes b d hn)

/-- The configuration a finished chain of the fluent API leaves behind (`any`: one of the `anything` aliases, which set no
    objects) passes every check in front of the matcher, given a verb, no contradictory verbs, subjects and objects, and
    that the subjects the alias conversion removes exist. The queries are asked for the subjects and objects as
    `_convert_aliases` leaves them. -/
theorem front_finished (mt : Str → Str → Bool) (g : PGraph Str) (s o n dir exc any : Bool) (S O : List Filter)
    (hverb : (s || o || n) = true) (hinc : (Behavior.mk s o n (any || exc)).inconsistent = false)
    (hany : any = true → n = true) (hs : (if any = true then dedupSubjects S else S) ≠ [])
    (ho : any = true ∨ O ≠ []) (hda : any = true → droppedAbsentIn g S = false) :
    front mt g { subjects := some S, objects := if any then none else some O, should := s, shouldOnly := o,
                 shouldNot := n, exceptPresent := !any && exc, importDir := some dir, anything := any } =
      queries mt g ⟨s, o, n, any || exc⟩ dir (if any = true then dedupSubjects S else S)
        (if any = true then dedupSubjects S else O) := by
  cases any
  · have hs' : S ≠ [] := hs
    have ho' : O ≠ [] := ho.resolve_left Bool.false_ne_true
    exact front_of_gate rfl ((gate_ok_iff g _ _ _ _).2 ⟨by simp [configMissing, convertAliases, hverb, hs', ho'], rfl, hinc, rfl, rfl, rfl⟩)
  · cases hany rfl
    refine front_of_gate rfl ((gate_ok_iff g _ _ _ _).2 ⟨?_, ?_, hinc, rfl, rfl, rfl⟩)
    · simpa [configMissing, convertAliases, hverb] using hs
    · exact (droppedAbsent_convert g _ S rfl rfl).trans (hda rfl)

theorem convertFilters_names (mt : Str → Str → Bool) (mods l : List Str) :
    convertFilters mt mods (l.map Filter.name) = .ok (l.map Filter.name) :=
  convertFilters_noregex mt mods _ fun f hf => by obtain ⟨_, _, rfl⟩ := List.mem_map.1 hf; rfl

theorem convertFilters_regex (mt : Str → Str → Bool) (mods : List Str) (hnd : mods.Nodup) (p : Str)
    (hm : ∃ m ∈ mods, mt p m = true) :
    convertFilters mt mods [.regex p] = .ok ((mods.filter (mt p)).map Filter.name) := by
  unfold convertFilters
  have h1 : mods.any (mt p) = true := by simpa using hm
  simp only [List.filter, Filter.isRegex, List.any_cons, List.any_nil, Filter.id, Bool.or_false, h1,
    Bool.not_true, Bool.false_eq_true, if_false, List.append_nil]
  congr 1
  apply dedup_of_nodup
  refine List.Pairwise.map _ ?_ (List.Pairwise.filter _ hnd)
  intro a b hab h; cases h; exact hab rfl

theorem matchRule_congr (mt : Str → Str → Bool) (g : PGraph Str) (b : Behavior) (d : Bool)
    (ss ss' os os' : List Filter) (h : convertFilters mt g.nodes ss = convertFilters mt g.nodes ss')
    (h' : convertFilters mt g.nodes os = convertFilters mt g.nodes os') :
    matchRule mt g b d ss os = matchRule mt g b d ss' os' := by
  unfold matchRule; rw [h, h']

theorem names_isEmpty_of_match (mt : Str → Str → Bool) (mods : List Str) (p : Str) (hm : ∃ m ∈ mods, mt p m = true) :
    ((mods.filter (mt p)).map Filter.name).isEmpty = false := by
  obtain ⟨m, hm, hp⟩ := hm
  cases h : (mods.filter (mt p)).map Filter.name with
  | nil =>
    have : m ∈ mods.filter (mt p) := List.mem_filter.2 ⟨hm, hp⟩
    simp at h
    exact absurd hp (by simpa using h m hm)
  | cons a l => rfl

theorem assertApplies_mkRule_congr (mt : Str → Str → Bool) (g : PGraph Str) (s o n dir exc : Bool)
    (subs subs' objs objs' : List Filter) (hs : convertFilters mt g.nodes subs = convertFilters mt g.nodes subs')
    (ho : convertFilters mt g.nodes objs = convertFilters mt g.nodes objs')
    (es : subs.isEmpty = subs'.isEmpty) (eo : objs.isEmpty = objs'.isEmpty) :
    (assertApplies mt (mkRule s o n dir exc subs objs) g).2 = (assertApplies mt (mkRule s o n dir exc subs' objs') g).2 := by
  rw [assertApplies_mkRule, assertApplies_mkRule, es, eo, matchRule_congr mt g _ dir _ _ _ _ hs ho]

theorem matchRule_cls_subj (mt : Str → Str → Bool) (g : PGraph Str) (b : Behavior) (ir : Bool)
    (A B : List Filter) (hB : B ≠ []) (p : Bool) :
    (matchRule mt g b ir A B).cls = .ofBool p ↔
      allMatch mt g.nodes A = true ∧ allMatch mt g.nodes B = true ∧
      (∀ s ∈ expand mt g.nodes A, Answered g b ir (expand mt g.nodes B) s) ∧
      ((∀ s ∈ expand mt g.nodes A, Holds g b ir (expand mt g.nodes B) s) ↔ p = true) := by
  rw [matchRule_queries]
  cases h : queries mt g b ir A B with
  | error k =>
    refine iff_of_false (Alg.err_ne_ofBool k p) fun ⟨hA, hB', ha, _⟩ => ?_
    cases ((queries_ok_fn ..).2 ⟨hA, hB', ha, rfl⟩).symm.trans h
  | ok x =>
    obtain ⟨hA, hB', ha, rfl⟩ := (queries_ok_fn ..).1 h
    rw [← pass_answers g b ir _ _ (expand_ne_nil mt g.nodes B hB hB')]
    show (Verdict.ofRes (Front.outcome Front.violations Front.items _)).cls = _ ↔ _
    rw [Front.outcome_plain, Alg.ofRes_ite_ofBool]
    exact ⟨fun h => ⟨hA, hB', ha, h⟩, fun h => h.2.2.2⟩

/-- `p`: the rule passes; otherwise it fails. Either way no query raises -/
theorem verdictOf_ofBool_iff (mt : Str → Str → Bool) (g : PGraph Str) (s o n d e : Bool) (A B : List Filter) (p : Bool) :
    verdictOf mt g (mkRule s o n d e A B) = .ofBool p ↔
      (s || o || n) = true ∧ A ≠ [] ∧ B ≠ [] ∧ (⟨s, o, n, e⟩ : Behavior).inconsistent = false ∧
      allMatch mt g.nodes A = true ∧ allMatch mt g.nodes B = true ∧
      (∀ x ∈ expand mt g.nodes A, Answered g ⟨s, o, n, e⟩ d (expand mt g.nodes B) x) ∧
      ((∀ x ∈ expand mt g.nodes A, Holds g ⟨s, o, n, e⟩ d (expand mt g.nodes B) x) ↔ p = true) :=
  (Alg.verdictOf_ofBool mt g s o n d e A B p).trans <| and_congr_right fun _ => and_congr_right fun _ =>
    and_congr_right fun hB => and_congr_right fun _ => matchRule_cls_subj mt g _ d A B hB p

theorem verdictOf_pass_iff (mt : Str → Str → Bool) (g : PGraph Str) (s o n d e : Bool) (A B : List Filter) :
    verdictOf mt g (mkRule s o n d e A B) = .pass ↔
      (s || o || n) = true ∧ A ≠ [] ∧ B ≠ [] ∧ (⟨s, o, n, e⟩ : Behavior).inconsistent = false ∧
      allMatch mt g.nodes A = true ∧ allMatch mt g.nodes B = true ∧
      ∀ x ∈ expand mt g.nodes A, Answered g ⟨s, o, n, e⟩ d (expand mt g.nodes B) x ∧ Holds g ⟨s, o, n, e⟩ d (expand mt g.nodes B) x :=
  (verdictOf_ofBool_iff mt g s o n d e A B true).trans <| and_congr_right fun _ => and_congr_right fun _ =>
    and_congr_right fun _ => and_congr_right fun _ => and_congr_right fun _ => and_congr_right fun _ =>
      ⟨fun ⟨ha, hh⟩ x hx => ⟨ha x hx, hh.2 rfl x hx⟩, fun h => ⟨fun x hx => (h x hx).1, fun _ => rfl, fun _ x hx => (h x hx).2⟩⟩

end Pta
