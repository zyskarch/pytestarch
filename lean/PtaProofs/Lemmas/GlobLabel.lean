/-
  PtaProofs.Lemmas.GlobLabel — lemmas behind Props/C08.lean (glob conversion) and Props/C17.lean (plot labels).
-/
import Bridge.Abs
import PtaProofs.Lemmas.Render
namespace Pta
open PtaSpec

/-! ## Glob conversion -/

theorem reSpecial_backslash : reSpecial '\\' = true := by decide +kernel
theorem reSpecial_dot : reSpecial '.' = true := by decide +kernel

theorem unescape_special (c : Char) (cs : Str) (h : reSpecial c = true) :
    unescape ('\\' :: c :: cs) = (unescape cs).map (c :: ·) := by
  rw [unescape]; simp [h]

theorem unescape_plain (c : Char) (cs : Str) (h : reSpecial c = false) :
    unescape (c :: cs) = (unescape cs).map (c :: ·) := by
  have hc : c ≠ '\\' := by
    rintro rfl
    rw [reSpecial_backslash] at h
    cases h
  rw [unescape]
  · simp [h]
  · intro c' cs' heq _
    exact hc heq

theorem unescape_escape_lemma (s : Str) : unescape (reEscape s) = some s := by
  induction s with
  | nil => simp [reEscape, unescape]
  | cons c cs ih =>
    cases h : reSpecial c with
    | true => simp [reEscape, h, unescape_special c _ h, ih]
    | false => simp [reEscape, h, unescape_plain c _ h, ih]

/-- the tail reader of `parseEmitted`, once the optional leading `.*` has been consumed -/
def parseTail (anyStart : Bool) (rest : Str) : Option Emitted :=
  match rest.reverse with
  | '*' :: '.' :: body => (unescape body.reverse).map fun lit => ⟨anyStart, lit, true⟩
  | '$' :: body => (unescape body.reverse).map fun lit => ⟨anyStart, lit, false⟩
  | _ => none

theorem parseEmitted_dotstar (r : Str) : parseEmitted ('.' :: '*' :: r) = parseTail true r := rfl

theorem parseEmitted_plain (r : Str) (h : ∀ r', r ≠ '.' :: '*' :: r') :
    parseEmitted r = parseTail false r := by
  unfold parseEmitted
  split
  · rename_i p r' heq
    split at heq
    · rename_i r''
      exact absurd rfl (h r'')
    · cases heq
      rfl

theorem parseTail_dotstar (b : Bool) (e : Str) :
    parseTail b (e ++ ['.', '*']) = (unescape e).map fun lit => ⟨b, lit, true⟩ := by
  simp [parseTail]

theorem parseTail_dollar (b : Bool) (e : Str) :
    parseTail b (e ++ ['$']) = (unescape e).map fun lit => ⟨b, lit, false⟩ := by
  simp [parseTail]

/-- an escaped non-empty literal never starts with an unescaped dot -/
theorem reEscape_cons_head (c : Char) (cs : Str) :
    ∃ d r, reEscape (c :: cs) = d :: r ∧ d ≠ '.' := by
  cases h : reSpecial c with
  | true => exact ⟨'\\', c :: reEscape cs, by simp [reEscape, h], by decide⟩
  | false =>
    refine ⟨c, reEscape cs, by simp [reEscape, h], ?_⟩
    rintro rfl
    rw [reSpecial_dot] at h
    cases h

theorem reEscape_append_not_dotstar (s suffix : Str) (h : s ≠ [] ∨ suffix = ['$']) :
    ∀ r', reEscape s ++ suffix ≠ '.' :: '*' :: r' := by
  intro r' heq
  cases s with
  | nil =>
    rcases h with h | h
    · exact h rfl
    · subst h
      have heq' : ['$'] = '.' :: '*' :: r' := heq
      injection heq' with h1 _
      exact absurd h1 (by decide)
  | cons c cs =>
    obtain ⟨d, r, hd, hne⟩ := reEscape_cons_head c cs
    rw [hd] at heq
    simp only [List.cons_append] at heq
    injection heq with h1 _
    exact hne h1

theorem pySlice_zero_length (p : Str) : pySlice p 0 p.length = p := by
  simp [pySlice]

theorem inner_ne_nil_of_end_only (p : Str) (h1 : startsWith ['*'] p = false) (h2 : endsWith ['*'] p = true) :
    pySlice p 0 (p.length - 1) ≠ [] := by
  obtain ⟨q, rfl⟩ := (endsWith_star p).1 h2
  cases q with
  | nil => simp [startsWith] at h1
  | cons c q => simp [pySlice]

/-- the literal the converter cuts out of the pattern -/
def globInner (p : Str) : Str :=
  pySlice p (if startsWith ['*'] p then 1 else 0) (if endsWith ['*'] p then p.length - 1 else p.length)

theorem convert_shape_lemma (p : Str) :
    parseEmitted (convertPartialMatch p) = some ⟨startsWith ['*'] p, globInner p, endsWith ['*'] p⟩ := by
  unfold convertPartialMatch globInner
  cases h1 : startsWith ['*'] p <;> cases h2 : endsWith ['*'] p
  · -- no star at all
    simp only [Bool.false_eq_true, if_false]
    rw [parseEmitted_plain _ (reEscape_append_not_dotstar _ _ (Or.inr rfl)), parseTail_dollar,
      unescape_escape_lemma]
    rfl
  · -- trailing star only
    simp only [Bool.false_eq_true, if_false, if_true]
    rw [parseEmitted_plain _ (reEscape_append_not_dotstar _ _ (Or.inl (inner_ne_nil_of_end_only p h1 h2))),
      parseTail_dotstar, unescape_escape_lemma]
    rfl
  · -- leading star only
    simp only [Bool.false_eq_true, if_false, if_true]
    rw [List.cons_append, List.cons_append, parseEmitted_dotstar, parseTail_dollar, unescape_escape_lemma]
    rfl
  · simp only [if_true]
    rw [List.cons_append, List.cons_append, parseEmitted_dotstar, parseTail_dotstar, unescape_escape_lemma]
    rfl

theorem glob_spec_lemma (p s : Str) : matchEmitted (convertPartialMatch p) s = some (globSpec p s) := by
  unfold matchEmitted
  rw [convert_shape_lemma, Option.map_some]
  rfl

theorem mem_sortByLenDesc (z : Str) (l : List Str) : z ∈ sortByLenDesc l ↔ z ∈ l :=
  mem_sortBy _ z l

theorem pairwise_sortByLenDesc (l : List Str) :
    (sortByLenDesc l).Pairwise fun a b => a.length ≥ b.length := by
  have := pairwise_sortBy (fun a b : Str => decide (a.length ≥ b.length))
    (by intro a b h; simp at h ⊢; omega)
    (by intro a b c h1 h2; simp at h1 h2 ⊢; omega) l
  simpa [sortByLenDesc] using this

/-- in a list sorted by decreasing length, `find?` returns the strictly longest element with the property -/
theorem find?_sorted_max (P : Str → Bool) (x : Str) (l : List Str)
    (hs : l.Pairwise fun a b => a.length ≥ b.length) (hx : x ∈ l) (hP : P x = true)
    (hmax : ∀ y ∈ l, P y = true → y = x ∨ y.length < x.length) :
    l.find? P = some x := by
  induction l with
  | nil => cases hx
  | cons a l ih =>
    rw [List.pairwise_cons] at hs
    cases hPa : P a with
    | true =>
      simp only [List.find?_cons, hPa]
      rcases hmax a (by simp) hPa with h | h
      · rw [h]
      · rcases List.mem_cons.1 hx with rfl | hx'
        · omega
        · have := hs.1 x hx'
          omega
    | false =>
      simp only [List.find?_cons, hPa]
      rcases List.mem_cons.1 hx with rfl | hx'
      · rw [hP] at hPa; cases hPa
      · exact ih hs.2 hx' (fun y hy => hmax y (List.mem_cons_of_mem _ hy))

/-! ## Plot labels -/

/-- the step function of `nearestAliased` -/
def nearestStep (best : Option (Name × List Char)) (a : Name × List Char) : Option (Name × List Char) :=
  match best with
  | none => some a
  | some b => if a.1.length > b.1.length then some a else some b

theorem nearestAliased_eq (al : Aliases) (n : Name) :
    nearestAliased al n = (al.filter fun a => desc a.1 n).foldl nearestStep none := rfl

theorem nearest_fold_some (b0 : Name × List Char) (F : List (Name × List Char)) :
    ∃ b ∈ b0 :: F, F.foldl nearestStep (some b0) = some b ∧ ∀ a ∈ b0 :: F, a.1.length ≤ b.1.length := by
  induction F generalizing b0 with
  | nil => exact ⟨b0, List.mem_singleton.2 rfl, rfl, fun a ha => Nat.le_of_eq (by rw [List.mem_singleton.1 ha])⟩
  | cons a F ih =>
    simp only [List.foldl_cons, nearestStep]
    split
    · rename_i hgt
      obtain ⟨b, hmem, hb, hall⟩ := ih a
      refine ⟨b, List.mem_cons_of_mem _ hmem, hb, List.forall_mem_cons.2 ⟨?_, hall⟩⟩
      exact Nat.le_trans (Nat.le_of_lt hgt) (hall a List.mem_cons_self)
    · rename_i hgt
      obtain ⟨b, hmem, hb, hall⟩ := ih b0
      rw [List.forall_mem_cons] at hall
      refine ⟨b, ?_, hb, List.forall_mem_cons.2 ⟨hall.1, List.forall_mem_cons.2 ⟨?_, hall.2⟩⟩⟩
      · exact (List.mem_cons.1 hmem).elim (fun e => e ▸ List.mem_cons_self) fun h =>
          List.mem_cons_of_mem _ (List.mem_cons_of_mem _ h)
      · exact Nat.le_trans (Nat.le_of_not_lt hgt) hall.1

theorem nearestAliased_spec (al : Aliases) (n : Name) :
    (nearestAliased al n = none ∧ ∀ a ∈ al, desc a.1 n = false) ∨
    (∃ b, nearestAliased al n = some b ∧ b ∈ al ∧ desc b.1 n = true ∧
      ∀ a ∈ al, desc a.1 n = true → a.1.length ≤ b.1.length) := by
  rw [nearestAliased_eq]
  cases hF : al.filter (fun a => desc a.1 n) with
  | nil => exact .inl ⟨rfl, fun a ha => by simpa using List.filter_eq_nil_iff.1 hF a ha⟩
  | cons a F =>
    obtain ⟨b, hmem, hb, hall⟩ := nearest_fold_some a F
    rw [← hF] at hmem hall
    have hbF := List.mem_filter.1 hmem
    exact .inr ⟨b, hb, hbF.1, hbF.2, fun a' ha' hd => hall a' (List.mem_filter.2 ⟨ha', hd⟩)⟩

theorem find_alias_render (al : Aliases) (m : Name) (alias : List Char)
    (hwf : ∀ a ∈ al, nameWF a.1 = true) (hk : (al.map (·.1)).Nodup) (hm : (m, alias) ∈ al) :
    (al.map fun a => (render a.1, a.2)).find? (·.1 == render m) = some (render m, alias) := by
  refine find?_key_of_nodup _ ?_ (render m, alias) (List.mem_map.2 ⟨_, hm, rfl⟩)
  -- rendering is injective on well-formed names, so the rendered keys are distinct as well
  rw [List.map_map]
  exact List.pairwise_map.2 ((List.pairwise_map.1 hk).imp_of_mem fun ha hb hne e =>
    hne (render_injective _ _ (hwf _ ha) (hwf _ hb) e))

/-- one label: the code's `_create_label` on rendered data is the documented label -/
theorem createLabel_render (al : Aliases) (n : Name)
    (hwf : ∀ a ∈ al, nameWF a.1 = true) (hk : (al.map (·.1)).Nodup) (hn : nameWF n = true) :
    createLabel (sortByLenDesc ((al.map fun a => (render a.1, a.2)).map (·.1)))
      (al.map fun a => (render a.1, a.2)) (render n) = PtaSpec.label al n := by
  have hkeys : (al.map fun a => (render a.1, a.2)).map (·.1) = al.map fun a => render a.1 := by
    simp [List.map_map, Function.comp_def]
  rw [hkeys]
  have hmemS : ∀ y, y ∈ sortByLenDesc (al.map fun a => render a.1) ↔ ∃ a ∈ al, render a.1 = y := by
    intro y
    rw [mem_sortByLenDesc, List.mem_map]
  unfold createLabel PtaSpec.label
  rcases nearestAliased_spec al n with ⟨hnone, hall⟩ | ⟨⟨m, alias⟩, hsome, hmem, hdesc, hmax⟩
  · -- no aliased ancestor
    have hfind : (sortByLenDesc (al.map fun a => render a.1)).find? (fun m => isModuleOrSub m (render n)) = none := by
      rw [List.find?_eq_none]
      intro y hy
      obtain ⟨a, ha, rfl⟩ := (hmemS y).1 hy
      rw [isModuleOrSub_render _ _ (hwf a ha) hn, hall a ha]
      simp
    rw [hfind, hnone]
    exact (joinDotsS_eq n).symm
  · -- nearest aliased ancestor `m`
    have hmwf : nameWF m = true := hwf _ hmem
    have hdesc' : m <+: n := List.isPrefixOf_iff_prefix.1 hdesc
    have hfind : (sortByLenDesc (al.map fun a => render a.1)).find? (fun m => isModuleOrSub m (render n))
        = some (render m) := by
      apply find?_sorted_max _ _ _ (pairwise_sortByLenDesc _)
      · exact (hmemS _).2 ⟨(m, alias), hmem, rfl⟩
      · rw [isModuleOrSub_render _ _ hmwf hn]; exact hdesc
      · intro y hy hPy
        obtain ⟨a, ha, rfl⟩ := (hmemS y).1 hy
        rw [isModuleOrSub_render _ _ (hwf a ha) hn] at hPy
        have hle := hmax a ha hPy
        have hpre : a.1 <+: m :=
          List.prefix_of_prefix_length_le (List.isPrefixOf_iff_prefix.1 hPy) hdesc' hle
        obtain ⟨t, ht⟩ := hpre
        cases t with
        | nil => left; rw [← ht]; simp
        | cons c t =>
          right
          rw [← ht]
          rw [render_append a.1 (c :: t) (nameWF_ne_nil (hwf a ha)) (by simp)]; simp
    rw [hfind, hsome]
    simp only [find_alias_render al m alias hwf hk hmem]
    obtain ⟨rest, hrest⟩ := hdesc'
    have hdrop : n.drop m.length = rest := by rw [← hrest, List.drop_left]
    rw [hdrop]
    cases rest with
    | nil =>
      have : n = m := by rw [← hrest]; simp
      subst this
      simp
    | cons c t =>
      rw [← hrest, render_append m (c :: t) (nameWF_ne_nil hmwf) (by simp), List.drop_left, joinDotsS_eq]
      simp [render]

/-- `plotLabels` as a guard and a function: every alias names a node and every node gets its label, or the first alias that
    names no node is reported -/
theorem plotLabels_cases (nodes : List Str) (aliases : List (Str × Str)) :
    ((∀ a ∈ aliases, a.1 ∈ nodes) ∧ plotLabels nodes aliases =
      .ok (nodes.map fun n => (n, createLabel (sortByLenDesc (aliases.map (·.1))) aliases n))) ∨
    ∃ a ∈ aliases, a.1 ∉ nodes ∧ plotLabels nodes aliases = .error (.lookupError, a.1) := by
  unfold plotLabels
  cases hf : aliases.find? (fun a => !nodes.contains a.1) with
  | none => exact .inl ⟨fun a ha => by simpa using List.find?_eq_none.1 hf a ha, rfl⟩
  | some a => exact .inr ⟨a, List.mem_of_find?_eq_some hf, by simpa using List.find?_some hf, rfl⟩

theorem labels_spec_lemma (nodes : List Name) (al : Aliases)
    (hn : ∀ n ∈ nodes, nameWF n = true) (hk : (al.map (·.1)).Nodup) (hex : ∀ a ∈ al, a.1 ∈ nodes) :
    plotLabels (nodes.map render) (al.map fun a => (render a.1, a.2)) =
      .ok (nodes.map fun n => (render n, PtaSpec.label al n)) := by
  have hwf : ∀ a ∈ al, nameWF a.1 = true := fun a ha => hn _ (hex a ha)
  rcases plotLabels_cases (nodes.map render) (al.map fun a => (render a.1, a.2)) with ⟨_, e⟩ | ⟨y, hy, hn, _⟩
  case inr =>
    obtain ⟨a, ha, rfl⟩ := List.mem_map.1 hy
    exact absurd (List.mem_map_of_mem (hex a ha)) hn
  rw [e]
  have hmm : ∀ f : Str → Str × Str, (nodes.map render).map f = nodes.map (f ∘ render) :=
    fun f => List.map_map
  simp only [hmm]
  congr 1
  apply List.map_congr_left
  intro n hnn
  simp only [Function.comp_def]
  rw [createLabel_render al n hwf hk (hn n hnn)]

end Pta
