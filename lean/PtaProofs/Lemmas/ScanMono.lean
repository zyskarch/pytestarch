/-
  PtaProofs.Lemmas.ScanMono — lemmas behind PtaProofs/Props/C12Scan.lean (monotonicity of rule verdicts under an added
  import STATEMENT). A graph with the same modules, the same hierarchy and more imports (`GraphLe`) is, for the queries,
  the smaller one with import edges added (`graphEquiv_of_le`), so the single-edge laws of C12 carry over by induction
  over the added edges (`VerdictMono`). Trees that differ by added statements (`MoreStmts`) have the same paths and
  kinds, `scanImports` is monotone in the statement lists (an instance of `ScanSim.sim_none` / `sim_mem`), and the
  quotients of architectures with the same modules and more imports are `GraphLe` (`graphLe_of_quotient`).
-/
import Bridge.ScanMono
import PtaProofs.Lemmas.E2ERule
import PtaProofs.Lemmas.ScanSim
import PtaProofs.Lemmas.RuleAlgebra
import PtaProofs.Lemmas.RuleErrors
import PtaProofs.Lemmas.OrderCongr
namespace Pta.ScanMono
open PtaSpec

theorem addImportEdges_eq (ps : List (Str × Str)) : ∀ g : PGraph Str,
    addImportEdges g ps = { g with edges := g.edges ++ ps.map fun p => ⟨p.1, p.2, false⟩ } := by
  induction ps with
  | nil => intro g; simp [addImportEdges]
  | cons p ps ih =>
    intro g
    have := ih (addImportEdge g p.1 p.2)
    simp only [addImportEdges, List.foldl_cons] at this ⊢
    rw [this]
    simp [addImportEdge, List.append_assoc]

theorem addImportEdges_nodes (g : PGraph Str) (ps : List (Str × Str)) : (addImportEdges g ps).nodes = g.nodes := by
  rw [addImportEdges_eq]

theorem mem_edges_addImportEdges (g : PGraph Str) (ps : List (Str × Str)) (x : Edge Str) :
    x ∈ (addImportEdges g ps).edges ↔ x ∈ g.edges ∨ (x.inh = false ∧ (x.src, x.dst) ∈ ps) := by
  rw [addImportEdges_eq]
  simp only [List.mem_append, List.mem_map]
  constructor
  · rintro (h | ⟨p, hp, rfl⟩)
    · exact .inl h
    · exact .inr ⟨rfl, hp⟩
  · rintro (h | ⟨h1, h2⟩)
    · exact .inl h
    · refine .inr ⟨_, h2, ?_⟩
      cases x; simp_all

/-- a graph with the modules and hierarchy of `g` and more imports is, as far as the queries can tell, `g` with the
    import pairs of the larger graph added -/
theorem graphEquiv_of_le (g g' : PGraph Str) (h : GraphLe g g') : GraphEquiv (addImportEdges g g'.importPairs) g' := by
  have hs : ∀ s x, x ∈ (addImportEdges g g'.importPairs).importSuccs s ↔ x ∈ g'.importSuccs s := by
    intro s x
    rw [BuildGen.mem_importSuccs, mem_edges_addImportEdges, ← BuildGen.mem_importSuccs, BuildGen.mem_importPairs,
      ← BuildGen.mem_importSuccs]
    exact ⟨fun h12 => h12.elim (h.succs s x) (·.2), fun h2 => .inr ⟨rfl, h2⟩⟩
  refine ⟨fun s => by rw [addImportEdges_nodes]; exact h.nodes s, fun s x => ?_, hs,
    fun s x => by rw [mem_importPreds_iff, mem_importPreds_iff]; exact hs x s⟩
  rw [BuildGen.mem_hierChildren, mem_edges_addImportEdges, ← BuildGen.mem_hierChildren, h.hier]
  simp

section
variable (mt : Str → Str → Bool) (A B : List Filter) (dir exc : Bool)

/-- the three laws of more imports, from `g` to `g'`: a passing `should` keeps passing, a failing `should_not` keeps
    failing, an error stays the same error -/
def VerdictMono (g g' : PGraph Str) : Prop :=
  (verdictOf mt g (mkRule true false false dir exc A B) = .pass →
    verdictOf mt g' (mkRule true false false dir exc A B) = .pass) ∧
  (verdictOf mt g (mkRule false false true dir exc A B) = .fail →
    verdictOf mt g' (mkRule false false true dir exc A B) = .fail) ∧
  ∀ neg k, verdictOf mt g' (mkRule (!neg) false neg dir exc A B) = .err k ↔
    verdictOf mt g (mkRule (!neg) false neg dir exc A B) = .err k

/-- for a list of added import edges, no condition on the pairs -/
theorem verdict_mono_edges (ps : List (Str × Str)) (g : PGraph Str) :
    VerdictMono mt A B dir exc g (addImportEdges g ps) := by
  induction ps generalizing g with
  | nil => exact ⟨id, id, fun _ _ => Iff.rfl⟩
  | cons p ps ih =>
    obtain ⟨h1, h2, h3⟩ := ih (addImportEdge g p.1 p.2)
    exact ⟨h1 ∘ monotone_should_add mt g p.1 p.2 A B dir exc, h2 ∘ monotone_should_not_add mt g p.1 p.2 A B dir exc,
      fun neg k => (h3 neg k).trans (monotone_err_lemma mt g p.1 p.2 A B (!neg) false neg dir exc
        (by cases neg <;> rfl) (by cases neg <;> cases exc <;> rfl) k)⟩

theorem verdict_mono_of_le (g g' : PGraph Str) (h : GraphLe g g') : VerdictMono mt A B dir exc g g' := by
  unfold VerdictMono
  simp only [← Ord.verdict_congr mt _ g' (graphEquiv_of_le g g' h)]
  exact verdict_mono_edges mt A B dir exc _ g

end

theorem graphLe_of_quotient (a a' : Arch) (lim : Option Nat) (g g' : PGraph Str)
    (hn : a.nodes = a'.nodes) (hi : ∀ e ∈ a.imports, e ∈ a'.imports)
    (hg : QuotientOf a lim g) (hg' : QuotientOf a' lim g') : GraphLe g g' := by
  refine ⟨fun s => ?_, fun s x => ?_, fun s x h => ?_, fun s x h => ?_⟩
  · rw [← BuildGen.hasNode_iff, ← BuildGen.hasNode_iff, hg.nodes, hg'.nodes, hn]
  · rw [hg.hier, hg'.hier, hn]
  · obtain ⟨e, he, r⟩ := (hg.succs s x).1 h
    exact (hg'.succs s x).2 ⟨e, hi e he, r⟩
  · obtain ⟨e, he, r⟩ := (hg.preds s x).1 h
    exact (hg'.preds s x).2 ⟨e, hi e he, r⟩

theorem moreStmts_skel {es es' : List Entry} (h : MoreStmts es es') : es.map ScanSim.skel = es'.map ScanSim.skel := by
  induction h with
  | nil => rfl
  | cons h1 _ ih => simp only [List.map_cons, ih, ScanSim.skel, h1.rel, h1.isDir]

theorem moreStmts_mem {es es' : List Entry} (h : MoreStmts es es') : ∀ e ∈ es, ∃ e' ∈ es', e.MoreStmts e' := by
  induction h with
  | nil => intro e he; cases he
  | cons h1 _ ih =>
    intro x hx
    rcases List.mem_cons.1 hx with rfl | hx
    · exact ⟨_, List.mem_cons_self, h1⟩
    · obtain ⟨x', hx', hm⟩ := ih x hx
      exact ⟨x', List.mem_cons_of_mem _ hx', hm⟩

theorem moreStmts_stmtOK {es es' : List Entry} (h : MoreStmts es es')
    (hst : ∀ e ∈ es', ∀ st ∈ e.stmts, stmtOK (toSStmt st) = true) :
    ∀ e ∈ es, ∀ st ∈ e.stmts, stmtOK (toSStmt st) = true := by
  intro e he st hs
  obtain ⟨e', he', hm⟩ := moreStmts_mem h e he
  exact hst e' he' st (hm.stmts st hs)

theorem moreStmts_refl (es : List Entry) : MoreStmts es es := by
  induction es with
  | nil => exact .nil
  | cons e es ih => exact .cons ⟨rfl, rfl, fun _ h => h⟩ ih

theorem insertStmt_more (e : Entry) (k : Nat) (st : ImportStmt) : e.MoreStmts (e.insertStmt k st) := by
  refine ⟨rfl, rfl, fun x hx => ?_⟩
  show x ∈ e.stmts.take k ++ st :: e.stmts.drop k
  rw [← List.take_append_drop k e.stmts] at hx
  rcases List.mem_append.1 hx with h | h
  · exact List.mem_append_left _ h
  · exact List.mem_append_right _ (List.mem_cons_of_mem _ h)

section
variable {es es' : List Entry} (h : MoreStmts es es') (excl : Str → Bool) (base : Str)
include h

theorem sim_more (root : Comp) (mp : List Comp) :
    ScanSim.Sim root (toSEntries excl base es) mp (toSEntries excl base es') mp (fun _ => True) (fun _ => True) := by
  intro f hf _
  obtain ⟨e, he, hd, hsv, rfl⟩ := (ScanSim.mem_filesOf_tree f).1 hf
  obtain ⟨e', he', hm⟩ := moreStmts_mem h e he
  refine ⟨_, (ScanSim.mem_filesOf_tree _).2
    ⟨e', he', hm.isDir ▸ hd, ScanSim.survives_same (moreStmts_skel h) excl base mp hm.rel.symm hm.isDir.symm ▸ hsv, rfl⟩, ?_,
    fun st hst => ⟨st, ?_, id, fun t _ _ ht => (ScanSim.insideOf_same (moreStmts_skel h) excl base root mp).symm ▸ ht⟩⟩
  · exact ScanNames.relName_congr root hm.rel.symm
  · obtain ⟨x, hx, rfl⟩ := List.mem_map.1 hst
    exact List.mem_map.2 ⟨x, hm.stmts x hx, rfl⟩

theorem scanImports_more (root : Comp) (mp : List Comp) (is' : List (Name × Name))
    (h2 : scanImports root (toSEntries excl base es') mp = some is') :
    ∃ is, scanImports root (toSEntries excl base es) mp = some is ∧ ∀ e ∈ is, e ∈ is' := by
  cases his : scanImports root (toSEntries excl base es) mp with
  | none => rw [ScanSim.sim_none (sim_more h excl base root mp) (fun _ => trivial) his] at h2; cases h2
  | some is =>
    exact ⟨is, rfl, fun e he => ScanSim.sim_mem (sim_more h excl base root mp)
      (fun t ht _ => (ScanSim.insideOf_same (moreStmts_skel h) excl base root mp).symm ▸ ht) his h2 e he trivial trivial⟩

end

theorem mem_addStmtAt {es : List Entry} {i k : Nat} {st : ImportStmt} {x : Entry} (hx : x ∈ addStmtAt es i k st) :
    x ∈ es ∨ ∃ e, es[i]? = some e ∧ x = e.insertStmt k st := by
  induction es generalizing i with
  | nil => cases hx
  | cons e es ih =>
    cases i with
    | zero =>
      rcases List.mem_cons.1 hx with rfl | hx
      · exact .inr ⟨e, rfl, rfl⟩
      · exact .inl (List.mem_cons_of_mem _ hx)
    | succ i =>
      rcases List.mem_cons.1 hx with rfl | hx
      · exact .inl List.mem_cons_self
      · exact (ih hx).imp (List.mem_cons_of_mem _) id

theorem insertStmt_mem {es : List Entry} {i : Nat} {e : Entry} (k : Nat) (st : ImportStmt) (hi : es[i]? = some e) :
    e.insertStmt k st ∈ addStmtAt es i k st := by
  induction es generalizing i with
  | nil => simp at hi
  | cons x xs ih =>
    cases i with
    | zero =>
      simp only [List.getElem?_cons_zero, Option.some.injEq] at hi
      subst hi
      exact List.mem_cons_self
    | succ i => exact List.mem_cons_of_mem _ (ih (by simpa using hi))

theorem mem_insertStmt {e : Entry} {k : Nat} {st s : ImportStmt} (hs : s ∈ (e.insertStmt k st).stmts) :
    s ∈ e.stmts ∨ s = st := by
  rcases List.mem_append.1 hs with hs | hs
  · exact .inl (List.mem_of_mem_take hs)
  · exact (List.mem_cons.1 hs).symm.imp List.mem_of_mem_drop id

theorem addStmtAt_stmtOK (entries : List Entry) (i k : Nat) (st : ImportStmt)
    (hst : ∀ e ∈ entries, ∀ s ∈ e.stmts, stmtOK (toSStmt s) = true) (hnew : stmtOK (toSStmt st) = true) :
    ∀ x ∈ addStmtAt entries i k st, ∀ s ∈ x.stmts, stmtOK (toSStmt s) = true := by
  intro x hx s hs
  rcases mem_addStmtAt hx with h | ⟨e, hi, rfl⟩
  · exact hst x h s hs
  · rcases mem_insertStmt hs with h | rfl
    · exact hst e (List.mem_of_getElem? hi) s h
    · exact hnew

end Pta.ScanMono
