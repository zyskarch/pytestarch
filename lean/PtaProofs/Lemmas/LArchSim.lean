/-
  PtaProofs.Lemmas.LArchSim — the LayeredArchitecture builder: canonical shape of reachable states, the
  builder step on that shape, refinement of the specification automaton and the reachable-state invariant.
-/
import Bridge.Abs
import Bridge.BuilderCalls
namespace Pta.Hist
open PtaSpec

/-- the pending layer, if any, as an architecture fragment -/
def otoL (o : Option Str) : LArch := match o with | some n => [(n, [])] | none => []

/-- reachable architectures: finished layers (all non-empty) followed by the optional pending layer -/
structure Shape (a c : LArch) (o : Option Str) : Prop where
  eq : a = c ++ otoL o
  ne : ∀ l ∈ c, l.2 ≠ []
  nodup : (a.map (·.1)).Nodup

theorem pending_append (a b : LArch) : LArch.pending (a ++ b) = LArch.pending a ++ LArch.pending b := by
  simp [LArch.pending]

theorem pending_closed (c : LArch) (h : ∀ l ∈ c, l.2 ≠ []) : LArch.pending c = [] := by
  unfold LArch.pending
  rw [List.map_eq_nil_iff, List.filter_eq_nil_iff]
  intro l hl
  simpa using h l hl

theorem pending_shape {a c : LArch} {o : Option Str} (h : Shape a c o) : a.pending = o.toList := by
  rw [h.eq, pending_append, pending_closed c h.ne]
  cases o <;> simp [otoL, LArch.pending]

theorem setModules_append (a b : LArch) (n : Str) (fs : List Filter) :
    LArch.setModules (a ++ b) n fs = LArch.setModules a n fs ++ LArch.setModules b n fs := by
  simp [LArch.setModules]

theorem setModules_not_mem (c : LArch) (n : Str) (fs : List Filter) (h : n ∉ c.map (·.1)) :
    LArch.setModules c n fs = c := by
  induction c with
  | nil => rfl
  | cons l ls ih =>
    simp only [List.map_cons, List.mem_cons, not_or] at h
    have h1 : (l.1 == n) = false := by simpa using fun e => h.1 e.symm
    simp only [LArch.setModules, List.map_cons, h1, Bool.false_eq_true, if_false]
    congr 1
    exact ih h.2

theorem setModules_shape {a c : LArch} {p : Str} (h : Shape a c (some p)) (fs : List Filter) :
    a.setModules p fs = c ++ [(p, fs)] := by
  have hnd := h.nodup
  rw [h.eq] at hnd ⊢
  simp only [otoL, List.map_append, List.map_cons, List.map_nil] at hnd
  have hp : p ∉ c.map (·.1) := by
    intro hp
    have := (List.nodup_append.mp hnd).2.2 p hp p (by simp)
    exact this rfl
  rw [setModules_append, setModules_not_mem c p fs hp]
  simp [LArch.setModules, otoL]

theorem allIds_shape {a c : LArch} {o : Option Str} (h : Shape a c o) : a.allIds = c.allIds := by
  rw [h.eq]
  cases o <;> simp [LArch.allIds, otoL]

theorem hasLayer_iff (c : LArch) (n : Str) : c.hasLayer n = true ↔ n ∈ c.map (·.1) := by
  simp only [LArch.hasLayer, List.any_eq_true, List.mem_map, beq_iff_eq]

theorem step_layer_open {a c : LArch} {p : Str} (h : Shape a c (some p)) (n : Str) :
    a.step (.layer n) = .error .improperlyConfigured := by
  simp [LArch.step, pending_shape h]

theorem step_layer_closed {a c : LArch} (h : Shape a c none) (n : Str) :
    a.step (.layer n) = if c.hasLayer n then .error .improperlyConfigured else .ok (c ++ [(n, [])]) := by
  have : a = c := by simpa [otoL] using h.eq
  subst this
  simp [LArch.step, pending_shape h]

theorem step_modules_closed {a c : LArch} (h : Shape a c none) (ms : List Str) :
    a.step (.containingModules ms) = .error .improperlyConfigured := by
  simp [LArch.step, pending_shape h]

theorem step_modules_open {a c : LArch} {p : Str} (h : Shape a c (some p)) (ms : List Str) :
    a.step (.containingModules ms) =
      if ms.any (fun m => c.allIds.contains m) then .error .improperlyConfigured
      else .ok (c ++ [(p, ms.map .name)]) := by
  simp only [LArch.step, pending_shape h, Option.toList, allIds_shape h, setModules_shape h]

theorem step_matching_closed {a c : LArch} (h : Shape a c none) (r : Str) :
    a.step (.matching r) = .error .improperlyConfigured := by
  simp [LArch.step, pending_shape h]

theorem step_matching_open {a c : LArch} {p : Str} (h : Shape a c (some p)) (r : Str) :
    a.step (.matching r) = .ok (c ++ [(p, [.regex r])]) := by
  simp only [LArch.step, pending_shape h, Option.toList, setModules_shape h]

theorem shape_nil : Shape [] [] none := ⟨rfl, by simp, by simp⟩

theorem shape_layer {a c : LArch} (h : Shape a c none) (n : Str) (hn : c.hasLayer n = false) :
    Shape (c ++ [(n, [])]) c (some n) := by
  have : a = c := by simpa [otoL] using h.eq
  subst this
  refine ⟨rfl, h.ne, ?_⟩
  have hn' : n ∉ a.map (·.1) := by
    rw [← hasLayer_iff]; simp [hn]
  simp only [List.map_append, List.map_cons, List.map_nil]
  rw [List.nodup_append]
  refine ⟨h.nodup, by simp, ?_⟩
  intro x hx y hy
  simp only [List.mem_singleton] at hy
  subst hy
  intro e; subst e; exact hn' hx

theorem shape_fill {a c : LArch} {p : Str} (h : Shape a c (some p)) (fs : List Filter) (hfs : fs ≠ []) :
    Shape (c ++ [(p, fs)]) (c ++ [(p, fs)]) none := by
  refine ⟨by simp [otoL], ?_, ?_⟩
  · intro l hl
    rcases List.mem_append.mp hl with hl | hl
    · exact h.ne l hl
    · simp only [List.mem_singleton] at hl; subst hl; exact hfs
  · have := h.nodup
    rw [h.eq] at this
    simpa [otoL] using this

/-- the architecture `a` is finished layers `c` followed by the pending layer (`Shape`); the automaton's open layer is the
    pending one and its closed layers are `c` with every filter read as the identifier that was supplied (`idsPerLayer`):
    the automaton remembers identifiers, the builder filters -/
def LSim (a : LArch) (t : LTrack) : Prop := ∃ c, Shape a c t.opened ∧ c.idsPerLayer = t.closed

theorem idsPerLayer_any (c : LArch) (n : Str) : c.idsPerLayer.any (·.1 == n) = c.hasLayer n := by
  simp [LArch.idsPerLayer, LArch.hasLayer, List.any_map, Function.comp_def]

theorem idsPerLayer_assigned (c : LArch) : c.idsPerLayer.flatMap (·.2) = c.allIds := by
  simp [LArch.idsPerLayer, LArch.allIds, List.flatMap_map]

theorem lsim_ids {a : LArch} {t : LTrack} (h : LSim a t) :
    a.idsPerLayer = t.closed ++ (match t.opened with | some n => [(n, [])] | none => []) := by
  obtain ⟨c, hsh, hids⟩ := h
  rw [← hids, hsh.eq]
  cases t.opened <;> simp [LArch.idsPerLayer, otoL]

theorem lsim_step (a : LArch) (t : LTrack) (op : LArchOp) (h : LSim a t) :
    match t.step (toLCall op) with
    | .ok t' => ∃ a', a.step op = .ok a' ∧ LSim a' t'
    | .reject => a.step op = .error .improperlyConfigured
    | .dontCare => True := by
  obtain ⟨c, hsh, hids⟩ := h
  rcases t with ⟨closed, opened⟩
  simp only at hsh hids
  subst hids
  cases op with
  | withLayer => exact ⟨a, rfl, c, hsh, rfl⟩
  | layer n =>
    simp only [toLCall, LTrack.step]
    cases opened with
    | some p => simpa using step_layer_open hsh n
    | none =>
      simp only [Option.isSome_none, Bool.false_eq_true, if_false, idsPerLayer_any]
      rw [step_layer_closed hsh n]
      cases hn : c.hasLayer n
      · simp only [Bool.false_eq_true, if_false]
        exact ⟨_, rfl, c, shape_layer hsh n hn, rfl⟩
      · simp
  | containingModules ms =>
    simp only [toLCall, LTrack.step]
    cases opened with
    | none => simpa using step_modules_closed hsh ms
    | some p =>
      rw [step_modules_open hsh ms]
      cases ms with
      | nil =>
        -- the empty module list: nothing is supplied, the layer stays open and the state is unchanged
        exact ⟨a, congrArg Except.ok hsh.eq.symm, c, hsh, rfl⟩
      | cons m ms =>
        simp only [List.isEmpty_cons, Bool.false_eq_true, if_false, LTrack.assigned, idsPerLayer_assigned]
        cases hany : (m :: ms).any c.allIds.contains
        · refine ⟨_, rfl, _, shape_fill hsh _ (by simp), ?_⟩
          simp [LArch.idsPerLayer, Function.comp_def, Filter.id]
        · rfl
  | matching r =>
    simp only [toLCall, LTrack.step]
    cases opened with
    | none => simpa using step_matching_closed hsh r
    | some p =>
      simp only
      cases hr : (LTrack.assigned ⟨c.idsPerLayer, some p⟩).contains r
      · simp only [Bool.false_eq_true, if_false]
        rw [step_matching_open hsh r]
        refine ⟨_, rfl, c ++ [(p, [.regex r])], shape_fill hsh _ (by simp), ?_⟩
        simp [LArch.idsPerLayer, Filter.id]
      · simp

/-- what the builder's run owes to the automaton's classification of the history -/
def Refines (res : Except (ErrKind × Nat) LArch) : LOutcome → Prop
  | .accepted t => ∃ a, res = .ok a ∧ LSim a t
  | .rejectedAt j => res = .error (.improperlyConfigured, j)
  | .unspecified => True

theorem larch_go_refines (ops : List LArchOp) (a : LArch) (t : LTrack) (i : Nat) (h : LSim a t) :
    Refines (runLArch.go a i ops) (classifyLArchFrom t i (ops.map toLCall)) := by
  induction ops generalizing a t i with
  | nil => exact ⟨a, rfl, h⟩
  | cons op rest ih =>
    have hs := lsim_step a t op h
    simp only [List.map_cons, classifyLArchFrom, runLArch.go]
    cases ht : t.step (toLCall op) with
    | reject => rw [ht] at hs; simp only [hs]; rfl
    | dontCare => trivial
    | ok t' =>
      rw [ht] at hs
      obtain ⟨a', ha', hsim⟩ := hs
      simp only [ha']
      exact ih a' t' (i + 1) hsim

theorem lsim_init : LSim [] {} := ⟨[], shape_nil, rfl⟩

theorem run_of_accepted {ops : List LArchOp} {t : LTrack} (h : classifyLArch (ops.map toLCall) = .accepted t) :
    ∃ a, runLArch ops = .ok a ∧ LSim a t := by
  have := larch_go_refines ops [] {} 0 lsim_init
  rwa [show classifyLArchFrom {} 0 (ops.map toLCall) = .accepted t from h] at this

theorem run_of_rejected {ops : List LArchOp} {i : Nat} (h : classifyLArch (ops.map toLCall) = .rejectedAt i) :
    runLArch ops = .error (.improperlyConfigured, i) := by
  have := larch_go_refines ops [] {} 0 lsim_init
  rwa [show classifyLArchFrom {} 0 (ops.map toLCall) = .rejectedAt i from h] at this

/-- no module identifier (of a non-regex filter) is listed in two different layers -/
def Disj (a : LArch) : Prop :=
  ∀ l₁ ∈ a, ∀ l₂ ∈ a, ∀ f₁ ∈ l₁.2, ∀ f₂ ∈ l₂.2, f₁.isRegex = false → f₂.isRegex = false → f₁.id = f₂.id → l₁.1 = l₂.1

/-- what holds of every architecture the builder reaches, also on histories the specification leaves open (`.unspecified`):
    the canonical shape, and no module name in two layers -/
def LInv (a : LArch) : Prop := ∃ c o, Shape a c o ∧ Disj a

theorem mem_allIds {c : LArch} {l : Str × List Filter} {f : Filter} (hl : l ∈ c) (hf : f ∈ l.2) :
    f.id ∈ c.allIds := by
  simp only [LArch.allIds, List.mem_flatMap, List.mem_map]
  exact ⟨l, hl, f, hf, rfl⟩

theorem disj_fill (c : LArch) (p : Str) (fs : List Filter) (hc : Disj c)
    (hnew : ∀ f ∈ fs, f.isRegex = false → f.id ∉ c.allIds) : Disj (c ++ [(p, fs)]) := by
  intro l₁ h₁ l₂ h₂ f₁ hf₁ f₂ hf₂ r₁ r₂ e
  rcases List.mem_append.mp h₁ with h₁ | h₁ <;> rcases List.mem_append.mp h₂ with h₂ | h₂
  · exact hc l₁ h₁ l₂ h₂ f₁ hf₁ f₂ hf₂ r₁ r₂ e
  · simp only [List.mem_singleton] at h₂; subst h₂
    exact absurd (e ▸ mem_allIds h₁ hf₁) (hnew f₂ hf₂ r₂)
  · simp only [List.mem_singleton] at h₁; subst h₁
    exact absurd (e ▸ mem_allIds h₂ hf₂) (hnew f₁ hf₁ r₁)
  · simp only [List.mem_singleton] at h₁ h₂; subst h₁; subst h₂; rfl

theorem step_ok {a c a' : LArch} {o : Option Str} (h : Shape a c o) (op : LArchOp) (hs : a.step op = .ok a') :
    (a' = a ∧ ∀ ms, op = .containingModules ms → ms = []) ∨
    (∃ n, op = .layer n ∧ Shape a' c (some n) ∧ a' = c ++ [(n, [])]) ∨
    (∃ p fs, a' = c ++ [(p, fs)] ∧ Shape a' a' none ∧ (∀ f ∈ fs, f.isRegex = false → f.id ∉ c.allIds) ∧
      ∀ ms, op = .containingModules ms → fs = ms.map .name) := by
  cases op with
  | withLayer => cases hs; exact .inl ⟨rfl, nofun⟩
  | layer n =>
    cases o with
    | some p => rw [step_layer_open h n] at hs; cases hs
    | none =>
      rw [step_layer_closed h n] at hs
      split at hs
      · cases hs
      · next hn => cases hs; exact .inr (.inl ⟨n, rfl, shape_layer h n (by simpa using hn), rfl⟩)
  | containingModules ms =>
    cases o with
    | none => rw [step_modules_closed h ms] at hs; cases hs
    | some p =>
      rw [step_modules_open h ms] at hs
      split at hs
      · cases hs
      · next hany =>
        cases hs
        cases ms with
        | nil => exact .inl ⟨h.eq.symm, fun _ e => by cases e; rfl⟩
        | cons m ms =>
          refine .inr (.inr ⟨p, _, rfl, shape_fill h _ (by simp), ?_, fun _ e => by cases e; rfl⟩)
          intro f hf _ hmem
          obtain ⟨x, hx, rfl⟩ := List.mem_map.1 hf
          exact hany (List.any_eq_true.2 ⟨x, hx, by simpa [Filter.id] using hmem⟩)
  | matching r =>
    cases o with
    | none => rw [step_matching_closed h r] at hs; cases hs
    | some p =>
      rw [step_matching_open h r] at hs
      cases hs
      exact .inr (.inr ⟨p, _, rfl, shape_fill h _ (by simp), by simp [Filter.isRegex], nofun⟩)

theorem linv_nil : LInv [] := ⟨[], none, shape_nil, nofun⟩

theorem linv_step (a a' : LArch) (op : LArchOp) (h : LInv a) (hs : a.step op = .ok a') : LInv a' := by
  obtain ⟨c, o, hsh, hd⟩ := h
  have hdc : Disj c := fun l₁ h₁ l₂ h₂ =>
    hd l₁ (by rw [hsh.eq]; exact List.mem_append_left _ h₁) l₂ (by rw [hsh.eq]; exact List.mem_append_left _ h₂)
  rcases step_ok hsh op hs with ⟨rfl, -⟩ | ⟨n, -, hsh', rfl⟩ | ⟨p, fs, rfl, hsh', hnew, -⟩
  · exact ⟨c, o, hsh, hd⟩
  · exact ⟨c, some n, hsh', disj_fill c n [] hdc nofun⟩
  · exact ⟨_, none, hsh', disj_fill c p fs hdc hnew⟩

theorem go_ok_preserves {P : LArch → Prop} (hstep : ∀ a a' op, P a → a.step op = .ok a' → P a')
    (ops : List LArchOp) (a a' : LArch) (i : Nat) (h : P a) (hr : runLArch.go a i ops = .ok a') : P a' := by
  induction ops generalizing a i with
  | nil => cases hr; exact h
  | cons op rest ih =>
    simp only [runLArch.go] at hr
    cases hs : a.step op with
    | error k => rw [hs] at hr; cases hr
    | ok a1 =>
      rw [hs] at hr
      exact ih a1 (i + 1) (hstep a a1 op h hs) hr

theorem _root_.Pta.larch_invariant_lemma (ops : List LArchOp) (a : LArch) (h : runLArch ops = .ok a) :
    (a.map (·.1)).Nodup ∧ a.pending.length ≤ 1 ∧
    ∀ l₁ ∈ a, ∀ l₂ ∈ a, ∀ f₁ ∈ l₁.2, ∀ f₂ ∈ l₂.2, f₁.isRegex = false → f₂.isRegex = false → f₁.id = f₂.id → l₁.1 = l₂.1 := by
  obtain ⟨c, o, hsh, hd⟩ := go_ok_preserves linv_step ops [] a 0 linv_nil h
  refine ⟨hsh.nodup, ?_, hd⟩
  rw [pending_shape hsh]
  cases o <;> simp

theorem classifyLArchFrom_append (cs cs' : List LCall) (t t' : LTrack) (i : Nat)
    (h : classifyLArchFrom t i cs = .accepted t') :
    classifyLArchFrom t i (cs ++ cs') = classifyLArchFrom t' (i + cs.length) cs' := by
  induction cs generalizing t i with
  | nil =>
    simp only [classifyLArchFrom, LOutcome.accepted.injEq] at h
    subst h
    rfl
  | cons c cs ih =>
    simp only [classifyLArchFrom, List.cons_append, List.length_cons] at h ⊢
    cases hs : t.step c with
    | reject => rw [hs] at h; cases h
    | dontCare => rw [hs] at h; cases h
    | ok t1 =>
      rw [hs] at h
      simp only at h ⊢
      rw [ih t1 (i + 1) h]
      congr 1
      omega

theorem runLArch_go_append_bind (ops ops' : List LArchOp) (a : LArch) (i : Nat) :
    runLArch.go a i (ops ++ ops') = (runLArch.go a i ops).bind fun a' => runLArch.go a' (i + ops.length) ops' := by
  induction ops generalizing a i with
  | nil => rfl
  | cons op rest ih =>
    simp only [runLArch.go, List.cons_append, List.length_cons]
    cases a.step op with
    | error k => rfl
    | ok a1 =>
      simp only
      rw [ih a1 (i + 1), Nat.add_right_comm, Nat.add_assoc]

theorem runLArch_go_append (ops ops' : List LArchOp) (a : LArch) (i : Nat) (a' : LArch)
    (h : runLArch.go a i ops = .ok a') :
    runLArch.go a i (ops ++ ops') = runLArch.go a' (i + ops.length) ops' := by
  rw [runLArch_go_append_bind, h]
  rfl

end Pta.Hist