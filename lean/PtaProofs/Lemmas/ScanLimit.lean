/-
  PtaProofs.Lemmas.ScanLimit — property C09 at the scan entry point: `generateGraph` with `level_limit = k` against
  `generateGraph` without a limit. The two runs hand the SAME module list and import records to the graph constructor
  (only the limit differs), so everything follows from `ExtBuild.buildGraph_known`. Nodes and hierarchy edges of the
  limited graph are the flattened ones of the full graph; so are the import edges whose ends stay distinct and do not
  land on a parent→child pair — and no others: with a limit `_initialise` attempts an import edge only between KNOWN
  modules (`skipImportEdge`; `knownModules` = the nodes of the full graph), so a dangling import does not reappear after
  truncation. `collision_iff` says when a flattened import lands on a parent→child pair.
-/
import Bridge.ScanLimit
import PtaProofs.Lemmas.ExtNames
import PtaProofs.Lemmas.ExtBuild
import PtaProofs.Lemmas.ExtScan
namespace Pta
namespace ScanLimit
open ExtNames ExtBuild ExtScan

theorem isStrictSub_iff_chain (p n : Str) : isStrictSub p n = true ↔ p ∈ chain n ∧ p ≠ n := by
  rw [isStrictSub_iff, mem_chain]

theorem isHierPair_iff (s e : Str) : isHierPair s e = true ↔ hierPair s e := by
  unfold isHierPair
  rw [Bool.and_eq_true, beq_iff_eq, isStrictSub_iff_append, hierPair_iff]
  constructor
  · rintro ⟨⟨r, -, hr⟩, hl⟩
    rw [hr, List.length_append] at hl
    obtain ⟨t, rfl⟩ := List.length_eq_one_iff.1 (by omega : r.length = 1)
    exact ⟨t, hr⟩
  · rintro ⟨t, ht⟩
    exact ⟨⟨[t], by simp, ht⟩, by rw [ht]; simp⟩

/-- a flattened pair lands on a parent→child pair exactly when the first name has `j` components (so it sits one
    level above the cut, untouched) and the second lies strictly below it (then at least two levels below, as the
    pair itself is not a parent→child pair) -/
theorem collision_iff (j : Nat) (u v : Str) (hnp : ¬ hierPair u v) :
    hierPair (flattenNode (some j) u) (flattenNode (some j) v) ↔
      isStrictSub u v = true ∧ (splitDots u).length = j := by
  rw [hierPair_iff, isStrictSub_iff, splitDots_flatten, splitDots_flatten]
  rw [hierPair_iff] at hnp
  constructor
  · rintro ⟨t, ht⟩
    have hl := congrArg List.length ht
    simp only [List.length_take, List.length_append, List.length_singleton] at hl
    have hU : (splitDots u).length ≤ j := by omega
    rw [List.take_of_length_le (by omega : (splitDots u).length ≤ j + 1)] at ht
    have hpre : splitDots u <+: splitDots v := by
      have h1 : splitDots u <+: (splitDots v).take (j + 1) := by rw [ht]; exact List.prefix_append _ _
      exact h1.trans (List.take_prefix _ _)
    by_cases hV : (splitDots v).length ≤ j + 1
    · exfalso
      rw [List.take_of_length_le hV] at ht
      exact hnp ⟨t, ht⟩
    · refine ⟨⟨hpre, ?_⟩, by omega⟩
      rintro rfl
      omega
  · rintro ⟨⟨⟨r, hr⟩, hne⟩, hj⟩
    have hr0 : r ≠ [] := by
      rintro rfl
      rw [List.append_nil] at hr
      exact hne (splitDots_injective hr)
    rw [List.take_of_length_le (by omega : (splitDots u).length ≤ j + 1), ← hr, List.take_append, hj]
    simp only [Nat.add_sub_cancel_left]
    rw [List.take_of_length_le (by omega : (splitDots u).length ≤ j + 1)]
    cases r with
    | nil => exact absurd rfl hr0
    | cons t r' => exact ⟨t, by simp⟩

theorem hierPair_flatten (L : Option Nat) (u v : Str) (hp : hierPair u v)
    (hne : flattenNode L u ≠ flattenNode L v) : hierPair (flattenNode L u) (flattenNode L v) :=
  ((flatten_pairs_iff L v _ _).1
    ⟨(u, v), (mem_consecutive_chain_iff v u v).2 ⟨hp, self_mem_chain v⟩, rfl, rfl, hne⟩).1

theorem build_quotient (M : List Str) (R : List ImportRec) (L : Option Nat)
    (h0 : KnownRecs M R) :
    (∀ s, s ∈ (buildGraph M R L).nodes ↔ ∃ n ∈ (buildGraph M R none).nodes, s = flattenNode L n) ∧
    (∀ a b, (a, b) ∈ (buildGraph M R L).hierPairs ↔
      ∃ u v, (u, v) ∈ (buildGraph M R none).hierPairs ∧ a = flattenNode L u ∧ b = flattenNode L v ∧ a ≠ b) ∧
    (∀ a b, (a, b) ∈ (buildGraph M R L).importPairs ↔ a ≠ b ∧ isHierPair a b = false ∧
      ∃ u v, (u, v) ∈ (buildGraph M R none).importPairs ∧ a = flattenNode L u ∧ b = flattenNode L v) ∧
    (∀ a b, (a, b) ∈ (buildGraph M R L).importPairs ↔
      a ≠ b ∧ isHierPair a b = false ∧ a ∈ (buildGraph M R L).nodes ∧ b ∈ (buildGraph M R L).nodes ∧
      ∃ i ∈ R, i.importee ∈ (buildGraph M R none).nodes ∧ a = flattenNode L i.importer ∧ b = flattenNode L i.importee) := by
  obtain ⟨n1, t1, f1⟩ := buildGraph_known M R L h0
  obtain ⟨n0, t0, f0⟩ := buildGraph_known M R none h0
  have hb : ∀ a b, isHierPair a b = false ↔ ¬ hierPair a b := by
    intro a b
    rw [← isHierPair_iff]
    simp
  refine ⟨fun s => ?_, fun a b => ?_, fun a b => ?_, fun a b => ?_⟩
  · rw [n1]
    constructor
    · rintro ⟨m, hm, hc⟩
      exact ⟨s, (n0 s).2 ⟨m, hm, chain_trans hc (flatten_mem_chain L m)⟩, (flatten_short L s m hc).symm⟩
    · rintro ⟨n, hn, rfl⟩
      exact nodeOf_flatten L M n ((n0 n).1 hn)
  · rw [BuildGen.mem_hierPairs, t1]
    constructor
    · rintro ⟨hp, m, hm, hc⟩
      refine ⟨a, b, ?_, (flatten_short L a m (hierPair_chain hp hc)).symm, (flatten_short L b m hc).symm,
        hierPair_ne hp⟩
      rw [BuildGen.mem_hierPairs, t0]
      exact ⟨hp, m, hm, chain_trans hc (flatten_mem_chain L m)⟩
    · rintro ⟨u, v, huv, rfl, rfl, hne⟩
      rw [BuildGen.mem_hierPairs, t0] at huv
      exact ⟨hierPair_flatten L u v huv.1 hne, nodeOf_flatten L M v huv.2⟩
  · rw [BuildGen.mem_importPairs, f1, hb]
    constructor
    · rintro ⟨hnh, hne, i, hi, hy, rfl, rfl⟩
      refine ⟨hne, hnh, i.importer, i.importee, ?_, rfl, rfl⟩
      rw [BuildGen.mem_importPairs, f0]
      exact ⟨fun hp => hnh (hierPair_flatten L _ _ hp hne), fun he => hne (by rw [he]), i, hi, hy, rfl, rfl⟩
    · rintro ⟨hne, hnh, u, v, huv, rfl, rfl⟩
      rw [BuildGen.mem_importPairs, f0] at huv
      obtain ⟨-, -, i, hi, hy, rfl, rfl⟩ := huv
      exact ⟨hnh, hne, i, hi, hy, rfl, rfl⟩
  · rw [BuildGen.mem_importPairs, f1, hb]
    constructor
    · rintro ⟨h1, h2, i, hi, hy, rfl, rfl⟩
      exact ⟨h2, h1, (n1 _).2 (nodeOf_flatten L M _ (h0 i hi).1), (n1 _).2 (nodeOf_flatten L M _ hy), i, hi,
        (n0 _).2 hy, rfl, rfl⟩
    · rintro ⟨h1, h2, -, -, i, hi, hy, rfl, rfl⟩
      exact ⟨h2, h1, i, hi, (n0 _).1 hy, rfl, rfl⟩

section
variable (mt : Str → Str → Bool) (base rootName : Str) (mp : List Str) (entries : List Entry) (o : ScanOptions)

theorem scanRetained_noLimit :
    scanRetained mt base rootName mp entries o.noLimit = scanRetained mt base rootName mp entries o := rfl

theorem error_indep_lemma (e : ErrKind) :
    generateGraph mt base rootName mp entries o = .error e ↔
      generateGraph mt base rootName mp entries o.noLimit = .error e := by
  rw [generateGraph_error_iff, generateGraph_error_iff, scanRetained_noLimit]

theorem scan_quotient_lemma (g g0 : PGraph Str)
    (hg : generateGraph mt base rootName mp entries o = .ok g)
    (hg0 : generateGraph mt base rootName mp entries o.noLimit = .ok g0) :
    (∀ s, s ∈ g.nodes ↔ ∃ n ∈ g0.nodes, s = flattenNode (shiftedLimit o mp) n) ∧
    (∀ a b, (a, b) ∈ g.hierPairs ↔
      ∃ u v, (u, v) ∈ g0.hierPairs ∧ a = flattenNode (shiftedLimit o mp) u ∧ b = flattenNode (shiftedLimit o mp) v ∧ a ≠ b) ∧
    (∀ a b, (a, b) ∈ g.importPairs ↔ a ≠ b ∧ isHierPair a b = false ∧
      ∃ u v, (u, v) ∈ g0.importPairs ∧ a = flattenNode (shiftedLimit o mp) u ∧ b = flattenNode (shiftedLimit o mp) v) ∧
    (∀ R, scanRetained mt base rootName mp entries o = .ok R →
      (∀ a b, (a, b) ∈ g.importPairs ↔
        a ≠ b ∧ isHierPair a b = false ∧ a ∈ g.nodes ∧ b ∈ g.nodes ∧
        ∃ i ∈ R, i.importee ∈ g0.nodes ∧
          a = flattenNode (shiftedLimit o mp) i.importer ∧ b = flattenNode (shiftedLimit o mp) i.importee)) := by
  -- both runs hand the same lists to the constructor: `o.noLimit` differs from `o` in the limit only
  obtain ⟨R, hR, rfl⟩ := (generateGraph_ok_iff mt base rootName mp entries o g).1 hg
  obtain ⟨R0, hR0, rfl⟩ := (generateGraph_ok_iff mt base rootName mp entries o.noLimit g0).1 hg0
  cases hR.symm.trans hR0
  obtain ⟨q1, q2, q3, q4⟩ := build_quotient _ _ (shiftedLimit o mp) (scan_known mt base rootName mp entries o R hR)
  refine ⟨q1, q2, q3, fun R' hR' => ?_⟩
  cases hR.symm.trans hR'
  exact q4

theorem full_import_facts (g0 : PGraph Str)
    (hg0 : generateGraph mt base rootName mp entries o.noLimit = .ok g0) (R : List ImportRec)
    (hR : scanRetained mt base rootName mp entries o = .ok R) (u v : Str) (huv : (u, v) ∈ g0.importPairs) :
    ¬ hierPair u v ∧ v ∈ g0.nodes ∧ ∃ i ∈ R, i.importer = u ∧ i.importee = v := by
  obtain ⟨R0, hR0, rfl⟩ := (generateGraph_ok_iff mt base rootName mp entries o.noLimit g0).1 hg0
  cases hR.symm.trans hR0
  obtain ⟨n0, -, f0⟩ := buildGraph_known _ _ none (scan_known mt base rootName mp entries o.noLimit R hR0)
  rw [BuildGen.mem_importPairs] at huv
  obtain ⟨h1, -, i, hi, hy, h5, h6⟩ := (f0 u v).1 huv
  exact ⟨h1, (n0 v).2 (h6 ▸ hy), i, hi, h5, h6⟩

theorem no_collision_lemma (g0 : PGraph Str)
    (hg0 : generateGraph mt base rootName mp entries o.noLimit = .ok g0)
    (hdown : noDownwardImports g0 = true) (u v : Str) (huv : (u, v) ∈ g0.importPairs) :
    isHierPair (flattenNode (shiftedLimit o mp) u) (flattenNode (shiftedLimit o mp) v) = false := by
  have hnp : ¬ hierPair u v := by
    obtain ⟨R0, hR0, -⟩ := (generateGraph_ok_iff mt base rootName mp entries o.noLimit g0).1 hg0
    exact (full_import_facts mt base rootName mp entries o g0 hg0 R0 hR0 u v huv).1
  have hd : isStrictSub u v = false := by
    unfold noDownwardImports at hdown
    rw [List.all_eq_true] at hdown
    simpa using hdown (u, v) huv
  rw [Bool.eq_false_iff]
  intro h
  rw [isHierPair_iff] at h
  cases hL : shiftedLimit o mp with
  | none => rw [hL] at h; exact hnp h
  | some j =>
    rw [hL] at h
    have := ((collision_iff j u v hnp).1 h).1
    rw [hd] at this
    cases this

end

theorem shiftedLimit_some (o : ScanOptions) (mp : List Str) (k : Nat) (hk : o.levelLimit = some k) :
    shiftedLimit o mp = some (k + mp.length) := by
  unfold shiftedLimit
  rw [hk]
  cases mp <;> simp

end ScanLimit
end Pta
