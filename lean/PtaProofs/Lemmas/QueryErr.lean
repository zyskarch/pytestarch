/-
  PtaProofs.Lemmas.QueryErr — when the graph queries of `RuleMatcher` raise their one error (`runQueries_error_iff`: a
  question without an answer; in terms of the graph: a name that is no module), the front end of a matcher as two guards
  and a function (`queries_ok_fn`, `queries_error_fn`), and the regex without a match.
-/
import PtaProofs.Lemmas.RuleBasics
import PtaProofs.Lemmas.Answers
namespace Pta

theorem runQueries_error_iff (g : PGraph Str) (b : Behavior) (d : Bool) (S O : List Filter) (k : ErrKind) :
    runQueries g b d S O = .error k ↔ k = .lookupError ∧ ¬ ∀ s ∈ S, Answered g b d O s :=
  ⟨(runQueries_lookup ..).of_error, fun ⟨hk, h⟩ => hk ▸ (runQueries_lookup ..).2 h⟩

theorem answered_of_nodes {g : PGraph Str} (b : Behavior) (d : Bool) {S O : List Filter}
    (hn : ∀ f ∈ S ++ O, g.hasNode f.id = true) : ∀ s ∈ S, Answered g b d O s :=
  fun s hs => ⟨fun _ o ho => (pairQuery_ok_iff g d s o).2 ⟨hn s (List.mem_append_left _ hs), hn o (List.mem_append_right _ ho)⟩,
    fun _ => (otherQuery_ok_iff g d s O).2 ⟨hn s (List.mem_append_left _ hs), fun o ho _ => hn o (List.mem_append_right _ ho)⟩⟩

/-- a rule with a verb asks one of the two questions about every subject, and either looks the subject and every object up -/
theorem nodes_of_answered {g : PGraph Str} {b : Behavior} {d : Bool} {S O : List Filter}
    (hverb : b.should = true ∨ b.shouldOnly = true ∨ b.shouldNot = true) (hs : S ≠ []) (ho : O ≠ [])
    (h : ∀ s ∈ S, Answered g b d O s) : ∀ f ∈ S ++ O, g.hasNode f.id = true := by
  have hq : (b.explReq || b.explForb) = true ∨ (b.otherReq || b.otherForb) = true := by
    rcases b with ⟨b1, b2, b3, b4⟩
    simp only [Behavior.explReq, Behavior.explForb, Behavior.otherReq, Behavior.otherForb]
    simp only at hverb
    revert hverb
    cases b1 <;> cases b2 <;> cases b3 <;> cases b4 <;> decide
  have hall : ∀ s ∈ S, ∀ o ∈ O, g.hasNode s.id = true ∧ g.hasNode o.id = true := fun s hs o ho =>
    hq.elim (fun c => (pairQuery_ok_iff g d s o).1 ((h s hs).1 c o ho)) fun c => by
      obtain ⟨h1, h2⟩ := (otherQuery_ok_iff g d s O).1 ((h s hs).2 c)
      exact ⟨h1, Classical.byCases (fun e : o = s => e ▸ h1) (h2 o ho)⟩
  obtain ⟨s0, hs0⟩ := List.exists_mem_of_ne_nil S hs
  obtain ⟨o0, ho0⟩ := List.exists_mem_of_ne_nil O ho
  intro f hf
  exact (List.mem_append.1 hf).elim (fun hf => (hall f hf o0 ho0).1) fun hf => (hall s0 hs0 f hf).2

theorem answered_iff_nodes {g : PGraph Str} {b : Behavior} (d : Bool) {S O : List Filter}
    (hverb : b.should = true ∨ b.shouldOnly = true ∨ b.shouldNot = true) (hs : S ≠ []) (ho : O ≠ []) :
    (∀ s ∈ S, Answered g b d O s) ↔ ∀ f ∈ S ++ O, g.hasNode f.id = true :=
  ⟨nodes_of_answered hverb hs ho, answered_of_nodes b d⟩

theorem convertFilters_noregex (mt : Str → Str → Bool) (mods : List Str) (fs : List Filter)
    (h : ∀ f ∈ fs, f.isRegex = false) : convertFilters mt mods fs = .ok fs := by
  rw [convertFilters_eq, allMatch_of_noregex mt mods h, expand_of_noregex mt mods h]; rfl

/-- the front end of a matcher as two guards and a function: it succeeds iff every regex of both lists has a match and
    every question about the expanded lists has an answer, and then returns the answers -/
theorem queries_ok_fn (mt : Str → Str → Bool) (g : PGraph Str) (b : Behavior) (d : Bool) (A B : List Filter) (x : Front) :
    queries mt g b d A B = .ok x ↔
      allMatch mt g.nodes A = true ∧ allMatch mt g.nodes B = true ∧
      (∀ s ∈ expand mt g.nodes A, Answered g b d (expand mt g.nodes B) s) ∧
      x = ⟨b, d, A, B, expand mt g.nodes B, (answers g b d (expand mt g.nodes A) (expand mt g.nodes B)).1,
            (answers g b d (expand mt g.nodes A) (expand mt g.nodes B)).2⟩ := by
  rw [queries_ok_iff]
  simp only [convertFilters_ok_iff, runQueries_iff]
  constructor
  · rintro ⟨_, _, _, _, ⟨h1, rfl⟩, ⟨h2, rfl⟩, ⟨h3, h4⟩, rfl⟩
    obtain ⟨rfl, rfl⟩ := Prod.mk.inj h4
    exact ⟨h1, h2, h3, rfl⟩
  · rintro ⟨h1, h2, h3, rfl⟩
    exact ⟨_, _, _, _, ⟨h1, rfl⟩, ⟨h2, rfl⟩, ⟨h3, rfl⟩, rfl⟩

/-- … and which error it raises: the no-match error of either list comes before the lookup error of any name -/
theorem queries_error_fn (mt : Str → Str → Bool) (g : PGraph Str) (b : Behavior) (d : Bool) (A B : List Filter) (k : ErrKind) :
    queries mt g b d A B = .error k ↔
      (k = .impossibleMatch ∧ ¬ (allMatch mt g.nodes A = true ∧ allMatch mt g.nodes B = true)) ∨
      (k = .lookupError ∧ allMatch mt g.nodes A = true ∧ allMatch mt g.nodes B = true ∧
        ¬ ∀ s ∈ expand mt g.nodes A, Answered g b d (expand mt g.nodes B) s) := by
  rw [queries_error_iff]
  simp only [convertFilters_eq, runQueries_error_iff]
  cases hA : allMatch mt g.nodes A <;> cases hB : allMatch mt g.nodes B <;>
    simp [eq_comm]

theorem queries_lookupError_iff (mt : Str → Str → Bool) (g : PGraph Str) (b : Behavior) (d : Bool) (A B : List Filter)
    (hverb : b.should = true ∨ b.shouldOnly = true ∨ b.shouldNot = true) (hA : A ≠ []) (hB : B ≠ []) :
    queries mt g b d A B = .error .lookupError ↔
      allMatch mt g.nodes A = true ∧ allMatch mt g.nodes B = true ∧
      ∃ f ∈ expand mt g.nodes A ++ expand mt g.nodes B, g.hasNode f.id = false := by
  simp only [queries_error_fn, reduceCtorEq, false_and, false_or, true_and]
  exact and_congr_right fun h1 => and_congr_right fun h2 => by
    rw [answered_iff_nodes d hverb (expand_ne_nil mt g.nodes A hA h1) (expand_ne_nil mt g.nodes B hB h2)]; simp

theorem queries_error_kind (mt : Str → Str → Bool) (g : PGraph Str) (b : Behavior) (d : Bool) (ss os : List Filter)
    (k : ErrKind) (h : queries mt g b d ss os = .error k) : k = .impossibleMatch ∨ k = .lookupError :=
  ((queries_error_fn ..).1 h).imp (·.1) (·.1)

theorem matchRule_cls_err_kind (mt : Str → Str → Bool) (g : PGraph Str) (b : Behavior) (d : Bool) (ss os : List Filter)
    (k : ErrKind) (h : (matchRule mt g b d ss os).cls = .err k) : k = .impossibleMatch ∨ k = .lookupError :=
  queries_error_kind mt g b d ss os k ((matchRule_err_iff_queries mt g b d ss os k).1 ((Verdict.cls_eq_err _ k).1 h))

/-! ### a regex without a match raises exactly `ImpossibleMatch` (audit finding F8)

  in subject AND object position, whatever accompanies it. `ModuleNameConverter.convert` can only fail with
  `ImpossibleMatch` (`convertFilters_error_kind`), it runs on the subjects and then on the objects BEFORE any query is
  asked, so the no-match error also wins over the lookup error of an absent module name. -/

theorem queries_no_match (mt : Str → Str → Bool) (g : PGraph Str) (b : Behavior) (dir : Bool) (subs objs : List Filter)
    (h : ∃ f ∈ subs ++ objs, f.isRegex = true ∧ ∀ m ∈ g.nodes, mt f.id m = false) :
    queries mt g b dir subs objs = .error .impossibleMatch := by
  obtain ⟨f, hf, h1, h2⟩ := h
  refine (queries_error_fn ..).2 (.inl ⟨rfl, fun ⟨hA, hB⟩ => ?_⟩)
  obtain ⟨m, hm, hmt⟩ := (List.mem_append.1 hf).elim (fun hf => (allMatch_iff ..).1 hA f hf h1)
    fun hf => (allMatch_iff ..).1 hB f hf h1
  exact Bool.false_ne_true ((h2 m hm).symm.trans hmt)

theorem no_match_either_lemma (mt : Str → Str → Bool) (g : PGraph Str) (b : Behavior) (dir : Bool) (subs objs : List Filter)
    (h : ∃ f ∈ subs ++ objs, f.isRegex = true ∧ ∀ m ∈ g.nodes, mt f.id m = false) :
    matchRule mt g b dir subs objs = .err .impossibleMatch :=
  (matchRule_err_iff_queries mt g b dir subs objs _).2 (queries_no_match mt g b dir subs objs h)

end Pta
