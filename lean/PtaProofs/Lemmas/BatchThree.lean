/-
  PtaProofs.Lemmas.BatchThree — audit finding F13: the three-valued versions of the batching theorems of Props/C11.lean.
  A rule with several subjects (several objects, for plain should / should_not rules) compared with its single-subject
  (single-object) rules: which error the batch raises, and when it fails.

  Errors are not raised "by the first member in list order": the regex conversion of ALL subjects and objects precedes every
  lookup, so a no-match error of any member wins over a lookup error of any other member; all errors win over a failure.
  Several objects are several subjects of the converse rule (`duality_dir`; Props/C11.lean).
-/
import PtaProofs.Lemmas.Expansion
namespace Pta.Batch

/-- how the verdicts of the members combine, stated for an arbitrary verdict function `M` on filter lists -/
theorem err_generic (M : List Filter → VClass) (C A : List Filter → Prop) (L : List Filter)
    (hC : C L ↔ ∀ x ∈ L, C [x]) (hA : A L ↔ ∀ x ∈ L, A [x])
    (him : ∀ L', M L' = .err .impossibleMatch ↔ ¬ C L') (hle : ∀ L', M L' = .err .lookupError ↔ C L' ∧ ¬ A L')
    (hk : ∀ L' k, M L' = .err k → k = .impossibleMatch ∨ k = .lookupError) (k : ErrKind) :
    M L = .err k ↔ (∃ x ∈ L, M [x] = .err k) ∧ (k = .lookupError → ∀ x ∈ L, M [x] ≠ .err .impossibleMatch) := by
  by_cases h1 : k = .impossibleMatch
  · subst h1
    simp only [him, hC, reduceCtorEq, false_imp_iff, and_true]
    constructor
    · intro h
      apply Classical.byContradiction
      intro hc
      exact h fun x hx => Classical.byContradiction fun hx' => hc ⟨x, hx, hx'⟩
    · rintro ⟨x, hx, hx'⟩ hall; exact hx' (hall x hx)
  · by_cases h2 : k = .lookupError
    · subst h2
      rw [hle L]
      constructor
      · rintro ⟨hc, ha⟩
        have hc' := hC.1 hc
        refine ⟨?_, fun _ x hx h => ((him [x]).1 h) (hc' x hx)⟩
        apply Classical.byContradiction
        intro hcon
        exact ha (hA.2 fun x hx => Classical.byContradiction fun hx' => hcon ⟨x, hx, (hle [x]).2 ⟨hc' x hx, hx'⟩⟩)
      · rintro ⟨⟨x, hx, h⟩, hall⟩
        have hc : C L := hC.2 fun y hy => Classical.byContradiction fun hn => hall rfl y hy ((him [y]).2 hn)
        exact ⟨hc, fun ha => ((hle [x]).1 h).2 (hA.1 ha x hx)⟩
    · constructor
      · intro h; rcases hk L k h with h | h <;> contradiction
      · rintro ⟨⟨x, _, h⟩, _⟩; rcases hk [x] k h with h | h <;> contradiction

/-- the two configuration checks in front of the matcher (`Alg.verdictOf_mkRule`) -/
def wrap (c i : Bool) (m : VClass) : VClass :=
  if c then .err .improperlyConfigured else if i then .err .ruleInconsistency else m

/-- the configuration checks are the same for the batch and for every member -/
theorem err_wrap (M : List Filter → VClass) (L : List Filter) (hne : L ≠ []) (c i : Bool)
    (h : ∀ k, M L = .err k ↔ (∃ x ∈ L, M [x] = .err k) ∧ (k = .lookupError → ∀ x ∈ L, M [x] ≠ .err .impossibleMatch))
    (k : ErrKind) :
    wrap c i (M L) = .err k ↔
      (∃ x ∈ L, wrap c i (M [x]) = .err k) ∧ (k = .lookupError → ∀ x ∈ L, wrap c i (M [x]) ≠ .err .impossibleMatch) := by
  obtain ⟨x0, hx0⟩ := List.exists_mem_of_ne_nil L hne
  cases c
  · cases i
    · simpa [wrap] using h k
    · simp only [wrap, Bool.false_eq_true, if_false, if_true, VClass.err.injEq, ne_eq, reduceCtorEq, not_false_eq_true,
        implies_true, and_true]
      exact ⟨fun h => ⟨x0, hx0, h⟩, fun ⟨_, _, h⟩ => h⟩
  · simp only [wrap, if_true, VClass.err.injEq, ne_eq, reduceCtorEq, not_false_eq_true, implies_true, and_true]
    exact ⟨fun h => ⟨x0, hx0, h⟩, fun ⟨_, _, h⟩ => h⟩

/-- from "passes iff all members pass" and the error combination: the batch fails iff no member raises and some fails;
    it raises iff some member raises -/
theorem fail_generic (V : List Filter → VClass) (L : List Filter)
    (hp : V L = .pass ↔ ∀ x ∈ L, V [x] = .pass)
    (he : ∀ k, V L = .err k ↔ (∃ x ∈ L, V [x] = .err k) ∧ (k = .lookupError → ∀ x ∈ L, V [x] ≠ .err .impossibleMatch)) :
    ((∃ k, V L = .err k) ↔ ∃ x ∈ L, ∃ k, V [x] = .err k) ∧
    (V L = .fail ↔ (∀ x ∈ L, ∀ k, V [x] ≠ .err k) ∧ ∃ x ∈ L, V [x] = .fail) := by
  have herr : (∃ k, V L = .err k) ↔ ∃ x ∈ L, ∃ k, V [x] = .err k := by
    constructor
    · rintro ⟨k, hk⟩
      obtain ⟨⟨x, hx, h⟩, _⟩ := (he k).1 hk
      exact ⟨x, hx, k, h⟩
    · rintro ⟨x, hx, k, h⟩
      by_cases hl : k = .lookupError
      · subst hl
        by_cases him : ∃ y ∈ L, V [y] = .err .impossibleMatch
        · obtain ⟨y, hy, h'⟩ := him
          exact ⟨_, (he .impossibleMatch).2 ⟨⟨y, hy, h'⟩, fun hh => by cases hh⟩⟩
        · exact ⟨_, (he .lookupError).2 ⟨⟨x, hx, h⟩, fun _ y hy h' => him ⟨y, hy, h'⟩⟩⟩
      · exact ⟨k, (he k).2 ⟨⟨x, hx, h⟩, fun hh => absurd hh hl⟩⟩
  refine ⟨herr, ?_⟩
  constructor
  · intro hf
    have hnp : ¬ ∀ x ∈ L, V [x] = .pass := fun hall => by rw [hp.2 hall] at hf; cases hf
    have hne : ¬ ∃ x ∈ L, ∃ k, V [x] = .err k := fun hex => by
      obtain ⟨k, hk⟩ := herr.2 hex; rw [hk] at hf; cases hf
    refine ⟨fun x hx k hk => hne ⟨x, hx, k, hk⟩, ?_⟩
    apply Classical.byContradiction
    intro hcon
    apply hnp
    intro x hx
    cases hv : V [x] with
    | pass => rfl
    | fail => exact absurd ⟨x, hx, hv⟩ hcon
    | err k => exact absurd ⟨x, hx, k, hv⟩ hne
  · rintro ⟨hne, x, hx, hf⟩
    cases hv : V L with
    | pass => rw [hp.1 hv x hx] at hf; cases hf
    | fail => rfl
    | err k =>
      obtain ⟨y, hy, k', hk'⟩ := herr.1 ⟨k, hv⟩
      exact absurd hk' (hne y hy k')

def Cv (mt : Str → Str → Bool) (g : PGraph Str) (L : List Filter) : Prop := ∃ S, convertFilters mt g.nodes L = .ok S

theorem not_Cv (mt : Str → Str → Bool) (g : PGraph Str) (L : List Filter) :
    ¬ Cv mt g L ↔ convertFilters mt g.nodes L = .error .impossibleMatch := by
  simp only [Cv, convertFilters_eq]
  cases allMatch mt g.nodes L <;> simp

theorem matchRule_err_iff (mt : Str → Str → Bool) (g : PGraph Str) (b : Behavior) (ir : Bool) (A B : List Filter) :
    ((matchRule mt g b ir A B).cls = .err .impossibleMatch ↔ ¬ (allMatch mt g.nodes A = true ∧ allMatch mt g.nodes B = true)) ∧
    ((matchRule mt g b ir A B).cls = .err .lookupError ↔ (allMatch mt g.nodes A = true ∧ allMatch mt g.nodes B = true) ∧
      ¬ ∀ s ∈ expand mt g.nodes A, Answered g b ir (expand mt g.nodes B) s) := by
  simp [Verdict.cls_eq_err, matchRule_err_iff_queries, queries_error_fn, and_assoc]

theorem matchRule_batch_subjects_err (mt : Str → Str → Bool) (g : PGraph Str) (b : Behavior) (ir : Bool)
    (subs objs : List Filter) (hne : subs ≠ []) (k : ErrKind) :
    (matchRule mt g b ir subs objs).cls = .err k ↔
      (∃ x ∈ subs, (matchRule mt g b ir [x] objs).cls = .err k) ∧
      (k = .lookupError → ∀ x ∈ subs, (matchRule mt g b ir [x] objs).cls ≠ .err .impossibleMatch) := by
  obtain ⟨x0, hx0⟩ := List.exists_mem_of_ne_nil subs hne
  refine err_generic (fun L => (matchRule mt g b ir L objs).cls)
    (fun L => allMatch mt g.nodes L = true ∧ allMatch mt g.nodes objs = true)
    (fun L => ∀ s ∈ expand mt g.nodes L, Answered g b ir (expand mt g.nodes objs) s) subs
    ⟨fun h x hx => ⟨(allMatch_batch ..).1 h.1 x hx, h.2⟩,
      fun h => ⟨(allMatch_batch ..).2 fun x hx => (h x hx).1, (h x0 hx0).2⟩⟩
    ?_ (fun L => (matchRule_err_iff mt g b ir L objs).1) (fun L => (matchRule_err_iff mt g b ir L objs).2)
    (fun L k' => matchRule_cls_err_kind mt g b ir L objs k') k
  simp only [mem_expand_batch mt g.nodes subs]
  exact ⟨fun h x hx s hs => h s ⟨x, hx, hs⟩, fun h s ⟨x, hx, hs⟩ => h x hx s hs⟩

theorem verdictOf_eq_wrap (mt : Str → Str → Bool) (g : PGraph Str) (s o n d e : Bool) (A B : List Filter) :
    verdictOf mt g (mkRule s o n d e A B) =
      wrap ((!(s || o || n)) || A.isEmpty || B.isEmpty) (Behavior.mk s o n e).inconsistent
        (matchRule mt g ⟨s, o, n, e⟩ d A B).cls := by
  rw [Alg.verdictOf_mkRule]; rfl

end Pta.Batch
