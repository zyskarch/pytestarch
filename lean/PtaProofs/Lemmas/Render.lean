/-
  PtaProofs.Lemmas.Render — bridge between the raw dotted strings the code manipulates and the component
  lists of the specification. The plain string and list helpers have their lemmas in Lemmas/Str.lean.
-/
import Bridge.Abs
import PtaProofs.Lemmas.Str
namespace Pta
open PtaSpec

theorem compWF_iff (c : Comp) : compWF c = true ↔ c ≠ [] ∧ '.' ∉ c := by
  cases c <;> simp [compWF]

theorem nameWF_iff (n : Name) : nameWF n = true ↔ n ≠ [] ∧ ∀ c ∈ n, c ≠ [] ∧ '.' ∉ c := by
  simp only [nameWF, Bool.and_eq_true, List.all_eq_true, compWF_iff]
  cases n <;> simp

theorem nameWF_ne_nil {n : Name} (h : nameWF n = true) : n ≠ [] := ((nameWF_iff n).1 h).1

theorem nameWF_nodot {n : Name} (h : nameWF n = true) : ∀ c ∈ n, '.' ∉ c :=
  fun c hc => (((nameWF_iff n).1 h).2 c hc).2

theorem nameWF_comp_ne_nil {n : Name} (h : nameWF n = true) : ∀ c ∈ n, c ≠ [] :=
  fun c hc => (((nameWF_iff n).1 h).2 c hc).1

theorem nameWF_cons_iff (x : Comp) (r : Name) :
    nameWF (x :: r) = true ↔ compWF x = true ∧ (r = [] ∨ nameWF r = true) := by
  cases r <;> simp [nameWF]

theorem nameWF_append {a b : Name} (ha : nameWF a = true) (hb : nameWF b = true) : nameWF (a ++ b) = true := by
  rw [nameWF_iff] at ha hb ⊢
  refine ⟨by simp [ha.1], ?_⟩
  intro c hc
  rcases List.mem_append.1 hc with h | h
  · exact ha.2 c h
  · exact hb.2 c h

theorem nodupB_iff (l : List Name) : nodupB l = true ↔ l.Nodup := by
  induction l with
  | nil => simp [nodupB]
  | cons x xs ih => simp [nodupB, ih, List.nodup_cons]

theorem nameWF_of_prefix {p n : Name} (hn : nameWF n = true) (hp : p ≠ []) (h : p <+: n) :
    nameWF p = true := by
  rw [nameWF_iff] at hn ⊢
  exact ⟨hp, fun c hc => hn.2 c (h.subset hc)⟩

theorem nameWF_take (n : Name) (h : nameWF n = true) (k : Nat) (hk : 0 < k) : nameWF (n.take k) = true :=
  nameWF_of_prefix h (fun e => (List.take_eq_nil_iff.1 e).elim (by omega) (nameWF_ne_nil h)) (List.take_prefix k n)

theorem nameWF_trunc (lim : Option Nat) (n : Name) (h : nameWF n = true) : nameWF (trunc lim n) = true := by
  cases lim with
  | none => exact h
  | some k => exact nameWF_take n h (k + 1) (by omega)

theorem nameWF_dropLast (n : Name) (h : nameWF n = true) (hl : 2 ≤ n.length) : nameWF n.dropLast = true := by
  rw [List.dropLast_eq_take]
  exact nameWF_take n h _ (by omega)

theorem nameWF_singleton {c : Comp} (h : compWF c = true) : nameWF [c] = true := by
  simp [nameWF, h]

theorem nameWF_append_singleton {a : Name} {c : Comp} (ha : nameWF a = true) (hc : compWF c = true) :
    nameWF (a ++ [c]) = true := nameWF_append ha (nameWF_singleton hc)

theorem prefix_length_lt {α : Type} {p n : List α} (h : p <+: n) (hne : p ≠ n) : p.length < n.length :=
  Nat.lt_of_le_of_ne h.length_le fun hl => hne (h.eq_of_length hl)

theorem desc_iff (x n : Name) : desc x n = true ↔ x <+: n := by
  simp [desc, List.isPrefixOf_iff_prefix]

theorem sdesc_iff (x n : Name) : sdesc x n = true ↔ x <+: n ∧ x ≠ n := by
  simp [sdesc, List.isPrefixOf_iff_prefix]

theorem sdesc_iff_lt (x n : Name) : sdesc x n = true ↔ x <+: n ∧ x.length < n.length := by
  rw [sdesc_iff]
  exact and_congr_right fun hp => ⟨prefix_length_lt hp, fun hlt e => Nat.lt_irrefl _ (e ▸ hlt)⟩

theorem splitDots_ne_nil (s : Str) : splitDots s ≠ [] := by
  cases s with
  | nil => simp [splitDots]
  | cons c cs =>
    unfold splitDots
    split
    · simp
    · split <;> simp

theorem splitDots_nodot (x : Str) (hx : '.' ∉ x) : splitDots x = [x] := by
  induction x with
  | nil => simp [splitDots]
  | cons a as ih =>
    have ha : a ≠ '.' := by intro e; apply hx; simp [e]
    have has : '.' ∉ as := by intro e; apply hx; simp [e]
    simp [splitDots, ih has, ha]

theorem splitDots_append (x y : Str) : splitDots (x ++ '.' :: y) = splitDots x ++ splitDots y := by
  induction x with
  | nil =>
    have := splitDots_ne_nil y
    cases h : splitDots y with
    | nil => exact absurd h this
    | cons a t => simp [splitDots, h]
  | cons c cs ih =>
    have h1 := splitDots_ne_nil cs
    cases hcs : splitDots cs with
    | nil => exact absurd hcs h1
    | cons a t =>
      simp only [List.cons_append]
      rw [splitDots, ih, hcs]
      simp only [List.cons_append]
      rw [splitDots, hcs]
      split <;> simp_all

theorem joinDots_cons_cons (x y : Str) (r : List Str) :
    joinDots (x :: y :: r) = x ++ '.' :: joinDots (y :: r) := rfl

theorem joinDots_cons (x : Str) (r : List Str) (hr : r ≠ []) :
    joinDots (x :: r) = x ++ '.' :: joinDots r := by
  cases r with
  | nil => exact absurd rfl hr
  | cons y r => rfl

theorem joinDots_append (a t : List Str) (ha : a ≠ []) (ht : t ≠ []) :
    joinDots (a ++ t) = joinDots a ++ '.' :: joinDots t := by
  induction a with
  | nil => exact absurd rfl ha
  | cons x r ih =>
    cases r with
    | nil =>
      cases t with
      | nil => exact absurd rfl ht
      | cons y t' => simp [joinDots]
    | cons z r' =>
      have := ih (by simp)
      simp only [List.cons_append] at this ⊢
      simp [joinDots, this]

theorem splitDots_joinDots (cs : List Str) (h : ∀ c ∈ cs, '.' ∉ c) (hne : cs ≠ []) :
    splitDots (joinDots cs) = cs := by
  induction cs with
  | nil => exact absurd rfl hne
  | cons x r ih =>
    cases r with
    | nil => simpa [joinDots] using splitDots_nodot x (h x (by simp))
    | cons y r' =>
      have ih' := ih (by intro c hc; exact h c (by simp [hc])) (by simp)
      rw [joinDots_cons_cons, splitDots_append, ih', splitDots_nodot x (h x (by simp))]
      rfl

theorem joinDots_cons_head (c : Char) (h : Str) (t : List Str) : joinDots ((c :: h) :: t) = c :: joinDots (h :: t) := by
  cases t <;> rfl

theorem joinDots_splitDots (s : Str) : joinDots (splitDots s) = s := by
  induction s with
  | nil => rfl
  | cons a s ih =>
    unfold splitDots
    cases h : splitDots s with
    | nil => exact absurd h (splitDots_ne_nil s)
    | cons x t =>
      rw [h] at ih
      simp only
      split
      · rename_i ha
        subst ha
        rw [joinDots_cons_cons, ih]; rfl
      · rw [joinDots_cons_head, ih]

theorem joinDotsS_eq (n : List (List Char)) : joinDotsS n = joinDots n := by
  induction n with
  | nil => rfl
  | cons x r ih =>
    cases r with
    | nil => rfl
    | cons y r' => simp only [joinDotsS, joinDots, ih]

theorem render_nil : render [] = [] := rfl

theorem render_singleton (x : Comp) : render [x] = x := rfl

theorem render_cons (x : Comp) (r : Name) (hr : r ≠ []) : render (x :: r) = x ++ '.' :: render r :=
  joinDots_cons x r hr

theorem splitDots_render (n : Name) (h : nameWF n = true) : splitDots (render n) = n :=
  splitDots_joinDots n (nameWF_nodot h) (nameWF_ne_nil h)

theorem render_splitDots (s : Str) : render (splitDots s) = s := joinDots_splitDots s

theorem map_render_splitDots (X : List Str) : (X.map splitDots).map render = X := by
  rw [List.map_map]
  exact (List.map_congr_left fun s _ => render_splitDots s).trans (List.map_id X)

theorem render_append (a t : Name) (ha : a ≠ []) (ht : t ≠ []) : render (a ++ t) = render a ++ '.' :: render t :=
  joinDots_append a t ha ht

theorem render_injective (a b : Name) (ha : nameWF a = true) (hb : nameWF b = true) (h : render a = render b) : a = b := by
  rw [← splitDots_render a ha, ← splitDots_render b hb, h]

theorem render_ne_nil (n : Name) (h : nameWF n = true) : render n ≠ [] := by
  intro h0
  have hn := splitDots_render n h
  rw [h0] at hn
  subst hn
  exact absurd h (by decide)

theorem parentModulesAux_nodot (acc x : Str) (hx : '.' ∉ x) : parentModulesAux acc x = [] := by
  induction x generalizing acc with
  | nil => rfl
  | cons a as ih =>
    have ha : a ≠ '.' := by intro e; apply hx; simp [e]
    have has : '.' ∉ as := by intro e; apply hx; simp [e]
    simp [parentModulesAux, ha, ih _ has]

theorem parentModulesAux_nodot_dot (acc x rest : Str) (hx : '.' ∉ x) :
    parentModulesAux acc (x ++ '.' :: rest) =
      (acc.reverse ++ x) :: parentModulesAux (('.' :: x.reverse) ++ acc) rest := by
  induction x generalizing acc with
  | nil => simp [parentModulesAux]
  | cons a as ih =>
    have ha : a ≠ '.' := by intro e; apply hx; simp [e]
    have has : '.' ∉ as := by intro e; apply hx; simp [e]
    simp [parentModulesAux, ha, ih _ has]

theorem properPrefixes_cons (x : Comp) (l : Name) :
    properPrefixes (x :: l) = (List.range l.length).map fun k => x :: l.take k := by
  simp only [properPrefixes, List.length_cons, List.range_succ_eq_map, List.filterMap_cons,
    Nat.lt_irrefl, if_false, List.filterMap_map]
  have : ((fun k => if 0 < k then some (List.take k (x :: l)) else none) ∘ Nat.succ) =
      fun k => some (x :: l.take k) := by
    funext k; simp
  rw [this]
  exact congrFun (List.filterMap_eq_map (f := fun k => x :: l.take k)) _

theorem properPrefixes_singleton (x : Comp) : properPrefixes [x] = [] := by
  simp [properPrefixes_cons]

theorem properPrefixes_cons_cons (x y : Comp) (r : Name) :
    properPrefixes (x :: y :: r) = [x] :: (properPrefixes (y :: r)).map (x :: ·) := by
  rw [properPrefixes_cons x (y :: r), properPrefixes_cons y r]
  simp [List.range_succ_eq_map, List.map_map, Function.comp_def]

theorem mem_properPrefixes (n p : Name) : p ∈ properPrefixes n ↔ ∃ k, 0 < k ∧ k < n.length ∧ p = n.take k := by
  unfold properPrefixes
  simp only [List.mem_filterMap, List.mem_range]
  constructor
  · rintro ⟨k, hk, h⟩
    by_cases h0 : 0 < k
    · simp only [h0, if_true, Option.some.injEq] at h
      exact ⟨k, h0, hk, h.symm⟩
    · simp [h0] at h
  · rintro ⟨k, h0, hk, rfl⟩
    exact ⟨k, hk, by simp [h0]⟩

theorem properPrefixes_prefix {n p : Name} (h : p ∈ properPrefixes n) : p <+: n := by
  obtain ⟨k, -, -, rfl⟩ := (mem_properPrefixes n p).1 h
  exact List.take_prefix _ _

theorem eq_or_mem_properPrefixes {p n : Name} (hne : p ≠ []) (hp : p <+: n) : p = n ∨ p ∈ properPrefixes n := by
  by_cases hl : p.length = n.length
  · exact Or.inl (hp.eq_of_length hl)
  · exact Or.inr ((mem_properPrefixes n p).2 ⟨p.length, List.length_pos_iff.2 hne,
      by have := hp.length_le; omega, List.prefix_iff_eq_take.1 hp⟩)

theorem mem_properPrefixes_ne_nil {n p : Name} (h : p ∈ properPrefixes n) : p ≠ [] := by
  obtain ⟨k, h0, hk, rfl⟩ := (mem_properPrefixes n p).1 h
  exact fun e => (List.take_eq_nil_iff.1 e).elim (by omega) (by rintro rfl; simp at hk)

theorem properPrefixes_length (n : Name) : (properPrefixes n).length = n.length - 1 := by
  cases n with
  | nil => rfl
  | cons x l => simp [properPrefixes_cons]

theorem properPrefixes_getElem? (n : Name) (k : Nat) (hk : k + 1 < n.length) :
    (properPrefixes n)[k]? = some (n.take (k + 1)) := by
  cases n with
  | nil => simp at hk
  | cons x l =>
    simp only [List.length_cons] at hk
    rw [properPrefixes_cons, List.getElem?_map, List.getElem?_range (by omega)]
    rfl

/-! ### the name functions on components, for every string; the `render` forms are these at `splitDots (render n) = n` -/

namespace ExtNames

theorem splitDots_mem_nodot (s : Str) : ∀ c ∈ splitDots s, '.' ∉ c := by
  induction s with
  | nil => intro c hc; simp [splitDots] at hc; subst hc; simp
  | cons a s ih =>
    intro c hc
    unfold splitDots at hc
    cases h : splitDots s with
    | nil => exact absurd h (splitDots_ne_nil s)
    | cons x t =>
      rw [h] at hc ih
      simp only at hc
      split at hc
      · rcases List.mem_cons.1 hc with rfl | hc
        · simp
        · exact ih c hc
      · rename_i hne
        rcases List.mem_cons.1 hc with rfl | hc
        · intro hm
          rcases List.mem_cons.1 hm with e | hm
          · exact hne e.symm
          · exact ih x (by simp) hm
        · exact ih c (by simp [hc])

theorem splitDots_injective {a b : Str} (h : splitDots a = splitDots b) : a = b := by
  rw [← joinDots_splitDots a, ← joinDots_splitDots b, h]

theorem parentModulesAux_join (acc : Str) (n : List Str) (hne : n ≠ []) (h : ∀ c ∈ n, '.' ∉ c) :
    parentModulesAux acc (joinDots n) = (properPrefixes n).map fun p => acc.reverse ++ joinDots p := by
  induction n generalizing acc with
  | nil => exact absurd rfl hne
  | cons x r ih =>
    have hx : '.' ∉ x := h x (by simp)
    cases r with
    | nil => simp [joinDots, properPrefixes_singleton, parentModulesAux_nodot acc x hx]
    | cons y r' =>
      have hr : ∀ c ∈ y :: r', '.' ∉ c := fun c hc => h c (List.mem_cons_of_mem _ hc)
      rw [joinDots_cons_cons, parentModulesAux_nodot_dot acc x _ hx, ih _ (by simp) hr, properPrefixes_cons_cons]
      simp only [List.map_cons, List.map_map]
      congr 1
      simp only [List.map_inj_left, Function.comp_def]
      intro p hp
      have hpne := mem_properPrefixes_ne_nil hp
      simp [joinDots_cons x p hpne]

theorem parentModules_eq (m : Str) : parentModules m = (properPrefixes (splitDots m)).map joinDots := by
  have := parentModulesAux_join [] (splitDots m) (splitDots_ne_nil m) (splitDots_mem_nodot m)
  rw [joinDots_splitDots] at this
  simpa [parentModules] using this

theorem isStrictSub_iff_append (p n : Str) :
    isStrictSub p n = true ↔ ∃ r, r ≠ [] ∧ splitDots n = splitDots p ++ r := by
  unfold isStrictSub
  rw [startsWith_iff_prefix]
  constructor
  · rintro ⟨r, rfl⟩
    exact ⟨splitDots r, splitDots_ne_nil r, by rw [List.append_assoc, List.singleton_append, splitDots_append]⟩
  · rintro ⟨r, hr0, hr⟩
    refine ⟨joinDots r, ?_⟩
    rw [← joinDots_splitDots n, hr, joinDots_append _ _ (splitDots_ne_nil p) hr0, joinDots_splitDots]
    simp

theorem isModuleOrSub_iff (p n : Str) : isModuleOrSub p n = true ↔ splitDots p <+: splitDots n := by
  have h : isModuleOrSub p n = true ↔ n = p ∨ isStrictSub p n = true := by simp [isModuleOrSub, isStrictSub]
  rw [h, isStrictSub_iff_append]
  constructor
  · rintro (rfl | ⟨r, -, hr⟩)
    · exact List.prefix_refl _
    · exact ⟨r, hr.symm⟩
  · rintro ⟨r, hr⟩
    by_cases hr0 : r = []
    · subst hr0
      rw [List.append_nil] at hr
      exact Or.inl (splitDots_injective hr.symm)
    · exact Or.inr ⟨r, hr0, hr.symm⟩

theorem isStrictSub_iff (p n : Str) : isStrictSub p n = true ↔ splitDots p <+: splitDots n ∧ p ≠ n := by
  rw [isStrictSub_iff_append]
  constructor
  · rintro ⟨r, hr0, hr⟩
    refine ⟨⟨r, hr.symm⟩, ?_⟩
    rintro rfl
    exact hr0 (by simpa using hr)
  · rintro ⟨⟨r, hr⟩, hne⟩
    refine ⟨r, ?_, hr.symm⟩
    rintro rfl
    rw [List.append_nil] at hr
    exact hne (splitDots_injective hr)

end ExtNames
open ExtNames

/-- `get_parent_modules` on a rendered name = the rendered non-empty proper prefixes, shortest first -/
theorem parentModules_render (n : Name) (h : nameWF n = true) :
    parentModules (render n) = (properPrefixes n).map render := by
  rw [parentModules_eq, splitDots_render n h]; rfl

/-- the boundary-aware raw-string test `n == p or n.startswith(p + ".")` is the dotted-prefix relation -/
theorem isModuleOrSub_render (p n : Name) (hp : nameWF p = true) (hn : nameWF n = true) :
    isModuleOrSub (render p) (render n) = desc p n := by
  rw [Bool.eq_iff_iff, isModuleOrSub_iff, splitDots_render p hp, splitDots_render n hn, desc_iff]

theorem isStrictSub_render (p n : Name) (hp : nameWF p = true) (hn : nameWF n = true) :
    isStrictSub (render p) (render n) = sdesc p n := by
  rw [Bool.eq_iff_iff, isStrictSub_iff, splitDots_render p hp, splitDots_render n hn, sdesc_iff]
  exact and_congr_right fun _ => not_congr ⟨fun e => (render_injective _ _ hp hn e), fun e => by rw [e]⟩

/-- `_get_internal_module_prefix` is the rendered name of `module_path` -/
theorem internalPrefix_eq (root : Str) (mp : List Str) : internalPrefix root mp = render (root :: mp) := by
  cases mp <;> rfl

end Pta
