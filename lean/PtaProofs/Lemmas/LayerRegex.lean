/-
  PtaProofs.Lemmas.LayerRegex — C05 for layered architectures with name layers and regex layers:
  what `resolves` gives, what `convertFilters` returns on layer filters, what `updateLayerMap` keeps, and the
  instantiation of the core lemma of LayerSem.
-/
import Bridge.LayerAbs
import Bridge.LayerKept
import PtaProofs.Lemmas.LayerRule
namespace Pta
open PtaSpec

theorem layerRes_cases {mt : Str → Str → Bool} {nodes : List Str} {F : List Filter} {l : List Name}
    (h : layerRes mt nodes F l = true) :
    F = l.map nmF ∨ ∃ p, F = [.regex p] ∧ nodes.filter (mt p) = l.map render := by
  unfold layerRes at h
  rw [Bool.or_eq_true] at h
  rcases h with h | h
  · left; exact eq_of_beq h
  · right
    split at h
    · exact ⟨_, rfl, eq_of_beq h⟩
    · cases h

theorem resolves_cons (mt : Str → Str → Bool) (nodes : List Str) (L : Str × List Filter) (Ls : LArch)
    (l : List Char × List Name) (ls : Layers) :
    resolves mt nodes (L :: Ls) (l :: ls) = true ↔
      L.1 = l.1 ∧ layerRes mt nodes L.2 l.2 = true ∧ resolves mt nodes Ls ls = true := by
  simp [resolves, and_assoc]

/-- layers that list modules by name resolve to themselves, on every node list -/
theorem resolves_compileLArch (mt : Str → Str → Bool) (nodes : List Str) (ls : Layers) :
    resolves mt nodes (compileLArch ls) ls = true := by
  induction ls with
  | nil => rfl
  | cons l ls ih =>
    show resolves mt nodes ((l.1, l.2.map fun m => Filter.name (render m)) :: compileLArch ls) (l :: ls) = true
    rw [resolves_cons]
    exact ⟨rfl, by simp [layerRes], ih⟩

theorem getD_cons (L : Str × List Filter) (Ls : LArch) (n : Str) :
    LArch.getD (L :: Ls) n = if L.1 == n then L.2 else LArch.getD Ls n := by
  unfold LArch.getD LArch.get
  rw [List.find?_cons]
  cases h : L.1 == n <;> simp

theorem resolves_induction {mt : Str → Str → Bool} {nodes : List Str}
    {motive : (larch : LArch) → (ls : Layers) → resolves mt nodes larch ls = true → Prop}
    (nil : motive [] [] rfl)
    (cons : ∀ L Ls l ls (_ : L.1 = l.1) (_ : layerRes mt nodes L.2 l.2 = true) (h : resolves mt nodes Ls ls = true)
      (h' : resolves mt nodes (L :: Ls) (l :: ls) = true), motive Ls ls h → motive (L :: Ls) (l :: ls) h')
    (larch : LArch) (ls : Layers) (h : resolves mt nodes larch ls = true) : motive larch ls h := by
  induction larch generalizing ls with
  | nil =>
    cases ls with
    | nil => exact nil
    | cons l ls => simp [resolves] at h
  | cons L Ls ih =>
    cases ls with
    | nil => simp [resolves] at h
    | cons l ls =>
      obtain ⟨h1, h2, h3⟩ := (resolves_cons mt nodes L Ls l ls).1 h
      exact cons L Ls l ls h1 h2 h3 h (ih ls h3)

theorem resolves_getD (mt : Str → Str → Bool) (nodes : List Str) (larch : LArch) (ls : Layers)
    (h : resolves mt nodes larch ls = true) (n : Str) (hn : ls.any (·.1 == n) = true) :
    layerRes mt nodes (larch.getD n) (ls.get n) = true := by
  induction larch, ls, h using resolves_induction with
  | nil => simp at hn
  | cons L Ls l ls h1 h2 _ _ ih =>
    rw [getD_cons, layers_get_cons, h1]
    cases hl : l.1 == n
    · simp only [List.any_cons, hl, Bool.false_or] at hn
      simpa using ih hn
    · simpa using h2

theorem resolves_hasLayer (mt : Str → Str → Bool) (nodes : List Str) (larch : LArch) (ls : Layers)
    (h : resolves mt nodes larch ls = true) (n : Str) : larch.hasLayer n = ls.any (·.1 == n) := by
  induction larch, ls, h using resolves_induction with
  | nil => rfl
  | cons L Ls l ls h1 _ _ _ ih =>
    simp only [LArch.hasLayer] at ih ⊢
    simp only [List.any_cons, h1, ih]

/-- what the filters of one side of a layer rule stand for -/
structure Denotes (mt : Str → Str → Bool) (nodes : List Str) (fs : List Filter) (D : Name → Prop) : Prop where
  fwd : ∀ f ∈ fs, (∃ x, f = nmF x ∧ D x) ∨
    (∃ p, f = .regex p ∧ (∃ s ∈ nodes, mt p s = true) ∧ ∀ s ∈ nodes, mt p s = true → ∃ x, s = render x ∧ D x)
  bwd : ∀ x, D x → nmF x ∈ fs ∨ ∃ p, Filter.regex p ∈ fs ∧ mt p (render x) = true

theorem convertFilters_layer {a : Arch} {g : PGraph Str} (hw : ArchWF a) (hg : GraphOf a g) (mt : Str → Str → Bool)
    (fs : List Filter) (D : Name → Prop) (hden : Denotes mt g.nodes fs D) (hD : ∀ x, D x → x ∈ a.nodes) :
    ∃ N : List Name, convertFilters mt g.nodes fs = .ok ((N.map SFilter.named).map compileFilter) ∧
      ∀ x, x ∈ N ↔ D x := by
  have hall : allMatch mt g.nodes fs = true := (allMatch_iff ..).2 fun r hr hreg => by
    rcases hden.fwd r hr with ⟨x, rfl, _⟩ | ⟨p, rfl, hex, _⟩
    · cases hreg
    · exact hex
  have hR : ∀ f ∈ expand mt g.nodes fs, ∃ x, f = nmF x ∧ D x := by
    intro f hf
    rcases (mem_expand ..).1 hf with ⟨r, hr, hreg, m, hm, hmt, rfl⟩ | ⟨h1, h2⟩
    · rcases hden.fwd r hr with ⟨x, rfl, _⟩ | ⟨p, rfl, _, hall'⟩
      · cases hreg
      · obtain ⟨x, rfl, hx⟩ := hall' m hm hmt
        exact ⟨x, rfl, hx⟩
    · rcases hden.fwd f h1 with h | ⟨p, rfl, _⟩
      · exact h
      · cases h2
  have hsd : ∀ x, D x → splitDots (render x) = x := fun x hx => splitDots_render x (hw.nwf x (hD x hx))
  refine ⟨(expand mt g.nodes fs).map fun f => splitDots f.id, ?_, fun x => ⟨fun hx => ?_, fun hx => ?_⟩⟩
  · rw [convertFilters_eq, if_pos hall, List.map_map, List.map_map]
    congr 1
    symm
    conv => rhs; rw [← List.map_id (expand mt g.nodes fs)]
    apply List.map_congr_left
    intro f hf
    obtain ⟨x, rfl, hx⟩ := hR f hf
    simp only [Function.comp_def, nmF, Filter.id, hsd x hx, compileFilter, id]
  · obtain ⟨f, hf, rfl⟩ := List.mem_map.1 hx
    obtain ⟨x', rfl, hx'⟩ := hR f hf
    simp only [nmF, Filter.id, hsd x' hx']
    exact hx'
  · refine List.mem_map.2 ⟨nmF x, (mem_expand ..).2 ?_, by simp only [nmF, Filter.id, hsd x hx]⟩
    rcases hden.bwd x hx with h | ⟨p, hp, hm⟩
    · exact .inr ⟨h, rfl⟩
    · exact .inl ⟨.regex p, hp, rfl, render x, by simpa [PGraph.hasNode] using hasNode_render hg x (hD x hx), hm, rfl⟩

theorem denotes_names (mt : Str → Str → Bool) (nodes : List Str) (xs : List Name) :
    Denotes mt nodes (xs.map nmF) (fun x => x ∈ xs) := by
  constructor
  · intro f hf
    obtain ⟨x, hx, rfl⟩ := List.mem_map.1 hf
    exact .inl ⟨x, rfl, hx⟩
  · intro x hx
    exact .inl (List.mem_map_of_mem hx)

theorem denotes_layer {mt : Str → Str → Bool} {nodes : List Str} {F : List Filter} {l : List Name}
    (h : layerRes mt nodes F l = true) (hne : l ≠ []) : Denotes mt nodes F (fun x => x ∈ l) := by
  rcases layerRes_cases h with rfl | ⟨p, rfl, hp⟩
  · exact denotes_names mt nodes l
  · have hmem : ∀ s, s ∈ nodes ∧ mt p s = true ↔ ∃ x ∈ l, s = render x := by
      intro s
      rw [← List.mem_filter, hp]
      simp only [List.mem_map, eq_comm]
    constructor
    · intro f hf
      simp only [List.mem_singleton] at hf
      subst hf
      right
      refine ⟨p, rfl, ?_, ?_⟩
      · obtain ⟨x, hx⟩ := List.exists_mem_of_ne_nil _ hne
        obtain ⟨h1, h2⟩ := (hmem (render x)).2 ⟨x, hx, rfl⟩
        exact ⟨render x, h1, h2⟩
      · intro s hs hm
        obtain ⟨x, hx, rfl⟩ := (hmem s).1 ⟨hs, hm⟩
        exact ⟨x, rfl, hx⟩
    · intro x hx
      right
      exact ⟨p, by simp, ((hmem (render x)).2 ⟨x, hx, rfl⟩).2⟩

theorem denotes_flatMap {mt : Str → Str → Bool} {nodes : List Str} {ι : Type} (ons : List ι) (F : ι → List Filter)
    (l : ι → List Name) (h : ∀ on ∈ ons, Denotes mt nodes (F on) (fun x => x ∈ l on)) :
    Denotes mt nodes (ons.flatMap F) (fun x => ∃ on ∈ ons, x ∈ l on) := by
  constructor
  · intro f hf
    obtain ⟨on, hon, hf'⟩ := List.mem_flatMap.1 hf
    rcases (h on hon).fwd f hf' with ⟨x, rfl, hx⟩ | ⟨p, rfl, hex, hall⟩
    · exact .inl ⟨x, rfl, on, hon, hx⟩
    · right
      refine ⟨p, rfl, hex, ?_⟩
      intro s hs hm
      obtain ⟨x, rfl, hx⟩ := hall s hs hm
      exact ⟨x, rfl, on, hon, hx⟩
  · rintro x ⟨on, hon, hx⟩
    rcases (h on hon).bwd x hx with h' | ⟨p, hp, hm⟩
    · exact .inl (List.mem_flatMap.2 ⟨on, hon, h'⟩)
    · exact .inr ⟨p, List.mem_flatMap.2 ⟨on, hon, hp⟩, hm⟩

theorem keptEntry_names (conv : List Str) (xs : List Name) (l : List Char × List Name) :
    keptEntry conv (xs.map nmF) l = l := by
  cases xs with
  | nil => rfl
  | cons x xs =>
    cases xs with
    | nil => simp [keptEntry, nmF]
    | cons y ys => simp [keptEntry]

theorem keptEntry_regex (conv : List Str) (p : Str) (l : List Char × List Name) :
    keptEntry conv [.regex p] l = if conv.contains p then l else (l.1, []) := rfl

theorem keptEntry_cases (conv : List Str) (F : List Filter) (l : List Char × List Name) :
    keptEntry conv F l = l ∨ keptEntry conv F l = (l.1, []) := by
  unfold keptEntry
  split
  · split
    · exact .inl rfl
    · exact .inr rfl
  · exact .inl rfl

theorem keptEntry_fst (conv : List Str) (F : List Filter) (l : List Char × List Name) :
    (keptEntry conv F l).1 = l.1 := by
  rcases keptEntry_cases conv F l with h | h <;> rw [h]

theorem keptEntry_of_conv (conv : List Str) (F : List Filter) (l : List Char × List Name)
    (h : ∀ f ∈ F, f.isRegex = true → f.id ∈ conv) : keptEntry conv F l = l := by
  unfold keptEntry
  split
  · rename_i p
    have hm : p ∈ conv := h (.regex p) (by simp) rfl
    have : conv.contains p = true := List.contains_iff_mem.2 hm
    rw [this, if_pos rfl]
  · rfl

theorem entryOf_regex (mt : Str → Str → Bool) (mods conv : List Str) (n p : Str) :
    entryOf mt mods conv (n, [.regex p]) = (n, if conv.contains p then mods.filter (mt p) else []) := by
  unfold entryOf
  simp

/-- the mapping `_update_layer_mapping` builds is the rendering of the kept layers -/
theorem update_eq_kept (mt : Str → Str → Bool) (nodes conv : List Str) (larch : LArch) (ls : Layers)
    (h : resolves mt nodes larch ls = true) :
    updateLayerMap mt nodes larch conv = (keptLayers conv larch ls).map fun l => (l.1, l.2.map render) := by
  induction larch, ls, h using resolves_induction with
  | nil => rfl
  | cons L Ls l ls h1 h2 _ _ ih =>
    rw [updateLayerMap_eq_map] at ih ⊢
    show _ = (keptEntry conv L.2 l :: keptLayers conv Ls ls).map _
    rw [List.map_cons, List.map_cons, ← ih]
    congr 1
    obtain ⟨Ln, LF⟩ := L
    simp only at h1 h2 ⊢
    subst h1
    rcases layerRes_cases h2 with rfl | ⟨p, rfl, hp⟩
    · rw [entryOf_names, keptEntry_names]
    · rw [entryOf_regex, keptEntry_regex]
      cases conv.contains p
      · rfl
      · simp only [if_true, hp]

theorem kept_sub (conv : List Str) (larch : LArch) (ls : Layers) :
    ∀ l' ∈ keptLayers conv larch ls, ∃ l ∈ ls, l.1 = l'.1 ∧ (l'.2 = l.2 ∨ l'.2 = []) := by
  induction larch generalizing ls with
  | nil => intro l' hl'; simp [keptLayers] at hl'
  | cons L Ls ih =>
    cases ls with
    | nil => intro l' hl'; simp [keptLayers] at hl'
    | cons l ls =>
      intro l' hl'
      rcases List.mem_cons.1 hl' with rfl | hl'
      · refine ⟨l, by simp, (keptEntry_fst _ _ _).symm, ?_⟩
        rcases keptEntry_cases conv L.2 l with h | h <;> rw [h]
        · exact .inl rfl
        · exact .inr rfl
      · obtain ⟨k, hk, h⟩ := ih ls l' hl'
        exact ⟨k, List.mem_cons_of_mem _ hk, h⟩

theorem kept_names (mt : Str → Str → Bool) (nodes conv : List Str) (larch : LArch) (ls : Layers)
    (h : resolves mt nodes larch ls = true) : (keptLayers conv larch ls).map (·.1) = ls.map (·.1) := by
  induction larch, ls, h using resolves_induction with
  | nil => rfl
  | cons L Ls l ls _ _ _ _ ih =>
    show (keptEntry conv L.2 l :: keptLayers conv Ls ls).map _ = _
    rw [List.map_cons, List.map_cons, keptEntry_fst, ih]

theorem kept_any (mt : Str → Str → Bool) (nodes conv : List Str) (larch : LArch) (ls : Layers)
    (h : resolves mt nodes larch ls = true) (n : List Char) :
    (keptLayers conv larch ls).any (·.1 == n) = ls.any (·.1 == n) :=
  any_name_congr (kept_names mt nodes conv larch ls h) n

theorem kept_get (mt : Str → Str → Bool) (nodes conv : List Str) (larch : LArch) (ls : Layers)
    (h : resolves mt nodes larch ls = true) (n : List Char)
    (hc : ∀ f ∈ larch.getD n, f.isRegex = true → f.id ∈ conv) :
    (keptLayers conv larch ls).get n = ls.get n := by
  induction larch, ls, h using resolves_induction with
  | nil => rfl
  | cons L Ls l ls h1 _ _ _ ih =>
    show Layers.get (keptEntry conv L.2 l :: keptLayers conv Ls ls) n = _
    rw [layers_get_cons, layers_get_cons, keptEntry_fst]
    rw [getD_cons, h1] at hc
    cases hl : l.1 == n
    · simp only [hl, Bool.false_eq_true, if_false] at hc ⊢
      exact ih hc
    · simp only [hl, if_true] at hc ⊢
      rw [keptEntry_of_conv conv L.2 l hc]

theorem layerRes_kept (mt : Str → Str → Bool) (nodes conv : List Str) (larch : LArch) (ls : Layers)
    (h : resolves mt nodes larch ls = true) (n : List Char) (hn : (keptLayers conv larch ls).any (·.1 == n) = true)
    (hc : ∀ f ∈ larch.getD n, f.isRegex = true → f.id ∈ conv) :
    layerRes mt nodes (larch.getD n) ((keptLayers conv larch ls).get n) = true := by
  rw [kept_get mt nodes conv larch ls h n hc]
  exact resolves_getD mt nodes larch ls h n (by rw [← kept_any mt nodes conv larch ls h]; exact hn)

/-- every entry of the updated mapping is a layer of `ls`, kept or emptied -/
theorem updateLayerMap_sub (mt : Str → Str → Bool) (nodes conv : List Str) (larch : LArch) (ls : Layers)
    (h : resolves mt nodes larch ls = true) :
    ∀ e ∈ updateLayerMap mt nodes larch conv, ∃ l ∈ ls, l.1 = e.1 ∧ (e.2 = l.2.map render ∨ e.2 = []) := by
  intro e he
  rw [update_eq_kept mt nodes conv larch ls h] at he
  obtain ⟨l', hl', rfl⟩ := List.mem_map.1 he
  obtain ⟨l, hl, h1, h2⟩ := kept_sub conv larch ls l' hl'
  exact ⟨l, hl, h1, h2.imp (fun h => by simp [h]) (fun h => by simp [h])⟩

/-- a layer all of whose regex filters were converted by the rule is kept in full -/
theorem updateLayerMap_keep (mt : Str → Str → Bool) (nodes conv : List Str) (larch : LArch) (ls : Layers)
    (h : resolves mt nodes larch ls = true) (hnd : nodupC (ls.map (·.1)) = true)
    (l : List Char × List Name) (hl : l ∈ ls)
    (hc : ∀ f ∈ larch.getD l.1, f.isRegex = true → f.id ∈ conv) :
    (l.1, l.2.map render) ∈ updateLayerMap mt nodes larch conv := by
  rw [update_eq_kept mt nodes conv larch ls h]
  have hg := kept_get mt nodes conv larch ls h l.1 hc
  rw [get_of_mem ls hnd l hl] at hg
  obtain ⟨l', hl', h1, h2⟩ := get_of_any (keptLayers conv larch ls) l.1 (by
    rw [kept_any mt nodes conv larch ls h]
    exact List.any_eq_true.2 ⟨l, hl, beq_self_eq_true _⟩)
  have : l' = l := Prod.ext h1 (h2.symm.trans hg)
  exact List.mem_map.2 ⟨l', hl', by rw [this]⟩

theorem ruleConv_subj (larch : LArch) (r : LRuleSpec) :
    ∀ f ∈ larch.getD r.subject, f.isRegex = true → f.id ∈ ruleConv larch r := by
  intro f hf hr
  exact List.mem_map.2 ⟨f, List.mem_filter.2 ⟨List.mem_append_left _ hf, hr⟩, rfl⟩

theorem ruleConv_obj (larch : LArch) (r : LRuleSpec) (hany : r.anything = false) :
    ∀ on ∈ r.objects, ∀ f ∈ larch.getD on, f.isRegex = true → f.id ∈ ruleConv larch r := by
  intro on hon f hf hr
  unfold ruleConv
  simp only [hany, Bool.false_eq_true, if_false]
  exact List.mem_map.2 ⟨f, List.mem_filter.2 ⟨List.mem_append_right _ (List.mem_flatMap.2 ⟨on, hon, hf⟩), hr⟩, rfl⟩

/-- emptying layers the rule does not mention preserves everything -/
theorem ldom_kept {a : Arch} {ls : Layers} {r : LRuleSpec} (hd0 : LDom a ls r) (mt : Str → Str → Bool)
    (nodes : List Str) (larch : LArch) (hres : resolves mt nodes larch ls = true) :
    LDom a (ruleLayers larch ls r) r := by
  have hgetS : (ruleLayers larch ls r).get r.subject = ls.get r.subject :=
    kept_get mt nodes _ larch ls hres r.subject (ruleConv_subj larch r)
  have hgetO : r.anything = false → ∀ on ∈ r.objects, (ruleLayers larch ls r).get on = ls.get on :=
    fun hany on hon => kept_get mt nodes _ larch ls hres on (ruleConv_obj larch r hany on hon)
  refine hd0.of_sub ?_ (kept_names mt nodes _ larch ls hres) (fun x => by rw [hgetS])
    (fun hany on hon x => by rw [hgetO hany on hon]) hd0.nodesS hd0.nodesO
  intro l' hl'
  obtain ⟨l, hl, h1, h2⟩ := kept_sub _ larch ls l' hl'
  refine ⟨l, hl, h1.symm, fun x hx => ?_⟩
  rcases h2 with h2 | h2 <;> rw [h2] at hx
  · exact hx
  · cases hx

theorem keptLayers_names (conv : List Str) (ls : Layers) : keptLayers conv (compileLArch ls) ls = ls := by
  induction ls with
  | nil => rfl
  | cons l ls ih =>
    show keptEntry conv (l.2.map fun m => Filter.name (render m)) l :: keptLayers conv (compileLArch ls) ls = _
    rw [ih]
    congr 1
    exact keptEntry_names conv l.2 l

theorem layerRes_ne_nil {mt : Str → Str → Bool} {nodes : List Str} {F : List Filter} {l : List Name}
    (h : layerRes mt nodes F l = true) (hne : l ≠ []) : F ≠ [] := by
  rcases layerRes_cases h with rfl | ⟨p, rfl, _⟩
  · simpa using hne
  · simp

theorem filter_isRegex_nmF (xs : List Name) : (xs.map nmF).filter (·.isRegex) = [] := by
  rw [← filter_isRegex_compile (xs.map .named), List.map_map]
  rfl

/-- the subject filters after `_convert_aliases`: listed modules that are sub modules of other listed modules of the
    layer are dropped (they must exist), the retained modules generate the same layer; a regex layer is untouched -/
theorem subject_filters {a : Arch} {g : PGraph Str} (hw : ArchWF a) (hg : GraphOf a g) (mt : Str → Str → Bool)
    {F : List Filter} {l : List Name} (h : layerRes mt g.nodes F l = true) (hne : l ≠ [])
    (hn : ∀ x ∈ l, x ∈ a.nodes) :
    ∃ D : List Name, Denotes mt g.nodes (dedupSubjects F) (fun x => x ∈ D) ∧ (∀ x ∈ D, x ∈ l) ∧
      (∀ n, inLayer D n = inLayer l n) ∧ (dedupSubjects F).filter (·.isRegex) = F.filter (·.isRegex) ∧
      droppedAbsentIn g F = false ∧ dedupSubjects F ≠ [] := by
  rcases layerRes_cases h with rfl | ⟨p, rfl, _⟩
  · have hdd := dedupSubjects_names l (fun x hx => hw.nwf x (hn x hx))
    refine ⟨minimals l, ?_, fun x hx => minimals_sub hx, inLayer_minimals l, ?_, ?_, ?_⟩
    · rw [hdd]; exact denotes_names mt g.nodes _
    · rw [hdd, filter_isRegex_nmF, filter_isRegex_nmF]
    · apply droppedAbsentIn_of_nodes
      intro f hf _
      obtain ⟨x, hx, rfl⟩ := List.mem_map.1 hf
      exact hasNode_render hg x (hn x hx)
    · rw [hdd]
      obtain ⟨x, hx⟩ := List.exists_mem_of_ne_nil _ hne
      obtain ⟨m, hm, _⟩ := minimals_cover l x hx
      intro h0
      rw [List.map_eq_nil_iff] at h0
      rw [h0] at hm; cases hm
  · have hdd := dedupSubjects_single (Filter.regex p)
    refine ⟨l, ?_, fun x hx => hx, fun _ => rfl, by rw [hdd], droppedAbsentIn_of_dedup_eq g _ hdd, by rw [hdd]; simp⟩
    rw [hdd]
    exact denotes_layer h hne

/-- the layer mapping `LayerRuleMatcher` works with: regex layers the rule mentions are resolved, the others emptied -/
def ruleLayerMap (mt : Str → Str → Bool) (g : PGraph Str) (larch : LArch) (r : LRuleSpec) : LayerMap :=
  updateLayerMap mt g.nodes larch (ruleConv larch r)

theorem ruleLayerMap_eq_ruleMap (mt : Str → Str → Bool) (g : PGraph Str) (larch : LArch) (r : LRuleSpec) :
    ruleLayerMap mt g larch r = ruleMap mt g larch (larch.getD r.subject)
      (if r.anything = true then larch.getD r.subject else r.objects.flatMap larch.getD) := rfl

/-- … and the mapping of the filters `assert_applies` hands to the matcher: the alias conversion of an `any layer` rule
    keeps the regex filters -/
theorem ruleMap_subjF_objF (mt : Str → Str → Bool) (g : PGraph Str) (larch : LArch) (r : LRuleSpec)
    (h : r.anything = true →
      (dedupSubjects (larch.getD r.subject)).filter (·.isRegex) = (larch.getD r.subject).filter (·.isRegex)) :
    ruleMap mt g larch (subjF larch r) (objF larch r) = ruleLayerMap mt g larch r := by
  rw [ruleLayerMap_eq_ruleMap]
  unfold ruleMap subjF objF
  cases ha : r.anything
  · rfl
  · simp only [if_true, List.filter_append, h ha]

theorem ruleLayerMap_eq (mt : Str → Str → Bool) (g : PGraph Str) (larch : LArch) (ls : Layers) (r : LRuleSpec)
    (hres : resolves mt g.nodes larch ls = true) :
    ruleLayerMap mt g larch r = (ruleLayers larch ls r).map fun l => (l.1, l.2.map render) :=
  update_eq_kept mt g.nodes (ruleConv larch r) larch ls hres

/-- on name and regex layers, `assert_applies` is `matchLayerRule` on filters that convert to modules generating the
    subject layer and to the modules of the object layers, with a layer mapping that satisfies the hypotheses of the core
    lemma. The domain hypothesis is about the layers the rule works with (`ruleLayers`) -/
theorem layer_reduce (mt : Str → Str → Bool) (a : Arch) (g : PGraph Str) (hg : GraphOf a g)
    (hwf : a.wf = true) (ls : Layers) (r : LRuleSpec)
    (hany : r.anything = true → r.verb = .shouldNot)
    (larch : LArch) (hres : resolves mt g.nodes larch ls = true) (hd : LDom a (ruleLayers larch ls r) r) :
    ∃ S O, LCtx a (ruleLayers larch ls r) r (ruleLayerMap mt g larch r) S O (layerTag (ruleLayers larch ls r)) ∧
      Converts mt g larch (subjF larch r) (objF larch r) (ruleLayerMap mt g larch r) S O ∧
      assertAppliesLayer mt (compileLayerRule larch r) g =
        matchLayerRule mt g larch (behL r) r.importDir (subjF larch r) (objF larch r) := by
  have hw := archWF_of_wf a hwf
  have hmap := ruleLayerMap_eq mt g larch ls r hres
  have hresS := layerRes_kept mt g.nodes _ larch ls hres r.subject hd.subj (ruleConv_subj larch r)
  have hFSne := layerRes_ne_nil hresS hd.subjNe
  cases hanyB : r.anything
  · -- the twelve shapes: 3 verbs × access / be accessed by × with / without `except`
    have hresO : ∀ on ∈ r.objects, layerRes mt g.nodes (larch.getD on) ((ruleLayers larch ls r).get on) = true :=
      fun on hon => layerRes_kept mt g.nodes _ larch ls hres on (hd.obj hanyB on hon).1 (ruleConv_obj larch r hanyB on hon)
    obtain ⟨S, hconvS, hmemS⟩ := convertFilters_layer hw hg mt _ _ (denotes_layer hresS hd.subjNe) hd.nodesS
    have hdenO := denotes_flatMap (mt := mt) (nodes := g.nodes) r.objects larch.getD (ruleLayers larch ls r).get
      (fun on hon => denotes_layer (hresO on hon) (hd.obj hanyB on hon).2.2)
    obtain ⟨O, hconvO, hmemO⟩ := convertFilters_layer hw hg mt _ _ hdenO (by
      rintro x ⟨on, hon, hx⟩
      exact hd.nodesO hanyB on hon x hx)
    have hFOne : r.objects.flatMap larch.getD ≠ [] := by
      obtain ⟨on, hon⟩ := List.exists_mem_of_ne_nil _ (hd.objNe hanyB)
      obtain ⟨f, hf⟩ := List.exists_mem_of_ne_nil _ (layerRes_ne_nil (hresO on hon) (hd.obj hanyB on hon).2.2)
      intro h0
      have : f ∈ r.objects.flatMap larch.getD := List.mem_flatMap.2 ⟨on, hon, hf⟩
      rw [h0] at this; cases this
    have c := lctx_core hw hd S O (inLayer_congr hmemS) (fun x hx => (hmemS x).1 hx)
      (fun x => by simp only [hanyB, Bool.false_eq_true, if_false]; exact hmemO x)
    rw [← hmap] at c
    refine ⟨S, O, c, ?_, assertAppliesLayer_compile' mt g larch r (by rw [subjF_plain larch hanyB]; exact hFSne) (.inr hFOne) hany
      (fun h => by rw [hanyB] at h; cases h)⟩
    exact ⟨subjF_plain larch hanyB ▸ hconvS, objF_plain larch hanyB ▸ hconvO, ruleMap_subjF_objF mt g larch r fun h => by rw [hanyB] at h; cases h⟩
  · -- the two `any layer` aliases
    obtain ⟨D, hden, hDsub, hDin, hDreg, hDabs, hDne⟩ := subject_filters hw hg mt hresS hd.subjNe hd.nodesS
    obtain ⟨S, hconvS, hmemS⟩ := convertFilters_layer hw hg mt _ _ hden (fun x hx => hd.nodesS x (hDsub x hx))
    have c := lctx_core hw hd S S (fun n => (inLayer_congr hmemS n).trans (hDin n))
      (fun x hx => hDsub x ((hmemS x).1 hx)) (fun x => by simp only [hanyB, if_true])
    rw [← hmap] at c
    refine ⟨S, S, c, ?_, assertAppliesLayer_compile' mt g larch r (by rw [subjF_any larch hanyB]; exact hDne) (.inl hanyB) hany
      (fun _ => hDabs)⟩
    exact ⟨subjF_any larch hanyB ▸ hconvS, objF_any larch hanyB ▸ hconvS, ruleMap_subjF_objF mt g larch r fun _ => hDreg⟩

theorem layerVerdict_ruleLayers (mt : Str → Str → Bool) (nodes : List Str) (a : Arch) (larch : LArch) (ls : Layers)
    (r : LRuleSpec) (hres : resolves mt nodes larch ls = true) :
    layerVerdict a (ruleLayers larch ls r) r = layerVerdict a ls r :=
  layerVerdict_congr a _ _ r (kept_get mt nodes _ larch ls hres r.subject (ruleConv_subj larch r))
    (fun hany on hon => kept_get mt nodes _ larch ls hres on (ruleConv_obj larch r hany on hon))

/-- C05 on name and regex layers, given the domain of the core lemma on the layers the rule works with -/
theorem layer_verdict_ldom (mt : Str → Str → Bool) (a : Arch) (g : PGraph Str) (hg : GraphOf a g)
    (hwf : a.wf = true) (ls : Layers) (r : LRuleSpec)
    (hany : r.anything = true → r.verb = .shouldNot)
    (larch : LArch) (hres : resolves mt g.nodes larch ls = true) (hd : LDom a (ruleLayers larch ls r) r) :
    (assertAppliesLayer mt (compileLayerRule larch r) g).cls = VClass.ofBool (layerVerdict a ls r) := by
  obtain ⟨S, O, c, cv, heq⟩ := layer_reduce mt a g hg hwf ls r hany larch hres hd
  rw [heq, ← layerVerdict_ruleLayers mt g.nodes a larch ls r hres]
  exact matchLayerRule_verdict c (archWF_of_wf a hwf) hg cv hany

theorem ldom_of_layerDomain' (mt : Str → Str → Bool) (nodes : List Str) (a : Arch) (hwf : a.wf = true) (ls : Layers)
    (r : LRuleSpec) (hdom : layerDomain' a ls r = true) (larch : LArch) (hres : resolves mt nodes larch ls = true) :
    LDom a (ruleLayers larch ls r) r :=
  ldom_kept (ldom_of_ldom' (archWF_of_wf a hwf) (ldom'_of_layerDomain' a ls r hdom)) mt nodes larch hres

/-- C05 on name and regex layers -/
theorem layer_verdict_lemma (mt : Str → Str → Bool) (a : Arch) (g : PGraph Str) (hg : GraphOf a g)
    (hwf : a.wf = true) (ls : Layers) (r : LRuleSpec) (hdom : layerDomain' a ls r = true)
    (hany : r.anything = true → r.verb = .shouldNot)
    (larch : LArch) (hres : resolves mt g.nodes larch ls = true) :
    (assertAppliesLayer mt (compileLayerRule larch r) g).cls = VClass.ofBool (layerVerdict a ls r) :=
  layer_verdict_ldom mt a g hg hwf ls r hany larch hres (ldom_of_layerDomain' mt g.nodes a hwf ls r hdom larch hres)

/-- soundness of the layer report: every reported import line is an import of the architecture, and the two layer
    tags printed with it are the (successful) lookups of its ends and differ -/
theorem layer_report_sound_kept_lemma (mt : Str → Str → Bool) (a : Arch) (g : PGraph Str) (hg : GraphOf a g)
    (hwf : a.wf = true) (ls : Layers) (r : LRuleSpec)
    (hany : r.anything = true → r.verb = .shouldNot)
    (larch : LArch) (hres : resolves mt g.nodes larch ls = true) (hd : LDom a (ruleLayers larch ls r) r)
    (items : List LItem)
    (h : assertAppliesLayer mt (compileLayerRule larch r) g = .fail items) :
    ∀ u v b tu tv, LItem.imp u v b tu tv ∈ items →
      (∃ e ∈ a.imports, u = render e.1 ∧ v = render e.2 ∧ tu = layerTag (ruleLayers larch ls r) e.1 ∧
        tv = layerTag (ruleLayers larch ls r) e.2) ∧ v ∈ g.importSuccs u ∧
      (ruleLayerMap mt g larch r).layerOf u = .ok tu ∧ (ruleLayerMap mt g larch r).layerOf v = .ok tv ∧ tu ≠ tv := by
  have hw := archWF_of_wf a hwf
  obtain ⟨S, O, c, cv, heq⟩ := layer_reduce mt a g hg hwf ls r hany larch hres hd
  rw [heq] at h
  intro u v b tu tv hmem
  obtain ⟨e, he, hu, hv, htu, htv, hne⟩ := matchLayerRule_sound c hw hg cv items h u v b tu tv hmem
  refine ⟨⟨e, he, hu, hv, htu, htv⟩, ?_, ?_, ?_, hne⟩
  · rw [hu, hv]; exact (hg.succs _ _).2 ⟨e, he, rfl, rfl⟩
  · rw [hu, htu]; exact c.tagOk _ (hw.impL e he)
  · rw [hv, htv]; exact c.tagOk _ (hw.impR e he)

end Pta
