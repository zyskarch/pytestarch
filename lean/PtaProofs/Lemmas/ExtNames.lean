/-
  PtaProofs.Lemmas.ExtNames — raw-string facts for ARBITRARY module strings (no well-formedness): the chain
  `parentModules m ++ [m]`, its consecutive pairs (immediate-parent pairs `hierPair`), how `flattenNode` acts on chains,
  and their reading on rendered well-formed names (`flatten_render`, `mem_chain_render`, `hierPair_render`). The component
  equations (`splitDots`, `joinDots`, `parentModules` on components) are in Render.lean, in this namespace.
  Used by the general characterisation of `buildGraph` (Lemmas/ExtBuild.lean).
-/
import Bridge.Abs
import PtaProofs.Lemmas.Render
import PtaProofs.Lemmas.BuildNames
namespace Pta
namespace ExtNames
open PtaSpec BuildNames

theorem prefixes_snoc (n : Name) (hn : n ≠ []) : properPrefixes n ++ [n] = (List.range' 1 n.length).map n.take := by
  cases n with
  | nil => exact absurd rfl hn
  | cons x l =>
    rw [properPrefixes_cons, List.length_cons, List.range'_eq_map_range, List.range_succ, List.map_append, List.map_append]
    simp [Nat.add_comm 1]

theorem mem_consecutive_prefixes (n : Name) (hn : n ≠ []) (p : Name × Name) :
    p ∈ consecutive (properPrefixes n ++ [n]) ↔ ∃ k, 0 < k ∧ k < n.length ∧ p = (n.take k, n.take (k + 1)) := by
  obtain ⟨m, hm⟩ : ∃ m, n.length = m + 1 := ⟨n.length - 1, by have := List.length_pos_iff.2 hn; omega⟩
  rw [prefixes_snoc n hn, hm, consecutive_map_range', List.mem_map]
  simp only [List.mem_range'_1]
  constructor
  · rintro ⟨k, ⟨h1, h2⟩, rfl⟩; exact ⟨k, by omega, by omega, rfl⟩
  · rintro ⟨k, h1, h2, rfl⟩; exact ⟨k, ⟨by omega, by omega⟩, rfl⟩

def chain (m : Str) : List Str := parentModules m ++ [m]

theorem chain_eq (m : Str) : chain m = (properPrefixes (splitDots m) ++ [splitDots m]).map joinDots := by
  unfold chain
  rw [parentModules_eq, List.map_append]
  simp [joinDots_splitDots]

theorem splitDots_join_take (m : Str) (k : Nat) (hk : 0 < k) :
    splitDots (joinDots ((splitDots m).take k)) = (splitDots m).take k :=
  splitDots_joinDots _ (fun c hc => splitDots_mem_nodot m c (List.mem_of_mem_take hc)) fun e =>
    (List.take_eq_nil_iff.1 e).elim (by omega) (splitDots_ne_nil m)

theorem mem_chain (e m : Str) : e ∈ chain m ↔ splitDots e <+: splitDots m := by
  rw [chain_eq]
  simp only [List.mem_map, List.mem_append, List.mem_singleton, mem_properPrefixes]
  constructor
  · rintro ⟨n, (⟨k, h0, hk, rfl⟩ | rfl), rfl⟩
    · rw [splitDots_join_take m k h0]; exact List.take_prefix _ _
    · rw [joinDots_splitDots]; exact List.prefix_refl _
  · rintro ⟨r, hr⟩
    have hne := splitDots_ne_nil e
    by_cases hr0 : r = []
    · subst hr0
      rw [List.append_nil] at hr
      exact ⟨splitDots m, Or.inr rfl, by rw [← hr, joinDots_splitDots]⟩
    · refine ⟨splitDots e, Or.inl ⟨(splitDots e).length, ?_, ?_, ?_⟩, joinDots_splitDots e⟩
      · exact List.length_pos_iff.2 hne
      · rw [← hr, List.length_append]
        have := List.length_pos_iff.2 hr0
        omega
      · rw [← hr, List.take_left]

theorem mem_parentModules (p m : Str) : p ∈ parentModules m ↔ p ∈ chain m ∧ p ≠ m := by
  unfold chain
  rw [List.mem_append, List.mem_singleton]
  constructor
  · intro h
    refine ⟨Or.inl h, ?_⟩
    rintro rfl
    rw [parentModules_eq] at h
    obtain ⟨n, hn, he⟩ := List.mem_map.1 h
    obtain ⟨k, h0, hk, rfl⟩ := (mem_properPrefixes _ _).1 hn
    have := congrArg splitDots he
    rw [splitDots_join_take p k h0] at this
    have := congrArg List.length this
    rw [List.length_take] at this
    omega
  · rintro ⟨h | h, hne⟩
    · exact h
    · exact absurd h hne

theorem self_mem_chain (m : Str) : m ∈ chain m := by simp [chain]

theorem chain_trans {a b c : Str} (h1 : a ∈ chain b) (h2 : b ∈ chain c) : a ∈ chain c := by
  rw [mem_chain] at *
  exact List.IsPrefix.trans h1 h2

theorem parent_mem_chain {p m : Str} (h : p ∈ parentModules m) : p ∈ chain m := ((mem_parentModules p m).1 h).1

theorem mem_cons_parents_chain {m y : Str} : m ∈ y :: parentModules y ↔ m ∈ chain y := by
  simp [chain, or_comm]

/-- `s` is the immediate dotted parent of `e` -/
def hierPair (s e : Str) : Prop := ∃ t, '.' ∉ t ∧ e = s ++ '.' :: t

theorem hierPair_iff (s e : Str) : hierPair s e ↔ ∃ t, splitDots e = splitDots s ++ [t] := by
  constructor
  · rintro ⟨t, ht, rfl⟩
    exact ⟨t, by rw [splitDots_append, splitDots_nodot t ht]⟩
  · rintro ⟨t, ht⟩
    have htn : '.' ∉ t := splitDots_mem_nodot e t (by rw [ht]; simp)
    refine ⟨t, htn, ?_⟩
    rw [← joinDots_splitDots e, ht, joinDots_append _ _ (splitDots_ne_nil s) (by simp), joinDots_splitDots]
    rfl

theorem hierPair_ne {s e : Str} (h : hierPair s e) : s ≠ e := by
  obtain ⟨t, -, rfl⟩ := h
  intro he
  have := congrArg List.length he
  simp at this

theorem hierPair_parent {s e : Str} (h : hierPair s e) : s ∈ parentModules e := by
  rw [mem_parentModules]
  refine ⟨?_, hierPair_ne h⟩
  rw [mem_chain]
  obtain ⟨t, ht⟩ := (hierPair_iff s e).1 h
  exact ⟨[t], ht.symm⟩

theorem hierPair_chain {s e m : Str} (h : hierPair s e) (he : e ∈ chain m) : s ∈ chain m :=
  chain_trans (parent_mem_chain (hierPair_parent h)) he

theorem mem_consecutive_chain_iff (m s e : Str) :
    (s, e) ∈ consecutive (chain m) ↔ hierPair s e ∧ e ∈ chain m := by
  rw [chain_eq, consecutive_map, List.mem_map]
  constructor
  · rintro ⟨p, hp, he⟩
    obtain ⟨k, h0, hk, rfl⟩ := (mem_consecutive_prefixes _ (splitDots_ne_nil m) p).1 hp
    simp only [Prod.mk.injEq] at he
    obtain ⟨rfl, rfl⟩ := he
    constructor
    · rw [hierPair_iff, splitDots_join_take m k h0, splitDots_join_take m (k + 1) (by omega)]
      refine ⟨(splitDots m)[k], ?_⟩
      rw [List.take_succ_eq_append_getElem hk]
    · rw [← chain_eq, mem_chain, splitDots_join_take m (k + 1) (by omega)]
      exact List.take_prefix _ _
  · rintro ⟨hp, he⟩
    obtain ⟨t, ht⟩ := (hierPair_iff s e).1 hp
    rw [← chain_eq, mem_chain] at he
    obtain ⟨r, hr⟩ := he
    have hs := List.length_pos_iff.2 (splitDots_ne_nil s)
    have hlen : (splitDots s).length + 1 + r.length = (splitDots m).length := by
      rw [← hr, ht]; simp; omega
    refine ⟨((splitDots m).take (splitDots s).length, (splitDots m).take ((splitDots s).length + 1)), ?_, ?_⟩
    · exact (mem_consecutive_prefixes _ (splitDots_ne_nil m) _).2 ⟨_, hs, by omega, rfl⟩
    · simp only [Prod.mk.injEq]
      constructor
      · rw [← hr, ht, List.append_assoc, List.take_left, joinDots_splitDots]
      · have : (splitDots s).length + 1 = (splitDots e).length := by rw [ht]; simp
        rw [this, ← hr, List.take_left, joinDots_splitDots]

/-! ### `flattenNode`: the node of a name in a graph with a level limit -/

theorem splitDots_flatten (k : Nat) (m : Str) :
    splitDots (flattenNode (some k) m) = (splitDots m).take (k + 1) :=
  splitDots_join_take m (k + 1) (by omega)

theorem flatten_mem_chain (lim : Option Nat) (m : Str) : flattenNode lim m ∈ chain m := by
  cases lim with
  | none => exact self_mem_chain m
  | some k => rw [mem_chain, splitDots_flatten]; exact List.take_prefix _ _

theorem flatten_short (lim : Option Nat) (s m : Str) (h : s ∈ chain (flattenNode lim m)) : flattenNode lim s = s := by
  cases lim with
  | none => rfl
  | some k =>
    rw [mem_chain, splitDots_flatten] at h
    apply splitDots_injective
    rw [splitDots_flatten]
    apply List.take_of_length_le
    have := h.length_le
    rw [List.length_take] at this
    omega

theorem flatten_chain_mono (lim : Option Nat) {s m : Str} (h : s ∈ chain m) :
    flattenNode lim s ∈ chain (flattenNode lim m) := by
  cases lim with
  | none => exact h
  | some k =>
    rw [mem_chain] at *
    rw [splitDots_flatten, splitDots_flatten]
    obtain ⟨r, hr⟩ := h
    rw [← hr, List.take_append]
    exact List.prefix_append _ _

/-- the nodes created for `m` (flattened `m` and flattened parents) are exactly the chain of the flattened `m` -/
theorem flatten_nodes_iff (lim : Option Nat) (m s : Str) :
    (s = flattenNode lim m ∨ ∃ p ∈ parentModules m, s = flattenNode lim p) ↔ s ∈ chain (flattenNode lim m) := by
  constructor
  · rintro (rfl | ⟨p, hp, rfl⟩)
    · exact self_mem_chain _
    · exact flatten_chain_mono lim (parent_mem_chain hp)
  · intro h
    by_cases he : s = flattenNode lim m
    · exact Or.inl he
    · right
      have hs := flatten_short lim s m h
      refine ⟨s, ?_, hs.symm⟩
      rw [mem_parentModules]
      refine ⟨chain_trans h (flatten_mem_chain lim m), ?_⟩
      rintro rfl
      exact he hs.symm

/-- the edges written for the chain of `m` are exactly the immediate-parent pairs inside the flattened chain -/
theorem flatten_pairs_iff (lim : Option Nat) (m a b : Str) :
    (∃ pc ∈ consecutive (chain m), flattenNode lim pc.1 = a ∧ flattenNode lim pc.2 = b ∧ a ≠ b) ↔
      hierPair a b ∧ b ∈ chain (flattenNode lim m) := by
  constructor
  · rintro ⟨⟨s, e⟩, hpc, rfl, rfl, hne⟩
    obtain ⟨hp, he⟩ := (mem_consecutive_chain_iff m s e).1 hpc
    simp only at hne ⊢
    have hmono := flatten_chain_mono lim he
    cases lim with
    | none => exact ⟨hp, he⟩
    | some k =>
      obtain ⟨t, ht⟩ := (hierPair_iff s e).1 hp
      by_cases hl : (splitDots e).length ≤ k + 1
      · have h1 : flattenNode (some k) e = e := by
          apply splitDots_injective; rw [splitDots_flatten]; exact List.take_of_length_le hl
        have h2 : flattenNode (some k) s = s := by
          apply splitDots_injective; rw [splitDots_flatten]; apply List.take_of_length_le
          rw [ht] at hl; simp at hl; omega
        rw [h1, h2]
        rw [h1] at hmono
        exact ⟨hp, hmono⟩
      · exfalso
        apply hne
        apply splitDots_injective
        rw [splitDots_flatten, splitDots_flatten, ht, List.take_append_of_le_length]
        rw [ht] at hl; simp at hl; omega
  · rintro ⟨hp, hb⟩
    have h2 := flatten_short lim b m hb
    have h1 := flatten_short lim a m (hierPair_chain hp hb)
    refine ⟨(a, b), ?_, h1, h2, hierPair_ne hp⟩
    rw [mem_consecutive_chain_iff]
    exact ⟨hp, chain_trans hb (flatten_mem_chain lim m)⟩

/-- `_flatten_graph_node` of a rendered name is the rendering of the truncated name -/
theorem flatten_render (lim : Option Nat) (n : Name) (h : nameWF n = true) :
    flattenNode lim (render n) = render (trunc lim n) := by
  cases lim with
  | none => rfl
  | some k =>
    show joinDots ((splitDots (render n)).take (k + 1)) = _
    rw [splitDots_render n h]
    rfl

theorem mem_chain_render {n : Name} (hn : nameWF n = true) (s : Str) :
    s ∈ chain (render n) ↔ ∃ p, p ≠ [] ∧ p <+: n ∧ s = render p := by
  rw [mem_chain, splitDots_render n hn]
  constructor
  · intro h
    exact ⟨splitDots s, splitDots_ne_nil s, h, (joinDots_splitDots s).symm⟩
  · rintro ⟨p, hne, hp, rfl⟩
    rw [splitDots_render p (nameWF_of_prefix hn hne hp)]
    exact hp

theorem hierPair_iff_parent (a b : Str) :
    hierPair a b ↔ 2 ≤ (splitDots b).length ∧ a = joinDots (splitDots b).dropLast := by
  rw [hierPair_iff]
  constructor
  · rintro ⟨t, ht⟩
    have := List.length_pos_iff.2 (splitDots_ne_nil a)
    rw [ht, List.dropLast_concat, joinDots_splitDots]
    exact ⟨by rw [List.length_append, List.length_singleton]; omega, rfl⟩
  · rintro ⟨hl, rfl⟩
    have hne : (splitDots b).dropLast ≠ [] := by
      intro h
      have := congrArg List.length h
      rw [List.length_dropLast, List.length_nil] at this
      omega
    rw [splitDots_joinDots _ (fun c hc => splitDots_mem_nodot b c (List.dropLast_subset _ hc)) hne]
    exact ⟨_, (List.dropLast_concat_getLast (splitDots_ne_nil b)).symm⟩

theorem hierPair_render {n : Name} (hn : nameWF n = true) (a : Str) :
    hierPair a (render n) ↔ 2 ≤ n.length ∧ a = render n.dropLast := by
  rw [hierPair_iff_parent, splitDots_render n hn]
  rfl

end ExtNames
end Pta
