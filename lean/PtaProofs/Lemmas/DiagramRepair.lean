/-
  PtaProofs.Lemmas.DiagramRepair — the repair of F-C13c (`DiagramRule.assert_applies` checks that every component of the
  diagram, base module prefixed, is a module of the architecture before the generated rules are applied): a lookup error
  when a component is missing, otherwise the batch of generated rules; the check sees the module SET only, and in the
  domain (every component of the specification diagram is a node of the architecture) it is a no-op.
-/
import PtaModel.DiagramText
import Bridge.Abs
import Bridge.Diagram
namespace Pta.Repair
open PtaSpec

theorem diagramMissing_true_iff (p : Parsed') (g : PGraph Str) :
    diagramMissing p g = true ↔ ∃ m ∈ p.modules, g.hasNode m = false := by
  unfold diagramMissing
  simp only [List.any_eq_true, Bool.not_eq_true']

theorem diagramMissing_false_iff (p : Parsed') (g : PGraph Str) :
    diagramMissing p g = false ↔ ∀ m ∈ p.modules, g.hasNode m = true := by
  unfold diagramMissing
  simp only [List.any_eq_false, Bool.not_eq_true', Bool.not_eq_false]

theorem diagramMissing_congr (p q : Parsed') (g : PGraph Str) (h : ∀ x, x ∈ p.modules ↔ x ∈ q.modules) :
    diagramMissing p g = diagramMissing q g := by
  unfold diagramMissing
  rw [Bool.eq_iff_iff]
  simp only [List.any_eq_true, h]

theorem diagramAssert_ok (mt : Str → Str → Bool) (g : PGraph Str) (so : Bool) (c : Str) (base : Option Str)
    (p : Parsed') (hp : pumlParse c = .ok p) :
    diagramAssert mt (some c) base so g =
      if diagramMissing (prefixParsed p base) g then .err .lookupError
      else applyAll mt g (diagramRules so (prefixParsed p base)) := by
  unfold diagramAssert
  simp only [hp]

theorem diagramAssert_of_missing (mt : Str → Str → Bool) (g : PGraph Str) (so : Bool) (c : Str) (base : Option Str)
    (p : Parsed') (hp : pumlParse c = .ok p) (h : diagramMissing (prefixParsed p base) g = true) :
    diagramAssert mt (some c) base so g = .err .lookupError := by
  rw [diagramAssert_ok mt g so c base p hp, h]; rfl

theorem diagramAssert_of_noMissing (mt : Str → Str → Bool) (g : PGraph Str) (so : Bool) (c : Str) (base : Option Str)
    (p : Parsed') (hp : pumlParse c = .ok p) (h : diagramMissing (prefixParsed p base) g = false) :
    diagramAssert mt (some c) base so g = applyAll mt g (diagramRules so (prefixParsed p base)) := by
  rw [diagramAssert_ok mt g so c base p hp, h]; rfl

theorem noMissing_of_noErr (mt : Str → Str → Bool) (g : PGraph Str) (so : Bool) (c : Str) (base : Option Str)
    (p : Parsed') (hp : pumlParse c = .ok p) (hne : ∀ k, diagramAssert mt (some c) base so g ≠ .err k) :
    diagramMissing (prefixParsed p base) g = false := by
  cases h : diagramMissing (prefixParsed p base) g with
  | false => rfl
  | true => exact absurd (diagramAssert_of_missing mt g so c base p hp h) (hne _)

theorem diagramAssertBeforeRepair_ok (mt : Str → Str → Bool) (g : PGraph Str) (so : Bool) (c : Str) (base : Option Str)
    (p : Parsed') (hp : pumlParse c = .ok p) :
    diagramAssertBeforeRepair mt (some c) base so g = applyAll mt g (diagramRules so (prefixParsed p base)) := by
  unfold diagramAssertBeforeRepair
  simp only [hp]

/-- the repaired check and the check before the repair differ only on files that parse and draw a component that is not
    a module of the architecture -/
theorem diagramAssert_eq_beforeRepair (mt : Str → Str → Bool) (g : PGraph Str) (so : Bool) (content : Option Str)
    (base : Option Str)
    (h : ∀ c p, content = some c → pumlParse c = .ok p → diagramMissing (prefixParsed p base) g = false) :
    diagramAssert mt content base so g = diagramAssertBeforeRepair mt content base so g := by
  cases content with
  | none => rfl
  | some c =>
    cases hp : pumlParse c with
    | error k => unfold diagramAssert diagramAssertBeforeRepair; simp only [hp]
    | ok p =>
      rw [diagramAssert_of_noMissing mt g so c base p hp (h c p rfl hp), diagramAssertBeforeRepair_ok mt g so c base p hp]

theorem diagramAssertText_ok (mt : Str → Str → Bool) (g : PGraph Str) (so : Bool) (c : Str) (base : Option Str)
    (p : Parsed') (hp : pumlParse c = .ok p) :
    diagramAssertText mt (some c) base so g =
      if diagramMissing (prefixParsed p base) g then .err .lookupError
      else applyAllText mt g (diagramRules so (prefixParsed p base)) := by
  unfold diagramAssertText
  simp only [hp]

theorem diagramAssertText_of_missing (mt : Str → Str → Bool) (g : PGraph Str) (so : Bool) (c : Str) (base : Option Str)
    (p : Parsed') (hp : pumlParse c = .ok p) (h : diagramMissing (prefixParsed p base) g = true) :
    diagramAssertText mt (some c) base so g = .err .lookupError := by
  rw [diagramAssertText_ok mt g so c base p hp, h]; rfl

theorem diagramAssertText_of_noMissing (mt : Str → Str → Bool) (g : PGraph Str) (so : Bool) (c : Str) (base : Option Str)
    (p : Parsed') (hp : pumlParse c = .ok p) (h : diagramMissing (prefixParsed p base) g = false) :
    diagramAssertText mt (some c) base so g = applyAllText mt g (diagramRules so (prefixParsed p base)) := by
  rw [diagramAssertText_ok mt g so c base p hp, h]; rfl

theorem noMissing_parsedOf (a : Arch) (g : PGraph Str) (hg : GraphOf a g) (D : Diagram)
    (hn : ∀ c ∈ D.components, c ∈ a.nodes) : diagramMissing (parsedOf D) g = false := by
  rw [diagramMissing_false_iff]
  intro m hm
  obtain ⟨c, hc, rfl⟩ := List.mem_map.1 (show m ∈ D.components.map render from hm)
  exact (hg.nodes _).2 ⟨c, hn c hc, rfl⟩

theorem components_of_domain (a : Arch) (D : Diagram) (h : diagramDomain a D = true) :
    ∀ c ∈ D.components, c ∈ a.nodes := by
  unfold diagramDomain at h
  simp only [Bool.and_eq_true, List.all_eq_true, List.contains_iff_mem] at h
  exact h.1.2

theorem noMissing_of_modules (a : Arch) (g : PGraph Str) (hg : GraphOf a g) (D : Diagram)
    (hdom : diagramDomain a D = true) (p : Parsed') (h : ∀ x, x ∈ p.modules ↔ x ∈ (parsedOf D).modules) :
    diagramMissing p g = false := by
  rw [diagramMissing_congr p (parsedOf D) g h]
  exact noMissing_parsedOf a g hg D (components_of_domain a D hdom)

end Pta.Repair
