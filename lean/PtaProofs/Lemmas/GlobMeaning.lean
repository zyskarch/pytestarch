/-
  PtaProofs.Lemmas.GlobMeaning — audit finding F11: the model's `globSpec` (the converter's flag-and-slice reading of a
  glob-style pattern) against the independent existential meaning `PtaSpec.globMeaning`.
-/
import PtaSpec.GlobSem
import PtaProofs.Lemmas.Str
import PtaProofs.Lemmas.GlobLabel
namespace Pta
open PtaSpec

/-- the converter's flags and slice decompose the pattern as the specification describes -/
theorem glob_parts (p : Str) :
    (p = ['*'] ∧ globInner p = []) ∨
      p = starIf (startsWith ['*'] p) ++ globInner p ++ starIf (endsWith ['*'] p) := by
  unfold globInner
  cases h1 : startsWith ['*'] p <;> cases h2 : endsWith ['*'] p
  · right; simp [starIf, pySlice]
  · right
    obtain ⟨q, rfl⟩ := (endsWith_star p).1 h2
    simp [starIf, pySlice]
  · right
    obtain ⟨r, rfl⟩ := (startsWith_star p).1 h1
    simp [starIf, pySlice]
  · obtain ⟨r, rfl⟩ := (startsWith_star p).1 h1
    obtain ⟨q, hq⟩ := (endsWith_star _).1 h2
    cases q with
    | nil =>
      left
      simp only [List.nil_append, List.cons.injEq, true_and] at hq
      subst hq
      exact ⟨rfl, rfl⟩
    | cons c q' =>
      right
      simp only [List.cons_append, List.cons.injEq] at hq
      obtain ⟨rfl, rfl⟩ := hq
      simp [starIf, pySlice]

/-- "literal text with arbitrary text in front / behind where a star allows it" -/
def GlobFits (a e : Bool) (lit s : Str) : Prop :=
  ∃ pre suf, s = pre ++ lit ++ suf ∧ (a = false → pre = []) ∧ (e = false → suf = [])

theorem globSpec_iff_fits (p s : Str) :
    globSpec p s = true ↔ GlobFits (startsWith ['*'] p) (endsWith ['*'] p) (globInner p) s := by
  unfold globSpec GlobFits globInner
  cases startsWith ['*'] p <;> cases endsWith ['*'] p <;> simp only [Bool.false_eq_true, if_false, if_true]
  · simp only [beq_iff_eq, forall_const]
    constructor
    · intro h; exact ⟨[], [], by simp [h], rfl, rfl⟩
    · rintro ⟨pre, suf, h, rfl, rfl⟩; simpa using h
  · rw [startsWith_iff_prefix]
    simp only [forall_const, reduceCtorEq, false_imp_iff, and_true]
    constructor
    · rintro ⟨t, rfl⟩; exact ⟨[], t, by simp, rfl⟩
    · rintro ⟨pre, suf, h, rfl⟩; exact ⟨suf, by simpa using h.symm⟩
  · rw [endsWith_iff_suffix]
    simp only [forall_const, reduceCtorEq, false_imp_iff, true_and]
    constructor
    · rintro ⟨t, rfl⟩; exact ⟨t, [], by simp, rfl⟩
    · rintro ⟨pre, suf, h, rfl⟩; exact ⟨pre, by simpa using h.symm⟩
  · rw [isInfix_iff]
    simp only [reduceCtorEq, false_imp_iff, and_true]
    constructor
    · rintro ⟨a, b, rfl⟩; exact ⟨a, b, rfl⟩
    · rintro ⟨a, b, rfl⟩; exact ⟨a, b, rfl⟩

/-- the flag-and-slice reading is the existential meaning -/
theorem glob_meaning_lemma (p s : Str) : globSpec p s = true ↔ globMeaning p s := by
  rw [globSpec_iff_fits]
  unfold globMeaning GlobFits
  constructor
  · rintro ⟨pre, suf, hs, h1, h2⟩
    exact ⟨_, _, globInner p, pre, suf, startsWith_star p, endsWith_star p, glob_parts p, hs, h1, h2⟩
  · rintro ⟨lead, trail, lit, pre, suf, hl, ht, hparts, hs, h1, h2⟩
    obtain rfl : lead = startsWith ['*'] p := by rw [Bool.eq_iff_iff, hl, startsWith_star]
    obtain rfl : trail = endsWith ['*'] p := by rw [Bool.eq_iff_iff, ht, endsWith_star]
    -- the decomposition of `glob_parts` is the only one
    obtain rfl : lit = globInner p := by
      rcases hparts with ⟨hp, rfl⟩ | hp <;> rcases glob_parts p with ⟨hp', hin⟩ | hp'
      · exact hin.symm
      · subst hp
        have := congrArg List.length hp'
        simp [starIf, startsWith, endsWith] at this
      · subst hp'
        have := congrArg List.length hp
        simp [starIf, startsWith, endsWith] at this
      · exact List.append_cancel_left (List.append_cancel_right (hp.symm.trans hp'))
    exact ⟨pre, suf, hs, h1, h2⟩

end Pta
