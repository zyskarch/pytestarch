/-
  PtaProofs.Lemmas.RenameDiagram — DIAGRAM rules commute with every injective map `φ` of node names (namespace `Pta.RD`).
  (a) `MultipleRuleApplier.assert_applies` (`applyAll`) on the mapped graph and the mapped rules returns the mapped outcome
      (exact equality).
  (b) `DependencyToRuleConverter.convert` (`diagramRules`) on the mapped diagram yields the mapped "should" rules in the same
      order, and the mapped "should not" rules in a possibly different ORDER and with their objects in a possibly
      different order (`sorted(...)` sorts the renamed names).
  (c) neither order matters: same verdict class (same error kind), same report items as a multiset; Props/C14.lean
      `diagram_model_iso` puts (a)-(c) together.
-/
import Bridge.Abs
import Bridge.Rename
import Bridge.RenameLayer
import Bridge.Diagram
import Bridge.OrderDefs
import PtaProofs.Lemmas.RenameModel
import PtaProofs.Lemmas.DiagramApply
import PtaProofs.Lemmas.DiagramSem
import PtaProofs.Lemmas.OrderCongr
namespace Pta.RD
open PtaSpec Pta.RM Pta.Dg

/-! ### (a) `applyAll` on the mapped graph and the mapped rules -/

section Exact
variable (φ : Str → Str) (hφ : ∀ x y, φ x = φ y → x = y) (mt : Str → Str → Bool) (g : PGraph Str)
include hφ

omit hφ in
theorem agg_mapId (vs : List Verdict) : agg (vs.map (Verdict.mapId φ)) = (agg vs).mapId φ := by
  have e1 : Verdict.errKind ∘ Verdict.mapId φ = Verdict.errKind := funext fun v => by cases v <;> rfl
  have e2 : Verdict.isFail ∘ Verdict.mapId φ = Verdict.isFail := funext fun v => by cases v <;> rfl
  have e3 : ∀ v : Verdict, (v.mapId φ).items = v.items.map (Item.mapId φ) := fun v => by cases v <;> rfl
  unfold agg
  rw [List.findSome?_map, List.any_map, List.flatMap_map, e1, e2]
  cases vs.findSome? Verdict.errKind with
  | some k => rfl
  | none =>
    cases vs.any Verdict.isFail with
    | false => rfl
    | true => simp only [Option.elim_none, if_true, DVerdict.mapId, List.map_flatMap, e3]

theorem applyAll_map (rules : List RuleState)
    (h : ∀ r ∈ rules, cfgNoRegex r.cfg ∧ cfgSubOK φ r.cfg) :
    applyAll mt (mapGraph φ g) (rules.map (RuleState.mapId φ)) = (applyAll mt g rules).mapId φ := by
  rw [applyAll_eq_agg, applyAll_eq_agg, ← agg_mapId, List.map_map, List.map_map]
  congr 1
  refine List.map_congr_left fun r hr => ?_
  show ruleVerdict mt (mapGraph φ g) (r.mapId φ) = (ruleVerdict mt g r).mapId φ
  unfold ruleVerdict
  rw [assertApplies_map φ hφ mt g r (h r hr).1 (h r hr).2]

end Exact

theorem mkD_ok (φ : Str → Str) (s : Str) (os : List Str) (v : RuleOp) :
    cfgNoRegex (mkD s os v).cfg ∧ cfgSubOK φ (mkD s os v).cfg := by
  refine ⟨⟨?_, ?_⟩, ?_⟩
  · intro ss hss f hf
    simp only [mkD, Option.some.injEq] at hss
    subst hss
    simp only [List.mem_singleton] at hf
    subst hf; rfl
  · intro ss hss f hf
    simp only [mkD, Option.some.injEq] at hss
    subst hss
    obtain ⟨x, _, rfl⟩ := List.mem_map.1 hf
    rfl
  · intro ss hss f hf f' hf'
    simp only [mkD, Option.some.injEq] at hss
    subst hss
    simp only [List.mem_singleton] at hf hf'
    subst hf; subst hf'
    simp only [Filter.id, isStrictSub_self]

theorem diagramRules_ok (φ : Str → Str) (so : Bool) (p : Parsed') :
    ∀ r ∈ diagramRules so p, cfgNoRegex r.cfg ∧ cfgSubOK φ r.cfg := by
  intro r hr
  rcases (mem_diagramRules so p r).1 hr with ⟨kv, _, rfl⟩ | ⟨m, _, _, rfl⟩ <;> exact mkD_ok φ _ _ _

/-! ### a "should not import" rule does not depend on the order of its objects -/

section ShouldNot
variable (mt : Str → Str → Bool) (g : PGraph Str)

/-- the behaviour of a plain "should not" rule -/
def bSN : Behavior := ⟨false, false, true, false⟩

theorem matchRule_shouldNot (S O : List Filter)
    (hS : ∀ f ∈ S, f.isRegex = false) (hO : ∀ f ∈ O, f.isRegex = false) :
    matchRule mt g bSN true S O =
      match getDependencies g S O with
      | .error k => .err k
      | .ok e => if (realised true e).isEmpty then .pass else .fail (impItems true (realised true e)) := by
  have hq : runQueries g bSN true S O = (getDependencies g S O).map fun e => (some e, none) := by
    have h1 : (bSN.explReq || bSN.explForb) = true := rfl
    have h2 : (bSN.otherReq || bSN.otherForb) = false := rfl
    simp only [runQueries, h1, h2, if_true, Bool.false_eq_true, if_false]
    cases getDependencies g S O <;> rfl
  rw [matchRule_queries, Hist.queries_noregex mt g _ _ S O hS hO, hq]
  cases getDependencies g S O with
  | error k => rfl
  | ok e =>
    show Verdict.ofRes (if (Violations.any { shouldNot := realised true e }) = true
      then .ok (some (reportItems true { shouldNot := realised true e })) else .ok none) = _
    simp only [Violations.any, List.isEmpty_nil, Bool.not_true, Bool.false_or, Bool.or_false, reportItems, missItems, impItems,
      List.map_nil, dedup, List.nil_append, List.append_nil]
    cases (realised true e).isEmpty <;> rfl

theorem mkD_shouldNot_eq (s : Str) (os : List Str) : mkD s os .shouldNot = shouldNotRule s os := by
  simp [mkD, shouldNotRule, mkRule]

theorem verdict_shouldNot (s : Str) (os : List Str) :
    ruleVerdict mt g (shouldNotRule s os) =
      if os.isEmpty then .err .improperlyConfigured
      else match getDependencies g [.name s] (os.map .name) with
        | .error k => .err k
        | .ok e => if (realised true e).isEmpty then .pass else .fail (impItems true (realised true e)) := by
  unfold ruleVerdict shouldNotRule
  rw [assertApplies_mkRule]
  have hb : (Behavior.mk false false true false).inconsistent = false := rfl
  simp only [hb, Bool.or_self, Bool.false_or, Bool.not_true, List.isEmpty_cons, List.isEmpty_map, Bool.false_eq_true, if_false]
  split
  · rfl
  · apply matchRule_shouldNot
    · intro f hf; simp only [List.mem_singleton] at hf; subst hf; rfl
    · intro f hf; obtain ⟨x, _, rfl⟩ := List.mem_map.1 hf; rfl

theorem getDependencies_perm (A O O' : List Filter) (h : O.Perm O') :
    Pta.Ord.ERel List.Perm (getDependencies g A O) (getDependencies g A O') := by
  unfold getDependencies
  apply Pta.Ord.mapM_perm _ .lookupError
  · apply Pta.Ord.flatMap_perm_left
    intro f _
    exact (Pta.Ord.dedup_perm_of_sm (Pta.Ord.SM.of_perm h)).map _
  · intro fo _ e he
    exact ((Pta.depBetween_lookup _ _ _).errOnly.bind fun _ => Pta.ErrOnly.pure _) e he

theorem verdict_shouldNot_perm (s : Str) (os os' : List Str) (h : os.Perm os') :
    VE (ruleVerdict mt g (shouldNotRule s os)) (ruleVerdict mt g (shouldNotRule s os')) := by
  rw [verdict_shouldNot, verdict_shouldNot, h.isEmpty_eq]
  split
  · exact VE.refl _
  · rcases (getDependencies_perm g [.name s] (os.map .name) (os'.map .name) (h.map _)).cases with
      ⟨e, h1, h2⟩ | ⟨e, e', h1, h2, hp⟩ <;> rw [h1, h2]
    · exact VE.refl _
    · have hr : (realised true e).Perm (realised true e') := List.Perm.flatMap_right _ hp
      simp only [hr.isEmpty_eq]
      split
      · exact VE.refl _
      · exact ⟨rfl, rfl, hr.map _⟩

theorem verdict_shouldNot_err (s : Str) (os : List Str) (hne : os ≠ []) (k : ErrKind)
    (h : ruleVerdict mt g (shouldNotRule s os) = .err k) : k = .lookupError := by
  rw [verdict_shouldNot] at h
  have : os.isEmpty = false := by cases os <;> simp_all
  simp only [this, Bool.false_eq_true, if_false] at h
  cases h1 : getDependencies g [.name s] (os.map .name) with
  | error e =>
    rw [h1] at h
    cases h
    exact Pta.getDependencies_errOnly _ _ _ _ h1
  | ok e =>
    rw [h1] at h
    simp only at h
    split at h <;> cases h

theorem snPerm_verdict {r r' : RuleState} (h : SNPerm r r') :
    VE (ruleVerdict mt g r) (ruleVerdict mt g r') ∧ (∀ k, ruleVerdict mt g r = .err k → k = .lookupError) ∧
      ∀ k, ruleVerdict mt g r' = .err k → k = .lookupError := by
  obtain ⟨s, os, os', hp, hne, rfl, rfl⟩ := h
  exact ⟨verdict_shouldNot_perm mt g s os os' hp, verdict_shouldNot_err mt g s os hne,
    verdict_shouldNot_err mt g s os' fun h => hne (by rw [h] at hp; exact hp.eq_nil)⟩

end ShouldNot

/-! ### (b) the rules generated for the mapped diagram -/

theorem forall2_filterMap {α β γ : Type} (R : β → γ → Prop) (I : List α) (F : α → Option β) (F' : α → Option γ)
    (h : ∀ m ∈ I, match F m, F' m with | none, none => True | some a, some b => R a b | _, _ => False) :
    Forall2 R (I.filterMap F) (I.filterMap F') := by
  induction I with
  | nil => exact Forall2.nil
  | cons m I ih =>
    have hm := h m (by simp)
    have ih := ih (fun x hx => h x (by simp [hx]))
    simp only [List.filterMap_cons]
    cases h1 : F m <;> cases h2 : F' m <;> rw [h1, h2] at hm
    · exact ih
    · exact hm.elim
    · exact hm.elim
    · exact Forall2.cons hm ih

section Shape
variable (φ : Str → Str) (hφ : ∀ x y, φ x = φ y → x = y)
include hφ

omit hφ in
theorem sortStr_map_perm (l : List Str) : (sortStr (l.map φ)).Perm ((sortStr l).map φ) :=
  (sortBy_perm strLe _).trans ((sortBy_perm strLe l).symm.map φ)

/-- (b) the rules of the mapped diagram: the mapped "should" rules in the same order, followed by a permutation of the
    mapped "should not" rules, each with its object list permuted -/
theorem diagramRules_mapNames (so : Bool) (p : Parsed') :
    ∃ B' B'', diagramRules so (p.mapNames φ) =
        (p.dependencies.map fun kv => mkD kv.1 kv.2 (shouldVerb so)).map (RuleState.mapId φ) ++ B' ∧
      B'.Perm B'' ∧
      Forall2 SNPerm B'' (((sortStr (dedup p.modules)).filterMap (shouldNotOf p)).map (RuleState.mapId φ)) := by
  refine ⟨(sortStr (dedup (p.mapNames φ).modules)).filterMap (shouldNotOf (p.mapNames φ)),
    (sortStr (dedup p.modules)).filterMap (fun m => shouldNotOf (p.mapNames φ) (φ m)), ?_, ?_, ?_⟩
  · rw [diagramRules_eq]
    congr 1
    simp only [Parsed'.mapNames, List.map_map, Function.comp_def, mkD_mapId]
  · have hm : (p.mapNames φ).modules = p.modules.map φ := rfl
    rw [hm, dedup_map_inj φ hφ]
    have := (sortStr_map_perm φ (dedup p.modules)).filterMap (shouldNotOf (p.mapNames φ))
    rw [List.filterMap_map] at this
    exact this
  · rw [List.map_filterMap]
    apply forall2_filterMap
    intro m _
    unfold shouldNotOf
    rw [notImportedOf_map φ hφ, List.isEmpty_map]
    by_cases hE : (notImportedOf p m).isEmpty = true
    · simp only [hE, if_true, Option.map_none]
    · simp only [hE, Bool.false_eq_true, if_false, Option.map_some, mkD_mapId]
      refine ⟨φ m, _, _, sortStr_map_perm φ _, ?_, mkD_shouldNot_eq _ _, mkD_shouldNot_eq _ _⟩
      intro hnil
      exact hE (by rw [List.map_eq_nil_iff.1 ((sortStr_eq_nil _).1 hnil)]; rfl)

end Shape

/-! ### (c) neither order matters -/

section Combine
variable (mt : Str → Str → Bool) (g : PGraph Str)

theorem forall2_snPerm {B C : List RuleState} (h : Forall2 SNPerm B C) :
    Forall2 VE (B.map (ruleVerdict mt g)) (C.map (ruleVerdict mt g)) ∧
      ∀ v ∈ B.map (ruleVerdict mt g), ∀ k, v = .err k → k = .lookupError := by
  induction h with
  | nil => exact ⟨.nil, nofun⟩
  | cons hab _ ih =>
    obtain ⟨ve, u, _⟩ := snPerm_verdict mt g hab
    refine ⟨.cons ve ih.1, fun v hv => ?_⟩
    rcases List.mem_cons.1 hv with rfl | hv
    · exact u
    · exact ih.2 v hv

end Combine

theorem cls_mapId (φ : Str → Str) (v : DVerdict) : (v.mapId φ).cls = v.cls := by cases v <;> rfl
theorem items_mapId (φ : Str → Str) (v : DVerdict) : (v.mapId φ).items = v.items.map (Item.mapId φ) := by cases v <;> rfl

theorem specDiagramWF_iff (d : Diagram) :
    specDiagramWF d = true ↔ (∀ c ∈ d.components, nameWF c = true) ∧ ∀ e ∈ d.arrows, nameWF e.1 = true ∧ nameWF e.2 = true := by
  simp only [specDiagramWF, Bool.and_eq_true, List.all_eq_true]

theorem specDiagramWF_map (F : Name → Name) (hF : ∀ n, nameWF n = true → nameWF (F n) = true) (d : Diagram)
    (hd : specDiagramWF d = true) : specDiagramWF ⟨d.components.map F, d.arrows.map fun e => (F e.1, F e.2)⟩ = true := by
  rw [specDiagramWF_iff] at hd ⊢
  simp only [List.forall_mem_map]
  exact ⟨fun c hc => hF c (hd.1 c hc), fun e he => ⟨hF _ (hd.2 e he).1, hF _ (hd.2 e he).2⟩⟩

/-- the diagram a `DiagramRule` evaluates: every component prefixed with the base module, if one is configured -/
def withBase (base : Option Name) (d : Diagram) : Diagram :=
  match base with
  | none => d
  | some q => prefixDiagram q d

theorem withBase_wf (base : Option Name) (d : Diagram) (hb : ∀ q, base = some q → nameWF q = true) (hd : specDiagramWF d = true) :
    specDiagramWF (withBase base d) = true := by
  cases base with
  | none => exact hd
  | some q => exact specDiagramWF_map (q ++ ·) (fun _ => nameWF_append (hb q rfl)) d hd

/-- what `DiagramRule.assert_applies` evaluates for the diagram `d` with base module `base` -/
theorem prefixParsed_withBase (base : Option Name) (d : Diagram) (hb : ∀ q, base = some q → nameWF q = true)
    (hd : specDiagramWF d = true) : prefixParsed (parsedOf d) (base.map render) = parsedOf (withBase base d) := by
  cases base with
  | none => rfl
  | some q =>
    obtain ⟨hc, ha⟩ := (specDiagramWF_iff d).1 hd
    exact base_module_diagram_lemma q d (nameWF_ne_nil (hb q rfl)) (fun c hc' => nameWF_ne_nil (hc c hc'))
      (fun e he => ⟨nameWF_ne_nil (ha e he).1, nameWF_ne_nil (ha e he).2⟩)

theorem withBase_ren (ρ : Comp → Comp) (base : Option Name) (d : Diagram) :
    withBase (base.map (renName ρ)) (renDiagram ρ d) = renDiagram ρ (withBase base d) := by
  cases base with
  | none => rfl
  | some q =>
    simp only [withBase, Option.map_some, prefixDiagram, renDiagram, List.map_map, Function.comp_def, renName, List.map_append]

theorem specDiagramWF_ren {ρ : Comp → Comp} (hρ : GoodRen ρ) (d : Diagram) (hd : specDiagramWF d = true) :
    specDiagramWF (renDiagram ρ d) = true :=
  specDiagramWF_map (renName ρ) (fun _ => Ren.nameWF_ren hρ) d hd

end Pta.RD
