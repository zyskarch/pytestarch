/-
  PtaProofs.Lemmas.ExceptList — `>>=` and `List.mapM` in `Except`, for any error type. `ErrOnly e0 x`: `x` raises `e0` or
  nothing; a `mapM` over such elements is a test followed by a pure list expression (`mapM_uniform`).
-/
namespace Pta

theorem bind_ok_iff {ε α β : Type} {x : Except ε α} {f : α → Except ε β} {b : β} :
    (x >>= f) = .ok b ↔ ∃ a, x = .ok a ∧ f a = .ok b := by
  cases x <;> simp [bind, Except.bind]

theorem bind_error_iff {ε α β : Type} {x : Except ε α} {f : α → Except ε β} {k : ε} :
    (x >>= f) = .error k ↔ x = .error k ∨ ∃ a, x = .ok a ∧ f a = .error k := by
  cases x <;> simp [bind, Except.bind]

theorem bind_error_iff_left {ε α β : Type} {x : Except ε α} {k : α → Except ε β} {e : ε}
    (h : ∀ a, x = .ok a → k a ≠ .error e) : (x >>= k) = .error e ↔ x = .error e :=
  bind_error_iff.trans (or_iff_left fun ⟨a, ha, hk⟩ => h a ha hk)

theorem mapM_cons_ok_iff {α β ε : Type} (f : α → Except ε β) (a : α) (l : List α) (r : List β) :
    (a :: l).mapM f = .ok r ↔ ∃ b bs, f a = .ok b ∧ l.mapM f = .ok bs ∧ r = b :: bs := by
  rw [List.mapM_cons]
  cases f a <;> cases l.mapM f <;> simp [bind, Except.bind, pure, Except.pure, eq_comm]

theorem mapM_cons_error_iff {α β ε : Type} (f : α → Except ε β) (a : α) (l : List α) (e : ε) :
    (a :: l).mapM f = .error e ↔ f a = .error e ∨ ∃ b, f a = .ok b ∧ l.mapM f = .error e := by
  rw [List.mapM_cons]
  cases f a <;> cases l.mapM f <;> simp [bind, Except.bind, pure, Except.pure]

/-- `g`: any function that agrees with `f` where `f` succeeds -/
theorem mapM_ok_iff_map {α β ε : Type} {f : α → Except ε β} (g : α → β) (l : List α)
    (hg : ∀ x ∈ l, ∀ b, f x = .ok b → b = g x) (r : List β) :
    l.mapM f = .ok r ↔ (∀ x ∈ l, ∃ b, f x = .ok b) ∧ r = l.map g := by
  induction l generalizing r with
  | nil => simp [pure, Except.pure, eq_comm]
  | cons a l ih =>
    simp only [mapM_cons_ok_iff, ih fun x hx => hg x (List.mem_cons_of_mem _ hx), List.forall_mem_cons, List.map_cons]
    constructor
    · rintro ⟨b, _, hb, ⟨hl, rfl⟩, rfl⟩
      exact ⟨⟨⟨b, hb⟩, hl⟩, by rw [hg a List.mem_cons_self b hb]⟩
    · rintro ⟨⟨⟨b, hb⟩, hl⟩, rfl⟩
      exact ⟨b, _, hb, ⟨hl, rfl⟩, by rw [hg a List.mem_cons_self b hb]⟩

theorem mapM_ok {α β ε : Type} (f : α → Except ε β) (g : α → β) (l : List α) (h : ∀ x ∈ l, f x = .ok (g x)) :
    l.mapM f = .ok (l.map g) :=
  (mapM_ok_iff_map g l (fun x hx _ hb => Except.ok.inj (hb.symm.trans (h x hx))) _).2 ⟨fun x hx => ⟨_, h x hx⟩, rfl⟩

/-- `x` raises `e0` or nothing -/
def ErrOnly {ε α : Type} (e0 : ε) (x : Except ε α) : Prop := ∀ e, x = .error e → e = e0

/-- when the elements can raise one error only, `mapM` is a test followed by a pure list expression -/
theorem mapM_uniform {α β ε : Type} (f : α → Except ε β) (e0 : ε) (l : List α)
    (he : ∀ x ∈ l, ErrOnly e0 (f x)) :
    l.mapM f = if l.all (fun x => (f x).toBool) then .ok (l.filterMap fun x => (f x).toOption) else .error e0 := by
  induction l with
  | nil => rfl
  | cons x xs ih =>
    rw [List.mapM_cons, ih fun y hy => he y (by simp [hy]), List.all_cons, List.filterMap_cons]
    cases hx : f x with
    | error e => rw [he x (by simp) e hx]; rfl
    | ok y => cases xs.all (fun x => (f x).toBool) <;> rfl

theorem ErrOnly.bind {ε α β : Type} {e0 : ε} {x : Except ε α} {k : α → Except ε β}
    (hx : ErrOnly e0 x) (hk : ∀ a, ErrOnly e0 (k a)) : ErrOnly e0 (x >>= k) := by
  intro e h
  cases x with
  | error e' =>
    have h' : (Except.error e' : Except ε β) = .error e := h
    cases h'
    exact hx _ rfl
  | ok a => exact hk a e h

theorem ErrOnly.pure {ε α : Type} {e0 : ε} (a : α) : ErrOnly e0 (pure a : Except ε α) := by
  intro e h; cases h

theorem ErrOnly.map {ε α β : Type} {e0 : ε} {x : Except ε α} (hx : ErrOnly e0 x) (k : α → β) :
    ErrOnly e0 (x.map k) := by
  cases x with
  | error e' => exact fun e h => hx e (by cases h; rfl)
  | ok a => intro e h; cases h

theorem ErrOnly.mapM {ε α β : Type} {e0 : ε} {f : α → Except ε β} {l : List α}
    (h : ∀ x ∈ l, ErrOnly e0 (f x)) : ErrOnly e0 (l.mapM f) := by
  intro e he
  rw [mapM_uniform f e0 l h] at he
  split at he
  · cases he
  · exact (Except.error.inj he).symm

/-- a step taken only under a flag (its result an `Option`), followed by the rest of the computation -/
theorem optBind_ok_iff {ε α β : Type} (c : Bool) (x : Except ε α) (k : Option α → Except ε β) (r : β) :
    (if c = true then x.map some >>= k else pure none >>= k) = .ok r ↔
      ∃ v, (if c = true then ∃ e, x = .ok e ∧ v = some e else v = none) ∧ k v = .ok r := by
  cases c
  · simp [pure, Except.pure, bind, Except.bind]
  · cases x <;> simp [Except.map, bind, Except.bind]

theorem ErrOnly.optBind {ε α β : Type} {e0 : ε} (c : Bool) {x : Except ε α} {k : Option α → Except ε β}
    (hx : ErrOnly e0 x) (hk : ∀ v, ErrOnly e0 (k v)) :
    ErrOnly e0 (if c = true then x.map some >>= k else Pure.pure none >>= k) := by
  cases c
  · exact hk none
  · exact (hx.map some).bind hk

theorem mapM_error_of_mem {α β ε : Type} (f : α → Except ε β) (e0 : ε) (l : List α)
    (hall : ∀ x ∈ l, ErrOnly e0 (f x)) (hex : ∃ x ∈ l, f x = .error e0) :
    l.mapM f = .error e0 := by
  obtain ⟨x, hx, hxe⟩ := hex
  rw [mapM_uniform f e0 l hall, if_neg]
  intro h
  have := List.all_eq_true.1 h x hx
  rw [hxe] at this
  cases this

theorem mem_mapM_ok_iff {α β ε : Type} (f : α → Except ε β) (l : List α) (r : List β)
    (h : l.mapM f = .ok r) (y : β) : y ∈ r ↔ ∃ x ∈ l, f x = .ok y := by
  induction l generalizing r with
  | nil => cases h; simp
  | cons a l ih =>
    obtain ⟨b, bs, hb, hbs, rfl⟩ := (mapM_cons_ok_iff f a l r).1 h
    simp [ih bs hbs, hb, eq_comm]

theorem mapM_ok_mem {α β ε : Type} (f : α → Except ε β) (l : List α) (r : List β)
    (h : l.mapM f = .ok r) : ∀ y ∈ r, ∃ x ∈ l, f x = .ok y :=
  fun y => (mem_mapM_ok_iff f l r h y).1

theorem bind_pure_eq_ok {ε α β : Type} {x : Except ε α} {k : α → β} {y : β} :
    (do let d ← x; pure (k d) : Except ε β) = .ok y ↔ ∃ d, x = .ok d ∧ k d = y := by
  cases x <;> simp [bind, Except.bind, pure, Except.pure]

theorem bind_map_comm {ε α α' β β' : Type} {x : Except ε α} {f : α → α'} {k : α → Except ε β}
    {k' : α' → Except ε β'} {g : β → β'} (h : ∀ a, x = .ok a → k' (f a) = (k a).map g) :
    (x.map f >>= k') = (x >>= k).map g := by
  cases x with
  | error e => rfl
  | ok a => exact h a rfl

theorem filterMapM_eq {ε α β : Type} (f : α → Except ε (Option β)) (l : List α) :
    l.filterMapM f = (l.mapM f).map (List.filterMap id) := by
  induction l with
  | nil => simp [List.mapM_nil, pure, Except.pure, Except.map]
  | cons a l ih =>
    rw [List.filterMapM_cons, List.mapM_cons, ih]
    cases f a with
    | error e => simp [bind, Except.bind, Except.map]
    | ok o =>
      cases l.mapM f with
      | error e => cases o <;> simp [bind, Except.bind, Except.map]
      | ok r => cases o <;> simp [bind, Except.bind, Except.map, pure, Except.pure]

section
variable {α β ε : Type} {x : Option α} {y : Except ε β} {e : ε} {P : α → β → Prop}

/-- `y` answers the option `x`: `none` by the error `e` and by no other, `some a` by a value related to `a`
    (nothing to do with the `answers` of the rule queries) -/
structure Answers (x : Option α) (y : Except ε β) (e : ε) (P : α → β → Prop) : Prop where
  error_iff : y = .error e ↔ x = none
  errOnly : ErrOnly e y
  of_ok : ∀ b, y = .ok b → ∃ a, x = some a ∧ P a b

theorem Answers.of_cases (hn : x = none → y = .error e) (hs : ∀ a, x = some a → ∃ b, y = .ok b ∧ P a b) :
    Answers x y e P := by
  cases x with
  | none => rw [hn rfl]; exact ⟨⟨fun _ => rfl, fun _ => rfl⟩, fun _ hk => (Except.error.inj hk).symm, nofun⟩
  | some a =>
    obtain ⟨b, rfl, hp⟩ := hs a rfl
    exact ⟨⟨nofun, nofun⟩, nofun, fun _ hb => ⟨a, rfl, Except.ok.inj hb ▸ hp⟩⟩

theorem Answers.none_iff (h : Answers x y e P) : x = none ↔ ∃ k, y = .error k :=
  ⟨fun hx => ⟨e, h.error_iff.2 hx⟩, fun ⟨k, hk⟩ => h.error_iff.1 (h.errOnly k hk ▸ hk)⟩

end

end Pta
