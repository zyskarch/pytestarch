/-
  PtaProofs.Lemmas.BuildImports — the graph constructor (`buildGraph`, no level limit) on ARBITRARY import records
  whose importers are modules with well-formed names: no legality assumption on the calls, the importee may be any
  string. The nodes are the prefix closure of the module names, and an import whose importer is the parent of its
  importee stays the hierarchy edge (`ImpInv`). Read off `ExtBuild.buildGraph_char`.
-/
import PtaProofs.Lemmas.Render
import PtaProofs.Lemmas.BuildGen
import PtaProofs.Lemmas.ExtBuild
namespace Pta
namespace BuildImports
open PtaSpec ExtNames ExtBuild

/-- edge record `a → b` with flag `f` is in the graph -/
def E (g : PGraph Str) (a b : Str) (f : Bool) : Prop := (⟨a, b, f⟩ : Edge Str) ∈ g.edges

theorem E_iff (g : PGraph Str) (x : Edge Str) : x ∈ g.edges ↔ E g x.src x.dst x.inh := by
  cases x; rfl

/-- `c` is a non-empty prefix of a member of `ns`: the prefix closure of the module names, i.e. the names of the nodes
    (`ns` is instantiated with `ownNames …`, the names of the surviving entries of a scan: `ScanHyps.mods`) -/
def Cl (ns : List Name) (c : Name) : Prop := c ≠ [] ∧ ∃ m ∈ ns, c <+: m

/-- `s` is a node of the graph built from the modules named `ns`: the rendering of a member of the prefix closure
    (a module or one of the parents `_add_all_modules_as_nodes` creates with it) -/
def Q (ns : List Name) (s : Str) : Prop := ∃ c, Cl ns c ∧ s = render c

/-- `a → b` is a hierarchy edge of that graph: `b` a node with at least two components, `a` its dotted parent -/
def HP (ns : List Name) (a b : Str) : Prop := ∃ c, Cl ns c ∧ 2 ≤ c.length ∧ a = render c.dropLast ∧ b = render c

theorem Cl_wf {ns : List Name} (hns : ∀ n ∈ ns, nameWF n = true) {c : Name} (h : Cl ns c) : nameWF c = true := by
  obtain ⟨hne, m, hm, hp⟩ := h
  exact nameWF_of_prefix (hns m hm) hne hp

theorem Cl_self {ns : List Name} (hns : ∀ n ∈ ns, nameWF n = true) {n : Name} (h : n ∈ ns) : Cl ns n :=
  ⟨nameWF_ne_nil (hns n h), n, h, List.prefix_refl n⟩

/-- an import pair some processed record `importer → importee` accounts for: distinct ends, importee a node -/
def IP (ns : List Name) (proc : List (Name × Name)) (a b : Str) : Prop :=
  ∃ e ∈ proc, a = render e.1 ∧ b = render e.2 ∧ a ≠ b ∧ Q ns b

/-- the state after the imports `proc`: a pair that is a hierarchy pair stays a hierarchy edge -/
structure ImpInv (ns : List Name) (proc : List (Name × Name)) (g : PGraph Str) : Prop where
  nodes : ∀ s, s ∈ g.nodes ↔ Q ns s
  hier : ∀ a b, E g a b true ↔ HP ns a b
  imps : ∀ a b, E g a b false ↔ ¬ HP ns a b ∧ IP ns proc a b

theorem buildGraph_inv_set (own : List Name) (hown : ∀ n ∈ own, nameWF n = true) (mods : List Str)
    (hm : ∀ s, s ∈ mods ↔ ∃ n ∈ own, s = render n) (raw : List (Name × Name))
    (hraw : ∀ e ∈ raw, e.1 ∈ own) :
    ImpInv own raw (buildGraph mods (raw.map fun e => absImport (render e.1) (render e.2)) none) := by
  have hN : ∀ s, NodeOf none mods s ↔ Q own s := by
    intro s
    constructor
    · rintro ⟨m, hmm, hc⟩
      obtain ⟨n, hn, rfl⟩ := (hm m).1 hmm
      obtain ⟨p, hne, hp, rfl⟩ := (mem_chain_render (hown n hn) s).1 hc
      exact ⟨p, ⟨hne, n, hn, hp⟩, rfl⟩
    · rintro ⟨c, ⟨hne, n, hn, hp⟩, rfl⟩
      exact ⟨render n, (hm _).2 ⟨n, hn, rfl⟩, (mem_chain_render (hown n hn) _).2 ⟨c, hne, hp, rfl⟩⟩
  have hH : ∀ a b, (hierPair a b ∧ Q own b) ↔ HP own a b := by
    intro a b
    constructor
    · rintro ⟨hp, c, hc, rfl⟩
      obtain ⟨hl, rfl⟩ := (hierPair_render (Cl_wf hown hc) a).1 hp
      exact ⟨c, hc, hl, rfl, rfl⟩
    · rintro ⟨c, hc, hl, rfl, rfl⟩
      exact ⟨(hierPair_render (Cl_wf hown hc) _).2 ⟨hl, rfl⟩, c, hc, rfl⟩
  have hsrc : ∀ e ∈ raw, NodeOf none mods (render e.1) :=
    fun e he => (hN _).2 ⟨e.1, Cl_self hown (hraw e he), rfl⟩
  obtain ⟨hn, hh, hi⟩ := buildGraph_char mods (raw.map fun e => absImport (render e.1) (render e.2)) none (by
    intro i hi
    obtain ⟨e, he, rfl⟩ := List.mem_map.1 hi
    exact ⟨hsrc e he, rfl⟩)
  refine ⟨fun s => by rw [hn, hN], fun a b => by rw [← hH, ← hN]; exact hh a b, fun a b => ?_⟩
  unfold E
  rw [hi]
  constructor
  · rintro ⟨hnp, hne, -, hb, i, hi', -, rfl, rfl⟩
    obtain ⟨e, he, rfl⟩ := List.mem_map.1 hi'
    have hq := (hN _).1 hb
    exact ⟨fun h => hnp ((hH _ _).2 h).1, e, he, rfl, rfl, hne, hq⟩
  · rintro ⟨hnp, e, he, rfl, rfl, hne, hq⟩
    exact ⟨fun hp => hnp ((hH _ _).1 ⟨hp, hq⟩), hne, hsrc e he, (hN _).2 hq, _, List.mem_map_of_mem he, rfl, rfl, rfl⟩

theorem mem_importPairs (g : PGraph Str) (u v : Str) : (u, v) ∈ g.importPairs ↔ E g u v false :=
  BuildGen.mem_importPairs g u v

theorem mem_hierPairs (g : PGraph Str) (u v : Str) : (u, v) ∈ g.hierPairs ↔ E g u v true :=
  BuildGen.mem_hierPairs g u v

end BuildImports
end Pta
