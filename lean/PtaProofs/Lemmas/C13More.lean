/-
  PtaProofs.Lemmas.C13More — lemmas behind Props/C13More.lean (property C13, completions). LAYERS: which error a layer
  rule raises and at which stage (absent modules behind layers, regex layers without a match, layers the rule does not
  mention, no lookup error when everything mentioned exists). DIAGRAMS: when a generated rule raises the lookup error
  (`Checked`), with and without `with_base_module`; the check of the repair of F-C13c.
-/
import Bridge.Abs
import Bridge.LayerAbs
import PtaProofs.Lemmas.LayerRule
import PtaProofs.Lemmas.DiagramSem
import PtaProofs.Lemmas.RuleErrors
import PtaProofs.Lemmas.DiagramRepair
namespace Pta.C13M
open PtaSpec

/-! ### an absent name next to regexes that all match -/

/-- what the matchers have in common before the detector runs -/
theorem queries_lookup (mt : Str → Str → Bool) (g : PGraph Str) (b : Behavior) (d : Bool) (ss os : List Filter)
    (hverb : b.should = true ∨ b.shouldOnly = true ∨ b.shouldNot = true)
    (hs : ss ≠ []) (ho : os ≠ [])
    (hreg : convOK mt g.nodes (ss ++ os))
    (hmiss : ∃ f ∈ ss ++ os, f.isRegex = false ∧ g.hasNode f.id = false) :
    queries mt g b d ss os = .error .lookupError := by
  obtain ⟨f, hf, hr, hm⟩ := hmiss
  exact (queries_lookupError_iff mt g b d ss os hverb hs ho).2
    ⟨(allMatch_iff ..).2 fun r hr => hreg r (List.mem_append_left _ hr),
      (allMatch_iff ..).2 fun r hr => hreg r (List.mem_append_right _ hr), f,
      (List.mem_append.1 hf).elim (fun h => List.mem_append_left _ (mem_expand_of_noregex h hr))
        (fun h => List.mem_append_right _ (mem_expand_of_noregex h hr)), hm⟩

/-- stage by stage: a regex without a match (`ImpossibleMatch`, from the conversion of the subjects or of the objects),
    else an absent module (`KeyError`, from the graph queries) -/
theorem matchLayerRule_err_iff (mt : Str → Str → Bool) (g : PGraph Str) (a : LArch) (b : Behavior) (d : Bool)
    (ss os : List Filter) (k : ErrKind) (hk : k ≠ .layerMismatch) :
    matchLayerRule mt g a b d ss os = .err k ↔
      convertFilters mt g.nodes ss = .error k ∨
      (∃ subs, convertFilters mt g.nodes ss = .ok subs ∧ convertFilters mt g.nodes os = .error k) ∨
      (∃ subs objs, convertFilters mt g.nodes ss = .ok subs ∧ convertFilters mt g.nodes os = .ok objs ∧
        runQueries g b d subs objs = .error k) :=
  (matchLayerRule_err_iff_queries mt g a b d ss os k hk).trans (queries_error_iff mt g b d ss os k)

/-! ### complete layer rules (`compileLayerRule larch r`: all 12 shapes and the two `any layer` forms) -/

/-- the layers a layer rule mentions: its subject layer and, unless it is an `any layer` rule, its object layers -/
def mentionedLayers (r : LRuleSpec) : List Str := r.subject :: (if r.anything then [] else r.objects)

def mentioned (larch : LArch) (r : LRuleSpec) : List Filter := (mentionedLayers r).flatMap larch.getD

theorem mentioned_eq (larch : LArch) (r : LRuleSpec) :
    mentioned larch r = larch.getD r.subject ++ (if r.anything then [] else r.objects.flatMap larch.getD) := by
  unfold mentioned mentionedLayers
  cases r.anything <;> simp

theorem behL_verb (r : LRuleSpec) : (behL r).should = true ∨ (behL r).shouldOnly = true ∨ (behL r).shouldNot = true := by
  obtain ⟨verb, dir, exc, subject, objects, anything⟩ := r
  cases verb <;> simp [behL]

/-- an `any layer` rule whose alias conversion drops an absent listed module: the check of the repair of F-C13b fires first -/
theorem assertAppliesLayer_dropped (mt : Str → Str → Bool) (g : PGraph Str) (larch : LArch) (r : LRuleSpec)
    (ha : r.anything = true) (hv : r.verb = .shouldNot)
    (hda : droppedAbsentIn g (larch.getD r.subject) = true) :
    assertAppliesLayer mt (compileLayerRule larch r) g = .err .lookupError := by
  have hne : larch.getD r.subject ≠ [] := by
    intro h; rw [h] at hda; cases hda
  have hs1 : (dedupSubjects (larch.getD r.subject)).isEmpty = false :=
    List.isEmpty_eq_false_iff.2 (dedupSubjects_ne_nil _ hne)
  -- the configuration is complete, so of the checks of `gate` the one on the dropped subjects is the first to fail
  refine assertAppliesLayer_err_of_front mt g larch
    (front_of_gate_error (by simp [anythingMisused, hv]) ((gate_error_iff g _ _).2 ?_))
  rw [if_neg (by simp [configMissing, convertAliases, ha, hv, hs1]), if_pos ((droppedAbsent_convert g _ _ ha rfl).trans hda)]

theorem objF_subset (larch : LArch) (r : LRuleSpec) : ∀ f ∈ objF larch r, f ∈ mentioned larch r := by
  intro f hf
  rw [mentioned_eq]
  unfold objF at hf
  split at hf
  · exact List.mem_append_left _ (dedupSubjects_subset _ f hf)
  · rename_i h
    have : r.anything = false := by simpa using h
    simp only [this, Bool.false_eq_true, if_false]
    exact List.mem_append_right _ hf

theorem compile_err_iff (mt : Str → Str → Bool) (g : PGraph Str) (larch : LArch) (r : LRuleSpec)
    (hany : r.anything = true → r.verb = .shouldNot)
    (hs : larch.getD r.subject ≠ []) (ho : r.anything = true ∨ r.objects.flatMap larch.getD ≠ []) (k : ErrKind) :
    assertAppliesLayer mt (compileLayerRule larch r) g = .err k ↔
      if (r.anything && droppedAbsentIn g (larch.getD r.subject)) = true then k = .lookupError
      else matchLayerRule mt g larch (behL r) r.importDir (subjF larch r) (objF larch r) = .err k := by
  cases hda : r.anything && droppedAbsentIn g (larch.getD r.subject)
  · rw [assertAppliesLayer_compile' mt g larch r (subjF_ne_nil larch r hs) ho hany fun ha => by simpa [ha] using hda]
    simp
  · obtain ⟨ha, hd⟩ := Bool.and_eq_true_iff.1 hda
    rw [assertAppliesLayer_dropped mt g larch r ha (hany ha) hd]
    simp [eq_comm]

/-- **absent module behind a layer**: a complete layer rule one of whose mentioned layers lists, by name, a module that
    is not a node of the graph raises the lookup error (every regex of the mentioned layers having a match — otherwise
    see `layer_regex_no_match_lemma`) -/
theorem layer_unknown_module_lemma (mt : Str → Str → Bool) (g : PGraph Str) (larch : LArch) (r : LRuleSpec)
    (hany : r.anything = true → r.verb = .shouldNot)
    (hs : larch.getD r.subject ≠ []) (ho : r.anything = true ∨ r.objects.flatMap larch.getD ≠ [])
    (hreg : convOK mt g.nodes (mentioned larch r))
    (hmiss : ∃ f ∈ mentioned larch r, f.isRegex = false ∧ g.hasNode f.id = false) :
    assertAppliesLayer mt (compileLayerRule larch r) g = .err .lookupError := by
  rw [compile_err_iff mt g larch r hany hs ho]
  split
  · rfl
  rename_i hda
  refine (matchLayerRule_err_iff_queries mt g larch _ _ _ _ _ (by simp)).2 (queries_lookup mt g (behL r) r.importDir _ _ (behL_verb r)
    (subjF_ne_nil larch r hs) (objF_ne_nil larch r hs ho) ?_ ?_)
  · intro f hf
    refine hreg f ?_
    rcases List.mem_append.1 hf with hf | hf
    · rw [mentioned_eq]; exact List.mem_append_left _ (subjF_subset larch r f hf)
    · exact objF_subset larch r f hf
  · obtain ⟨f, hf, hr, hm⟩ := hmiss
    refine ⟨f, ?_, hr, hm⟩
    rw [mentioned_eq] at hf
    cases ha : r.anything
    · simpa [subjF_plain larch ha, objF_plain larch ha, ha] using hf
    · -- a listed module that the alias conversion drops exists: the check on the dropped modules has passed
      simp only [ha, Bool.true_and, if_true, List.append_nil, Bool.not_eq_true] at hf hda
      have := (droppedAbsentIn_false_iff g _).1 hda f hf
      rw [subjF_any larch ha]
      refine List.mem_append_left _ (Classical.byContradiction fun hnot => ?_)
      rw [this hnot hr] at hm
      cases hm

/-- **regex layer without a match**: a complete layer rule some filter of which — after the alias conversion of an
    `any layer` rule — is a regex matching no node raises `ImpossibleMatch`; in an `any layer` rule the check on dropped
    absent modules comes first (`hda`) -/
theorem layer_regex_no_match_lemma (mt : Str → Str → Bool) (g : PGraph Str) (larch : LArch) (r : LRuleSpec)
    (hany : r.anything = true → r.verb = .shouldNot)
    (hs : larch.getD r.subject ≠ []) (ho : r.anything = true ∨ r.objects.flatMap larch.getD ≠ [])
    (hda : r.anything = true → droppedAbsentIn g (larch.getD r.subject) = false)
    (h : ∃ f ∈ subjF larch r ++ objF larch r, f.isRegex = true ∧ ∀ m ∈ g.nodes, mt f.id m = false) :
    assertAppliesLayer mt (compileLayerRule larch r) g = .err .impossibleMatch := by
  rw [assertAppliesLayer_compile' mt g larch r (subjF_ne_nil larch r hs) ho hany hda]
  exact (matchLayerRule_err_iff_queries mt g larch _ _ _ _ _ (by simp)).2 (queries_no_match mt g _ _ _ _ h)

/-- which error other than `LayerMismatch` a complete layer rule raises does not depend on the layers it does not
    mention -/
theorem layer_err_unmentioned_lemma (mt : Str → Str → Bool) (g : PGraph Str) (larch larch' : LArch) (r : LRuleSpec)
    (hany : r.anything = true → r.verb = .shouldNot)
    (hs : larch.getD r.subject ≠ []) (ho : r.anything = true ∨ r.objects.flatMap larch.getD ≠ [])
    (hagree : ∀ L ∈ mentionedLayers r, larch'.getD L = larch.getD L)
    (k : ErrKind) (hk : k ≠ .layerMismatch) :
    assertAppliesLayer mt (compileLayerRule larch r) g = .err k ↔
      assertAppliesLayer mt (compileLayerRule larch' r) g = .err k := by
  have hsub : larch'.getD r.subject = larch.getD r.subject := hagree _ (by simp [mentionedLayers])
  have hobj : r.anything = false → r.objects.flatMap larch'.getD = r.objects.flatMap larch.getD := by
    intro ha
    rw [List.flatMap_def, List.flatMap_def,
      List.map_congr_left fun L hL => hagree L (by simp [mentionedLayers, ha, hL])]
  have hs' : larch'.getD r.subject ≠ [] := by rw [hsub]; exact hs
  have ho' : r.anything = true ∨ r.objects.flatMap larch'.getD ≠ [] := by
    rcases ho with h | h
    · exact .inl h
    · cases ha : r.anything
      · right; rw [hobj ha]; exact h
      · exact .inl rfl
  have hsF : subjF larch' r = subjF larch r := by unfold subjF; rw [hsub]
  have hoF : objF larch' r = objF larch r := by
    unfold objF
    cases ha : r.anything
    · simp only [Bool.false_eq_true, if_false]; exact hobj ha
    · simp only [if_true]; rw [hsub]
  rw [compile_err_iff mt g larch r hany hs ho, compile_err_iff mt g larch' r hany hs' ho', hsF, hoF, hsub]
  split
  · rfl
  · exact (matchLayerRule_err_iff_queries mt g larch _ _ _ _ k hk).trans (matchLayerRule_err_iff_queries mt g larch' _ _ _ _ k hk).symm

/-! ### no lookup error when everything the mentioned layers list exists -/

theorem convertFilters_ok_nodes (mt : Str → Str → Bool) (g : PGraph Str) (fs cs : List Filter)
    (h : convertFilters mt g.nodes fs = .ok cs)
    (hex : ∀ f ∈ fs, f.isRegex = false → g.hasNode f.id = true) : ∀ c ∈ cs, g.hasNode c.id = true := by
  obtain ⟨-, rfl⟩ := (convertFilters_ok_iff ..).1 h
  intro c hc
  rcases (mem_expand ..).1 hc with ⟨_, -, -, m, hm, -, rfl⟩ | ⟨h1, h2⟩
  · simpa [PGraph.hasNode, Filter.id] using hm
  · exact hex c h1 h2

theorem matchLayerRule_no_lookup (mt : Str → Str → Bool) (g : PGraph Str) (a : LArch) (b : Behavior) (d : Bool)
    (ss os : List Filter) (hex : ∀ f ∈ ss ++ os, f.isRegex = false → g.hasNode f.id = true) :
    matchLayerRule mt g a b d ss os ≠ .err .lookupError := by
  intro h
  rcases (matchLayerRule_err_iff mt g a b d ss os .lookupError (by simp)).1 h with h | ⟨_, _, h⟩ | ⟨subs, objs, h1, h2, h3⟩
  · cases convertFilters_error_kind _ _ _ _ h
  · cases convertFilters_error_kind _ _ _ _ h
  · have hn : ∀ f ∈ subs ++ objs, g.hasNode f.id = true := by
      intro f hf
      rcases List.mem_append.1 hf with hf | hf
      · exact convertFilters_ok_nodes mt g ss subs h1 (fun f hf => hex f (List.mem_append_left _ hf)) f hf
      · exact convertFilters_ok_nodes mt g os objs h2 (fun f hf => hex f (List.mem_append_right _ hf)) f hf
    obtain ⟨r, hr⟩ := Err.runQueries_ok_of_nodes g b d subs objs hn
    rw [hr] at h3; cases h3

/-- where a lookup error of `LayerRule.assert_applies` can come from -/
theorem assertAppliesLayer_lookup_cases (mt : Str → Str → Bool) (g : PGraph Str) (a : LArch) (rule : RuleState)
    (h : assertAppliesLayer mt ⟨some a, some rule⟩ g = .err .lookupError) :
    droppedAbsent g (convertAliases rule.cfg) = true ∨
    ∃ d ss os, (convertAliases rule.cfg).subjects = some ss ∧ (convertAliases rule.cfg).objects = some os ∧
      matchLayerRule mt g a (convertAliases rule.cfg).behavior d ss os = .err .lookupError := by
  rw [assertAppliesLayer_front] at h
  rcases front_cases mt g rule.cfg with ⟨_, hf⟩ | ⟨_, k, hg, hf⟩ | ⟨_, d, ss, os, ⟨-, -, -, -, hs, ho⟩, hf⟩ <;> rw [hf] at h
  · cases h
  · cases h
    -- of the three checks of `gate` only the one on the dropped subjects raises the lookup error
    have hk := (gate_error_iff g _ _).1 hg
    split at hk
    · cases hk
    · split at hk
      · exact .inl ‹_›
      · cases hk.2
  · exact .inr ⟨d, ss, os, hs, ho, (matchLayerRule_queries mt g a _ d ss os).trans h⟩

/-! ### DIAGRAMS: a component that is not a module of the graph -/

open Pta.Dg

/-- a generated rule raises exactly when one of the names it mentions is absent, and then the lookup error: it is a
    complete name-only rule, so `assert_applies` is the matcher and the matcher converts nothing -/
theorem mkD_err_iff (mt : Str → Str → Bool) (g : PGraph Str) (s : Str) (os : List Str) (v : RuleOp)
    (hv : v = .should ∨ v = .shouldOnly ∨ v = .shouldNot) (ho : os ≠ []) (k : ErrKind) :
    ruleVerdict mt g (mkD s os v) = .err k ↔ k = .lookupError ∧ ∃ x ∈ s :: os, g.hasNode x = false := by
  have hcm : configMissing (mkD s os v).cfg = false := by
    rcases hv with rfl | rfl | rfl <;> cases os <;> first | exact absurd rfl ho | rfl
  have hinc : (mkD s os v).cfg.behavior.inconsistent = false := by rcases hv with rfl | rfl | rfl <;> rfl
  have hverb : (mkD s os v).cfg.behavior.should = true ∨ (mkD s os v).cfg.behavior.shouldOnly = true ∨
      (mkD s os v).cfg.behavior.shouldNot = true := by
    rcases hv with rfl | rfl | rfl
    · exact .inl rfl
    · exact .inr (.inl rfl)
    · exact .inr (.inr rfl)
  have hn : ∀ f ∈ os.map Filter.name, f.isRegex = false := by
    intro f hf; obtain ⟨x, _, rfl⟩ := List.mem_map.1 hf; rfl
  unfold ruleVerdict
  rw [assertApplies_complete mt g (mkD s os v) true [.name s] (os.map .name) rfl hcm rfl hinc rfl rfl rfl,
    ← Verdict.cls_eq_err, Err.matchRule_err_iff mt g _ true _ _ hverb (by simp) (by simpa using ho)]
  unfold Err.MatchErr
  rw [convertFilters_noregex mt g.nodes [.name s] (by simp [Filter.isRegex]),
    convertFilters_noregex mt g.nodes _ hn]
  constructor
  · rintro (h | ⟨_, _, h⟩ | ⟨A', B', hA, hB, rfl, f, hf, hm⟩)
    · cases h
    · cases h
    · refine ⟨rfl, ?_⟩
      cases hA; cases hB
      rcases List.mem_append.1 hf with hf | hf
      · rw [List.mem_singleton.1 hf] at hm; exact ⟨s, by simp, hm⟩
      · obtain ⟨x, hx, rfl⟩ := List.mem_map.1 hf; exact ⟨x, List.mem_cons_of_mem _ hx, hm⟩
  · rintro ⟨rfl, x, hx, hm⟩
    refine .inr (.inr ⟨_, _, rfl, rfl, rfl, .name x, ?_, hm⟩)
    rcases List.mem_cons.1 hx with rfl | hx
    · simp
    · exact List.mem_append_right _ (List.mem_map_of_mem hx)

theorem mkD_inj {s s' : Str} {os os' : List Str} {v v' : RuleOp} (h : mkD s os v = mkD s' os' v') :
    s = s' ∧ os = os' := by
  have h1 : (mkD s os v).cfg.subjects = (mkD s' os' v').cfg.subjects := by rw [h]
  have h2 : (mkD s os v).cfg.objects = (mkD s' os' v').cfg.objects := by rw [h]
  simp only [mkD, Option.some.injEq, List.cons.injEq, Filter.name.injEq, and_true] at h1 h2
  refine ⟨h1, ?_⟩
  have := congrArg (List.map Filter.id) h2
  simpa [List.map_map, Function.comp_def, Filter.id] using this

/-- `MultipleRuleApplier`: a batch raises what its first raising rule raises -/
theorem applyAll_err_iff (mt : Str → Str → Bool) (g : PGraph Str) (rs : List RuleState) (k : ErrKind) :
    applyAll mt g rs = .err k ↔ rs.findSome? (fun r => (ruleVerdict mt g r).errKind) = some k := by
  rw [applyAll_eq_agg, agg_err_iff, List.findSome?_map]; rfl

theorem shouldVerb_ok (so : Bool) : shouldVerb so = .should ∨ shouldVerb so = .shouldOnly ∨ shouldVerb so = .shouldNot := by
  cases so
  · exact .inl rfl
  · exact .inr (.inl rfl)

/-- every generated rule is `mkD s os v` with a proper verb and — when no dependor has an empty list of dependees, as in
    every parser output — at least one object -/
theorem diagramRules_shape (so : Bool) (p : Parsed') (hne : ∀ kv ∈ p.dependencies, kv.2 ≠ []) :
    ∀ r ∈ diagramRules so p, ∃ s os v, r = mkD s os v ∧ (v = .should ∨ v = .shouldOnly ∨ v = .shouldNot) ∧ os ≠ [] := by
  intro r hr
  rcases (mem_diagramRules so p r).1 hr with ⟨kv, hkv, rfl⟩ | ⟨m, _, hm, rfl⟩
  · exact ⟨kv.1, kv.2, shouldVerb so, rfl, shouldVerb_ok so, hne kv hkv⟩
  · exact ⟨m, _, .shouldNot, rfl, .inr (.inr rfl), mt (sortStr_eq_nil _).1 hm⟩

/-- a generated rule with its names prefixed raises iff one of its names, prefixed, is absent -/
theorem diagramRules_prefixed_err_iff (mt : Str → Str → Bool) (g : PGraph Str) (so : Bool) (p : Parsed') (base : Option Str)
    (hne : ∀ kv ∈ p.dependencies, kv.2 ≠ []) :
    ∀ r ∈ diagramRules so p, ∃ s os v, r = mkD s os v ∧ ∀ k,
      ruleVerdict mt g (r.mapId (withBase base)) = .err k ↔
        k = .lookupError ∧ ∃ x ∈ s :: os, g.hasNode (withBase base x) = false := by
  intro r hr
  obtain ⟨s, os, v, rfl, hv, ho⟩ := diagramRules_shape so p hne r hr
  refine ⟨s, os, v, rfl, fun k => ?_⟩
  rw [mkD_mapId, mkD_err_iff mt g _ _ v hv (fun e => ho (List.map_eq_nil_iff.1 e)), ← List.map_cons]
  exact and_congr_right fun _ => ⟨fun ⟨_, hx, hn⟩ => let ⟨x, hx0, e⟩ := List.mem_map.1 hx; ⟨x, hx0, e ▸ hn⟩,
    fun ⟨x, hx, hn⟩ => ⟨_, List.mem_map_of_mem hx, hn⟩⟩

/-- the components a diagram check looks up: those drawn together with another component, and the ends of arrows -/
def Checked (p : Parsed') (m : Str) : Prop :=
  (m ∈ p.modules ∧ ∃ x ∈ p.modules, x ≠ m) ∨ ∃ kv ∈ p.dependencies, m = kv.1 ∨ m ∈ kv.2

theorem diagramRules_mentions (so : Bool) (p : Parsed') (m : Str) (hm : Checked p m) :
    ∃ s os v, mkD s os v ∈ diagramRules so p ∧ m ∈ s :: os := by
  have hdep : (∃ kv ∈ p.dependencies, m = kv.1 ∨ m ∈ kv.2) →
      ∃ s os v, mkD s os v ∈ diagramRules so p ∧ m ∈ s :: os := by
    rintro ⟨kv, hkv, h⟩
    refine ⟨kv.1, kv.2, shouldVerb so, (mem_diagramRules so p _).2 (.inl ⟨kv, hkv, rfl⟩), ?_⟩
    rcases h with rfl | h
    · simp
    · exact List.mem_cons_of_mem _ h
  rcases hm with ⟨hmm, x, hx, hxm⟩ | hm
  · by_cases hemp : notImportedOf p m = []
    · -- `m` imports every other component: it is a dependor
      apply hdep
      have hxi : x ∈ importedOf p m := Classical.not_not.1 fun hni =>
        List.not_mem_nil (hemp ▸ (mem_notImportedOf p m x).2 ⟨hx, hxm, hni⟩)
      unfold importedOf at hxi
      cases hf : p.dependencies.find? (·.1 == m) with
      | none => rw [hf] at hxi; cases hxi
      | some kv =>
        refine ⟨kv, List.mem_of_find?_eq_some hf, .inl ?_⟩
        have := List.find?_some hf
        exact (by simpa using this : kv.1 = m).symm
    · exact ⟨m, _, .shouldNot, (mem_diagramRules so p _).2 (.inr ⟨m, hmm, hemp, rfl⟩), by simp⟩
  · exact hdep hm

theorem diagramRules_names_checked (so : Bool) (p : Parsed') (s : Str) (os : List Str) (v : RuleOp)
    (h : mkD s os v ∈ diagramRules so p) : ∀ x ∈ s :: os, Checked p x := by
  rcases (mem_diagramRules so p _).1 h with ⟨kv, hkv, he⟩ | ⟨m, hmm, hemp, he⟩
  · obtain ⟨rfl, rfl⟩ := mkD_inj he
    intro x hx
    rcases List.mem_cons.1 hx with rfl | hx
    · exact .inr ⟨kv, hkv, .inl rfl⟩
    · exact .inr ⟨kv, hkv, .inr hx⟩
  · obtain ⟨e1, e2⟩ := mkD_inj he
    rw [e1, e2]
    have hni : ∀ x ∈ notImportedOf p m, x ∈ p.modules ∧ x ≠ m := fun x hx =>
      ⟨((mem_notImportedOf p m x).1 hx).1, ((mem_notImportedOf p m x).1 hx).2.1⟩
    intro x hx
    rcases List.mem_cons.1 hx with rfl | hx
    · cases hn : notImportedOf p x with
      | nil => exact absurd hn hemp
      | cons y ys =>
        obtain ⟨hy1, hy2⟩ := hni y (by rw [hn]; simp)
        exact .inl ⟨hmm, y, hy1, hy2⟩
    · obtain ⟨h1, h2⟩ := hni x ((mem_sortStr x _).1 hx)
      exact .inl ⟨h1, m, hmm, fun e => h2 e.symm⟩

/-- **the exact statement**: a diagram check (base module prefixed) raises the lookup error exactly when some checked
    component, prefixed, is not a node of the graph, and it raises nothing else -/
theorem diagram_lookup_iff_lemma (mt : Str → Str → Bool) (g : PGraph Str) (so : Bool) (p : Parsed') (base : Option Str)
    (hne : ∀ kv ∈ p.dependencies, kv.2 ≠ []) :
    (applyAll mt g (diagramRules so (prefixParsed p base)) = .err .lookupError ↔
      ∃ m, Checked p m ∧ g.hasNode (withBase base m) = false) ∧
    (∀ k, applyAll mt g (diagramRules so (prefixParsed p base)) = .err k → k = .lookupError) := by
  rw [diagramRules_prefixParsed]
  have hrule := diagramRules_prefixed_err_iff mt g so p base hne
  have herr : ∀ k, applyAll mt g ((diagramRules so p).map (RuleState.mapId (withBase base))) = .err k →
      k = .lookupError ∧ ∃ m, Checked p m ∧ g.hasNode (withBase base m) = false := by
    intro k hk
    obtain ⟨r', hr', hv⟩ := List.exists_of_findSome?_eq_some ((applyAll_err_iff mt g _ k).1 hk)
    obtain ⟨r, hr, rfl⟩ := List.mem_map.1 hr'
    obtain ⟨s, os, v, rfl, h⟩ := hrule r hr
    obtain ⟨rfl, x, hx, hxn⟩ := (h k).1 (errKind_eq_some.1 hv)
    exact ⟨rfl, x, diagramRules_names_checked so p s os v hr x hx, hxn⟩
  refine ⟨⟨fun h => (herr _ h).2, ?_⟩, fun k hk => (herr k hk).1⟩
  rintro ⟨m, hm, habs⟩
  -- a rule that names `m` raises, so the batch raises, and by `herr` it raises the lookup error
  obtain ⟨s, os, v, hmem, hin⟩ := diagramRules_mentions so p m hm
  obtain ⟨s', os', v', he, h⟩ := hrule _ hmem
  obtain ⟨rfl, rfl⟩ := mkD_inj he
  have hraise := (h _).2 ⟨rfl, m, hin, habs⟩
  obtain ⟨k, hk, _⟩ := applyAll_raises mt g _ ⟨_, List.mem_map_of_mem hmem, _, hraise⟩
  rw [(herr k hk).1] at hk
  exact hk

/-- the check of the repair of F-C13c in terms of `withBase`: some component, base module prefixed, is not a node -/
theorem diagramMissing_prefix_iff (p : Parsed') (base : Option Str) (g : PGraph Str) :
    diagramMissing (prefixParsed p base) g = true ↔ ∃ m ∈ p.modules, g.hasNode (withBase base m) = false := by
  rw [Pta.Repair.diagramMissing_true_iff, prefixParsed_eq_mapNames, mapNames_modules]
  constructor
  · rintro ⟨m', hm', hn⟩
    obtain ⟨m, hm, rfl⟩ := List.mem_map.1 hm'
    exact ⟨m, hm, hn⟩
  · rintro ⟨m, hm, hn⟩
    exact ⟨_, List.mem_map_of_mem hm, hn⟩

end Pta.C13M
