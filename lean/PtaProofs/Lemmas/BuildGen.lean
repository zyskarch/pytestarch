/-
  PtaProofs.Lemmas.BuildGen — list-level facts about the graph construction primitives (`createNode`, `createEdge`,
  `addHierarchy`, `addImport`), independent of any architecture: which nodes each step adds, that nodes are never
  duplicated, the guard `skipImportEdge`, and how the accessors of `PGraph` read the edge list.
-/
import PtaModel.Graph
namespace Pta
namespace BuildGen

theorem hasNode_iff (g : PGraph Str) (s : Str) : g.hasNode s = true ↔ s ∈ g.nodes := by
  simp [PGraph.hasNode]

theorem foldl_inv {β γ : Type} (f : β → γ → β) (Inv : β → Prop) (l : List γ)
    (hinv : ∀ g x, x ∈ l → Inv g → Inv (f g x)) : ∀ g, Inv g → Inv (l.foldl f g) :=
  fun _ h => List.foldlRecOn l f h fun b hb a ha => hinv b a ha hb

theorem createNode_nodes (lim : Option Nat) (g : PGraph Str) (n s : Str) :
    s ∈ (createNode lim g n).nodes ↔ s ∈ g.nodes ∨ s = flattenNode lim n := by
  unfold createNode
  simp only []
  split
  · rename_i h
    rw [hasNode_iff] at h
    constructor
    · exact Or.inl
    · rintro (h' | rfl)
      · exact h'
      · exact h
  · simp

theorem createNode_edges (lim : Option Nat) (g : PGraph Str) (n : Str) :
    (createNode lim g n).edges = g.edges := by
  unfold createNode
  simp only []
  split <;> rfl

theorem createNode_nodup (lim : Option Nat) (g : PGraph Str) (n : Str) (h : g.nodes.Nodup) :
    (createNode lim g n).nodes.Nodup := by
  unfold createNode
  simp only []
  split
  · exact h
  · rename_i hn
    rw [hasNode_iff] at hn
    simp only []
    rw [List.nodup_append]
    refine ⟨h, by simp, ?_⟩
    intro x hx y hy
    simp at hy
    subst hy
    intro hxy; subst hxy; exact hn hx

theorem setEdge_nodes {α : Type} [DecidableEq α] (g : PGraph α) (s e : α) (inh : Bool) :
    (g.setEdge s e inh).nodes = g.nodes := by
  unfold PGraph.setEdge; split <;> rfl

theorem createEdge_eq (lim : Option Nat) (g : PGraph Str) (s e : Str) (inh : Bool) :
    createEdge lim g s e inh = g ∨
      createEdge lim g s e inh = g.setEdge (flattenNode lim s) (flattenNode lim e) inh := by
  unfold createEdge
  simp only
  split
  · exact Or.inl rfl
  · split
    · cases g.findEdge (flattenNode lim s) (flattenNode lim e) with
      | none => exact Or.inr rfl
      | some x =>
        simp only
        split
        · exact Or.inl rfl
        · exact Or.inr rfl
    · exact Or.inl rfl

theorem createEdge_nodes (lim : Option Nat) (g : PGraph Str) (s e : Str) (inh : Bool) :
    (createEdge lim g s e inh).nodes = g.nodes := by
  rcases createEdge_eq lim g s e inh with h | h <;> rw [h]
  exact setEdge_nodes _ _ _ _

theorem nodeFold_nodes (lim : Option Nat) (ps : List Str) (g : PGraph Str) (s : Str) :
    s ∈ (ps.foldl (createNode lim) g).nodes ↔ s ∈ g.nodes ∨ ∃ p ∈ ps, s = flattenNode lim p := by
  induction ps generalizing g with
  | nil => simp
  | cons p ps ih =>
    simp only [List.foldl_cons, ih, createNode_nodes, List.mem_cons, exists_eq_or_imp]
    exact or_assoc

theorem nodeFold_edges (lim : Option Nat) (ps : List Str) (g : PGraph Str) :
    (ps.foldl (createNode lim) g).edges = g.edges :=
  foldl_inv _ (·.edges = g.edges) ps (fun g' n _ e => (createNode_edges lim g' n).trans e) g rfl

theorem edgeFold_nodes (lim : Option Nat) (inh : Bool) (l : List (Str × Str)) (g : PGraph Str) :
    (l.foldl (fun g pc => createEdge lim g pc.1 pc.2 inh) g).nodes = g.nodes :=
  foldl_inv _ (·.nodes = g.nodes) l (fun g' pc _ e => (createEdge_nodes lim g' pc.1 pc.2 inh).trans e) g rfl

theorem mem_consecutive_left {β : Type} : ∀ (l : List β) (p : β × β), p ∈ consecutive l → p.1 ∈ l ∧ p.2 ∈ l
  | [], p, h => by simp [consecutive] at h
  | [_], p, h => by simp [consecutive] at h
  | a :: b :: r, p, h => by
    simp only [consecutive, List.mem_cons] at h
    rcases h with rfl | h
    · simp
    · have := mem_consecutive_left (b :: r) p h
      simp only [List.mem_cons] at this ⊢
      exact ⟨Or.inr this.1, Or.inr this.2⟩

theorem addHierarchy_nodes (lim : Option Nat) (g : PGraph Str) (ps : List Str) (c s : Str) :
    s ∈ (addHierarchy lim g ps c).nodes ↔ s ∈ g.nodes ∨ ∃ p ∈ ps, s = flattenNode lim p := by
  unfold addHierarchy
  simp only []
  rw [edgeFold_nodes, nodeFold_nodes]

theorem skipImportEdge_none (known : List Str) (i : ImportRec) : skipImportEdge none known i = false := rfl

theorem skipImportEdge_some (k : Nat) (known : List Str) (i : ImportRec) :
    skipImportEdge (some k) known i = false ↔ i.importer ∈ known ∧ i.importee ∈ known := by
  simp [skipImportEdge]

theorem skipImportEdge_congr (lim : Option Nat) (known known' : List Str) (i : ImportRec)
    (h : ∀ s, s ∈ known ↔ s ∈ known') : skipImportEdge lim known i = skipImportEdge lim known' i := by
  have hc : ∀ s, known.contains s = known'.contains s := by
    intro s
    rw [Bool.eq_iff_iff]
    simp only [List.contains_iff_mem]
    exact h s
  unfold skipImportEdge
  rw [hc, hc]

theorem mem_knownModules (mods : List Str) (s : Str) :
    s ∈ knownModules mods ↔ s ∈ mods ∨ ∃ m ∈ mods, s ∈ parentModules m := by
  simp [knownModules, List.mem_flatMap]

/-- the unguarded loop body (what `addImport` was before the repair; still what it is without a level limit or
    for an import between known modules) -/
def addImport₀ (lim : Option Nat) (g : PGraph Str) (i : ImportRec) : PGraph Str :=
  let g := createEdge lim g i.importer i.importee false
  let g := addHierarchy lim g (parentModules i.importer) i.importer
  (consecutive (i.importeeParents ++ [i.importee])).foldl
    (fun g pc => createEdge lim g pc.1 pc.2 true) g

theorem addImport_none (known : List Str) (g : PGraph Str) (i : ImportRec) :
    addImport none known g i = addImport₀ none g i := rfl

theorem addImport_of_not_skip (lim : Option Nat) (known : List Str) (g : PGraph Str) (i : ImportRec)
    (h : skipImportEdge lim known i = false) : addImport lim known g i = addImport₀ lim g i := by
  unfold addImport addImport₀
  rw [h]
  rfl

theorem addImport_nodes_first (lim : Option Nat) (known : List Str) (g : PGraph Str) (i : ImportRec) :
    (if skipImportEdge lim known i then g else createEdge lim g i.importer i.importee false).nodes = g.nodes := by
  split
  · rfl
  · exact createEdge_nodes lim g _ _ false

theorem buildGraph_induction (P : PGraph Str → Prop) (h0 : P PGraph.empty)
    (hn : ∀ lim g n, P g → P (createNode lim g n)) (he : ∀ lim g s e inh, P g → P (createEdge lim g s e inh))
    (mods : List Str) (imports : List ImportRec) (lim : Option Nat) : P (buildGraph mods imports lim) := by
  have hE : ∀ (l : List (Str × Str)) g, P g → P (l.foldl (fun g pc => createEdge lim g pc.1 pc.2 true) g) :=
    fun l => foldl_inv _ P l (fun g pc _ h => he lim g pc.1 pc.2 true h)
  have hH : ∀ g ps c, P g → P (addHierarchy lim g ps c) :=
    fun g ps c h => hE _ _ (foldl_inv _ P ps (fun g n _ h => hn lim g n h) g h)
  unfold buildGraph
  refine foldl_inv _ P _ (fun g i _ h => ?_) _ ?_
  · unfold addImport
    refine hE _ _ (hH _ _ _ ?_)
    split
    · exact h
    · exact he lim g _ _ false h
  · exact foldl_inv _ P _ (fun g m _ h => hH _ _ _ (hn lim g m h)) _ h0

theorem mem_filter_map_iff {α β : Type} (l : List α) (p : α → Bool) (π : α → β) (x : α) (y : β)
    (h : ∀ e, (p e = true ∧ π e = y) ↔ e = x) : y ∈ (l.filter p).map π ↔ x ∈ l := by
  simp only [List.mem_map, List.mem_filter, and_assoc, h, exists_eq_right]

theorem mem_importPairs (g : PGraph Str) (a b : Str) : (a, b) ∈ g.importPairs ↔ (⟨a, b, false⟩ : Edge Str) ∈ g.edges :=
  mem_filter_map_iff _ _ _ _ _ fun ⟨_, _, _⟩ => by simp [and_comm, and_left_comm]

theorem mem_hierPairs (g : PGraph Str) (a b : Str) : (a, b) ∈ g.hierPairs ↔ (⟨a, b, true⟩ : Edge Str) ∈ g.edges :=
  mem_filter_map_iff _ _ _ _ _ fun ⟨_, _, _⟩ => by simp [and_comm, and_left_comm]

theorem mem_hierChildren (g : PGraph Str) (s x : Str) : x ∈ g.hierChildren s ↔ ⟨s, x, true⟩ ∈ g.edges :=
  mem_filter_map_iff _ _ _ _ _ fun ⟨_, _, _⟩ => by simp [and_assoc, and_comm, and_left_comm]

theorem mem_importSuccs (g : PGraph Str) (s x : Str) : x ∈ g.importSuccs s ↔ ⟨s, x, false⟩ ∈ g.edges :=
  mem_filter_map_iff _ _ _ _ _ fun ⟨_, _, _⟩ => by simp [and_assoc, and_comm, and_left_comm]

theorem mem_importPreds (g : PGraph Str) (s x : Str) : x ∈ g.importPreds s ↔ ⟨x, s, false⟩ ∈ g.edges :=
  mem_filter_map_iff _ _ _ _ _ fun ⟨_, _, _⟩ => by simp [and_comm, and_left_comm]

end BuildGen

theorem mem_importPreds_iff (g : PGraph Str) (p n : Str) : p ∈ g.importPreds n ↔ n ∈ g.importSuccs p :=
  (BuildGen.mem_importPreds g n p).trans (BuildGen.mem_importSuccs g p n).symm

end Pta
