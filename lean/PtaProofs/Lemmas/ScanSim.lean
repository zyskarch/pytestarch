/-
  PtaProofs.Lemmas.ScanSim — the specification's `scanImports` read as a set of edges, and two listings compared:
  if every file of listing `X` has a counterpart in listing `Y` whose statements name at least the same modules, then
  `Y` has no answer when `X` has none (`sim_none`), and otherwise the edges of `X` are edges of `Y` (`sim_mem`);
  `sim_part` is the two-sided form. The comparisons of scans under more exclusions, of a sub-directory, with re-spelled
  or with added statements are instances. Also: what two trees with the same paths and kinds have in common (`skel`,
  `tree_same`, `scanModules_same`, …).
-/
import Bridge.ScanMono
import Bridge.ScanTree
import PtaProofs.Lemmas.ScanImports
namespace Pta
namespace ScanSim
open PtaSpec ScanImports

theorem targets_imp (m : List Name) (ap : Option Name) (imp : Name) (names : List Name) :
    targets m ap imp (.imp names) = some (names.map (targets.qualify m ap)) := rfl

theorem targets_from (m : List Name) (ap : Option Name) (imp p : Name) (names : List Comp) :
    targets m ap imp (.impFrom (some p) names 0) =
      some (names.map fun n =>
        if m.contains (targets.qualify m ap (p ++ [n])) = true then targets.qualify m ap (p ++ [n])
        else targets.qualify m ap p) := rfl

theorem targets_rel (m : List Name) (ap : Option Name) (imp : Name) (mo : Option Name) (names : List Comp) (l : Nat) :
    targets m ap imp (.impFrom mo names (l + 1)) =
      if l + 1 ≥ imp.length then none
      else some (names.map fun n =>
        match mo with
        | none => imp.take (imp.length - (l + 1)) ++ [n]
        | some p =>
          if m.contains (imp.take (imp.length - (l + 1)) ++ p ++ [n]) = true then imp.take (imp.length - (l + 1)) ++ p ++ [n]
          else imp.take (imp.length - (l + 1)) ++ p) := by
  cases mo <;> rfl

theorem targets_none_iff (m : List Name) (ap : Option Name) (imp : Name) (st : SStmt) :
    targets m ap imp st = none ↔ aboveRoot imp st = true := by
  cases st with
  | imp names => simp [targets_imp, aboveRoot]
  | impFrom mo names l =>
    cases l with
    | zero => cases mo <;> simp [targets, aboveRoot]
    | succ l =>
      rw [targets_rel]
      simp only [aboveRoot, ge_iff_le, decide_eq_true_eq]
      split <;> simp_all

theorem mem_stmtEdges {I : List Name} {ap : Option Name} {imp : Name} {st : SStmt} {e : Name × Name} :
    e ∈ stmtEdges I ap imp st ↔ e.1 = imp ∧ e.2 ∈ (targets I ap imp st).getD [] ∧ e.2 ∈ I ∧ e.2 ≠ imp := by
  simp only [stmtEdges, List.mem_map, List.mem_filter, Bool.and_eq_true, List.contains_iff_mem, bne_iff_ne, ne_eq]
  constructor
  · rintro ⟨t, ⟨h1, h2, h3⟩, rfl⟩; exact ⟨rfl, h1, h2, h3⟩
  · rintro ⟨rfl, h1, h2, h3⟩; exact ⟨e.2, ⟨h1, h2, h3⟩, rfl⟩

section
variable {root : Comp} {S : List SEntry} {mp : List Comp}

theorem scanImports_eq_none_iff :
    scanImports root S mp = none ↔
      ∃ f ∈ filesOf S mp, ∃ st ∈ f.stmts, aboveRoot (entryName root f) st = true := by
  simp only [scanImports_eq_none, targets_none_iff]

end

theorem mem_filesOf_tree {excl : Str → Bool} {base : Str} {entries : List Entry} {mp : List Str} (f : SEntry) :
    f ∈ filesOf (toSEntries excl base entries) mp ↔
      ∃ e ∈ entries, e.isDir = false ∧ survives (toSEntries excl base entries) mp (toSEntry excl base e) = true ∧
        f = toSEntry excl base e := by
  unfold filesOf
  rw [List.mem_filter, toSEntries, List.mem_map]
  simp only [Bool.and_eq_true, Bool.not_eq_true']
  constructor
  · rintro ⟨⟨e, he, rfl⟩, hd, hs⟩
    rcases List.mem_cons.1 he with rfl | he
    · cases hd
    · exact ⟨e, he, hd, hs, rfl⟩
  · rintro ⟨e, he, hd, hs, rfl⟩
    exact ⟨⟨e, List.mem_cons_of_mem _ he, rfl⟩, hd, hs⟩

/-- Listing `Y` (scanned from `mpY`) simulates listing `X` (scanned from `mpX`) on the importers satisfying `keep` and
    the imported modules satisfying `T`: a file of `X` has a file of `Y` with the same module name, and each of its
    statements a statement there that reaches above the root if it does and otherwise names at least the same
    internal modules. -/
def Sim (root : Comp) (X : List SEntry) (mpX : List Comp) (Y : List SEntry) (mpY : List Comp)
    (keep T : Name → Prop) : Prop :=
  ∀ f ∈ filesOf X mpX, keep (entryName root f) →
    ∃ f' ∈ filesOf Y mpY, entryName root f' = entryName root f ∧
      ∀ st ∈ f.stmts, ∃ st' ∈ f'.stmts,
        (aboveRoot (entryName root f) st = true → aboveRoot (entryName root f) st' = true) ∧
        ∀ t ∈ insideOf root X mpX, T t →
          t ∈ (targets (insideOf root X mpX) (apOf root mpX) (entryName root f) st).getD [] →
          t ∈ (targets (insideOf root Y mpY) (apOf root mpY) (entryName root f) st').getD []

section sim
variable {root : Comp} {X Y : List SEntry} {mpX mpY : List Comp} {keep T : Name → Prop}
  (sim : Sim root X mpX Y mpY keep T)
include sim

theorem sim_none (hkeep : ∀ n, keep n) (h : scanImports root X mpX = none) : scanImports root Y mpY = none := by
  obtain ⟨f, hf, st, hst, ha⟩ := scanImports_eq_none_iff.1 h
  obtain ⟨f', hf', hn, hs⟩ := sim f hf (hkeep _)
  obtain ⟨st', hst', ha', -⟩ := hs st hst
  exact scanImports_eq_none_iff.2 ⟨f', hf', st', hst', by rw [hn]; exact ha' ha⟩

theorem sim_mem (hin : ∀ t ∈ insideOf root X mpX, T t → t ∈ insideOf root Y mpY)
    {isX isY : List (Name × Name)} (hX : scanImports root X mpX = some isX)
    (hY : scanImports root Y mpY = some isY) (e : Name × Name) (he : e ∈ isX) (hk : keep e.1) (hT : T e.2) :
    e ∈ isY := by
  obtain ⟨f, hf, st, hst, hs⟩ := (scanImports_edges hX e).1 he
  obtain ⟨h1, h2, h3, h4⟩ := mem_stmtEdges.1 hs
  obtain ⟨f', hf', hn, hst2⟩ := sim f hf (h1 ▸ hk)
  obtain ⟨st', hst', -, hm⟩ := hst2 st hst
  refine (scanImports_edges hY e).2 ⟨f', hf', st', hst', mem_stmtEdges.2 ⟨h1.trans hn.symm, ?_, hin _ h3 hT, ?_⟩⟩
  · rw [hn]; exact hm _ h3 hT h2
  · rw [hn]; exact h4

end sim

theorem sim_part {root : Comp} {X Y : List SEntry} {mpX mpY : List Comp} {keep T : Name → Prop}
    (down : Sim root X mpX Y mpY (fun _ => True) (fun _ => True)) (up : Sim root Y mpY X mpX keep T)
    (hk : ∀ f ∈ filesOf X mpX, keep (entryName root f))
    (hdown : ∀ t ∈ insideOf root X mpX, t ∈ insideOf root Y mpY ∧ T t)
    (hup : ∀ t ∈ insideOf root Y mpY, T t → t ∈ insideOf root X mpX)
    {isY : List (Name × Name)} (hY : scanImports root Y mpY = some isY) :
    ∃ isX, scanImports root X mpX = some isX ∧ ∀ e : Name × Name, e ∈ isX ↔ e ∈ isY ∧ keep e.1 ∧ T e.2 := by
  obtain ⟨isX, hX⟩ : ∃ isX, scanImports root X mpX = some isX := by
    cases h : scanImports root X mpX with
    | some isX => exact ⟨isX, rfl⟩
    | none => rw [sim_none down (fun _ => trivial) h] at hY; cases hY
  refine ⟨isX, hX, fun e => ⟨fun he => ?_, fun ⟨he, h1, h2⟩ => sim_mem up hup hY hX e he h1 h2⟩⟩
  obtain ⟨⟨f, hf, hef⟩, h2, -⟩ := scanImports_mem _ _ _ isX hX e he
  exact ⟨sim_mem down (fun t ht _ => (hdown t ht).1) hX hY e he trivial trivial, hef ▸ hk f hf, (hdown _ h2).2⟩

/-! ### trees that differ in their statements only

  The directory walk, the tree predicates and the modules of the specification look at the path and the kind of an
  entry, never at its statements: they agree on two trees with the same `skel`. -/

/-- the parts of an entry the directory walk and the tree predicates look at -/
def skel (e : Entry) : Entry := { rel := e.rel, isDir := e.isDir }

/-- the same for the specification's entries: `survives`, `entryName`, `scanModules` and `insideOf` never read `stmts`,
    so two listings with the same `bare` entries (one tree with its statements collected, re-spelled or extended) agree
    on them (`*_of_bare`) and can differ only in what their statements name (`sim_of_bare`) -/
def bare (e : SEntry) : SEntry := { e with stmts := [] }

theorem survives_bare (S : List SEntry) (mp : List Comp) (e : SEntry) :
    survives (S.map bare) mp (bare e) = survives S mp e := by
  simp only [survives, List.all_map, Function.comp_def, bare]

theorem scanModules_bare (root : Comp) (S : List SEntry) (mp : List Comp) :
    scanModules root (S.map bare) mp = scanModules root S mp := by
  have h : (survives (S.map bare) mp ∘ bare) = survives S mp := funext (survives_bare S mp)
  simp only [scanModules, List.filter_map, List.map_map, h]
  rfl

theorem bare_toSEntries (excl : Str → Bool) (base : Str) (es : List Entry) :
    (toSEntries excl base es).map bare = toSEntries excl base (es.map skel) := by
  simp only [toSEntries, List.map_cons, List.map_map]
  rfl

section
variable {S S' : List SEntry} (h : S.map bare = S'.map bare)
include h

theorem scanModules_of_bare (root : Comp) (mp : List Comp) : scanModules root S mp = scanModules root S' mp := by
  rw [← scanModules_bare, h, scanModules_bare]

theorem insideOf_of_bare (root : Comp) (mp : List Comp) : insideOf root S mp = insideOf root S' mp := by
  unfold insideOf
  rw [scanModules_of_bare h]

theorem survives_of_bare (mp : List Comp) {e e' : SEntry} (he : bare e = bare e') :
    survives S mp e = survives S' mp e' := by
  rw [← survives_bare, h, he, survives_bare]

end

/-- two listings over one index list with the same entries up to their statements, the statements of the first among
    those of the second: the second simulates the first -/
theorem sim_of_bare {ι : Type} (f1 f2 : ι → SEntry) (l : List ι) (root : Comp) (mp : List Comp)
    (hb : ∀ i, bare (f1 i) = bare (f2 i)) (h_st : ∀ i ∈ l, ∀ st, st ∈ (f1 i).stmts → st ∈ (f2 i).stmts) :
    Sim root (l.map f1) mp (l.map f2) mp (fun _ => True) (fun _ => True) := by
  have hm : (l.map f1).map bare = (l.map f2).map bare := by simp only [List.map_map, Function.comp_def, hb]
  intro f hf _
  obtain ⟨hfm, hc⟩ := List.mem_filter.1 hf
  obtain ⟨i, hi, rfl⟩ := List.mem_map.1 hfm
  have hd : (f1 i).isDir = (f2 i).isDir := show (bare (f1 i)).isDir = (bare (f2 i)).isDir from congrArg _ (hb i)
  have hn : entryName root (f2 i) = entryName root (f1 i) :=
    show entryName root (bare (f2 i)) = entryName root (bare (f1 i)) from congrArg _ (hb i).symm
  refine ⟨f2 i, List.mem_filter.2 ⟨List.mem_map_of_mem hi, ?_⟩, hn, fun st hst => ⟨st, h_st i hi st hst, id, fun t _ _ ht => ?_⟩⟩
  · rw [← hd, ← survives_of_bare hm mp (hb i)]
    exact hc
  · rw [← insideOf_of_bare hm]
    exact ht

theorem relsNodup_map (f : Entry → Entry) (h : ∀ d e, ((f d).rel == (f e).rel) = (d.rel == e.rel)) (es : List Entry) :
    relsNodup (es.map f) = relsNodup es := by
  induction es with
  | nil => rfl
  | cons e es ih => simp only [List.map_cons, relsNodup, ih, List.any_map, Function.comp_def, h]

theorem treeWFFor_skel (excl : Str → Bool) (base : Str) (mp : List Str) (es : List Entry) :
    treeWFFor excl base mp (es.map skel) = treeWFFor excl base mp es := by
  simp only [treeWFFor, treeShape, treeNamesFor, relsNodup_map skel fun _ _ => rfl, List.all_map, List.any_map, Function.comp_def]
  rfl

theorem mpOK_skel (mp : List Str) (es : List Entry) : mpOK (es.map skel) mp = mpOK es mp := by
  simp only [mpOK, List.any_map, Function.comp_def]
  rfl

section
variable {es es' : List Entry} (h : es.map skel = es'.map skel) (excl : Str → Bool) (base : Str)
include h

theorem tree_same {mp : List Str} (hwf : treeWFFor excl base mp es = true) (hmp : mpOK es mp = true) :
    treeWFFor excl base mp es' = true ∧ mpOK es' mp = true := by
  rw [← treeWFFor_skel, ← mpOK_skel, ← h, treeWFFor_skel, mpOK_skel]
  exact ⟨hwf, hmp⟩

theorem bare_same : (toSEntries excl base es').map bare = (toSEntries excl base es).map bare := by
  rw [bare_toSEntries, bare_toSEntries, h]

theorem scanModules_same (root : Comp) (mp : List Comp) :
    scanModules root (toSEntries excl base es') mp = scanModules root (toSEntries excl base es) mp :=
  scanModules_of_bare (bare_same h excl base) root mp

theorem insideOf_same (root : Comp) (mp : List Comp) :
    insideOf root (toSEntries excl base es') mp = insideOf root (toSEntries excl base es) mp :=
  insideOf_of_bare (bare_same h excl base) root mp

theorem survives_same (mp : List Comp) {e e' : Entry} (hr : e'.rel = e.rel) (hd : e'.isDir = e.isDir) :
    survives (toSEntries excl base es') mp (toSEntry excl base e') =
      survives (toSEntries excl base es) mp (toSEntry excl base e) :=
  survives_of_bare (bare_same h excl base) mp (by simp only [bare, toSEntry, hr, hd])

end

end ScanSim
end Pta
