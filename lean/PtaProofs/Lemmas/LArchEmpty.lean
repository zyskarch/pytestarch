/-
  PtaProofs.Lemmas.LArchEmpty — `containing_modules([])` in LayeredArchitecture histories (property C16):
  the specification automaton's side. On an open layer an empty module list changes nothing, so the layer stays
  open and a following `layer(...)` call is rejected; with no layer open the call itself is rejected. The builder
  model's side is in Props/C16.
-/
import PtaProofs.Lemmas.LArchSim
namespace Pta.Hist
open PtaSpec

theorem step_modules_nil_open (t : LTrack) (n : List Char) (ho : t.opened = some n) :
    t.step (.modules []) = .ok t := by
  simp [LTrack.step, ho]

theorem classify_empty_then_layer (t : LTrack) (n m : List Char) (i : Nat) (ho : t.opened = some n) :
    classifyLArchFrom t i [.modules [], .layer m] = .rejectedAt (i + 1) := by
  simp [classifyLArchFrom, LTrack.step, ho]

theorem classify_empty_noop (t : LTrack) (n : List Char) (i : Nat) (ho : t.opened = some n) :
    classifyLArchFrom t i [.modules []] = .accepted t := by
  simp [classifyLArchFrom, LTrack.step, ho]

theorem classify_modules_closed (t : LTrack) (ms : List (List Char)) (i : Nat) (ho : t.opened = none)
    (rest : List LCall) :
    classifyLArchFrom t i (.modules ms :: rest) = .rejectedAt i := by
  simp [classifyLArchFrom, LTrack.step, ho]

theorem spec_empty_keeps_open_aux (cs : List LCall) (t : LTrack) (n m : List Char)
    (hacc : classifyLArch cs = .accepted t) (ho : t.opened = some n) :
    classifyLArch (cs ++ [.modules [], .layer m]) = .rejectedAt (cs.length + 1) := by
  unfold classifyLArch at hacc ⊢
  rw [classifyLArchFrom_append cs _ {} t 0 hacc, classify_empty_then_layer t n m _ ho]
  simp

theorem spec_empty_noop_aux (cs : List LCall) (t : LTrack) (n : List Char)
    (hacc : classifyLArch cs = .accepted t) (ho : t.opened = some n) :
    classifyLArch (cs ++ [.modules []]) = .accepted t := by
  unfold classifyLArch at hacc ⊢
  rw [classifyLArchFrom_append cs _ {} t 0 hacc, classify_empty_noop t n _ ho]

theorem spec_empty_closed_aux (cs : List LCall) (t : LTrack) (rest : List LCall)
    (hacc : classifyLArch cs = .accepted t) (ho : t.opened = none) :
    classifyLArch (cs ++ .modules [] :: rest) = .rejectedAt cs.length := by
  unfold classifyLArch at hacc ⊢
  rw [classifyLArchFrom_append cs _ {} t 0 hacc, classify_modules_closed t [] _ ho]
  simp

end Pta.Hist
