/-
  PtaProofs.Lemmas.ScanStmt — one import statement: `convertStmt` (ImportConverter._convert) names exactly the
  modules the specification's `targets` names (property C02, statement level).
-/
import Bridge.ScanAbs
import PtaProofs.Lemmas.Render
import PtaProofs.Lemmas.ExceptList
namespace Pta
namespace ScanStmt
open PtaSpec

theorem toStmt_toSStmt (st : ImportStmt) : toStmt (toSStmt st) = st := by
  cases st with
  | imp names =>
    exact congrArg ImportStmt.imp (map_render_splitDots names)
  | impFrom m names lvl =>
    cases m with
    | none => rfl
    | some p => simp only [toSStmt, toStmt, Option.map_some, render_splitDots]

theorem render_ne_dot_cons (n : Name) (h : nameWF n = true) (t : Str) : render n ≠ '.' :: t := by
  intro e
  -- splitting gives back `n`; a text that starts with a dot splits into an empty first component
  have := (splitDots_render n h).symm.trans ((congrArg splitDots e).trans (splitDots_append [] t))
  exact nameWF_comp_ne_nil h [] (this ▸ List.mem_cons_self) rfl

/-- `internal` is (as a set) the rendering of the well-formed names `mods` -/
structure Ctx (mods : List Name) (internal : List Str) : Prop where
  wf : ∀ m ∈ mods, nameWF m = true
  mem : ∀ s, s ∈ internal ↔ ∃ n ∈ mods, s = render n

theorem Ctx.of_map (mods : List Name) (wf : ∀ m ∈ mods, nameWF m = true) : Ctx mods (mods.map render) :=
  ⟨wf, fun s => by
    simp only [List.mem_map]
    constructor
    · rintro ⟨n, hn, rfl⟩; exact ⟨n, hn, rfl⟩
    · rintro ⟨n, hn, rfl⟩; exact ⟨n, hn, rfl⟩⟩

theorem Ctx.contains_render {mods : List Name} {internal : List Str} (h : Ctx mods internal) (y : Name)
    (hy : nameWF y = true) : internal.contains (render y) = mods.contains y := by
  rw [Bool.eq_iff_iff, List.contains_iff_mem, List.contains_iff_mem, h.mem]
  constructor
  · rintro ⟨n, hn, e⟩
    rw [render_injective y n hy (h.wf n hn) e]; exact hn
  · intro hm; exact ⟨y, hm, rfl⟩

theorem Ctx.not_dot {mods : List Name} {internal : List Str} (h : Ctx mods internal) (t : Str) :
    internal.contains ('.' :: t) = false := by
  rw [Bool.eq_false_iff]
  intro hc
  rw [List.contains_iff_mem, h.mem] at hc
  obtain ⟨n, hn, e⟩ := hc
  exact render_ne_dot_cons n (h.wf n hn) t e.symm

/-! ### `_adjust_with_root_prefix` -/

theorem qualify_wf (mods : List Name) (ap : Option Name) (hap : ∀ p, ap = some p → nameWF p = true) (n : Name)
    (hn : nameWF n = true) : nameWF (targets.qualify mods ap n) = true := by
  unfold targets.qualify
  cases ap with
  | none => exact hn
  | some p =>
    simp only
    split
    · exact nameWF_append (hap p rfl) hn
    · exact hn

theorem adjust_spec {mods : List Name} {internal : List Str} (h : Ctx mods internal) (ap : Option Name)
    (hap : ∀ p, ap = some p → nameWF p = true) (n : Name) (hn : nameWF n = true) :
    adjustWithRootPrefix (render n) (renderPrefix ap) internal = render (targets.qualify mods ap n) := by
  unfold adjustWithRootPrefix targets.qualify
  cases ap with
  | none =>
    simp only [renderPrefix, List.nil_append, h.not_dot, Bool.false_eq_true, if_false]
  | some p =>
    have hp := hap p rfl
    have e : render p ++ '.' :: render n = render (p ++ n) :=
      (render_append p n (nameWF_ne_nil hp) (nameWF_ne_nil hn)).symm
    simp only [renderPrefix, e, h.contains_render _ (nameWF_append hp hn)]
    split <;> rfl

/-! ### `RelativeImport._calculate_importee` -/

/-- a relative target: the importer's ancestor `level` steps up, or IndexError when there is none -/
theorem relativeImportee_spec (imp : Name) (himp : nameWF imp = true) (name : Str) (l : Nat) :
    relativeImportee (render imp) name (l + 1) =
      if l + 1 ≥ imp.length then .error .lookupError
      else .ok (render (imp.take (imp.length - (l + 1))) ++ '.' :: name) := by
  unfold relativeImportee
  simp only [parentModules_render imp himp, List.length_map, properPrefixes_length]
  by_cases hl : l + 1 ≥ imp.length
  · have : (l + 1 == 0 || decide (l + 1 > imp.length - 1)) = true := by
      simp only [Bool.or_eq_true, decide_eq_true_eq]; right; omega
    simp only [this, if_true, hl]
  · have : (l + 1 == 0 || decide (l + 1 > imp.length - 1)) = false := by
      simp only [Bool.or_eq_false_iff, decide_eq_false_iff_not]
      exact ⟨by simp, by omega⟩
    simp only [this, Bool.false_eq_true, if_false, hl, List.getElem?_map]
    rw [properPrefixes_getElem? imp _ (by omega)]
    have : imp.length - 1 - (l + 1) + 1 = imp.length - (l + 1) := by omega
    simp only [Option.map_some, this]

theorem foldlM_append_eq_mapM {α β ε : Type} (step : α → Except ε (List β)) : ∀ (l : List α) (acc : List β),
    l.foldlM (fun acc x => do let r ← step x; pure (acc ++ r)) acc = (l.mapM step).map fun rs => acc ++ rs.flatten
  | [], acc => by simp [pure, Except.pure, Except.map]
  | x :: l, acc => by
    rw [List.foldlM_cons, List.mapM_cons]
    cases step x with
    | error k => rfl
    | ok r =>
      show l.foldlM _ (acc ++ r) = _
      rw [foldlM_append_eq_mapM step l]
      cases l.mapM step <;> simp [Except.map, bind, Except.bind, pure, Except.pure]

/-- `_get_imports_from_ast` as a nested `mapM`: per file the records of its statements, flattened -/
theorem convertAll_eq (parsed : Parsed) (ap : Str) (internal : List Str) :
    convertAll parsed ap internal =
      (parsed.files.mapM fun (f : Str × List ImportStmt) =>
        (f.2.mapM (convertStmt f.1 ap internal)).map List.flatten).map List.flatten := by
  unfold convertAll
  simp only [foldlM_append_eq_mapM, List.nil_append]

theorem mapM_flatten_mem {α β ε : Type} (f : α → Except ε (List β)) (l : List α) (res : List β)
    (h : (l.mapM f).map List.flatten = .ok res) : ∀ y ∈ res, ∃ x ∈ l, ∃ r, f x = .ok r ∧ y ∈ r := by
  cases hm : l.mapM f with
  | error k => rw [hm] at h; cases h
  | ok rss =>
    rw [hm] at h
    cases h
    intro y hy
    obtain ⟨r, hr, hyr⟩ := List.mem_flatten.1 hy
    obtain ⟨x, hx, hfx⟩ := mapM_ok_mem f l rss hm r hr
    exact ⟨x, hx, r, hfx, hyr⟩

/-- every record is an `AbsoluteImport` of the importer -/
theorem convertStmt_recs (importer absPrefix : Str) (internal : List Str) (st : ImportStmt) (rs : List ImportRec)
    (h : convertStmt importer absPrefix internal st = .ok rs) :
    ∀ r ∈ rs, r.importer = importer ∧ r.importeeParents = parentModules r.importee := by
  cases st with
  | imp names =>
    simp only [convertStmt, Except.ok.injEq] at h
    subst h
    intro r hr
    obtain ⟨n, -, rfl⟩ := List.mem_map.1 hr
    exact ⟨rfl, rfl⟩
  | impFrom module names level =>
    cases level with
    | zero =>
      cases module with
      | none => simp [convertStmt] at h
      | some m =>
        simp only [convertStmt, Except.ok.injEq] at h
        subst h
        intro r hr
        obtain ⟨n, -, rfl⟩ := List.mem_map.1 hr
        split <;> exact ⟨rfl, rfl⟩
    | succ level =>
      simp only [convertStmt] at h
      intro r hr
      obtain ⟨n, -, hn⟩ := mapM_ok_mem _ names rs h r hr
      cases module with
      | none =>
        simp only [bind, Except.bind, pure, Except.pure] at hn
        split at hn
        · cases hn
        · cases hn; exact ⟨rfl, rfl⟩
      | some m =>
        simp only [bind, Except.bind, pure, Except.pure] at hn
        split at hn
        · cases hn
        · split at hn
          · cases hn
          · cases hn; split <;> exact ⟨rfl, rfl⟩

theorem convertAll_recs (parsed : Parsed) (absPrefix : Str) (internal : List Str) (imps : List ImportRec)
    (h : convertAll parsed absPrefix internal = .ok imps) :
    ∀ r ∈ imps, ∃ f ∈ parsed.files, r.importer = f.1 ∧ r.importeeParents = parentModules r.importee := by
  rw [convertAll_eq] at h
  intro r hr
  obtain ⟨f, hf, rs, hrs, hr'⟩ := mapM_flatten_mem _ _ _ h r hr
  obtain ⟨st, -, rs', hst, hr''⟩ := mapM_flatten_mem _ _ _ hrs r hr'
  exact ⟨f, hf, convertStmt_recs f.1 absPrefix internal st rs' hst r hr''⟩

/-- the import records a list of targets stands for -/
def recsOf (imp : Name) (ts : List Name) : List ImportRec := ts.map fun t => absImport (render imp) (render t)

theorem targets_wf (mods : List Name) (ap : Option Name) (hap : ∀ p, ap = some p → nameWF p = true)
    (imp : Name) (himp : nameWF imp = true) (ss : SStmt) (hss : stmtOK ss = true) (ts : List Name)
    (h : targets mods ap imp ss = some ts) : ∀ t ∈ ts, nameWF t = true := by
  cases ss with
  | imp names =>
    simp only [targets, Option.some.injEq] at h
    subst h
    simp only [stmtOK, List.all_eq_true] at hss
    intro t ht
    obtain ⟨n, hn, rfl⟩ := List.mem_map.1 ht
    exact qualify_wf mods ap hap n (hss n hn)
  | impFrom m names lvl =>
    cases lvl with
    | zero =>
      cases m with
      | none => simp [targets] at h
      | some p =>
        simp only [targets, Option.some.injEq] at h
        subst h
        simp only [stmtOK, Bool.and_eq_true, List.all_eq_true] at hss
        intro t ht
        obtain ⟨n, hn, rfl⟩ := List.mem_map.1 ht
        split
        · exact qualify_wf mods ap hap _ (nameWF_append_singleton hss.1 (hss.2 n hn))
        · exact qualify_wf mods ap hap _ hss.1
    | succ l =>
      simp only [targets] at h
      split at h
      · cases h
      · rename_i hl
        simp only [Option.some.injEq] at h
        subst h
        have hbase : nameWF (imp.take (imp.length - (l + 1))) = true :=
          nameWF_take imp himp _ (by omega)
        simp only [stmtOK, Bool.and_eq_true, List.all_eq_true] at hss
        intro t ht
        obtain ⟨n, hn, rfl⟩ := List.mem_map.1 ht
        cases m with
        | none => exact nameWF_append_singleton hbase (hss.1.2 n hn)
        | some p =>
          simp only
          split
          · exact nameWF_append_singleton (nameWF_append hbase hss.1.1) (hss.1.2 n hn)
          · exact nameWF_append hbase hss.1.1

/-- `ImportConverter._convert` on one statement = the specification's `targets`, record by record -/
theorem convertStmt_targets {mods : List Name} {internal : List Str} (hc : Ctx mods internal) (ap : Option Name)
    (hap : ∀ p, ap = some p → nameWF p = true) (imp : Name) (himp : nameWF imp = true) (st : ImportStmt)
    (hss : stmtOK (toSStmt st) = true) :
    convertStmt (render imp) (renderPrefix ap) internal st =
      match targets mods ap imp (toSStmt st) with
      | some ts => .ok (recsOf imp ts)
      | none => .error .lookupError := by
  conv => lhs; rw [← toStmt_toSStmt st]
  generalize toSStmt st = ss at hss ⊢
  cases ss with
  | imp names =>
    simp only [stmtOK, List.all_eq_true] at hss
    simp only [toStmt, convertStmt, targets, recsOf, List.map_map]
    congr 1
    apply List.map_congr_left
    intro n hn
    simp only [Function.comp]
    rw [adjust_spec hc ap hap n (hss n hn)]
  | impFrom m names lvl =>
    cases lvl with
    | zero =>
      cases m with
      | none => simp only [toStmt, Option.map_none, convertStmt, targets]
      | some p =>
        simp only [stmtOK, Bool.and_eq_true, List.all_eq_true] at hss
        simp only [toStmt, Option.map_some, convertStmt, targets, recsOf, List.map_map]
        congr 1
        apply List.map_congr_left
        intro n hn
        have hpn : nameWF (p ++ [n]) = true := nameWF_append_singleton hss.1 (hss.2 n hn)
        have e1 : render p ++ '.' :: n = render (p ++ [n]) := by
          rw [render_append p [n] (nameWF_ne_nil hss.1) (by simp)]; rfl
        simp only [Function.comp, e1]
        rw [adjust_spec hc ap hap _ hpn, adjust_spec hc ap hap _ hss.1,
          hc.contains_render _ (qualify_wf mods ap hap _ hpn)]
        split <;> rfl
    | succ l =>
      simp only [stmtOK, Bool.and_eq_true, List.all_eq_true, Bool.not_eq_true', List.isEmpty_eq_false_iff] at hss
      obtain ⟨⟨hm, hnames⟩, hne⟩ := hss
      simp only [toStmt, convertStmt, targets]
      by_cases hl : l + 1 ≥ imp.length
      · simp only [hl, if_true]
        obtain ⟨n, rest, rfl⟩ := List.exists_cons_of_ne_nil hne
        refine (mapM_cons_error_iff _ _ _ _).2 (.inl ?_)
        simp only [relativeImportee_spec imp himp, hl, if_true]
        rfl
      · simp only [hl, if_false, recsOf, List.map_map]
        have hbase : nameWF (imp.take (imp.length - (l + 1))) = true :=
          nameWF_take imp himp _ (by omega)
        apply mapM_ok
        intro n hn
        have hcn := hnames n hn
        simp only [relativeImportee_spec imp himp, hl, if_false]
        cases m with
        | none =>
          simp only [Option.map_none, Function.comp]
          rw [render_append _ [n] (nameWF_ne_nil hbase) (by simp)]
          rfl
        | some p =>
          have hp : nameWF p = true := hm
          have e1 : render (imp.take (imp.length - (l + 1))) ++ '.' :: render p =
              render (imp.take (imp.length - (l + 1)) ++ p) :=
            (render_append _ p (nameWF_ne_nil hbase) (nameWF_ne_nil hp)).symm
          have e2 : render (imp.take (imp.length - (l + 1))) ++ '.' :: (render p ++ '.' :: n) =
              render (imp.take (imp.length - (l + 1)) ++ p ++ [n]) := by
            rw [render_append _ [n] (by simp [nameWF_ne_nil hbase]) (by simp), e1.symm]
            simp [render_singleton]
          simp only [Option.map_some, Function.comp, e1, e2]
          have hw : nameWF (imp.take (imp.length - (l + 1)) ++ p ++ [n]) = true :=
            nameWF_append_singleton (nameWF_append hbase hp) hcn
          simp only [bind, Except.bind, pure, Except.pure, hc.contains_render _ hw]
          split <;> rfl

theorem recsOf_facts (imp : Name) (ts : List Name) :
    (recsOf imp ts).map (·.importee) = ts.map render ∧
    ∀ r ∈ recsOf imp ts, r.importer = render imp ∧ r.importeeParents = parentModules r.importee := by
  constructor
  · simp only [recsOf, List.map_map]
    apply List.map_congr_left
    intro t _; rfl
  · intro r hr
    obtain ⟨t, -, rfl⟩ := List.mem_map.1 hr
    exact ⟨rfl, rfl⟩

/-- `stmtOK` is `stmtWF` (Bridge.Abs) plus "a relative `from` import lists a name" -/
theorem stmtOK_stmtWF (ss : SStmt) (h : stmtOK ss = true) : stmtWF ss = true := by
  cases ss with
  | imp names => exact h
  | impFrom m names lvl =>
    cases lvl with
    | zero => exact h
    | succ l =>
      simp only [stmtOK, Bool.and_eq_true] at h
      simp only [stmtWF, Bool.and_eq_true]
      exact h.1

theorem relativeImportee_errOnly (importer name : Str) (level : Nat) :
    ErrOnly .lookupError (relativeImportee importer name level) := by
  intro e h
  unfold relativeImportee at h
  simp only at h
  split at h
  · cases h; rfl
  · split at h
    · cases h
    · cases h; rfl

theorem convertStmt_errOnly (importer ap : Str) (internal : List Str) (st : ImportStmt) :
    ErrOnly .lookupError (convertStmt importer ap internal st) := by
  unfold convertStmt
  split
  · exact ErrOnly.pure _
  · split
    · intro e h; cases h; rfl
    · exact ErrOnly.pure _
  · rename_i module names level _
    cases module with
    | none => exact ErrOnly.mapM fun n _ => (relativeImportee_errOnly _ _ _).bind fun _ => ErrOnly.pure _
    | some m =>
      exact ErrOnly.mapM fun n _ => (relativeImportee_errOnly _ _ _).bind fun _ =>
        (relativeImportee_errOnly _ _ _).bind fun _ => ErrOnly.pure _

end ScanStmt
end Pta
