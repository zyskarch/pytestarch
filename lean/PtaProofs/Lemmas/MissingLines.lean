/-
  PtaProofs.Lemmas.MissingLines — audit finding F10: the `does not import` / `is not imported by` lines of a report are
  exactly the required imports without a realisation.  Works on every graph and every rule: the statements are about the
  queries the library asks (`pairQuery`, `otherQuery` of Bridge/ReportQueries.lean). Before that, a failing rule in full:
  `Failed` names what is known of it (`assertApplies_failed`, `Failed.of_eq`; `assertApplies_fail` with the converted lists).
-/
import Bridge.ReportQueries
import PtaProofs.Lemmas.SearchChar
import PtaProofs.Lemmas.Answers
import PtaProofs.Lemmas.QueryErr
namespace Pta.Miss

theorem toMod_toFilter (m : Mod) : m.toFilter.toMod = m := by
  rcases m with ⟨g, i⟩
  cases g <;> rfl

theorem toFilter_toMod (f : Filter) (h : f.isRegex = false) : f.toMod.toFilter = f := by
  cases f <;> first | rfl | simp [Filter.isRegex] at h

theorem toFilter_isRegex (m : Mod) : m.toFilter.isRegex = false := by
  rcases m with ⟨g, i⟩
  cases g <;> rfl

theorem convertFilters_noregex_out (mt : Str → Str → Bool) (mods : List Str) (fs R : List Filter)
    (h : convertFilters mt mods fs = .ok R) : ∀ f ∈ R, f.isRegex = false := by
  obtain ⟨-, rfl⟩ := (convertFilters_ok_iff ..).1 h
  intro f hf
  rcases (mem_expand ..).1 hf with ⟨_, _, _, _, _, _, rfl⟩ | ⟨_, h2⟩
  · rfl
  · exact h2

theorem mem_map_toMod_iff (R : List Filter) (hR : ∀ f ∈ R, f.isRegex = false) (m : Mod) :
    m ∈ R.map Filter.toMod ↔ m.toFilter ∈ R := by
  constructor
  · intro h
    obtain ⟨f, hf, rfl⟩ := List.mem_map.1 h
    rw [toFilter_toMod f (hR f hf)]; exact hf
  · intro h
    exact List.mem_map.2 ⟨_, h, toMod_toFilter m⟩

theorem mem_abstractWithout (g : PGraph Str) (ir : Bool) (subs objs : List Filter)
    (hA : ∀ s ∈ subs, ∀ o ∈ objs, ∃ l, pairQuery g ir s o = .ok l) (x : Dep) :
    x ∈ abstractWithout ir (ansE g ir subs objs) ↔
      ∃ s ∈ subs, ∃ o ∈ objs, x = (s.toMod, o.toMod) ∧ pairQuery g ir s o = .ok [] := by
  simp only [abstractWithout, List.mem_map, List.mem_filter, mem_ansE, List.isEmpty_iff]
  constructor
  · rintro ⟨_, ⟨⟨s, hs, o, ho, rfl⟩, hnil⟩, rfl⟩
    exact ⟨s, hs, o, ho, userOrder_userOrder ir _, (okD_eq_nil (hA s hs o ho)).1 hnil⟩
  · rintro ⟨s, hs, o, ho, rfl, hp⟩
    exact ⟨_, ⟨⟨s, hs, o, ho, rfl⟩, (okD_eq_nil (hA s hs o ho)).2 hp⟩, userOrder_userOrder ir _⟩

theorem mem_missingOther (g : PGraph Str) (ir : Bool) (subs objs : List Filter) (objsM : List Mod)
    (hA : ∀ s ∈ subs, ∃ l, otherQuery g ir s objs = .ok l) (x : Dep) :
    x ∈ missingOther (ansO g ir subs objs) objsM ↔
      ∃ s ∈ subs, x.1 = s.toMod ∧ x.2 ∈ objsM ∧ otherQuery g ir s objs = .ok [] := by
  simp only [missingOther, List.mem_flatMap, List.mem_map, List.mem_filter, List.isEmpty_iff, mem_ansO]
  constructor
  · rintro ⟨_, ⟨⟨s, hs, rfl⟩, hnil⟩, o, ho, rfl⟩
    exact ⟨s, hs, rfl, ho, (okD_eq_nil (hA s hs)).1 hnil⟩
  · rintro ⟨s, hs, h1, h2, hp⟩
    exact ⟨_, ⟨⟨s, hs, rfl⟩, (okD_eq_nil (hA s hs)).2 hp⟩, x.2, h2, by rw [← h1]⟩

theorem mem_missItems_iff (a ir : Bool) (ds : List Dep) (a' : Bool) (s : Mod) (os : List Mod) (d : Bool) :
    Item.miss a' s os d ∈ missItems a ir ds ↔
      a' = a ∧ d = !ir ∧ (∃ x ∈ ds, x.1 = s) ∧ os = dedup ((ds.filter fun x => x.1 = s).map (·.2)) := by
  unfold missItems
  simp only [List.mem_map, mem_dedup, Item.miss.injEq]
  constructor
  · rintro ⟨s', ⟨x, hx, rfl⟩, rfl, rfl, rfl, rfl⟩
    exact ⟨rfl, rfl, ⟨x, hx, rfl⟩, rfl⟩
  · rintro ⟨rfl, rfl, ⟨x, hx, rfl⟩, rfl⟩
    exact ⟨x.1, ⟨x, hx, rfl⟩, rfl, rfl, rfl, rfl⟩

/-- the object list `missItems` prints on the line of subject `s` -/
theorem mem_lineObjs (D : List Dep) (s o : Mod) :
    o ∈ dedup ((D.filter fun x => x.1 = s).map (·.2)) ↔ (s, o) ∈ D := by
  simp only [mem_dedup, List.mem_map, List.mem_filter, decide_eq_true_eq]
  exact ⟨fun ⟨x, ⟨hx, h1⟩, h2⟩ => by rw [← h1, ← h2]; exact hx, fun h => ⟨_, ⟨h, rfl⟩, rfl⟩⟩

theorem missItems_nil (a ir : Bool) : missItems a ir [] = [] := rfl

theorem miss_mem_reportItems (ir : Bool) (v : Violations) (a : Bool) (s : Mod) (os : List Mod) (d : Bool) :
    Item.miss a s os d ∈ reportItems ir v ↔
      Item.miss a s os d ∈ missItems a ir (if a = true then v.shouldExcept else v.should) ∨
      Item.miss a s os d ∈ missItems a ir (if a = true then v.shouldOnlyExceptNoImport else v.shouldOnlyNoImport) := by
  have hk : ∀ a' ds, a' ≠ a → Item.miss a s os d ∉ missItems a' ir ds :=
    fun a' ds hne h => hne ((mem_missItems_iff _ _ _ _ _ _ _).1 h).1.symm
  unfold reportItems
  simp only [List.mem_append, miss_not_mem_impItems, or_false]
  cases a
  · simp only [hk true _ (by decide), or_false, Bool.false_eq_true, if_false]
  · simp only [hk false _ (by decide), false_or, if_true]

/-- is a line of kind `a` required by the behaviour -/
def missFlag (a : Bool) (b : Behavior) : Bool :=
  match a with
  | false => b.explReq
  | true => b.otherReq


theorem countP_missItems_le (a ir : Bool) (ds : List Dep) (a' : Bool) (s : Mod) :
    (missItems a ir ds).countP (Item.isMissFor a' s) ≤ 1 := by
  unfold missItems
  rw [List.countP_map]
  have hnd := nodup_dedup (ds.map (·.1))
  refine Nat.le_trans (List.countP_mono_left (q := fun x => x == s) ?_) ?_
  · intro x _ hx
    simp only [Function.comp, Item.isMissFor, Bool.and_eq_true] at hx
    exact hx.2
  · rw [← List.count_eq_countP]
    exact List.nodup_iff_count.1 hnd s

theorem countP_missItems_other (a ir : Bool) (ds : List Dep) (a' : Bool) (s : Mod) (h : a ≠ a') :
    (missItems a ir ds).countP (Item.isMissFor a' s) = 0 := by
  unfold missItems
  rw [List.countP_map, List.countP_eq_zero]
  intro x _
  cases a <;> cases a' <;> simp_all [Function.comp, Item.isMissFor]

theorem countP_impItems (ir : Bool) (ds : List Dep) (a' : Bool) (s : Mod) :
    (impItems ir ds).countP (Item.isMissFor a' s) = 0 := by
  unfold impItems
  rw [List.countP_map, List.countP_eq_zero]
  intro x _
  simp [Function.comp, Item.isMissFor]

theorem countP_reportItems (ir : Bool) (v : Violations) (a : Bool) (s : Mod) :
    (reportItems ir v).countP (Item.isMissFor a s) =
      (missItems a ir (if a = true then v.shouldExcept else v.should)).countP (Item.isMissFor a s) +
      (missItems a ir (if a = true then v.shouldOnlyExceptNoImport else v.shouldOnlyNoImport)).countP (Item.isMissFor a s) := by
  unfold reportItems
  simp only [List.countP_append, countP_impItems, Nat.add_zero]
  cases a
  · simp only [countP_missItems_other true ir _ false s (by decide), Nat.add_zero, Bool.false_eq_true, if_false]
  · simp only [countP_missItems_other false ir _ true s (by decide), Nat.zero_add, if_true]

/-- two flags of the shape `verb && x`: both can be set only if both verbs are -/
theorem toNat_flags_le : ∀ p q x y : Bool, (p && x).toNat + (q && y).toNat ≤ if (p && q) = true then 2 else 1 := by
  decide

/-- at most one line per (kind, subject) when the rule has a single verb; never more than two -/
theorem countP_report_le (b : Behavior) (ir : Bool) (E : ExplDeps) (X : OtherDeps) (objsM : List Mod) (a : Bool) (s : Mod) :
    (reportItems ir (detect b ir (if (b.explReq || b.explForb) = true then some E else none)
      (if (b.otherReq || b.otherForb) = true then some X else none) objsM)).countP (Item.isMissFor a s) ≤
      if (b.should && b.shouldOnly) = true then 2 else 1 := by
  -- each of the two buckets of kind `a` gives at most one line, and none unless its flag (`should` / `should_only`) is set
  have e : ∀ (c : Bool) ds, (missItems a ir (if c = true then ds else [])).countP (Item.isMissFor a s) ≤ c.toNat := by
    intro c ds
    cases c
    · exact Nat.le_refl 0
    · exact countP_missItems_le a ir ds a s
  rw [countP_reportItems, detect_answers]
  cases a
  · simp only [Bool.false_eq_true, if_false]
    exact Nat.le_trans (Nat.add_le_add (e _ _) (e _ _)) (toNat_flags_le b.should b.shouldOnly (!b.exc) (!b.exc))
  · simp only [if_true]
    exact Nat.le_trans (Nat.add_le_add (e _ _) (e _ _)) (toNat_flags_le b.should b.shouldOnly b.exc b.exc)

theorem missingOther_objs (deps : OtherDeps) (objsM : List Mod) (s : Mod) :
    ((missingOther deps objsM).filter fun x => x.1 = s).map (·.2) =
      ((deps.filter fun kd => kd.2.isEmpty).filter fun kd => kd.1 = s).flatMap fun _ => objsM := by
  unfold missingOther
  induction (deps.filter fun kd => kd.2.isEmpty) with
  | nil => rfl
  | cons kd L ih =>
    simp only [List.flatMap_cons, List.filter_append, List.map_append, ih, List.filter_cons]
    by_cases hk : kd.1 = s
    · simp [hk, List.filter_map, Function.comp_def]
    · simp [hk, List.filter_map, Function.comp_def]

theorem missingOther_objs_dedup (deps : OtherDeps) (objsM : List Mod) (s : Mod)
    (h : ∃ x ∈ missingOther deps objsM, x.1 = s) :
    dedup (((missingOther deps objsM).filter fun x => x.1 = s).map (·.2)) = dedup objsM := by
  rw [missingOther_objs]
  apply dedup_flatMap_const
  obtain ⟨x, hx, rfl⟩ := h
  unfold missingOther at hx
  simp only [List.mem_flatMap, List.mem_map] at hx
  obtain ⟨kd, hkd, o, _, rfl⟩ := hx
  exact List.ne_nil_of_mem (List.mem_filter.2 ⟨hkd, by simp⟩)

end Pta.Miss

namespace Pta
open Pta.Miss

/-- what is known of a failing rule with direction `d` and filter lists `ss`, `os`: it got through the checks, every regex of
    both lists has a match, every question about the expanded lists has an answer, the detector found a violation on the
    answers, and the report is the detector's -/
structure Failed (mt : Str → Str → Bool) (g : PGraph Str) (r : RuleState) (d : Bool) (ss os : List Filter)
    (items : List Item) : Prop where
  dir : (convertAliases r.cfg).importDir = some d
  subjects : (convertAliases r.cfg).subjects = some ss
  objects : (convertAliases r.cfg).objects = some os
  objects_ne : os ≠ []
  matchS : allMatch mt g.nodes ss = true
  matchO : allMatch mt g.nodes os = true
  answered : ∀ s ∈ expand mt g.nodes ss, Answered g (convertAliases r.cfg).behavior d (expand mt g.nodes os) s
  /-- rewrite with the last equation; substituting it (`rfl` pattern) makes `whnf` evaluate the whole report -/
  report : ∃ v, v = detect (convertAliases r.cfg).behavior d
      (if ((convertAliases r.cfg).behavior.explReq || (convertAliases r.cfg).behavior.explForb) = true then
        some (ansE g d (expand mt g.nodes ss) (expand mt g.nodes os)) else none)
      (if ((convertAliases r.cfg).behavior.otherReq || (convertAliases r.cfg).behavior.otherForb) = true then
        some (ansO g d (expand mt g.nodes ss) (expand mt g.nodes os)) else none)
      ((expand mt g.nodes os).map Filter.toMod) ∧ v.any = true ∧ items = reportItems d v

theorem assertApplies_failed (mt : Str → Str → Bool) (g : PGraph Str) (r : RuleState) (items : List Item)
    (h : (assertApplies mt r g).2 = .fail items) : ∃ d ss os, Failed mt g r d ss os items := by
  rw [assertApplies_front, Verdict.ofRes_fail_iff, bind_ok_iff] at h
  obtain ⟨x, hx, hout⟩ := h
  rcases front_cases mt g r.cfg with ⟨-, he⟩ | ⟨-, k, -, he⟩ | ⟨-, d, ss, os, ⟨hcm, -, -, hd, hs, ho⟩, he⟩
  · cases he.symm.trans hx
  · cases he.symm.trans hx
  · obtain ⟨h1, h2, h3, rfl⟩ := (queries_ok_fn ..).1 (he.symm.trans hx)
    rw [Front.outcome_plain] at hout
    refine ⟨d, ss, os, hd, hs, ho, ?_, h1, h2, h3, _, rfl, ?_⟩
    · -- the rule got through the checks, so its configuration is complete
      rintro rfl
      simp [configMissing, ho] at hcm
    · have := Except.ok.inj hout
      split at this
      · exact ⟨‹_›, (Option.some.inj this).symm⟩
      · cases this

/-- for the caller who has named the direction and the lists already -/
theorem Failed.of_eq {mt : Str → Str → Bool} {g : PGraph Str} {r : RuleState} {items : List Item}
    (h : (assertApplies mt r g).2 = .fail items) {d : Bool} {ss os : List Filter}
    (hd : (convertAliases r.cfg).importDir = some d) (hs : (convertAliases r.cfg).subjects = some ss)
    (ho : (convertAliases r.cfg).objects = some os) : Failed mt g r d ss os items := by
  obtain ⟨d', ss', os', F⟩ := assertApplies_failed mt g r items h
  cases hd.symm.trans F.dir; cases hs.symm.trans F.subjects; cases ho.symm.trans F.objects
  exact F

/-- the same with the converted lists and the query results named -/
theorem assertApplies_fail (mt : Str → Str → Bool) (g : PGraph Str) (r : RuleState) (items : List Item)
    (h : (assertApplies mt r g).2 = .fail items) :
    ∃ d ss os subs objs expl other, (convertAliases r.cfg).importDir = some d ∧
      (convertAliases r.cfg).subjects = some ss ∧ (convertAliases r.cfg).objects = some os ∧
      convertFilters mt g.nodes ss = .ok subs ∧ convertFilters mt g.nodes os = .ok objs ∧
      runQueries g (convertAliases r.cfg).behavior d subs objs = .ok (expl, other) ∧
      items = reportItems d (detect (convertAliases r.cfg).behavior d expl other (objs.map Filter.toMod)) := by
  obtain ⟨d, ss, os, F⟩ := assertApplies_failed mt g r items h
  obtain ⟨_, rfl, -, hitems⟩ := F.report
  exact ⟨d, ss, os, _, _, _, _, F.dir, F.subjects, F.objects, (convertFilters_ok_iff ..).2 ⟨F.matchS, rfl⟩,
    (convertFilters_ok_iff ..).2 ⟨F.matchO, rfl⟩, (runQueries_iff ..).2 ⟨F.answered, rfl⟩, hitems⟩

theorem toFilter_toMod_of_conv {mt : Str → Str → Bool} {mods : List Str} {fs R : List Filter}
    (h : convertFilters mt mods fs = .ok R) : ∀ f ∈ R, f.toMod.toFilter = f :=
  fun f hf => toFilter_toMod f (convertFilters_noregex_out mt mods fs R h f hf)

/-- the `does not import` / `is not imported by` lines of a failing report: those of kind `a` are the lines `missItems`
    builds from a list `D a` of pairs (subject, object) — one line per subject of `D a`, listing its objects — where
    `D false` holds the pairs of the rule whose pair query found no import, and `D true` every subject whose "other"
    query found no import, paired with all rule objects -/
theorem fail_miss_iff (mt : Str → Str → Bool) (g : PGraph Str) (r : RuleState) (items : List Item)
    (h : (assertApplies mt r g).2 = .fail items) (dir : Bool) (ss subs os objs : List Filter)
    (hd : (convertAliases r.cfg).importDir = some dir)
    (hss : (convertAliases r.cfg).subjects = some ss) (hconv : convertFilters mt g.nodes ss = .ok subs)
    (hos : (convertAliases r.cfg).objects = some os) (hconvo : convertFilters mt g.nodes os = .ok objs) :
    ∃ D : Bool → List Dep,
      (∀ a s objsM d, Item.miss a s objsM d ∈ items ↔
        missFlag a (convertAliases r.cfg).behavior = true ∧ d = !dir ∧ (∃ x ∈ D a, x.1 = s) ∧
          objsM = dedup (((D a).filter fun x => x.1 = s).map (·.2))) ∧
      ((convertAliases r.cfg).behavior.explReq = true → ∀ x, x ∈ D false ↔
        x.1.toFilter ∈ subs ∧ x.2.toFilter ∈ objs ∧ pairQuery g dir x.1.toFilter x.2.toFilter = .ok []) ∧
      ((convertAliases r.cfg).behavior.otherReq = true →
        (∀ x, x ∈ D true ↔
          x.1.toFilter ∈ subs ∧ x.2 ∈ objs.map Filter.toMod ∧ otherQuery g dir x.1.toFilter objs = .ok []) ∧
        ∀ s, (∃ x ∈ D true, x.1 = s) →
          dedup (((D true).filter fun x => x.1 = s).map (·.2)) = dedup (objs.map Filter.toMod)) := by
  have F := Failed.of_eq h hd hss hos
  obtain ⟨_, rfl, -, hitems⟩ := F.report
  have hA := F.answered
  have hsubs := ((convertFilters_ok_iff ..).1 hconv).2
  have hobjs := ((convertFilters_ok_iff ..).1 hconvo).2
  rw [← hsubs, ← hobjs] at hA hitems
  have hsr := toFilter_toMod_of_conv hconv
  have hor := toFilter_toMod_of_conv hconvo
  refine ⟨fun a => if a = true then missingOther (ansO g dir subs objs) (objs.map Filter.toMod)
      else abstractWithout dir (ansE g dir subs objs), fun a s objsM d => ?_, fun hflag x => ?_, fun hflag => ?_⟩
  · -- a line of kind `a` stands in the block of kind `a` only
    rw [hitems, mem_report_answers]
    cases a <;> simp only [miss_not_mem_impItems, mem_missItems_iff, missFlag, and_false, false_and, or_false, false_or,
      true_and, Bool.false_eq_true, Bool.true_eq_false, if_false, if_true]
  · simp only [Bool.false_eq_true, if_false]
    rw [mem_abstractWithout g dir subs objs fun s hs => (hA s hs).1 (by rw [hflag]; rfl)]
    constructor
    · rintro ⟨s, hs, o, ho, rfl, hp⟩
      simp only [hsr s hs, hor o ho]
      exact ⟨hs, ho, hp⟩
    · rintro ⟨hs, ho, hp⟩
      exact ⟨_, hs, _, ho, by rw [toMod_toFilter, toMod_toFilter], hp⟩
  · simp only [if_true]
    refine ⟨fun x => ?_, fun s hs => missingOther_objs_dedup _ _ s hs⟩
    rw [mem_missingOther g dir subs objs _ fun s hs => (hA s hs).2 (by rw [hflag]; rfl)]
    constructor
    · rintro ⟨s, hs, h1, h2, hp⟩
      rw [h1, hsr s hs]
      exact ⟨hs, h2, hp⟩
    · rintro ⟨hs, h2, hp⟩
      exact ⟨_, hs, (toMod_toFilter _).symm, h2, hp⟩

theorem fail_imp_spec (mt : Str → Str → Bool) (g : PGraph Str) (r : RuleState) (items : List Item)
    (h : (assertApplies mt r g).2 = .fail items) (ss subs : List Filter)
    (hss : (convertAliases r.cfg).subjects = some ss) (hconv : convertFilters mt g.nodes ss = .ok subs) :
    ∀ u v d, Item.imp u v d ∈ items → v ∈ g.importSuccs u ∧ ∃ s ∈ subs, Reach g s.id u ∨ Reach g s.id v := by
  obtain ⟨d, ss', os, F⟩ := assertApplies_failed mt g r items h
  cases hss.symm.trans F.subjects
  obtain ⟨_, rfl, -, hitems⟩ := F.report
  have hA := F.answered
  rw [← ((convertFilters_ok_iff ..).1 hconv).2] at hA hitems
  intro u v dd hi
  rw [hitems] at hi
  -- an import line stands in a block of forbidden imports: it is a pair of an answer
  rcases (mem_report_answers ..).1 hi with ⟨_, hm⟩ | ⟨hf, hm⟩ | ⟨_, hm⟩ | ⟨hf, hm⟩
  · exact absurd hm (imp_not_mem_missItems _ _ _ _ _ _)
  · obtain ⟨kd, hkd, huv⟩ := mem_impItems_realised _ _ u v dd hm
    obtain ⟨s, hs, o, ho, rfl⟩ := mem_ansE.1 hkd
    obtain ⟨l, hl⟩ := (hA s hs).1 (by rw [hf]; exact Bool.or_true _) o ho
    exact ⟨(pairQuery_sound (eq_ok_okD hl) u v huv).1, s, hs, (pairQuery_sound (eq_ok_okD hl) u v huv).2⟩
  · exact absurd hm (imp_not_mem_missItems _ _ _ _ _ _)
  · obtain ⟨kd, hkd, huv⟩ := mem_impItems_realised _ _ u v dd hm
    obtain ⟨s, hs, rfl⟩ := mem_ansO.1 hkd
    obtain ⟨l, hl⟩ := (hA s hs).2 (by rw [hf]; exact Bool.or_true _)
    exact ⟨(otherQuery_sound (eq_ok_okD hl) u v huv).1, s, hs, (otherQuery_sound (eq_ok_okD hl) u v huv).2⟩

theorem mem_parentIds_dedup (os : List Filter) (x : Str) : x ∈ parentIds (dedup os) ↔ x ∈ parentIds os := by
  simp only [parentIds, List.mem_map, List.mem_filter, mem_dedup]

end Pta
