/-
  PtaProofs.Lemmas.SubScan — the scan of a sub-directory (`module_path = mp`) against the scan of the whole root
  (`module_path = []`) of ONE tree (property C04, imports), and against the scan of the same tree with its absolute
  imports re-spelled relative to `mp`'s parent directory. Vocabulary: Bridge/SubScan.lean.
-/
import Bridge.Abs
import Bridge.ScanAbs
import Bridge.ScanTree
import Bridge.ScanExcl
import Bridge.SubScan
import PtaProofs.Lemmas.ScanSpec
import PtaProofs.Lemmas.ScanGraph
import PtaProofs.Lemmas.ScanImports
import PtaProofs.Lemmas.ScanCompose
import PtaProofs.Lemmas.ScanExclude
import PtaProofs.Lemmas.ScanSim
namespace Pta
namespace SubScan
open PtaSpec ScanWalk ScanNames ScanSpec ScanCompose ScanSim

/-! ### one statement against two module lists: `m` (sub-scan, below `P`) and `m0` (whole root) -/

theorem parentPrefix_eq (root : Str) (mp : List Str) : parentPrefix root mp = ScanImports.apOf root mp := rfl

theorem qualify_none (m : List Name) (n : Name) : targets.qualify m none n = n := rfl

theorem qualify_some (m : List Name) (pre n : Name) :
    targets.qualify m (some pre) n = if m.contains (pre ++ n) = true then pre ++ n else n := rfl

theorem qualify_portable (m : List Name) (ap : Option Name) (n : Name)
    (h : (match ap with | some pre => !m.contains (pre ++ n) | none => true) = true) : targets.qualify m ap n = n := by
  cases ap with
  | none => rfl
  | some pre =>
    rw [qualify_some, if_neg]
    simpa using h

theorem qualify_portable_pair (m : List Name) (ap : Option Name) (a b : Name)
    (h : (match ap with | some pre => !m.contains (pre ++ a) && !m.contains (pre ++ b) | none => true) = true) :
    targets.qualify m ap a = a ∧ targets.qualify m ap b = b := by
  cases ap with
  | none => exact ⟨rfl, rfl⟩
  | some pre =>
    simp only [Bool.and_eq_true] at h
    exact ⟨qualify_portable m _ a h.1, qualify_portable m _ b h.2⟩

section
variable {m0 m : List Name} {P : Name}
  (hm : ∀ q, q ∈ m ↔ q ∈ m0 ∧ P <+: q)
include hm

/-- the choice between a sub-module and its package, against the modules below `P` and against all modules, names
    the same module below `P` -/
theorem choice_sub (sub q t : Name) (hq : q <+: sub) (ht : t ∈ m) :
    (if m.contains sub = true then sub else q) = t ↔ (if m0.contains sub = true then sub else q) = t := by
  apply ScanExclude.choice_congr (fun q hq => ((hm q).1 hq).1) sub q t ?_ ht
  cases hmq : m.contains q with
  | false => simp
  | true =>
    cases hm0 : m0.contains sub with
    | false => unfold gone; rw [hm0]; rfl
    | true =>
      -- `sub` lies below `q`, hence below `P`, so it is a module of the sub-scan as well
      have := List.contains_iff_mem.2
        ((hm sub).2 ⟨List.contains_iff_mem.1 hm0, ((hm q).1 (List.contains_iff_mem.1 hmq)).2.trans hq⟩)
      unfold gone; rw [hm0, this]; rfl

theorem targets_subscan (ap : Option Name) (imp : Name) (st : SStmt) (hc : portableStmt m ap st = true)
    (t : Name) (ht : t ∈ m) :
    t ∈ (targets m ap imp st).getD [] ↔ t ∈ (targets m0 none imp st).getD [] := by
  cases st with
  | imp names =>
    simp only [portableStmt, List.all_eq_true] at hc
    have : names.map (targets.qualify m ap) = names.map (targets.qualify m0 none) :=
      List.map_congr_left fun n hn => qualify_portable m ap n (hc n hn)
    rw [targets_imp, targets_imp, this]
  | impFrom mo names lvl =>
    cases lvl with
    | zero =>
      cases mo with
      | none => exact Iff.rfl
      | some p =>
        simp only [portableStmt, List.all_eq_true] at hc
        rw [targets_from, targets_from]
        simp only [Option.getD_some, List.mem_map, qualify_none]
        refine exists_congr fun n => and_congr_right fun hn => ?_
        obtain ⟨e1, e2⟩ := qualify_portable_pair m ap (p ++ [n]) p (hc n hn)
        rw [e1, e2]
        exact choice_sub hm _ _ t (List.prefix_append _ _) ht
    | succ l =>
      rw [targets_rel, targets_rel]
      split
      · exact Iff.rfl
      · cases mo with
        | none => exact Iff.rfl
        | some p =>
          simp only [Option.getD_some, List.mem_map]
          exact exists_congr fun n => and_congr_right fun _ =>
            choice_sub hm _ _ t (List.prefix_append _ _) ht

end

section
open ScanImports
variable {root : Comp} {S : List SEntry} {mp : List Comp}

theorem portable_stmt (h : portable root S mp = true) {f : SEntry} (hf : f ∈ filesOf S mp) {st : SStmt}
    (hst : st ∈ f.stmts) : portableStmt (insideOf root S mp) (apOf root mp) st = true := by
  simp only [portable, List.all_eq_true] at h
  exact h f hf st hst

theorem plain_stmt (h : plain root S mp = true) {f : SEntry} (hf : f ∈ filesOf S mp) {st : SStmt}
    (hst : st ∈ f.stmts) : plainStmt (insideOf root S mp) (apOf root mp) st = true := by
  simp only [plain, List.all_eq_true] at h
  exact h f hf st hst

end

section tree
variable {mt : Str → Str → Bool} {base root : Str} {mp : List Str} {entries : List Entry} {o : ScanOptions}

section
variable (hwf0 : treeWFFor (isExcluded mt o.exclusions) base [] entries = true)
  (hmp : mpOK entries mp = true)
  (hclear : ∀ k, k < mp.length → isExcluded mt o.exclusions (pathStr base (mp.take k)) = false)
include hwf0 hmp hclear

theorem survives_subscan_name (e : Entry) (he : e ∈ rootEntry :: entries) :
    survives (toSEntries (isExcluded mt o.exclusions) base entries) mp (toSEntry (isExcluded mt o.exclusions) base e) = true ↔
      survives (toSEntries (isExcluded mt o.exclusions) base entries) [] (toSEntry (isExcluded mt o.exclusions) base e) = true ∧
      (root :: mp) <+: entryName root (toSEntry (isExcluded mt o.exclusions) base e) := by
  obtain ⟨-, s, nm0⟩ := tree_facts hwf0
  rw [survives_iff _ base s mp e he, survives_iff _ base s [] e he, survives_subscan _ base hclear e, entryName_toSEntry]
  constructor
  · rintro ⟨h1, h2⟩
    exact ⟨h2, (prefix_relName_iff s nm0 hmp root e he (survives_dirOrPy _ base h2) (Rel.of_survives h2)).2 h1⟩
  · rintro ⟨h2, h1⟩
    exact ⟨(prefix_relName_iff s nm0 hmp root e he (survives_dirOrPy _ base h2) (Rel.of_survives h2)).1 h1, h2⟩

variable (hwf : treeWFFor (isExcluded mt o.exclusions) base mp entries = true) (hroot : compWF root = true)
include hwf hroot

theorem inside_subscan (n : Name) :
    n ∈ ScanImports.insideOf root (toSEntries (isExcluded mt o.exclusions) base entries) mp ↔
      n ∈ ScanImports.insideOf root (toSEntries (isExcluded mt o.exclusions) base entries) [] ∧ (root :: mp) <+: n := by
  rw [ScanImports.mem_insideOf_closed root _ mp (own_wf hwf hroot) (own_cl hwf) n,
    ScanImports.mem_insideOf_closed root _ [] (own_wf hwf0 hroot) (own_cl hwf0) n]
  constructor
  · rintro ⟨hown, hpre⟩
    obtain ⟨e, he, hsv, rfl⟩ := (mem_ownNames _ base root mp entries n).1 hown
    obtain ⟨hsv0, -⟩ := (survives_subscan_name (root := root) hwf0 hmp hclear e he).1 hsv
    exact ⟨⟨(mem_ownNames _ base root [] entries _).2 ⟨e, he, hsv0, rfl⟩,
      ((List.prefix_cons_inj root).2 List.nil_prefix).trans hpre⟩, hpre⟩
  · rintro ⟨⟨hown0, -⟩, hpre⟩
    obtain ⟨e, he, hsv0, rfl⟩ := (mem_ownNames _ base root [] entries n).1 hown0
    exact ⟨(mem_ownNames _ base root mp entries _).2
      ⟨e, he, (survives_subscan_name (root := root) hwf0 hmp hclear e he).2 ⟨hsv0, hpre⟩, rfl⟩, hpre⟩

end

end tree

section graph
variable {mt : Str → Str → Bool} {base root : Str} {entries : List Entry} {o : ScanOptions}

theorem nodes_root (hwf0 : treeWFFor (isExcluded mt o.exclusions) base [] entries = true) (hroot : compWF root = true)
    (hxx : o.excludeExternal = true) (hlim : o.levelLimit = none) (g0 : PGraph Str)
    (h0 : generateGraph mt base root [] entries o = .ok g0) (s : Str) :
    s ∈ g0.nodes ↔ s ∈ (scanParsed mt base root [] entries o).allModules := by
  rw [ScanGraph.scan_nodes_explicit_lemma mt base root [] entries o hwf0 rfl hroot hxx hlim g0 h0 s,
    scan_modules_lemma base mt root [] entries o (tree_facts hwf0).1 rfl s]
  constructor
  · rintro (h | ⟨-, k, k0, hk, -⟩)
    · exact h
    · simp only [List.length_nil] at hk; omega
  · exact Or.inl

end graph

/-! ### the spelling relative to `module_path`'s parent: one statement -/

section strip

theorem stripName_none (n : Name) : stripName none n = n := rfl

theorem stripName_of_prefix {pre n : Name} (hp : pre <+: n) (hl : pre.length < n.length) :
    pre ++ stripName (some pre) n = n := by
  obtain ⟨t, rfl⟩ := hp
  rw [stripName, if_pos (by simpa using hl), List.drop_left]

theorem stripName_cases (pre n : Name) :
    stripName (some pre) n = n ∨ (pre ++ stripName (some pre) n = n ∧ stripName (some pre) n ≠ []) := by
  by_cases h : (pre.isPrefixOf n && decide (pre.length < n.length)) = true
  · simp only [Bool.and_eq_true, List.isPrefixOf_iff_prefix, decide_eq_true_eq] at h
    have e := stripName_of_prefix h.1 h.2
    refine .inr ⟨e, fun e0 => ?_⟩
    rw [e0, List.append_nil] at e
    exact Nat.lt_irrefl _ (e ▸ h.2)
  · exact Or.inl (by simp only [stripName, if_neg h])

theorem stripName_wf (ap : Option Name) (n : Name) (h : nameWF n = true) : nameWF (stripName ap n) = true := by
  cases ap with
  | none => exact h
  | some pre =>
    rcases stripName_cases pre n with e | ⟨e, hne⟩
    · rw [e]; exact h
    · rw [nameWF_iff] at h ⊢
      refine ⟨hne, fun c hc => h.2 c ?_⟩
      rw [← e]
      exact List.mem_append_right _ hc

/-- `_adjust_with_root_prefix` undoes the stripping when the fully qualified name is a module of the sub-scan -/
theorem qualify_strip (m : List Name) (pre n : Name) (hn : m.contains n = true) :
    targets.qualify m (some pre) (stripName (some pre) n) = n ∨
    targets.qualify m (some pre) (stripName (some pre) n) = pre ++ n := by
  rcases stripName_cases pre n with e | ⟨e, -⟩
  · rw [e, qualify_some]
    split
    · exact Or.inr rfl
    · exact Or.inl rfl
  · left
    rw [qualify_some, e, if_pos hn]

variable {m : List Name}

/-- two names of which each is the wanted module `t ∈ m` only if the other is -/
theorem eq_iff_of_same {a b t : Name} (ht : t ∈ m)
    (h : a = b ∨ (m.contains a = false ∧ m.contains b = false)) : a = t ↔ b = t := by
  rw [← List.contains_iff_mem] at ht
  rcases h with rfl | ⟨ha, hb⟩
  · exact Iff.rfl
  · constructor
    · rintro rfl; rw [ha] at ht; cases ht
    · rintro rfl; rw [hb] at ht; cases ht

theorem qualify_plain (pre r : Name) (h : (!m.contains r || m.contains (pre ++ r)) = true) :
    targets.qualify m (some pre) r = pre ++ r ∨
    (m.contains (targets.qualify m (some pre) r) = false ∧ m.contains (pre ++ r) = false) := by
  rw [qualify_some]
  by_cases hn : m.contains (pre ++ r) = true
  · rw [if_pos hn]; exact Or.inl rfl
  · rw [if_neg hn]
    simp only [Bool.or_eq_true, Bool.not_eq_true'] at h
    exact Or.inr ⟨h.resolve_right hn, by simpa using hn⟩

/-- a portable, plainly re-spellable name resolves, stripped, to the same module of the sub-scan or to none -/
theorem qualify_strip_same (ap : Option Name) (n : Name)
    (h1 : targets.qualify m ap n = n) (h2 : plainName m ap n = true) :
    targets.qualify m ap (stripName ap n) = n ∨
    (m.contains (targets.qualify m ap (stripName ap n)) = false ∧ m.contains n = false) := by
  cases ap with
  | none => exact Or.inl rfl
  | some pre =>
    rcases stripName_cases pre n with e | ⟨e, -⟩
    · rw [e]
      exact Or.inl h1
    · have := qualify_plain pre (stripName (some pre) n) (by rw [e]; exact h2)
      rw [e] at this
      exact this

theorem aboveRoot_strip (ap : Option Name) (imp : Name) (st : SStmt) :
    aboveRoot imp (stripSStmt ap st) = aboveRoot imp st := by
  cases st with
  | imp names => rfl
  | impFrom mo names lvl => cases lvl <;> cases mo <;> rfl

theorem targets_strip (ap : Option Name) (imp : Name) (st : SStmt) (h1 : portableStmt m ap st = true)
    (h2 : plainStmt m ap st = true) (t : Name) (ht : t ∈ m) :
    t ∈ (targets m ap imp (stripSStmt ap st)).getD [] ↔ t ∈ (targets m ap imp st).getD [] := by
  cases st with
  | imp names =>
    simp only [portableStmt, List.all_eq_true] at h1
    simp only [plainStmt, List.all_eq_true] at h2
    simp only [stripSStmt, targets_imp, Option.getD_some, List.mem_map, List.map_map, Function.comp]
    refine exists_congr fun n => and_congr_right fun hn => ?_
    have hp := qualify_portable m ap n (h1 n hn)
    rw [hp]
    exact eq_iff_of_same ht (qualify_strip_same ap n hp (h2 n hn))
  | impFrom mo names lvl =>
    cases lvl with
    | zero =>
      cases mo with
      | none => exact Iff.rfl
      | some p =>
        cases ap with
        | none => exact Iff.rfl
        | some pre =>
          simp only [portableStmt, List.all_eq_true] at h1
          simp only [plainStmt, List.all_eq_true, Bool.and_eq_true] at h2
          obtain ⟨h2p, h2n⟩ := h2
          simp only [stripSStmt, targets_from, Option.getD_some, List.mem_map]
          refine exists_congr fun x => and_congr_right fun hx => ?_
          obtain ⟨e1, e2⟩ := qualify_portable_pair m (some pre) (p ++ [x]) p (h1 x hx)
          rw [e1, e2]
          have hpkg := eq_iff_of_same ht (qualify_strip_same (some pre) p e2 h2p)
          rcases stripName_cases pre p with e | ⟨e, -⟩
          · rw [e, e1, e2]
          · -- `p = pre ++ r`: the sub-module name `r ++ [x]`, read with the prefix, is `p ++ [x]` or no module
            have hsub := qualify_plain pre (stripName (some pre) p ++ [x]) (by rw [← List.append_assoc, e]; exact h2n x hx)
            rw [← List.append_assoc, e] at hsub
            rcases hsub with hs | ⟨hs1, hs2⟩
            · rw [hs]
              split
              · exact Iff.rfl
              · exact hpkg
            · rw [if_neg (by rw [hs1]; exact Bool.false_ne_true), if_neg (by rw [hs2]; exact Bool.false_ne_true)]
              exact hpkg
    | succ l => cases mo <;> exact Iff.rfl

theorem stmtOK_strip (ap : Option Name) (st : SStmt) (h : stmtOK st = true) : stmtOK (stripSStmt ap st) = true := by
  cases st with
  | imp names =>
    simp only [stripSStmt, stmtOK, List.all_eq_true, List.mem_map] at h ⊢
    rintro _ ⟨n, hn, rfl⟩
    exact stripName_wf ap n (h n hn)
  | impFrom mo names lvl =>
    cases lvl with
    | zero =>
      cases mo with
      | none => exact h
      | some p =>
        simp only [stripSStmt, stmtOK, Bool.and_eq_true] at h ⊢
        exact ⟨stripName_wf ap p h.1, h.2⟩
    | succ l => cases mo <;> exact h

theorem toSStmt_strip (ap : Option Name) (st : ImportStmt) (h : stmtOK (toSStmt st) = true) :
    toSStmt (stripStmt ap st) = stripSStmt ap (toSStmt st) := by
  cases st with
  | imp names =>
    simp only [toSStmt, stmtOK, List.all_eq_true, List.mem_map] at h
    simp only [stripStmt, toSStmt, stripSStmt, List.map_map, SStmt.imp.injEq]
    apply List.map_congr_left
    intro n hn
    simp only [Function.comp, stripStr]
    exact splitDots_render _ (stripName_wf ap _ (h _ ⟨n, hn, rfl⟩))
  | impFrom mo names lvl =>
    cases lvl with
    | zero =>
      cases mo with
      | none => rfl
      | some p =>
        simp only [toSStmt, Option.map_some, stmtOK, Bool.and_eq_true] at h
        simp only [stripStmt, toSStmt, stripSStmt, Option.map_some, stripStr]
        rw [splitDots_render _ (stripName_wf ap _ h.1)]
    | succ l => cases mo <;> rfl

end strip

/-! ### the re-spelled tree: same walk, same modules -/

section respell
variable (root : Str) (mp : List Str)

theorem respell_rel (e : Entry) : (respellEntry root mp e).rel = e.rel := by
  unfold respellEntry; split <;> rfl

theorem respell_isDir (e : Entry) : (respellEntry root mp e).isDir = e.isDir := by
  unfold respellEntry; split <;> rfl

theorem respell_stmts (e : Entry) (h : mp.isPrefixOf e.rel = true) :
    (respellEntry root mp e).stmts = e.stmts.map (stripStmt (parentPrefix root mp)) := by
  simp only [respellEntry, if_pos h]

theorem skel_respell (entries : List Entry) : entries.map skel = (parentRelative root mp entries).map skel := by
  rw [parentRelative, List.map_map]
  exact List.map_congr_left fun e _ => by simp only [Function.comp, skel, respell_rel, respell_isDir]

theorem entryName_respell (excl : Str → Bool) (base : Str) (e : Entry) :
    entryName root (toSEntry excl base (respellEntry root mp e)) = entryName root (toSEntry excl base e) := by
  rw [entryName_toSEntry, entryName_toSEntry]
  exact relName_congr root (respell_rel root mp e)

theorem survives_respell (excl : Str → Bool) (base : Str) (entries : List Entry) (q : List Str) (e : Entry) :
    survives (toSEntries excl base (parentRelative root mp entries)) q (toSEntry excl base (respellEntry root mp e)) =
      survives (toSEntries excl base entries) q (toSEntry excl base e) :=
  survives_same (skel_respell root mp entries) excl base q (respell_rel root mp e) (respell_isDir root mp e)

end respell

section respellScan
variable {base root : Str} {mp : List Str} {entries : List Entry}

theorem survives_prefix {sents : List SEntry} {q : List Comp} {e : SEntry} (h : survives sents q e = true) :
    q.isPrefixOf e.rel = true := by
  simp only [survives, Bool.and_eq_true] at h
  exact h.1.1

theorem files_respell (excl : Str → Bool) (f' : SEntry) :
    f' ∈ ScanImports.filesOf (toSEntries excl base (parentRelative root mp entries)) mp ↔
      ∃ e ∈ entries, e.isDir = false ∧ survives (toSEntries excl base entries) mp (toSEntry excl base e) = true ∧
        f' = toSEntry excl base (respellEntry root mp e) := by
  rw [mem_filesOf_tree]
  constructor
  · rintro ⟨e', he', hd, hsv, rfl⟩
    obtain ⟨e, he, rfl⟩ := List.mem_map.1 he'
    rw [respell_isDir] at hd
    rw [survives_respell] at hsv
    exact ⟨e, he, hd, hsv, rfl⟩
  · rintro ⟨e, he, hd, hsv, rfl⟩
    exact ⟨_, List.mem_map.2 ⟨e, he, rfl⟩, by rw [respell_isDir]; exact hd, by rw [survives_respell]; exact hsv, rfl⟩

variable (hst : ∀ e ∈ entries, ∀ st ∈ e.stmts, stmtOK (toSStmt st) = true)
include hst

theorem stmts_respell_file (excl : Str → Bool) (e : Entry) (he : e ∈ entries)
    (hsv : survives (toSEntries excl base entries) mp (toSEntry excl base e) = true) :
    (toSEntry excl base (respellEntry root mp e)).stmts =
      (toSEntry excl base e).stmts.map (stripSStmt (parentPrefix root mp)) := by
  show (respellEntry root mp e).stmts.map toSStmt = (e.stmts.map toSStmt).map _
  rw [respell_stmts root mp e (survives_prefix hsv), List.map_map, List.map_map]
  exact List.map_congr_left fun st hs => toSStmt_strip _ _ (hst e he st hs)

theorem stmts_respell : ∀ e ∈ parentRelative root mp entries, ∀ st ∈ e.stmts, stmtOK (toSStmt st) = true := by
  intro e' he' st' hs'
  obtain ⟨e, he, rfl⟩ := List.mem_map.1 he'
  unfold respellEntry at hs'
  split at hs'
  · obtain ⟨st, hs, rfl⟩ := List.mem_map.1 hs'
    rw [toSStmt_strip _ _ (hst e he st hs)]
    exact stmtOK_strip _ _ (hst e he st hs)
  · exact hst e he st' hs'

end respellScan

end SubScan
end Pta
