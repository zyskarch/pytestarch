/-
  PtaProofs.Lemmas.LayerRuleSim — LayerRule call histories against the specification automaton `LRTrack`, and the
  complete call chain of a specification layer rule (`runLayerRuleOps_chain_lemma`).
-/
import PtaProofs.Lemmas.LayerDetect
import PtaProofs.Lemmas.RuleHist
namespace Pta.Hist
open PtaSpec

theorem mapM_get_ok (a : LArch) (ls : List Str) (h : ls.all a.hasLayer = true) :
    ls.mapM a.get = .ok (ls.map a.getD) :=
  mapM_ok _ _ ls fun l hl => by rw [LArch.get_eq, if_pos (List.all_eq_true.1 h l hl)]

theorem mapM_get_err (a : LArch) (ls : List Str) (h : ls.all a.hasLayer = false) :
    ls.mapM a.get = .error .lookupError := by
  obtain ⟨x, hx, hn⟩ := List.all_eq_false.1 h
  exact mapM_error_of_mem _ _ _ (fun x _ => LArch.get_err a x) ⟨x, hx, by rw [LArch.get_eq, if_neg hn]⟩

/-- `a` is the one architecture every `based_on` of the history passes. The `LayerRule` object `s` and the automaton state
    `t` agree on whether `based_on` / `layers_that` were called; the embedded `Rule` object exists only after `based_on`,
    simulates the inner automaton (`RSim`), and always has a position to fill next (`layers_that` sets it, no call clears it) -/
structure LRSim (a : LArch) (s : LayerRuleState) (t : LRTrack) : Prop where
  arch : t.arch = s.arch.isSome
  archEq : ∀ a', s.arch = some a' → a' = a
  started : t.started = s.rule.isSome
  ruleArch : s.rule.isSome = true → s.arch.isSome = true
  inner : ∀ r, s.rule = some r → RSim r t.inner ∧ r.next.isSome = true

theorem lrsim_init (a : LArch) : LRSim a {} {} :=
  ⟨rfl, (by intro a' h; cases h), rfl, (by intro h; cases h), (by intro r h; cases h)⟩

/-- what one step has to establish -/
def LRGoal (a : LArch) (X : LRStep) (Y : Except ErrKind LayerRuleState) : Prop :=
  match X with
  | .ok t' => ∃ s', Y = .ok s' ∧ LRSim a s' t'
  | .reject => Y = .error .improperlyConfigured
  | .lookup => Y = .error .lookupError

/-- the inner Rule call of the verb / access calls -/
theorem lrsim_inner (a : LArch) (s : LayerRuleState) (t : LRTrack) (rop : RuleOp) (h : LRSim a s t)
    (hsome : ∃ u', t.inner.step (toRCall rop) = some u' ∧ (t.inner.target.isSome = true → u'.target.isSome = true)) :
    LRGoal a
      (if !t.started then LRStep.reject
        else match t.inner.step (toRCall rop) with
          | some i => .ok { t with inner := i }
          | none => .reject)
      (match s.rule with
        | none => Except.error ErrKind.improperlyConfigured
        | some r => (r.step noGlob rop).map fun r' => { s with rule := some r' }) := by
  obtain ⟨h1, h2, h3, h4, h5⟩ := h
  cases hr : s.rule with
  | none => simp [h3, hr, LRGoal]
  | some r =>
    obtain ⟨hsim, hnext⟩ := h5 r hr
    obtain ⟨u', hu', htgt⟩ := hsome
    have hs := rsim_step noGlob r t.inner rop hsim
    rw [hu'] at hs
    obtain ⟨r', hr', hsim'⟩ := hs
    simp only [h3, hr, Option.isSome_some, Bool.not_true, Bool.false_eq_true, if_false, hu', hr', Except.map, LRGoal]
    refine ⟨_, rfl, ⟨h1, h2, rfl, fun _ => h4 (by simp [hr]), ?_⟩⟩
    intro r'' hr''
    simp only [Option.some.injEq] at hr''
    subst hr''
    refine ⟨hsim', ?_⟩
    rw [← hsim'.target]
    apply htgt
    rw [hsim.target]; exact hnext

theorem toLRCall_areNamed (a : LArch) (ls : List Str) (isList : Bool) :
    toLRCall a (.areNamed ls isList) = .named ((ls.map a.getD).flatten.length) isList (ls.all a.hasLayer) := by
  simp only [toLRCall, List.flatMap_def]
  rfl

theorem addModules_next (r : RuleState) (ms : List Filter) : (r.addModules ms).next = r.next := by
  unfold RuleState.addModules; split <;> rfl

theorem neOpt_append (o : Option (List Filter)) (ms : List Filter) :
    neOpt (some ((match o with | some l => l | none => []) ++ ms)) = (neOpt o || decide (0 < ms.length)) := by
  cases o with
  | none => cases ms <;> rfl
  | some l => cases l <;> cases ms <;> rfl

theorem rsim_addModules_subject (r : RuleState) (u : RTrack) (ms : List Filter) (h : RSim r u) (hn : r.next = some true) :
    RSim (r.addModules ms) { u with subject := u.subject || decide (0 < ms.length) } := by
  unfold RuleState.addModules
  rw [if_pos (by rw [hn]; rfl), h.subject]
  exact { h with subject := (neOpt_append _ ms).symm }

theorem rsim_addModules_object (r : RuleState) (u : RTrack) (ms : List Filter) (x : Bool) (h : RSim r u) (hn : r.next = some false) :
    RSim (r.addModules ms) { u with object := u.object || decide (0 < ms.length), objectAfterAnything := x } := by
  unfold RuleState.addModules
  rw [if_neg (by rw [hn]; nofun), h.object]
  exact { h with object := (neOpt_append _ ms).symm }

theorem step_areNamed (s : LayerRuleState) (r : RuleState) (a : LArch) (ls : List Str) (isList : Bool)
    (hr : s.rule = some r) (ha : s.arch = some a) :
    s.step (.areNamed ls isList) =
      if (!neOpt r.cfg.subjects && isList) = true then .error .improperlyConfigured
      else if (neOpt r.cfg.subjects && r.next == some true) = true then .error .improperlyConfigured
      else (ls.mapM a.get).map (fun ms => ({ arch := some a, rule := some (r.addModules ms.flatten) } : LayerRuleState)) := by
  simp only [LayerRuleState.step, hr, ha]
  rw [← map_eq_pure_bind]
  cases r.cfg.subjects with
  | none => simp [neOpt, Functor.map]
  | some l => cases l <;> simp [neOpt, Functor.map]

/-- the two guards of `are_named`, in the order of the specification and in the order of the code -/
theorem named_guards {α : Type} (σ isList bt : Bool) (x y : α) :
    (if (bt && (isList || σ)) = true then x else if (!σ && isList) = true then x else y) =
      if (!σ && isList) = true then x else if (σ && bt) = true then x else y := by
  cases σ <;> cases isList <;> cases bt <;> rfl

theorem lrsim_step (a : LArch) (s : LayerRuleState) (t : LRTrack) (op : LayerRuleOp) (h : LRSim a s t)
    (hop : ∀ a', op = .basedOn a' → a' = a) :
    LRGoal a (t.step (toLRCall a op)) (s.step op) := by
  cases op with
  | should => exact lrsim_inner a s t .should h ⟨_, rfl, id⟩
  | shouldOnly => exact lrsim_inner a s t .shouldOnly h ⟨_, rfl, id⟩
  | shouldNot => exact lrsim_inner a s t .shouldNot h ⟨_, rfl, id⟩
  | access => exact lrsim_inner a s t .importThat h ⟨_, rfl, fun _ => rfl⟩
  | beAccessedBy => exact lrsim_inner a s t .beImportedByThat h ⟨_, rfl, fun _ => rfl⟩
  | accessExcept => exact lrsim_inner a s t .importExcept h ⟨_, rfl, fun _ => rfl⟩
  | beAccessedByExcept => exact lrsim_inner a s t .beImportedByExcept h ⟨_, rfl, fun _ => rfl⟩
  | accessAny => exact lrsim_inner a s t .importAnything h ⟨_, rfl, fun _ => rfl⟩
  | beAccessedByAny => exact lrsim_inner a s t .beImportedByAnything h ⟨_, rfl, fun _ => rfl⟩
  | basedOn a' =>
    have ha : a' = a := hop a' rfl
    subst ha
    obtain ⟨h1, h2, h3, h4, h5⟩ := h
    simp only [toLRCall, LRTrack.step, LayerRuleState.step, h1]
    cases hsa : s.arch with
    | some b => simp [LRGoal]
    | none =>
      simp only [Option.isSome_none, Bool.false_eq_true, if_false, LRGoal]
      refine ⟨_, rfl, ⟨rfl, ?_, h3, fun _ => rfl, h5⟩⟩
      intro b hb; cases hb; rfl
  | layersThat =>
    obtain ⟨h1, h2, h3, h4, h5⟩ := h
    simp only [toLRCall, LRTrack.step, LayerRuleState.step, h1]
    cases hsa : s.arch with
    | none => simp [LRGoal]
    | some b =>
      simp only [Option.isSome_some, Bool.not_true, Bool.false_eq_true, if_false, LRGoal]
      refine ⟨_, rfl, ⟨rfl, by simpa [hsa] using h2, rfl, fun _ => rfl, ?_⟩⟩
      intro r hr
      simp only [Option.some.injEq] at hr
      subst hr
      exact ⟨{ rsim_init with target := rfl }, rfl⟩
  | areNamed ls isList =>
    obtain ⟨h1, h2, h3, h4, h5⟩ := h
    rw [toLRCall_areNamed]
    cases hr : s.rule with
    | none => simp [LRTrack.step, LayerRuleState.step, h3, hr, LRGoal]
    | some r =>
      have hsa : s.arch = some a := by
        have := h4 (by simp [hr])
        obtain ⟨b, hb⟩ := Option.isSome_iff_exists.mp this
        rw [hb, h2 b hb]
      obtain ⟨hsim, hnext⟩ := h5 r hr
      have hst : t.started = true := by rw [h3, hr]; rfl
      have htg := hsim.target
      obtain ⟨b, hb⟩ := Option.isSome_iff_exists.mp hnext
      rw [step_areNamed s r a ls isList hr hsa]
      have hS := hsim.subject
      have harch : t.arch = (some a : Option LArch).isSome := by rw [h1, hsa]
      have hinner : ∀ (u' : RTrack) (ms : List Filter), RSim (r.addModules ms) u' →
          LRSim a { arch := some a, rule := some (r.addModules ms) } { arch := t.arch, started := true, inner := u' } := by
        intro u' ms hu'
        refine ⟨harch, fun a' ha' => by cases ha'; rfl, rfl, fun _ => rfl, ?_⟩
        intro r'' hr''
        simp only [Option.some.injEq] at hr''
        subst hr''
        exact ⟨hu', by rw [addModules_next]; exact hnext⟩
      simp only [LRTrack.step, hst, htg, hb, ← hS, Bool.not_true, Bool.false_eq_true, if_false]
      rw [named_guards]
      by_cases g1 : (!t.inner.subject && isList) = true
      · rw [if_pos g1, if_pos g1]; rfl
      rw [if_neg g1, if_neg g1]
      by_cases g2 : (t.inner.subject && some b == some true) = true
      · rw [if_pos g2, if_pos g2]; rfl
      rw [if_neg g2, if_neg g2]
      cases hall : ls.all a.hasLayer
      · rw [mapM_get_err a ls hall]; rfl
      · rw [mapM_get_ok a ls hall]
        cases b
        · have := rsim_addModules_object r t.inner (ls.map a.getD).flatten (t.inner.objectAfterAnything || t.inner.anything) hsim hb
          rw [htg, hb] at this
          exact ⟨_, rfl, hinner _ _ this⟩
        · have := rsim_addModules_subject r t.inner (ls.map a.getD).flatten hsim hb
          rw [htg, hb] at this
          exact ⟨_, rfl, hinner _ _ this⟩

theorem assertAppliesLayer_notStarted (mt : Str → Str → Bool) (s : LayerRuleState) (g : PGraph Str)
    (h : s.rule = none) : assertAppliesLayer mt s g = .err .improperlyConfigured := by
  unfold assertAppliesLayer
  rw [h]

/-- what a run from a simulated state has to establish -/
def LRFinal (cls : LRClass) (res : LVerdict × Nat) : Prop :=
  match cls with
  | .rejectedAt i => res = (.err .improperlyConfigured, i)
  | .lookupAt i => res = (.err .lookupError, i)
  | .notStarted => res.1 = .err .improperlyConfigured
  | .final c => c.mustRaise = true → ∃ k, res.1 = .err k

theorem lr_go (mt : Str → Str → Bool) (g : PGraph Str) (a : LArch) (ops : List LayerRuleOp)
    (s : LayerRuleState) (t : LRTrack) (i : Nat) (h : LRSim a s t)
    (hbased : ∀ op ∈ ops, ∀ a', op = LayerRuleOp.basedOn a' → a' = a) :
    LRFinal (classifyLayerRuleFrom t i (ops.map (toLRCall a))) (runLayerRuleOps.go mt g s i ops) := by
  induction ops generalizing s t i with
  | nil =>
    simp only [List.map_nil, classifyLayerRuleFrom, runLayerRuleOps.go]
    cases hst : t.started
    · simp only [Bool.false_eq_true, if_false, LRFinal]
      exact assertAppliesLayer_notStarted mt s g (by simpa [hst] using h.started.symm)
    · simp only [if_true, LRFinal]
      intro hm
      have h3 := h.started
      rw [hst] at h3
      obtain ⟨r, hr⟩ := Option.isSome_iff_exists.mp h3.symm
      obtain ⟨b, hb⟩ := Option.isSome_iff_exists.mp (h.ruleArch h3.symm)
      obtain ⟨k, hk⟩ := front_preFail mt g r.cfg ((rsim_preFail (h.inner r hr).1).trans hm)
      obtain ⟨_, _⟩ := s
      cases hr
      cases hb
      exact ⟨k, assertAppliesLayer_err_of_front mt g b hk⟩
  | cons op rest ih =>
    have hs := lrsim_step a s t op h (hbased op (by simp))
    simp only [List.map_cons, classifyLayerRuleFrom, runLayerRuleOps.go]
    cases ht : t.step (toLRCall a op) with
    | reject =>
      rw [ht] at hs
      simp only [LRGoal] at hs
      simp only [hs, LRFinal]
    | lookup =>
      rw [ht] at hs
      simp only [LRGoal] at hs
      simp only [hs, LRFinal]
    | ok t' =>
      rw [ht] at hs
      obtain ⟨s', hs', hsim⟩ := hs
      simp only [hs']
      exact ih s' t' (i + 1) hsim (fun op' hop' => hbased op' (List.mem_cons_of_mem _ hop'))

theorem layer_rule_aux (mt : Str → Str → Bool) (a : LArch) (ops : List LayerRuleOp) (g : PGraph Str)
    (hbased : ∀ op ∈ ops, ∀ a', op = LayerRuleOp.basedOn a' → a' = a) :
    LRFinal (classifyLayerRule (ops.map (toLRCall a))) (runLayerRuleOps mt ops g) :=
  lr_go mt g a ops {} {} 0 (lrsim_init a) hbased

end Pta.Hist

/-! ### the complete call chain

  `compileLayerRule larch r` is the state the fluent LayerRule builder reaches after the complete call chain
  `layerRuleOps larch r`, so `runLayerRuleOps` on the chain is `assertAppliesLayer` on it. -/

namespace Pta
open PtaSpec Hist

/-- the state after `based_on(larch).layers_that().are_named(subject)` -/
def chain3 (larch : LArch) (subject : Str) : LayerRuleState :=
  { arch := some larch, rule := some { cfg := { subjects := some (larch.getD subject) }, next := some true } }

theorem go_chain3 (mt : Str → Str → Bool) (g : PGraph Str) (larch : LArch) (subject : Str) (rest : List LayerRuleOp)
    (hS : larch.hasLayer subject = true) :
    runLayerRuleOps.go mt g {} 0 (.basedOn larch :: .layersThat :: .areNamed [subject] false :: rest) =
      runLayerRuleOps.go mt g (chain3 larch subject) 3 rest := by
  have h1 : [subject].mapM larch.get = .ok [larch.getD subject] := by
    have := mapM_get_ok larch [subject] (by simpa using hS)
    simpa using this
  simp [runLayerRuleOps.go, LayerRuleState.step, h1, RuleState.addModules, chain3, bind, Except.bind, pure, Except.pure]

theorem runLayerRuleOps_chain_lemma (mt : Str → Str → Bool) (g : PGraph Str) (larch : LArch) (r : LRuleSpec) (isList : Bool)
    (hS : larch.hasLayer r.subject = true) (hSne : larch.getD r.subject ≠ [])
    (hO : r.anything = false → r.objects.all larch.hasLayer = true) :
    runLayerRuleOps mt (layerRuleOps larch r isList) g =
      (assertAppliesLayer mt (compileLayerRule larch r) g, (layerRuleOps larch r isList).length) := by
  obtain ⟨verb, dir, exc, subject, objects, anything⟩ := r
  simp only at hS hSne hO
  unfold runLayerRuleOps layerRuleOps
  simp only [List.cons_append, List.nil_append]
  rw [go_chain3 mt g larch subject _ hS]
  have hse : (larch.getD subject).isEmpty = false := List.isEmpty_eq_false_iff.2 hSne
  cases anything
  · have h2 := mapM_get_ok larch objects (hO rfl)
    cases verb <;> cases dir <;> cases exc <;>
      simp [runLayerRuleOps.go, LayerRuleState.step, RuleState.step, RuleState.addModules, chain3, verbOp, accessOp,
        compileLayerRule, h2, hse, List.flatMap_def, bind, Except.bind, pure, Except.pure, Except.map] <;> rfl
  · cases verb <;> cases dir <;>
      simp [runLayerRuleOps.go, LayerRuleState.step, RuleState.step, chain3, verbOp, accessOp,
        compileLayerRule, Except.map] <;> rfl

end Pta
