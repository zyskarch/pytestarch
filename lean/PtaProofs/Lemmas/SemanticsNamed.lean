/-
  PtaProofs.Lemmas.SemanticsNamed — the fluent call chain of a rule; the literal reading of "something else"; C01 beyond
  strict rules: plain rules with named subjects and objects (`PlainCtx`).
-/
import Bridge.Abs
import Bridge.RuleChain
import PtaProofs.Lemmas.Semantics
namespace Pta
open PtaSpec

/-! ### the fluent chain reaches `compile r` -/

theorem namingOp_step (glob : Str → Str) (s : RuleState) (fs : List SFilter) (h : homogeneous fs = true) :
    s.step glob (namingOp fs) = s.setModules (fs.map compileFilter) := by
  cases fs with
  | nil => rfl
  | cons f t =>
    -- every filter is of the kind of the first one, so one naming call with the rendered identifiers builds them all
    have hall : ∀ g ∈ f :: t, g.isSub = f.isSub := by
      simp only [homogeneous, Bool.or_eq_true, List.all_eq_true, Bool.not_eq_true'] at h
      intro g hg
      rcases h with h | h <;> rw [h g hg, h f List.mem_cons_self]
    have hmap : (f :: t).map compileFilter =
        ((f :: t).map fun g => render g.id).map (if f.isSub = true then Filter.parent else Filter.name) := by
      rw [List.map_map]
      apply List.map_congr_left
      intro g hg
      rw [← hall g hg]
      cases g <;> rfl
    rw [hmap]
    cases f <;> rfl

theorem runRuleOps_go_ok (glob : Str → Str) (mt : Str → Str → Bool) (g : PGraph Str) (ops : List RuleOp) :
    ∀ (s s' : RuleState) (i : Nat), ops.foldlM (RuleState.step glob) s = .ok s' →
      runRuleOps.go glob mt g s i ops = ((assertApplies mt s' g).2, i + ops.length) := by
  induction ops with
  | nil =>
    intro s s' i h
    simp only [List.foldlM_nil, pure, Except.pure, Except.ok.injEq] at h
    subst h
    rfl
  | cons op rest ih =>
    intro s s' i h
    rw [List.foldlM_cons] at h
    cases hst : s.step glob op with
    | error k => rw [hst] at h; simp [bind, Except.bind] at h
    | ok s1 =>
      rw [hst] at h
      simp only [bind, Except.bind] at h
      simp only [runRuleOps.go, hst]
      rw [ih s1 s' (i + 1) h, List.length_cons]
      congr 1
      omega

theorem others_literal_agree_lemma (a : Arch) (r : RuleSpec) (h : noImportToOwnParent a r = true) :
    ∀ s ∈ r.subjects, ∀ os, othersLit a r.importDir s os = others a r.importDir s os := by
  intro s hs os
  unfold othersLit others
  apply List.filter_congr
  intro e he
  simp only []
  generalize hnear : (if r.importDir = true then e.1 else e.2) = near
  generalize hfar : (if r.importDir = true then e.2 else e.1) = far
  cases hm : s.mem near
  · rfl
  · simp only [Bool.true_and]
    congr 1
    cases s with
    | named x => rfl
    | subOf x =>
      simp only [noImportToOwnParent, List.all_eq_true, Bool.or_eq_true, Bool.not_eq_true', Bool.and_eq_false_iff] at h
      have h1 := h _ hs
      simp only [SFilter.isSub, Bool.true_eq_false, false_or] at h1
      have h2 := h1 e he
      rw [hnear, hfar, hm] at h2
      simp only [Bool.true_eq_false, false_or, SFilter.id, beq_eq_false_iff_ne, ne_eq] at h2
      simp only [SFilter.mem, SFilter.id, sdesc, desc]
      have : (x != far) = true := bne_iff_ne.2 (fun h => h2 h.symm)
      rw [this, Bool.and_true]

theorem verdict_literal_agree_lemma (a : Arch) (r : RuleSpec) (h : noImportToOwnParent a r = true) :
    verdictLit a r = verdict a r := by
  have hl := others_literal_agree_lemma a r h
  unfold verdictLit verdict
  simp only []
  have e1 : (r.subjects.all fun s => !(othersLit a r.importDir s r.effObjects).isEmpty) =
      (r.subjects.all fun s => !(others a r.importDir s r.effObjects).isEmpty) := by
    apply all_congr_mem
    intro s hs; rw [hl s hs]
  have e2 : (r.subjects.all fun s => (othersLit a r.importDir s r.effObjects).isEmpty) =
      (r.subjects.all fun s => (others a r.importDir s r.effObjects).isEmpty) := by
    apply all_congr_mem
    intro s hs; rw [hl s hs]
  rw [e1, e2]
  generalize r.verb = v
  generalize r.effExc = x
  cases v <;> cases x <;> rfl

/-! ### plain rules whose subjects and objects are all given by name

  `should` / `should_not`, no `except`, not `anything`, every filter `are_named`. Such a rule only asks the 'edge'
  question (`getDependencies` / `depBetween`), and for `.named` filters `depBetween` has no exclusion set
  (`parentIds` only lists the identifiers of `are_sub_modules_of` filters). So no relation between the names is
  needed: subjects and objects may be equal, nested, or listed several times. -/

structure PlainCtx (a : Arch) (r : RuleSpec) : Prop where
  verb : r.verb = .should ∨ r.verb = .shouldNot
  exc : r.exc = false
  anything : r.anything = false
  namedS : ∀ f ∈ r.subjects, f.isSub = false
  namedO : ∀ f ∈ r.objects, f.isSub = false
  namesS : ∀ f ∈ r.subjects, f.id ∈ a.nodes
  namesO : ∀ f ∈ r.objects, f.id ∈ a.nodes

theorem plainCtx_of (a : Arch) (r : RuleSpec) (hverb : r.verb = .should ∨ r.verb = .shouldNot)
    (hexc : r.exc = false) (hany : r.anything = false)
    (hnamed : (r.subjects ++ r.objects).all (fun f => !f.isSub) = true) (hnames : r.namesIn a = true) : PlainCtx a r := by
  unfold RuleSpec.namesIn RuleSpec.effObjects at hnames
  simp only [hany, Bool.false_eq_true, if_false, List.all_eq_true, List.contains_iff_mem, List.mem_append,
    Bool.not_eq_true'] at hnames hnamed
  exact ⟨hverb, hexc, hany, fun f hf => hnamed f (.inl hf), fun f hf => hnamed f (.inr hf),
    fun f hf => hnames f (.inl hf), fun f hf => hnames f (.inr hf)⟩

theorem PlainCtx.effObjects {a : Arch} {r : RuleSpec} (c : PlainCtx a r) : r.effObjects = r.objects := by
  simp [RuleSpec.effObjects, c.anything]

/-- such a rule is `parentFree`: it has no `are_sub_modules_of` filter at all -/
theorem PlainCtx.parentFree {a : Arch} {r : RuleSpec} (c : PlainCtx a r) : parentFree r = true := by
  refine (parentFree_iff r).2 fun f _ p hp => pfree_named f p ?_
  rw [filtersOf, c.effObjects] at hp
  exact (List.mem_append.1 hp).elim (c.namedS p) (c.namedO p)

end Pta
