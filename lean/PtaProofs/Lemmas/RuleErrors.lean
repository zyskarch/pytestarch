/-
  PtaProofs.Lemmas.RuleErrors — the ERROR side of the rule algebra (audit finding F13): when does a finished rule
  `mkRule …` raise, and which error. The answer does not depend on the verb, on `except` or on the direction:
  `improperlyConfigured` (no verb / no subjects / no objects), `ruleInconsistency`, `impossibleMatch` (a regex filter
  without a match) or `lookupError` (a converted subject or object that is not a module) — every query family raises
  `lookupError` on exactly the same inputs. Hence the three-valued forms of the C12 laws:
  `should only = should ⊓ should not … except` and `should not = ¬ should` as equations between verdict classes
  (`VClass.both`, `VClass.neg`).
-/
import Bridge.Abs
import PtaProofs.Lemmas.QueryErr
import PtaProofs.Lemmas.Expansion
import PtaProofs.Lemmas.RuleAlgebra
namespace Pta
open Pta.Alg

/-- conjunction of two verdict classes: an error of either side (the first one's if both raise), else `fail` if either
    fails, else `pass` -/
def VClass.both : VClass → VClass → VClass
  | .err k, _ => .err k
  | _, .err k => .err k
  | .pass, .pass => .pass
  | _, _ => .fail

def VClass.neg : VClass → VClass
  | .pass => .fail
  | .fail => .pass
  | .err k => .err k

namespace Err

theorem runQueries_err_iff (g : PGraph Str) (b : Behavior) (d : Bool) (ss os : List Filter)
    (hverb : b.should = true ∨ b.shouldOnly = true ∨ b.shouldNot = true) (hs : ss ≠ []) (ho : os ≠ []) (k : ErrKind) :
    runQueries g b d ss os = .error k ↔ k = .lookupError ∧ ∃ f ∈ ss ++ os, g.hasNode f.id = false := by
  rw [runQueries_error_iff, answered_iff_nodes d hverb hs ho]
  simp

/-- the error condition of the front end of a matcher, free of the behaviour -/
def MatchErr (mt : Str → Str → Bool) (g : PGraph Str) (A B : List Filter) (k : ErrKind) : Prop :=
  convertFilters mt g.nodes A = .error k ∨
  (∃ A', convertFilters mt g.nodes A = .ok A' ∧ convertFilters mt g.nodes B = .error k) ∨
  (∃ A' B', convertFilters mt g.nodes A = .ok A' ∧ convertFilters mt g.nodes B = .ok B' ∧
    k = .lookupError ∧ ∃ f ∈ A' ++ B', g.hasNode f.id = false)

theorem queries_err_iff (mt : Str → Str → Bool) (g : PGraph Str) (b : Behavior) (d : Bool) (A B : List Filter)
    (hverb : b.should = true ∨ b.shouldOnly = true ∨ b.shouldNot = true) (hA : A ≠ []) (hB : B ≠ []) (k : ErrKind) :
    queries mt g b d A B = .error k ↔ MatchErr mt g A B k := by
  rw [queries_error_iff]
  refine or_congr_right (or_congr_right (exists_congr fun A' => exists_congr fun B' => ?_))
  exact and_congr_right fun h1 => and_congr_right fun h2 =>
    runQueries_err_iff g b d A' B' hverb (conv_ne_nil mt g.nodes A A' hA h1) (conv_ne_nil mt g.nodes B B' hB h2) k

theorem matchRule_err_iff (mt : Str → Str → Bool) (g : PGraph Str) (b : Behavior) (d : Bool) (A B : List Filter)
    (hverb : b.should = true ∨ b.shouldOnly = true ∨ b.shouldNot = true) (hA : A ≠ []) (hB : B ≠ []) (k : ErrKind) :
    (matchRule mt g b d A B).cls = .err k ↔ MatchErr mt g A B k := by
  rw [Verdict.cls_eq_err, matchRule_err_iff_queries, queries_err_iff mt g b d A B hverb hA hB]

/-- when a finished rule raises, and what: independent of verb, `except` and direction -/
def RuleErr (mt : Str → Str → Bool) (g : PGraph Str) (A B : List Filter) (k : ErrKind) : Prop :=
  ((A = [] ∨ B = []) ∧ k = .improperlyConfigured) ∨ (A ≠ [] ∧ B ≠ [] ∧ MatchErr mt g A B k)

theorem verdictOf_err_iff (mt : Str → Str → Bool) (g : PGraph Str) (s o n d e : Bool) (A B : List Filter)
    (hverb : (s || o || n) = true) (hc : (⟨s, o, n, e⟩ : Behavior).inconsistent = false) (k : ErrKind) :
    verdictOf mt g (mkRule s o n d e A B) = .err k ↔ RuleErr mt g A B k := by
  rw [verdictOf_mkRule, hverb, hc]
  unfold RuleErr
  by_cases hA : A = []
  · subst hA
    simp [eq_comm]
  · by_cases hB : B = []
    · subst hB
      simp [hA, eq_comm]
    · have e1 := List.isEmpty_eq_false_iff.2 hA
      have e2 := List.isEmpty_eq_false_iff.2 hB
      have hv : (Behavior.mk s o n e).should = true ∨ (Behavior.mk s o n e).shouldOnly = true ∨
          (Behavior.mk s o n e).shouldNot = true := by
        revert hverb; cases s <;> cases o <;> cases n <;> simp
      simp only [e1, e2, Bool.not_true, Bool.or_self, Bool.false_eq_true, if_false]
      rw [matchRule_err_iff mt g _ d A B hv hA hB k]
      simp [hA, hB]

/-- how a law `x = both a b` is proved for three rules: `h1` / `h2` (x raises `k` iff `a` does, iff `b` does: the error does
    not depend on the verb) settle the rows with an error, `hp` (the pass side of the law) the rest -/
theorem both_of (x a b : VClass) (hp : x = .pass ↔ (a = .pass ∧ b = .pass))
    (h1 : ∀ k, x = .err k ↔ a = .err k) (h2 : ∀ k, x = .err k ↔ b = .err k) : x = VClass.both a b := by
  cases x <;> cases a <;> cases b <;> simp_all [VClass.both]

/-- the fail side of `both`; `h` (the two classes raise together) excludes the rows where one side fails and the other raises -/
theorem both_fail_iff (a b : VClass) (h : ∀ k, a = .err k ↔ b = .err k) :
    VClass.both a b = .fail ↔ a = .fail ∨ b = .fail := by
  cases a <;> cases b <;> simp_all [VClass.both]

/-- how a law `x = neg a` is proved: `h1` (the same errors) settles the rows with an error, `hp` (`a` passes iff `x` fails)
    the rest -/
theorem neg_of (x a : VClass) (hp : a = .pass ↔ x = .fail) (h1 : ∀ k, x = .err k ↔ a = .err k) : x = VClass.neg a := by
  cases x <;> cases a <;> simp_all [VClass.neg]

end Err

/-- the decomposition law, three-valued: the class of `should only [… except]` is `both` of the classes of
    `should [… except]` and `should not [… except]` with the other `except` -/
theorem decomposition_cls (mt : Str → Str → Bool) (g : PGraph Str) (A B : List Filter) (dir exc : Bool) :
    verdictOf mt g (mkRule false true false dir exc A B) =
      VClass.both (verdictOf mt g (mkRule true false false dir exc A B))
        (verdictOf mt g (mkRule false false true dir (!exc) A B)) :=
  Err.both_of _ _ _ (decomposition_pass mt g A B dir exc)
    (fun k => by rw [Err.verdictOf_err_iff, Err.verdictOf_err_iff] <;> cases exc <;> rfl)
    (fun k => by rw [Err.verdictOf_err_iff, Err.verdictOf_err_iff] <;> cases exc <;> rfl)

/-- adding an import edge changes neither the modules nor, therefore, the errors -/
theorem monotone_err_lemma (mt : Str → Str → Bool) (g : PGraph Str) (u v : Str) (A B : List Filter) (s o n d e : Bool)
    (hverb : (s || o || n) = true) (hc : (⟨s, o, n, e⟩ : Behavior).inconsistent = false) (k : ErrKind) :
    verdictOf mt (addImportEdge g u v) (mkRule s o n d e A B) = .err k ↔ verdictOf mt g (mkRule s o n d e A B) = .err k := by
  rw [Err.verdictOf_err_iff mt _ s o n d e A B hverb hc, Err.verdictOf_err_iff mt g s o n d e A B hverb hc]
  exact Iff.rfl

end Pta
