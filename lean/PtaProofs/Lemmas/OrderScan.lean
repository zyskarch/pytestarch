/-
  PtaProofs.Lemmas.OrderScan —
  `generate_graph` does not depend on the order in which the file system enumerates directory entries: the walk returns
  permuted module / file lists, the import conversion returns the same error or import lists with the same members, the
  external filters keep member sets, and the graph constructor only looks at member sets (`OrdB.buildGraph_equiv`; its two
  side conditions hold for every scan: importers are parsed files, and `ImportConverter` builds every import with the
  parents of its importee).
-/
import Bridge.Abs
import Bridge.OrderDefs
import PtaProofs.Lemmas.OrderCongr
import PtaProofs.Lemmas.OrderBuild
import PtaProofs.Lemmas.ExtScan
namespace Pta.Ord

theorem perm_patterns (mt : Str → Str → Bool) (ps ps' : List Str) (h : ps.Perm ps') (s : Str) :
    isExcluded mt (.globs ps) s = isExcluded mt (.globs ps') s ∧ isExcluded mt (.regexes ps) s = isExcluded mt (.regexes ps') s := by
  unfold isExcluded
  exact ⟨h.any_eq, h.any_eq⟩

theorem foldl_append_proj {β γ : Type} (π : Parsed → List β) (hπ : ∀ a b, π (a.append b) = π a ++ π b)
    (f : γ → Parsed) (l : List γ) (init : Parsed) :
    π (l.foldl (fun acc c => acc.append (f c)) init) = π init ++ l.flatMap fun c => π (f c) := by
  induction l generalizing init with
  | nil => simp
  | cons x xs ih => rw [List.foldl_cons, ih, hπ, List.flatMap_cons, List.append_assoc]

theorem parseWalk_perm {β : Type} (π : Parsed → List β) (hπ : ∀ a b, π (a.append b) = π a ++ π b)
    (excl : Str → Bool) (base rootName : Str) (entries entries' : List Entry) (h : entries.Perm entries')
    (fuel : Nat) (e : Entry) :
    (π (parseWalk excl base rootName entries fuel e)).Perm (π (parseWalk excl base rootName entries' fuel e)) := by
  induction fuel generalizing e with
  | zero => unfold parseWalk; exact List.Perm.refl _
  | succ n ih =>
    unfold parseWalk
    simp only
    split
    · split
      · exact List.Perm.refl _
      · rw [foldl_append_proj π hπ, foldl_append_proj π hπ]
        apply List.Perm.append_left
        refine ((h.filter _).flatMap_right _).trans ?_
        exact flatMap_perm_left _ _ _ (fun c _ => ih c)
    · exact List.Perm.refl _

theorem perm_dir_entries (excl : Str → Bool) (base rootName : Str) (entries entries' : List Entry) (h : entries.Perm entries')
    (fuel : Nat) (e : Entry) :
    (parseWalk excl base rootName entries fuel e).allModules.Perm (parseWalk excl base rootName entries' fuel e).allModules :=
  parseWalk_perm Parsed.allModules (fun _ _ => rfl) excl base rootName entries entries' h fuel e

end Pta.Ord

namespace Pta.OrdS
open Pta.Ord

theorem convertAll_congr (parsed parsed' : Parsed) (ap : Str) (internal internal' : List Str)
    (hf : SM parsed.files parsed'.files) (hi : SM internal internal') :
    ERel SM (convertAll parsed ap internal) (convertAll parsed' ap internal') := by
  rw [ScanStmt.convertAll_eq, ScanStmt.convertAll_eq]
  have hc : ∀ imp, convertStmt imp ap internal' = convertStmt imp ap internal := fun imp => funext fun st => by
    unfold convertStmt adjustWithRootPrefix
    simp only [contains_congr hi]
  simp only [hc]
  exact (mapM_sm _ .lookupError hf fun f _ =>
    (ErrOnly.mapM fun st _ => ScanStmt.convertStmt_errOnly f.1 ap internal st).map _).map_rel _ _ fun _ _ => SM.flatten

theorem retainImports_congr (mt : Str → Str → Bool) (o : ScanOptions) (pre : Str) (l l' : List ImportRec) (h : SM l l') :
    SM (retainImports mt o pre l) (retainImports mt o pre l') := by
  intro i
  rw [ExtScan.mem_retainImports, ExtScan.mem_retainImports, h i]

theorem moduleList_congr (mt : Str → Str → Bool) (base : Str) (o : ScanOptions) (pre : Str) (ms ms' : List Str)
    (is is' : List ImportRec) (hm : SM ms ms') (hi : SM is is') :
    SM (moduleList mt base o pre ms is) (moduleList mt base o pre ms' is') := by
  intro m
  rw [ExtScan.mem_moduleList, ExtScan.mem_moduleList, hm m]
  exact or_congr Iff.rfl (and_congr Iff.rfl (and_congr (hi.exists_congr _) Iff.rfl))

theorem scan_graph_perm (mt : Str → Str → Bool) (base rootName : Str) (mp : List Str) (entries entries' : List Entry)
    (o : ScanOptions) (h : entries.Perm entries') :
    ERel GraphEquiv (generateGraph mt base rootName mp entries o) (generateGraph mt base rootName mp entries' o) := by
  unfold generateGraph scanParsed
  simp only
  rw [← show maxDepth entries = maxDepth entries' from h.foldl_eq' (fun _ _ _ _ _ => by omega) 0]
  generalize maxDepth entries + 2 = fuel
  generalize hp : parseWalk (isExcluded mt o.exclusions) base rootName entries fuel { rel := mp, isDir := true } = p
  generalize hp' : parseWalk (isExcluded mt o.exclusions) base rootName entries' fuel { rel := mp, isDir := true } = p'
  have hmods : SM p.allModules p'.allModules := by
    rw [← hp, ← hp']; exact SM.of_perm (perm_dir_entries _ base rootName entries entries' h fuel _)
  have hfiles : SM p.files p'.files := by
    rw [← hp, ← hp']; exact SM.of_perm (parseWalk_perm Parsed.files (fun _ _ => rfl) _ base rootName entries entries' h fuel _)
  have hsub : ExtScan.FilesIn p := by
    rw [← hp]; exact ExtScan.parseWalk_filesIn _ base rootName entries fuel _
  have hint := SM.filter hmods (fun m => isInternal m (internalPrefix rootName mp))
  obtain ⟨e, hx, hy⟩ | ⟨r, r', hx, hy, hrr⟩ :=
    (convertAll_congr p p' (absolutePrefix rootName mp) _ _ hfiles hint).cases <;> rw [hx, hy]
  · rfl
  -- a retained import is an import of a parsed file
  have hmem := fun i hi => ScanStmt.convertAll_recs p _ _ r hx i
    ((ExtScan.mem_retainImports mt o (internalPrefix rootName mp) r i).1 hi).1
  apply OrdB.buildGraph_equiv
  · exact moduleList_congr mt base o _ _ _ _ _ hmods (retainImports_congr mt o _ _ _ hrr)
  · exact retainImports_congr mt o _ _ _ hrr
  · intro i hi
    obtain ⟨f, hf, h1, -⟩ := hmem i hi
    rw [h1]
    exact (ExtScan.mem_moduleList ..).2 (Or.inl (hsub f hf))
  · intro i hi
    obtain ⟨f, -, -, h2⟩ := hmem i hi
    exact h2

theorem ERel.sameScan {x y : Except ErrKind (PGraph Str)} (h : ERel GraphEquiv x y) : SameScan x y := by
  cases x <;> cases y <;> exact h

end Pta.OrdS
