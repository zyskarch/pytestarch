/-
  PtaProofs.Lemmas.RenameScan — lemmas behind Props/C14Scan.lean: the specification of a scan (`scanModules`,
  `scanImports`) commutes with an injective renaming of path components; the abstraction of a renamed directory
  listing is the renamed abstraction; the tree hypotheses of the end-to-end theorems are preserved.
-/
import Bridge.Abs
import Bridge.Rename
import Bridge.RenameScan
import PtaProofs.Lemmas.Render
import PtaProofs.Lemmas.RenameAux
import PtaProofs.Lemmas.RenameBuild
import PtaProofs.Lemmas.ScanNames
import PtaProofs.Lemmas.ScanImports
import PtaProofs.Lemmas.ScanSpec
import PtaProofs.Lemmas.ScanCompose
namespace Pta.RS
open PtaSpec

/-- a suffix as `Path.suffix` returns it: empty, or a dot followed by dot-free text -/
def SufOK (suf : Str) : Prop := suf = [] ∨ ∃ ext, suf = '.' :: ext ∧ '.' ∉ ext

theorem exists_last_dot (c : Str) (h : '.' ∈ c) : ∃ s ext, c = s ++ '.' :: ext ∧ '.' ∉ ext := by
  obtain ⟨as, bs, e, hn⟩ := List.eq_append_cons_of_mem (List.mem_reverse.2 h)
  exact ⟨bs.reverse, as.reverse, by simpa using congrArg List.reverse e, by simpa using hn⟩

theorem stemWF_split (c : Str) (h : compWF (dropSuffix c) = true) :
    ∃ suf, SufOK suf ∧ c = dropSuffix c ++ suf := by
  by_cases hd : '.' ∈ c
  · obtain ⟨s, ext, rfl, he⟩ := exists_last_dot c hd
    rw [ScanNames.dropSuffix_last_dot s ext he] at h ⊢
    split at h
    · exact absurd List.mem_cons_self ((compWF_iff _).1 h).2
    · rw [if_neg ‹_›]
      exact ⟨'.' :: ext, Or.inr ⟨ext, rfl, he⟩, rfl⟩
  · rw [ScanNames.dropSuffix_nodot c hd]
    exact ⟨[], Or.inl rfl, by simp⟩

theorem dropSuffix_stem_suf (t suf : Str) (ht : compWF t = true) (hs : SufOK suf) : dropSuffix (t ++ suf) = t := by
  rcases hs with rfl | ⟨ext, rfl, he⟩
  · rw [List.append_nil]; exact ScanNames.dropSuffix_compWF t ht
  · rw [ScanNames.dropSuffix_last_dot t ext he, if_neg ((compWF_iff t).1 ht).1]

theorem isPyFile_stem_suf (t suf : Str) (ht : compWF t = true) (hs : SufOK suf) :
    isPyFile (t ++ suf) = true ↔ suf = ".py".toList := by
  constructor
  · intro h
    have := ScanNames.isPyFile_split _ h
    rw [dropSuffix_stem_suf t suf ht hs] at this
    exact List.append_cancel_left this
  · rintro rfl
    rw [ScanNames.isPyFile_iff]
    exact ⟨t, rfl, ((compWF_iff t).1 ht).1⟩

section renFile
variable {ρ : Comp → Comp}

theorem renFile_split (c : Str) (h : compWF (dropSuffix c) = true) :
    ∃ suf, SufOK suf ∧ c = dropSuffix c ++ suf ∧ renFile ρ c = ρ (dropSuffix c) ++ suf := by
  obtain ⟨suf, hs, hc⟩ := stemWF_split c h
  refine ⟨suf, hs, hc, ?_⟩
  unfold renFile
  rw [if_pos h]
  congr 1
  conv => lhs; arg 2; rw [hc]
  exact List.drop_left

theorem renFile_compWF (c : Str) (h : compWF c = true) : renFile ρ c = ρ c := by
  unfold renFile
  rw [ScanNames.dropSuffix_compWF c h, if_pos h, List.drop_length, List.append_nil]

theorem dropSuffix_renFile (hρ : GoodRen ρ) (c : Str) : dropSuffix (renFile ρ c) = renStem ρ (dropSuffix c) := by
  by_cases h : compWF (dropSuffix c) = true
  · obtain ⟨suf, hs, -, hr⟩ := renFile_split (ρ := ρ) c h
    rw [hr, dropSuffix_stem_suf _ suf (hρ.wf _ h) hs, renStem, if_pos h]
  · simp only [renFile, renStem, if_neg h]

theorem isPyFile_renFile (hρ : GoodRen ρ) (c : Str) : isPyFile (renFile ρ c) = isPyFile c := by
  by_cases h : compWF (dropSuffix c) = true
  · obtain ⟨suf, hs, hc, hr⟩ := renFile_split (ρ := ρ) c h
    rw [Bool.eq_iff_iff, hr]
    conv => rhs; rw [hc]
    rw [isPyFile_stem_suf _ suf (hρ.wf _ h) hs, isPyFile_stem_suf _ suf h hs]
  · simp only [renFile, if_neg h]

theorem renFile_inj (hρ : GoodRen ρ) : ∀ c d, renFile ρ c = renFile ρ d → c = d := by
  intro c d hcd
  have hs := congrArg dropSuffix hcd
  rw [dropSuffix_renFile hρ, dropSuffix_renFile hρ] at hs
  by_cases hc : compWF (dropSuffix c) = true
  · by_cases hd : compWF (dropSuffix d) = true
    · obtain ⟨suf, -, hc1, hc2⟩ := renFile_split (ρ := ρ) c hc
      obtain ⟨suf', -, hd1, hd2⟩ := renFile_split (ρ := ρ) d hd
      simp only [renStem, if_pos hc, if_pos hd] at hs
      have e := hρ.inj _ _ hs
      rw [hc2, hd2, e] at hcd
      rw [hc1, hd1, e, List.append_cancel_left hcd]
    · simp only [renStem, if_pos hc, if_neg hd] at hs
      rw [← hs] at hd
      exact absurd (hρ.wf _ hc) hd
  · by_cases hd : compWF (dropSuffix d) = true
    · simp only [renStem, if_neg hc, if_pos hd] at hs
      rw [hs] at hc
      exact absurd (hρ.wf _ hd) hc
    · simpa only [renFile, if_neg hc, if_neg hd] using hcd

theorem renFile_nil : renFile ρ [] = [] := rfl

theorem renFile_py_lemma (c : Str) (hp : isPyFile c = true) (h : compWF (dropSuffix c) = true) :
    renFile ρ c = ρ (dropSuffix c) ++ ".py".toList := by
  obtain ⟨suf, hs, hc, hr⟩ := renFile_split (ρ := ρ) c h
  rw [hr]
  congr 1
  rw [hc] at hp
  exact (isPyFile_stem_suf _ suf h hs).1 hp

theorem renStem_compWF (s : Comp) (h : compWF s = true) : renStem ρ s = ρ s := by
  simp only [renStem, if_pos h]

theorem nameWF_comp {n : Name} (h : nameWF n = true) {c : Comp} (hc : c ∈ n) : compWF c = true :=
  (compWF_iff c).2 (((nameWF_iff n).1 h).2 c hc)

theorem map_renFile_wf (n : Name) (h : ∀ c ∈ n, compWF c = true) : n.map (renFile ρ) = renName ρ n := by
  unfold renName
  apply List.map_congr_left
  intro c hc
  exact renFile_compWF c (h c hc)

end renFile

section spec
variable {ρ : Comp → Comp} (hρ : GoodRen ρ)
include hρ

theorem rel_beq_ren (x y : List Str) : (x.map (renFile ρ) == y.map (renFile ρ)) = (x == y) :=
  beq_inj _ (fun _ _ => (List.map_inj_right (renFile_inj hρ)).1) x y

theorem survives_ren (ses : List SEntry) (mp : List Comp) (e : SEntry) :
    survives (ses.map (renSEntry ρ)) (mp.map (renFile ρ)) (renSEntry ρ e) = survives ses mp e := by
  simp only [survives, renSEntry, List.all_map, Function.comp_def, Ren.isPrefixOf_map _ (renFile_inj hρ),
    rel_beq_ren hρ]

omit hρ in
theorem entryName_ren (root : Comp) (e : SEntry) (h : nameWF (entryName root e) = true) :
    entryName (ρ root) (renSEntry ρ e) = renName ρ (entryName root e) := by
  unfold entryName at h ⊢
  simp only [renSEntry, List.isEmpty_map]
  split
  · rfl
  · rw [if_neg ‹_›] at h
    have hall : ∀ c ∈ e.rel.dropLast ++ [e.stem], compWF c = true := fun c hc =>
      nameWF_comp h (List.mem_cons_of_mem _ hc)
    rw [← List.map_dropLast, map_renFile_wf _ (fun c hc => hall c (List.mem_append_left _ hc)),
      renStem_compWF _ (hall _ (by simp))]
    simp only [renName, List.map_cons, List.map_append, List.map_nil]

theorem ownNames_ren (root : Comp) (ses : List SEntry) (mp : List Comp)
    (hown : ∀ n ∈ ownNames root ses mp, nameWF n = true) :
    ownNames (ρ root) (ses.map (renSEntry ρ)) (mp.map (renFile ρ)) = (ownNames root ses mp).map (renName ρ) := by
  unfold ownNames
  rw [List.filter_map, List.map_map, List.map_map]
  simp only [Function.comp_def, survives_ren hρ]
  apply List.map_congr_left
  intro e he
  exact entryName_ren (ρ := ρ) root e (hown _ (List.mem_map_of_mem he))

theorem scanModules_ren (root : Comp) (ses : List SEntry) (mp : List Comp)
    (hown : ∀ n ∈ ownNames root ses mp, nameWF n = true) :
    scanModules (ρ root) (ses.map (renSEntry ρ)) (mp.map (renFile ρ)) = (scanModules root ses mp).map (renName ρ) := by
  have h := ownNames_ren hρ root ses mp hown
  unfold ownNames at h
  unfold scanModules
  rw [h, ← eraseDups_map_inj _ (fun x y => Ren.renName_inj hρ), List.map_append]
  simp only [List.flatMap_map, List.map_flatMap, Ren.properPrefixes_ren]

omit hρ in
theorem renName_append (p q : Name) : renName ρ p ++ renName ρ q = renName ρ (p ++ q) := (List.map_append ..).symm

omit hρ in
theorem renName_snoc (p : Name) (c : Comp) : renName ρ p ++ [ρ c] = renName ρ (p ++ [c]) := renName_append p [c]

omit hρ in
theorem renName_take (k : Nat) (n : Name) : (renName ρ n).take k = renName ρ (n.take k) := (List.map_take ..).symm

omit hρ in
theorem renName_length (n : Name) : (renName ρ n).length = n.length := List.length_map ..

theorem pick_ren (mods : List Name) (x y : Name) :
    (if (mods.map (renName ρ)).contains (renName ρ x) then renName ρ x else renName ρ y) =
      renName ρ (if mods.contains x then x else y) := by
  rw [Ren.contains_ren hρ]
  split <;> rfl

theorem qualify_ren (mods : List Name) (ap : Option Name) (n : Name) :
    targets.qualify (mods.map (renName ρ)) (ap.map (renName ρ)) (renName ρ n) = renName ρ (targets.qualify mods ap n) := by
  cases ap with
  | none => rfl
  | some pre => simp only [targets.qualify, Option.map_some, renName_append, pick_ren hρ]

theorem targets_ren (mods : List Name) (ap : Option Name) (importer : Name) (st : SStmt) :
    targets (mods.map (renName ρ)) (ap.map (renName ρ)) (renName ρ importer) (renSStmt ρ st) =
      (targets mods ap importer st).map (List.map (renName ρ)) := by
  cases st with
  | imp names =>
    simp only [renSStmt, targets, Option.map_some, List.map_map, Function.comp_def, qualify_ren hρ]
  | impFrom m names level =>
    cases level with
    | zero =>
      cases m with
      | none => rfl
      | some p =>
        simp only [renSStmt, targets, Option.map_some, List.map_map, Function.comp_def, renName_snoc, qualify_ren hρ,
          pick_ren hρ]
    | succ l =>
      simp only [renSStmt, ScanSim.targets_rel, renName_length]
      split
      · rfl
      · cases m <;> simp only [Option.map_some, Option.map_none, List.map_map, Function.comp_def, renName_take,
          renName_append, renName_snoc, pick_ren hρ]

omit hρ in
theorem mp_map_renFile (root : Comp) (mp : List Comp) (hmp : nameWF (root :: mp) = true) :
    mp.map (renFile ρ) = renName ρ mp :=
  map_renFile_wf mp fun _ hc => nameWF_comp hmp (List.mem_cons_of_mem _ hc)

theorem insideOf_ren (root : Comp) (ses : List SEntry) (mp : List Comp)
    (hown : ∀ n ∈ ownNames root ses mp, nameWF n = true)
    (hmp : nameWF (root :: mp) = true) :
    ScanImports.insideOf (ρ root) (ses.map (renSEntry ρ)) (mp.map (renFile ρ)) =
      (ScanImports.insideOf root ses mp).map (renName ρ) := by
  unfold ScanImports.insideOf
  rw [scanModules_ren hρ root ses mp hown, List.filter_map, mp_map_renFile root mp hmp]
  congr 2
  funext m
  exact Ren.isPrefixOf_map ρ hρ.inj (root :: mp) m

omit hρ in
theorem apOf_ren (root : Comp) (mp : List Comp) (hmp : nameWF (root :: mp) = true) :
    ScanImports.apOf (ρ root) (mp.map (renFile ρ)) = (ScanImports.apOf root mp).map (renName ρ) := by
  unfold ScanImports.apOf
  rw [mp_map_renFile root mp hmp]
  simp only [renName, List.isEmpty_map]
  split
  · rfl
  · simp only [Option.map_some, renName, List.map_cons, ← List.map_dropLast]

theorem filesOf_ren (ses : List SEntry) (mp : List Comp) :
    ScanImports.filesOf (ses.map (renSEntry ρ)) (mp.map (renFile ρ)) = (ScanImports.filesOf ses mp).map (renSEntry ρ) := by
  unfold ScanImports.filesOf
  rw [List.filter_map]
  simp only [Function.comp_def, survives_ren hρ]
  rfl

/-- the specification's import list of the renamed tree is the renamed import list (same order); a relative import
    above the root stays one -/
theorem scanImports_ren (root : Comp) (ses : List SEntry) (mp : List Comp)
    (hown : ∀ n ∈ ownNames root ses mp, nameWF n = true)
    (hmp : nameWF (root :: mp) = true) :
    scanImports (ρ root) (ses.map (renSEntry ρ)) (mp.map (renFile ρ)) =
      (scanImports root ses mp).map (List.map (Ren.renPair ρ)) := by
  rw [ScanImports.scanImports_unfold, ScanImports.scanImports_unfold, insideOf_ren hρ root ses mp hown hmp,
    apOf_ren root mp hmp, filesOf_ren hρ]
  refine RM.option_foldlM_map (renSEntry ρ) (List.map (Ren.renPair ρ)) _ _ _ ?_ []
  intro f hf acc
  have hfs : f ∈ ses.filter (survives ses mp) := by
    unfold ScanImports.filesOf at hf
    obtain ⟨h1, h2⟩ := List.mem_filter.1 hf
    simp only [Bool.and_eq_true] at h2
    exact List.mem_filter.2 ⟨h1, h2.2⟩
  have hname := entryName_ren (ρ := ρ) root f (hown _ (List.mem_map_of_mem hfs))
  show List.foldlM _ _ (f.stmts.map (renSStmt ρ)) = _
  refine RM.option_foldlM_map (renSStmt ρ) (List.map (Ren.renPair ρ)) _ _ _ ?_ acc
  intro st _ acc2
  simp only [hname, targets_ren hρ]
  cases targets (ScanImports.insideOf root ses mp) (ScanImports.apOf root mp) (entryName root f) st with
  | none => rfl
  | some ts =>
    simp only [Option.map_some, List.filter_map, Function.comp_def, Ren.contains_ren hρ, Ren.renName_bne hρ,
      List.map_append, List.map_map, Ren.renPair]

end spec

section model
variable {ρ : Comp → Comp} (hρ : GoodRen ρ)
include hρ

omit hρ in
theorem renDotted_comp (c : Comp) (h : compWF c = true) : renDotted ρ c = ρ c := by
  simp only [renDotted, splitDots_nodot c ((compWF_iff c).1 h).2, renName, List.map_cons, List.map_nil, render_singleton]

theorem splitDots_renDotted (s : Str) (h : RM.wfStr s) :
    splitDots (renDotted ρ s) = renName ρ (splitDots s) :=
  splitDots_render _ (Ren.nameWF_ren hρ h)

omit hρ in
theorem stmtOK_impFrom (m : Option Name) (names : List Comp) (lvl : Nat) :
    stmtOK (.impFrom m names lvl) = true ↔
      (∀ p, m = some p → nameWF p = true) ∧ (∀ n ∈ names, compWF n = true) ∧ (lvl = 0 ∨ names ≠ []) := by
  cases lvl <;> cases m <;> simp [stmtOK, and_assoc]

theorem toSStmt_ren (st : ImportStmt) (h : stmtOK (toSStmt st) = true) :
    toSStmt (renStmt ρ st) = renSStmt ρ (toSStmt st) := by
  cases st with
  | imp names =>
    simp only [toSStmt, stmtOK, List.all_eq_true, List.mem_map] at h
    simp only [renStmt, toSStmt, renSStmt, List.map_map, SStmt.imp.injEq]
    exact List.map_congr_left fun n hn => splitDots_renDotted hρ n (h _ ⟨n, hn, rfl⟩)
  | impFrom m names lvl =>
    obtain ⟨hm, hn, -⟩ := (stmtOK_impFrom _ names lvl).1 h
    simp only [renStmt, toSStmt, renSStmt, SStmt.impFrom.injEq, and_true]
    refine ⟨?_, List.map_congr_left fun n h' => renDotted_comp n (hn n h')⟩
    cases m with
    | none => rfl
    | some p => simp only [Option.map_some, splitDots_renDotted hρ p (hm _ rfl)]

theorem stmtOK_ren (s : SStmt) (h : stmtOK s = true) : stmtOK (renSStmt ρ s) = true := by
  cases s with
  | imp names =>
    simp only [stmtOK, renSStmt, List.all_eq_true, List.mem_map] at h ⊢
    rintro n ⟨n0, h0, rfl⟩
    exact Ren.nameWF_ren hρ (h n0 h0)
  | impFrom m names lvl =>
    obtain ⟨hm, hn, hl⟩ := (stmtOK_impFrom m names lvl).1 h
    refine (stmtOK_impFrom _ _ lvl).2 ⟨?_, ?_, hl.imp id fun hne e => hne (List.map_eq_nil_iff.1 e)⟩
    · intro p' hp'
      obtain ⟨p, rfl, rfl⟩ := Option.map_eq_some_iff.1 hp'
      exact Ren.nameWF_ren hρ (hm p rfl)
    · intro c hc
      obtain ⟨d, hd, rfl⟩ := List.mem_map.1 hc
      exact hρ.wf d (hn d hd)

omit hρ in
theorem lastName_renEntry (e : Entry) : lastName (renEntry ρ e) = renFile ρ (lastName e) := by
  simp only [lastName, renEntry, List.getLast?_map]
  cases e.rel.getLast? with
  | none => rfl
  | some n => rfl

omit hρ in
theorem renEntry_root : renEntry ρ rootEntry = rootEntry := rfl

theorem toSEntry_ren {excl excl' : Str → Bool} {base base' : Str} (e : Entry)
    (hx : excl' (pathStr base' (e.rel.map (renFile ρ))) = excl (pathStr base e.rel))
    (hst : ∀ st ∈ e.stmts, stmtOK (toSStmt st) = true) :
    toSEntry excl' base' (renEntry ρ e) = renSEntry ρ (toSEntry excl base e) := by
  rw [toSEntry_lastName, toSEntry_lastName, lastName_renEntry]
  simp only [renSEntry, renEntry, isPyFile_renFile hρ, dropSuffix_renFile hρ, hx, List.map_map]
  congr 1
  apply List.map_congr_left
  intro st h
  exact toSStmt_ren hρ st (hst st h)

theorem toSEntries_ren {excl excl' : Str → Bool} {base base' : Str} {entries : List Entry}
    (hx : ExclTransported ρ excl excl' base base' entries)
    (hst : ∀ e ∈ entries, ∀ st ∈ e.stmts, stmtOK (toSStmt st) = true) :
    toSEntries excl' base' (renEntries ρ entries) = (toSEntries excl base entries).map (renSEntry ρ) := by
  unfold toSEntries renEntries
  rw [← renEntry_root (ρ := ρ), ← List.map_cons, List.map_map, List.map_map]
  apply List.map_congr_left
  intro e he
  rcases List.mem_cons.1 he with rfl | h
  · exact toSEntry_ren hρ rootEntry (hx [] (Or.inl rfl)) (fun st h => by cases h)
  · exact toSEntry_ren hρ e (hx e.rel (Or.inr ⟨e, h, List.prefix_refl _⟩)) (hst e h)

theorem stmts_ren_ok (entries : List Entry) (hst : ∀ e ∈ entries, ∀ st ∈ e.stmts, stmtOK (toSStmt st) = true) :
    ∀ e ∈ renEntries ρ entries, ∀ st ∈ e.stmts, stmtOK (toSStmt st) = true := by
  intro e' he' st' hst'
  obtain ⟨e, he, rfl⟩ := List.mem_map.1 he'
  obtain ⟨st, hs, rfl⟩ := List.mem_map.1 hst'
  rw [toSStmt_ren hρ st (hst e he st hs)]
  exact stmtOK_ren hρ _ (hst e he st hs)

theorem treeShape_ren (entries : List Entry) : treeShape (renEntries ρ entries) = treeShape entries := by
  unfold treeShape renEntries
  rw [ScanSim.relsNodup_map _ fun d e => rel_beq_ren hρ d.rel e.rel]
  simp only [List.all_map, List.any_map, Function.comp_def, renEntry, List.isEmpty_map, List.length_map,
    ← List.map_dropLast, rel_beq_ren hρ]

theorem mpOK_ren (entries : List Entry) (mp : List Str) :
    mpOK (renEntries ρ entries) (mp.map (renFile ρ)) = mpOK entries mp := by
  unfold mpOK renEntries
  simp only [List.any_map, Function.comp_def, renEntry, List.isEmpty_map,
    rel_beq_ren hρ]

theorem relevant_ren {excl excl' : Str → Bool} {base base' : Str} (mp : List Str) {entries : List Entry}
    (hx : ExclTransported ρ excl excl' base base' entries) (e : Entry) (he : e ∈ entries) :
    relevant excl' base' (mp.map (renFile ρ)) (renEntry ρ e) = relevant excl base mp e := by
  have hk : ∀ k, excl' (pathStr base' ((e.rel.take k).map (renFile ρ))) = excl (pathStr base (e.rel.take k)) :=
    fun k => hx _ (Or.inr ⟨e, he, List.take_prefix k e.rel⟩)
  simp only [relevant, renEntry, List.length_map, Ren.isPrefixOf_map _ (renFile_inj hρ), ← List.map_take, hk]

theorem treeNamesFor_ren {excl excl' : Str → Bool} {base base' : Str} {mp : List Str} {entries : List Entry}
    (hx : ExclTransported ρ excl excl' base base' entries)
    (h : treeNamesFor excl base mp entries = true) :
    treeNamesFor excl' base' (mp.map (renFile ρ)) (renEntries ρ entries) = true := by
  rw [ScanNames.treeNamesFor_iff] at h ⊢
  intro e' he' hr
  obtain ⟨e, he, rfl⟩ := List.mem_map.1 he'
  rw [relevant_ren hρ mp hx e he] at hr
  obtain ⟨hdir, hfile⟩ := h e he hr
  rw [lastName_renEntry, isPyFile_renFile hρ, dropSuffix_renFile hρ]
  refine ⟨fun d => ?_, fun d hp => ?_⟩
  · rw [renFile_compWF _ (hdir d)]
    exact hρ.wf _ (hdir d)
  · obtain ⟨hs, hno⟩ := hfile d hp
    -- the stem is well-formed, so the sibling path with the renamed stem is the renamed sibling path
    have e1 : (renEntry ρ e).rel.dropLast ++ [ρ (dropSuffix (lastName e))] =
        (e.rel.dropLast ++ [dropSuffix (lastName e)]).map (renFile ρ) := by
      rw [List.map_append, List.map_dropLast, List.map_cons, List.map_nil, renFile_compWF _ hs]
      rfl
    rw [renStem_compWF _ hs, e1, ← hno]
    unfold renEntries
    rw [List.any_map]
    simp only [Function.comp_def, renEntry, rel_beq_ren hρ]
    exact ⟨hρ.wf _ hs, trivial⟩

theorem treeWFFor_ren {excl excl' : Str → Bool} {base base' : Str} {mp : List Str} {entries : List Entry}
    (hx : ExclTransported ρ excl excl' base base' entries)
    (h : treeWFFor excl base mp entries = true) :
    treeWFFor excl' base' (mp.map (renFile ρ)) (renEntries ρ entries) = true := by
  simp only [treeWFFor, Bool.and_eq_true] at h ⊢
  exact ⟨by rw [treeShape_ren hρ]; exact h.1, treeNamesFor_ren hρ hx h.2⟩

omit hρ in
theorem exclTransported_of_check (excl excl' : Str → Bool) (base base' : Str) (entries : List Entry)
    (h : exclTransportedB ρ excl excl' base base' entries = true) : ExclTransported ρ excl excl' base base' entries := by
  simp only [exclTransportedB, Bool.and_eq_true, beq_iff_eq, List.all_eq_true, List.mem_range] at h
  rintro q (rfl | ⟨e, he, hq⟩)
  · exact h.1
  · have := h.2 e he q.length (Nat.lt_succ_of_le hq.length_le)
    rw [List.prefix_iff_eq_take.1 hq]
    exact this

end model

theorem renDotted_render {ρ : Comp → Comp} (n : Name) (h : nameWF n = true) : renDotted ρ (render n) = render (renName ρ n) := by
  simp only [renDotted, splitDots_render n h]

section scan
variable {mt mt' : Str → Str → Bool} {base base' root : Str} {mp : List Str} {entries : List Entry} {o : ScanOptions}
  {ps' : Patterns} {ρ : Comp → Comp} (hρ : GoodRen ρ)
  (hwf : treeWFFor (isExcluded mt o.exclusions) base mp entries = true) (hmp : mpOK entries mp = true)
  (hroot : compWF root = true)
  (hst : ∀ e ∈ entries, ∀ st ∈ e.stmts, stmtOK (toSStmt st) = true)
  (hx : ExclTransported ρ (isExcluded mt o.exclusions) (isExcluded mt' ps') base base' entries)

include hwf hmp hroot in
theorem rootmp_wf : nameWF (root :: mp) = true :=
  ScanSpec.mp_wf (ScanNames.tree_facts hwf).2.1 (ScanNames.tree_facts hwf).2.2 hmp (ScanNames.Rel.self _ _ _) root hroot

include hρ hwf hmp hroot hst hx

theorem scanImports_tree_ren :
    scanImports (ρ root) (toSEntries (isExcluded mt' ps') base' (renEntries ρ entries)) (mp.map (renFile ρ)) =
      (scanImports root (toSEntries (isExcluded mt o.exclusions) base entries) mp).map (List.map (Ren.renPair ρ)) := by
  rw [toSEntries_ren hρ hx hst]
  exact scanImports_ren hρ root _ mp (ScanSpec.own_wf hwf hroot)
    (rootmp_wf hwf hmp hroot)

end scan

section ast
variable (ρ : Comp → Comp)

theorem stmt?_ren (n : AstNode) : (renAstNode ρ n).stmt? = n.stmt?.map (renStmt ρ) := by
  unfold AstNode.stmt? renAstNode
  cases n.kind <;> rfl

theorem astChildren_ren (nodes : List AstNode) (p : List Nat) :
    astChildren (nodes.map (renAstNode ρ)) p = (astChildren nodes p).map (renAstNode ρ) := by
  unfold astChildren
  rw [List.filter_map]
  rfl

theorem walkLoop_ren (follow : AstNode → Bool) (hf : ∀ n, follow (renAstNode ρ n) = follow n) (nodes : List AstNode) :
    ∀ (fuel : Nat) (work : List AstNode) (acc : List ImportStmt),
      walkLoop follow (nodes.map (renAstNode ρ)) fuel (work.map (renAstNode ρ)) (acc.map (renStmt ρ)) =
        (walkLoop follow nodes fuel work acc).map (renStmt ρ)
  | 0, _, _ => rfl
  | _ + 1, [], _ => rfl
  | fuel + 1, n :: rest, acc => by
    simp only [List.map_cons, walkLoop, stmt?_ren]
    cases n.stmt? with
    | some st =>
      simpa only [Option.map_some, List.map_append, List.map_cons, List.map_nil] using
        walkLoop_ren follow hf nodes fuel rest (acc ++ [st])
    | none =>
      simp only [Option.map_none]
      rw [show (renAstNode ρ n).path = n.path from rfl, astChildren_ren, List.filter_map,
        show follow ∘ renAstNode ρ = follow from funext hf, ← List.map_reverse, ← List.map_append]
      exact walkLoop_ren follow hf nodes fuel _ acc

theorem collectImports_ren (nodes : List AstNode) :
    collectImports (nodes.map (renAstNode ρ)) = (collectImports nodes).map (renStmt ρ) := by
  unfold collectImports astRoots
  rw [List.length_map, List.filter_map]
  exact walkLoop_ren ρ _ (fun _ => rfl) nodes _ _ []

end ast

end Pta.RS
