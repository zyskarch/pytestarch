/-
  PtaProofs.Lemmas.DiagramItems — the REPORT of a rule (not only its pass/fail class, Lemmas/OrderCongr.lean) depends
  on the subject / object lists only as sets: the `imports` items are the same set, the `does not import` items are
  the same up to the order in which the objects are listed (`ItemPerm`, hence `Item.sim`). Namespace `Pta.Itm`.
  The buckets agree as sets (`VioRel`, `Ord.violations_rel`); here: what that means for the report items.
-/
import Bridge.Abs
import Bridge.DiagramE2E
import PtaProofs.Lemmas.OrderCongr
namespace Pta.Itm
open Pta.Ord Pta.OrdS

theorem LRel.symm_of {α : Type} {R : α → α → Prop} (hR : ∀ a b, R a b → R b a) {l l' : List α}
    (h : LRel R l l') : LRel R l' l := by
  refine ⟨fun y hy => ?_, fun y hy => ?_⟩
  · obtain ⟨x, hx, r⟩ := h.2 y hy; exact ⟨x, hx, hR _ _ r⟩
  · obtain ⟨x, hx, r⟩ := h.1 y hy; exact ⟨x, hx, hR _ _ r⟩

/-- `Item.sim` (Bridge/DiagramE2E.lean) as a proposition: the same report line, a `does not import` line listing the
    same SET of objects; `sameItems` compares two reports by it (`E2E.sameItems_iff`) -/
def ItemSim (i i' : Item) : Prop := i.sim i' = true

theorem ItemSim.refl (i : Item) : ItemSim i i := by
  cases i <;> simp [ItemSim, Item.sim]

theorem ItemSim.symm (i i' : Item) (h : ItemSim i i') : ItemSim i' i := by
  cases i <;> cases i' <;>
    simp only [ItemSim, Item.sim, Bool.and_eq_true, beq_iff_eq, Bool.false_eq_true] at h ⊢
  · obtain ⟨⟨h1, h2⟩, h3⟩ := h
    exact ⟨⟨h1.symm, h2.symm⟩, h3.symm⟩
  · obtain ⟨⟨⟨⟨h1, h2⟩, h3⟩, h4⟩, h5⟩ := h
    exact ⟨⟨⟨⟨h1.symm, h2.symm⟩, h3.symm⟩, h5⟩, h4⟩

/-- the same item, up to the order in which a `does not import` item lists its objects: what two runs on inputs with
    the same members agree on; `Item.sim` and the renderer both forget that order -/
inductive ItemPerm : Item → Item → Prop
  | refl (i : Item) : ItemPerm i i
  | miss (n : Bool) (s : Mod) {os os' : List Mod} (d : Bool) : os.Perm os' → ItemPerm (.miss n s os d) (.miss n s os' d)

theorem ItemPerm.sim {i i' : Item} (h : ItemPerm i i') : ItemSim i i' := by
  cases h with
  | refl => exact ItemSim.refl _
  | miss n s d hp =>
    simp only [ItemSim, Item.sim, beq_self_eq_true, Bool.true_and, Bool.and_eq_true, List.all_eq_true,
      List.contains_iff_mem]
    exact ⟨fun x hx => hp.mem_iff.1 hx, fun x hx => hp.mem_iff.2 hx⟩

theorem impItems_perm (ir : Bool) {ds ds' : List Dep} (h : SM ds ds') : LRel ItemPerm (impItems ir ds) (impItems ir ds') :=
  (LRel.of_SM (h.map _)).mono fun _ _ e => e ▸ .refl _

theorem missItems_perm (n ir : Bool) {ds ds' : List Dep} (h : SM ds ds') :
    LRel ItemPerm (missItems n ir ds) (missItems n ir ds') :=
  (LRel.of_SM (h.map _).dedup).map _ _ fun _ _ e => e ▸ .miss _ _ _ (dedup_perm_of_sm ((SM.filter h _).map _))

theorem reportItems_perm (ir : Bool) {v v' : Violations} (h : VioRel v v') :
    LRel ItemPerm (reportItems ir v) (reportItems ir v') :=
  LRel.append (LRel.append (LRel.append (LRel.append (LRel.append (LRel.append (LRel.append
    (missItems_perm _ _ h.h1) (impItems_perm _ h.h2)) (missItems_perm _ _ h.h3))
    (impItems_perm _ h.h4)) (missItems_perm _ _ h.h5)) (impItems_perm _ h.h6))
    (missItems_perm _ _ h.h7)) (impItems_perm _ h.h8)

theorem reportItems_rel (ir : Bool) (v v' : Violations) (h : VioRel v v') :
    LRel ItemSim (reportItems ir v) (reportItems ir v') :=
  (reportItems_perm ir h).mono fun _ _ => ItemPerm.sim

/-- the outcomes of one rule on two inputs with the same members (subject / object lists equal as sets): the same
    constructor, the same error kind, and reports in which every item has an `ItemSim` partner in the other (`LRel`);
    what `mkRule_vrel` concludes and `E2E.applyAll_sim` aggregates -/
def VRel : Verdict → Verdict → Prop
  | .pass, .pass => True
  | .fail its, .fail its' => LRel ItemSim its its'
  | .err k, .err k' => k = k'
  | _, _ => False

theorem VRel.cls_eq {v v' : Verdict} (h : VRel v v') : v.cls = v'.cls := by
  cases v <;> cases v' <;> simp_all [VRel, Verdict.cls]

theorem VRel.isFail_eq {v v' : Verdict} (h : VRel v v') : v.isFail = v'.isFail := by
  cases v <;> cases v' <;> simp_all [VRel, Verdict.isFail]

theorem VRel.err_left {k : ErrKind} {v' : Verdict} (h : VRel (.err k) v') : v' = .err k := by
  cases v' <;> simp_all [VRel]

theorem VRel.items {v v' : Verdict} (h : VRel v v') : LRel ItemSim v.items v'.items := by
  cases v <;> cases v' <;> simp_all [VRel, Verdict.items, LRel]

theorem VRel.symm {v v' : Verdict} (h : VRel v v') : VRel v' v := by
  cases v <;> cases v' <;> simp_all [VRel]
  exact LRel.symm_of ItemSim.symm h

theorem VRel.ofRes {r r' : Except ErrKind (Option (List Item))} (h : ERel (ORel (LRel ItemSim)) r r') :
    VRel (.ofRes r) (.ofRes r') := by
  rcases r with _ | _ | _ <;> rcases r' with _ | _ | _ <;> exact h

theorem mkRule_vrel (mt : Str → Str → Bool) (g : PGraph Str) (s o n dir exc : Bool)
    (subs subs' objs objs' : List Filter) (hs : SM subs subs') (ho : SM objs objs') :
    VRel (assertApplies mt (mkRule s o n dir exc subs objs) g).2
      (assertApplies mt (mkRule s o n dir exc subs' objs') g).2 := by
  rw [assertApplies_front, assertApplies_front]
  exact VRel.ofRes (module_rel reportItems reportItems_rel
    (OrdR.front_rel mt (graphEquiv_refl g) ⟨hs, ho, SM.refl _, rfl, rfl, rfl, rfl, rfl, rfl⟩))

end Pta.Itm
