/-
  PtaProofs.Lemmas.PumlRoundtrip — composition of the line level (PumlLine), the text level (PumlBody) and the
  aggregation (PumlAgg) into the round-trip theorem of property C06.
-/
import PtaProofs.Lemmas.PumlLine
import PtaProofs.Lemmas.PumlBody
import PtaProofs.Lemmas.PumlAgg
import Bridge.OrderDefs
import PtaProofs.Lemmas.SameMembers
namespace Pta

/-- line-local well-formedness (what L1 needs) -/
def DLine.localOK : DLine → Prop
  | .decl f n al => NameLike n ∧ ∀ a, al = some a → NameLike a ∧ f ≠ .compBare
  | .arrow f a b => f.textOK = true ∧ NameLike a.written ∧ NameLike b.written

/-- the declarations the recogniser finds in a line -/
def DLine.mods : DLine → List PModule
  | .decl _ n al => [⟨n, al⟩]
  | .arrow f a b => (lastRef f a b).inlineModule

/-- the arrow the recogniser finds in a line, as written -/
def DLine.raw : DLine → Option (Str × Str)
  | .decl _ _ _ => none
  | .arrow _ a b => some (a.written, b.written)

theorem lineModules_render (l : DLine) (h : l.localOK) : lineModules l.render = l.mods := by
  cases l with
  | decl f n al => exact lineModules_decl_lemma f n al h.1 h.2
  | arrow f a b =>
    obtain ⟨ht, ha, hb⟩ := h
    exact lineModules_arrow_lemma f a b ht ha hb

theorem lineDependency_render (l : DLine) (h : l.localOK) : lineDependency l.render = l.raw := by
  cases l with
  | decl f n al => exact lineDependency_decl_lemma f n al h.1
  | arrow f a b =>
    obtain ⟨ht, ha, hb⟩ := h
    exact lineDependency_arrow_lemma f a b ht ha hb

theorem lines_render (d : List DLine) (h : ∀ l ∈ d, l.localOK) :
    (d.map DLine.render).flatMap lineModules = d.flatMap DLine.mods ∧
    (d.map DLine.render).filterMap lineDependency = d.filterMap DLine.raw := by
  induction d with
  | nil => exact ⟨rfl, rfl⟩
  | cons l d ih =>
    obtain ⟨h1, h2⟩ := ih fun l hl => h l (by simp [hl])
    simp only [List.map_cons, List.flatMap_cons, List.filterMap_cons, lineModules_render l (h l (by simp)),
      lineDependency_render l (h l (by simp)), h1, h2, and_self]

def lineChar (c : Char) : Bool :=
  isNameChar c || c == ' ' || c == '[' || c == ']' || c == '-' || c == '<' || c == '>'

theorem NameLike.lineChars {s : Str} (h : NameLike s) : s.all lineChar = true :=
  List.all_eq_true.2 fun c hc => by simp [lineChar, h.2 c hc]

theorem lineChars_ref (r : DRef) (h : NameLike r.written) : r.render.all lineChar = true := by
  cases r <;> simp only [DRef.render, DRef.written] at h ⊢
  · exact h.lineChars
  · simp [h.lineChars, lineChar]
  · exact h.lineChars

theorem lineChars_token (f : ArrowForm) (h : f.textOK = true) : f.token.all lineChar = true := by
  cases f with
  | rt t => simp [ArrowForm.token, (nameOK_nameLike (wordOK_nameOK h)).lineChars, lineChar]
  | lt t => simp [ArrowForm.token, (nameOK_nameLike (wordOK_nameOK h)).lineChars, lineChar]
  | _ => decide

theorem lineChars_render (l : DLine) (h : l.localOK) : l.render.all lineChar = true := by
  cases l with
  | decl f n al =>
    have hk : kwComponent.all lineChar = true ∧ kwAs.all lineChar = true := by decide
    have hA : (renderAlias al).all lineChar = true := by
      cases al with
      | none => rfl
      | some a => simp [renderAlias, hk.2, (h.2 a rfl).1.lineChars]
    cases f <;> simp [DLine.render, renderDecl, hk.1, hA, h.1.lineChars, lineChar]
  | arrow f a b =>
    simp only [DLine.render, renderArrow]
    split <;> simp [lineChars_ref a h.2.1, lineChars_ref b h.2.2, lineChars_token f h.1, lineChar]

theorem not_mem_render (l : DLine) (h : l.localOK) (c : Char) (hc : lineChar c = false) : c ∉ l.render := by
  intro hm
  rw [List.all_eq_true.1 (lineChars_render l h) c hm] at hc; cases hc

theorem dline_render_ne_nil (l : DLine) (h : l.localOK) : l.render ≠ [] := by
  cases l with
  | decl f n al => cases f <;> simp [DLine.render, renderDecl, kwComponent]
  | arrow f a b =>
    cases hf : f.isRight with
    | true => rw [DLine.render, renderArrow_right f a b hf]; simp
    | false => rw [DLine.render, renderArrow_left f a b hf]; simp

theorem pyWs_at : pyWs '@' = false := by decide
theorem pyWs_l : pyWs 'l' = false := by decide
theorem lineModules_nil : lineModules [] = [] := by decide
theorem lineDependency_nil : lineDependency [] = none := by decide

/-! ### a file given by its raw lines (`linesText`) -/

namespace OrdD

/-- `Pta.pumlParse_eq` read with `Except.bind` and the check-then-aggregate step `pumlUnify` -/
theorem pumlParse_eq (content : Str) :
    pumlParse content = (pumlBody (pyStrip content)).bind fun body =>
      pumlUnify ((splitLines body).flatMap lineModules) ((splitLines body).filterMap lineDependency) := by
  rw [Pta.pumlParse_eq]
  cases pumlBody (pyStrip content) <;> rfl

end OrdD

namespace OrdT

/-- the body between the tags -/
def linesBody (lines : List Str) : Str := '\n' :: (joinWith ['\n'] lines ++ ['\n'])

theorem linesText_shape (n1 n2 : Str) (lines : List Str) :
    linesText n1 lines n2 =
      n1 ++ '@' :: ((['s','t','a','r','t','u','m','l'] ++ linesBody lines ++ ['@','e','n','d','u','m']) ++ 'l' :: n2) := by
  have h1 : "@startuml".toList = ['@','s','t','a','r','t','u','m','l'] := by decide
  have h2 : "@enduml".toList = ['@','e','n','d','u','m','l'] := by decide
  simp [linesText, linesBody, h1, h2]

theorem stripped_shape (x n2 : Str) (lines : List Str) :
    x ++ '@' :: ((['s','t','a','r','t','u','m','l'] ++ linesBody lines ++ ['@','e','n','d','u','m']) ++ 'l' :: n2) =
      x ++ (tagStart ++ (linesBody lines ++ (tagEnd ++ n2))) := by
  simp [tagStart, tagEnd]

theorem at_not_mem_body (lines : List Str) (hl : ∀ l ∈ lines, '@' ∉ l) : '@' ∉ linesBody lines := by
  intro h
  simp only [linesBody, List.mem_cons, List.mem_append, List.not_mem_nil, or_false] at h
  rcases h with h | h | h
  · revert h; decide
  · rcases mem_joinWith _ _ _ h with h | ⟨l, hl', hc⟩
    · revert h; decide
    · exact hl l hl' hc
  · revert h; decide

theorem pumlBody_linesText (n1 n2 : Str) (lines : List Str) (hl : ∀ l ∈ lines, '@' ∉ l)
    (hn : isInfix "@enduml".toList n2 = false) :
    pumlBody (pyStrip (linesText n1 lines n2)) = .ok (linesBody lines) := by
  rw [tag_end_eq] at hn
  rw [linesText_shape, pyStrip_block n1 '@' _ 'l' n2 pyWs_at pyWs_l, stripped_shape]
  refine pumlBody_block _ _ _ (at_not_mem_body lines hl) ?_ (by simp [linesBody])
  exact isInfix_false_of_infix hn (rstrip_prefix n2).isInfix

theorem splitLines_linesBody (lines : List Str) (hl : ∀ l ∈ lines, '\n' ∉ l) :
    splitLines (linesBody lines) = [] :: ((if lines = [] then [[]] else lines) ++ [[]]) := by
  have h1 : linesBody lines = [] ++ '\n' :: (joinWith ['\n'] lines ++ ['\n']) := rfl
  rw [h1, splitLines_line [] _ (by simp), splitLines_join lines hl]

/-- what the file parses to: check + aggregation of the per-line results of its lines -/
theorem parse_linesText (n1 n2 : Str) (lines : List Str) (hl : ∀ l ∈ lines, '\n' ∉ l ∧ '@' ∉ l)
    (hn : isInfix "@enduml".toList n2 = false) :
    pumlParse (linesText n1 lines n2) = pumlUnify (lines.flatMap lineModules) (lines.filterMap lineDependency) := by
  rw [OrdD.pumlParse_eq, pumlBody_linesText n1 n2 lines (fun l h => (hl l h).2) hn]
  show pumlUnify _ _ = _
  rw [splitLines_linesBody lines (fun l h => (hl l h).1)]
  by_cases h : lines = []
  · subst h; rfl
  · rw [if_neg h]
    simp [lineModules_nil, lineDependency_nil]

end OrdT

/-! ### a rendered diagram is the file whose raw lines are the rendered lines -/

/-- the body between the tags, as `pumlBody` returns it -/
def diagramBody (d : List DLine) : Str := '\n' :: (joinWith ['\n'] (d.map DLine.render) ++ ['\n'])

theorem diagramText_eq_linesText (n1 n2 : Str) (d : List DLine) :
    diagramText n1 d n2 = linesText n1 (d.map DLine.render) n2 := by
  rw [linesText, tag_start_eq, tag_end_eq]
  rfl

theorem render_clean (d : List DLine) (hd : ∀ l ∈ d, l.localOK) (c : Char) (hc : lineChar c = false) :
    ∀ l ∈ d.map DLine.render, c ∉ l := by
  intro l hl
  obtain ⟨dl, hdl, rfl⟩ := List.mem_map.1 hl
  exact not_mem_render dl (hd dl hdl) c hc

theorem pumlBody_diagramText (n1 n2 : Str) (d : List DLine) (hd : ∀ l ∈ d, l.localOK)
    (hn : isInfix "@enduml".toList n2 = false) :
    pumlBody (pyStrip (diagramText n1 d n2)) = .ok (diagramBody d) := by
  rw [diagramText_eq_linesText]
  exact OrdT.pumlBody_linesText n1 n2 _ (render_clean d hd '@' (by decide)) hn

theorem splitLines_diagramBody (d : List DLine) (hd : ∀ l ∈ d, l.localOK) :
    splitLines (diagramBody d) =
      [] :: ((if d.map DLine.render = [] then [[]] else d.map DLine.render) ++ [[]]) :=
  OrdT.splitLines_linesBody _ (render_clean d hd '\n' (by decide))

theorem inlineModule_alias (r : DRef) :
    r.inlineModule.filterMap (fun m => m.alias.map fun a => (a, m.name)) = [] := by
  cases r <;> simp [DRef.inlineModule]

theorem aliasTable_mods (d : List DLine) :
    (d.flatMap DLine.mods).filterMap (fun m => m.alias.map fun a => (a, m.name)) = aliasTable d := by
  induction d with
  | nil => rfl
  | cons l d ih =>
    rw [List.flatMap_cons, List.filterMap_append, ih]
    rcases l with ⟨f, n, _ | a⟩ | ⟨f, a, b⟩ <;> simp [aliasTable, DLine.mods, inlineModule_alias]

theorem mem_aliasTable (d : List DLine) (a n : Str) :
    (a, n) ∈ aliasTable d ↔ ∃ f, DLine.decl f n (some a) ∈ d := by
  simp only [aliasTable, List.mem_filterMap]
  constructor
  · rintro ⟨⟨f, n', _ | a'⟩ | ⟨f, a', b'⟩, hl, h⟩ <;> simp only [Option.some.injEq, Prod.mk.injEq, reduceCtorEq] at h
    obtain ⟨rfl, rfl⟩ := h
    exact ⟨f, hl⟩
  · rintro ⟨f, hl⟩
    exact ⟨_, hl, rfl⟩

theorem diagramWF_iff (d : List DLine) :
    diagramWF d = true ↔ (∀ l ∈ d, l.ok (aliasTable d) = true) ∧ (∀ p ∈ aliasTable d, p.1 ∉ writtenNames d) ∧
      functionalTbl (aliasTable d) = true := by
  simp [diagramWF, and_assoc]

theorem mem_writtenNames_decl (d : List DLine) (f : DeclForm) (n : Str) (al : Option Str)
    (h : DLine.decl f n al ∈ d) : n ∈ writtenNames d := by
  simp only [writtenNames, List.mem_flatMap]
  exact ⟨_, h, by simp⟩

theorem mem_writtenNames_arrow (d : List DLine) (f : ArrowForm) (a b : DRef) (n : Str)
    (h : DLine.arrow f a b ∈ d) (hn : n ∈ a.names ∨ n ∈ b.names) : n ∈ writtenNames d := by
  simp only [writtenNames, List.mem_flatMap]
  exact ⟨_, h, by simpa using hn⟩

/-- local well-formedness needs only the per-line conditions, not functionality of the alias table -/
theorem localOK_of_ok (d : List DLine) (hok : ∀ l ∈ d, l.ok (aliasTable d) = true) : ∀ l ∈ d, l.localOK := by
  have hal : ∀ a n, (a, n) ∈ aliasTable d → NameLike a := by
    intro a n h
    obtain ⟨f, hf⟩ := (mem_aliasTable d a n).1 h
    have := hok _ hf
    simp only [DLine.ok, Bool.and_eq_true] at this
    exact nameOK_nameLike (wordOK_nameOK this.2.1)
  have href : ∀ r : DRef, r.ok (aliasTable d) = true → NameLike r.written := by
    intro r h
    cases r with
    | bare n | bracketed n => exact nameOK_nameLike h
    | viaAlias a =>
      simp only [DRef.ok, List.any_eq_true, beq_iff_eq] at h
      obtain ⟨p, hp, rfl⟩ := h
      exact hal p.1 p.2 hp
  intro l hl
  have h := hok l hl
  cases l with
  | decl f n al =>
    simp only [DLine.ok, Bool.and_eq_true] at h
    refine ⟨nameOK_nameLike h.1, ?_⟩
    rintro a rfl
    simp only [Bool.and_eq_true, bne_iff_ne, ne_eq] at h
    exact ⟨nameOK_nameLike (wordOK_nameOK h.2.1), h.2.2⟩
  | arrow f a b =>
    simp only [DLine.ok, Bool.and_eq_true] at h
    exact ⟨h.1.1, href a h.1.2, href b h.2⟩

/-- `diagramWF d` (Bridge/PumlRender.lean) as propositions (`WF.of`): every line is fine against the alias table of the
    WHOLE diagram, no alias is also written as a name, and every alias stands for one component (the table is functional) -/
structure WF (d : List DLine) : Prop where
  ok : ∀ l ∈ d, l.ok (aliasTable d) = true
  fresh : ∀ p ∈ aliasTable d, p.1 ∉ writtenNames d
  functional : functionalTbl (aliasTable d) = true

theorem WF.of (d : List DLine) (h : diagramWF d = true) : WF d :=
  let ⟨h1, h2, h3⟩ := (diagramWF_iff d).1 h
  ⟨h1, h2, h3⟩

theorem WF.localOK {d : List DLine} (w : WF d) : ∀ l ∈ d, l.localOK := localOK_of_ok d w.ok

theorem WF.unify_ref {d : List DLine} (w : WF d) (r : DRef) (h : r.ok (aliasTable d) = true)
    (hn : ∀ n ∈ r.names, n ∈ writtenNames d) :
    unifyWith (aliasTable d) r.written = r.resolve (aliasTable d) := by
  cases r with
  | bare n | bracketed n =>
    refine unifyWith_miss _ _ ?_
    intro p hp hpn
    exact w.fresh p hp (by rw [hpn]; exact hn n (by simp [DRef.names]))
  | viaAlias a =>
    simp only [DRef.ok, List.any_eq_true, beq_iff_eq] at h
    obtain ⟨p, hp, rfl⟩ := h
    simp only [DRef.written, DRef.resolve]
    rw [unifyWith_hit _ w.functional p.1 p.2 hp, resolveStr_hit _ w.functional p.1 p.2 hp]

theorem WF.unify_arrow {d : List DLine} (w : WF d) (f : ArrowForm) (a b : DRef) (h : DLine.arrow f a b ∈ d) :
    unifyWith (aliasTable d) a.written = a.resolve (aliasTable d) ∧
    unifyWith (aliasTable d) b.written = b.resolve (aliasTable d) := by
  have hok := w.ok _ h
  simp only [DLine.ok, Bool.and_eq_true] at hok
  exact ⟨w.unify_ref a hok.1.2 (fun n hn => mem_writtenNames_arrow d f a b n h (.inl hn)),
    w.unify_ref b hok.2 (fun n hn => mem_writtenNames_arrow d f a b n h (.inr hn))⟩

theorem inlineModule_name (r : DRef) (tbl : List (Str × Str)) (m : PModule) (h : m ∈ r.inlineModule) :
    m.name = r.resolve tbl := by
  cases r <;> simp only [DRef.inlineModule, List.mem_singleton, List.not_mem_nil] at h
  rw [h]; rfl

/-- the components one line contributes to `diagramComponents` -/
def DLine.comps (tbl : List (Str × Str)) : DLine → List Str
  | .decl _ n _ => [n]
  | .arrow _ a b => [a.resolve tbl, b.resolve tbl]

theorem WF.mem_comps {d : List DLine} (w : WF d) (l : DLine) (hl : l ∈ d) (x : Str) :
    x ∈ l.comps (aliasTable d) ↔ (∃ m ∈ l.mods, m.name = x) ∨
      ∃ e, l.raw = some e ∧ (x = unifyWith (aliasTable d) e.1 ∨ x = unifyWith (aliasTable d) e.2) := by
  cases l with
  | decl f n al => simp [DLine.comps, DLine.mods, DLine.raw, eq_comm]
  | arrow f a b =>
    obtain ⟨ha, hb⟩ := w.unify_arrow f a b hl
    simp only [DLine.comps, DLine.mods, DLine.raw, Option.some.injEq, exists_eq_left', ha, hb, List.mem_cons,
      List.not_mem_nil, or_false]
    refine (or_iff_right_of_imp ?_).symm
    -- a bracketed last reference is one of the two ends
    rintro ⟨m, hm, rfl⟩
    rw [inlineModule_name _ (aliasTable d) m hm, lastRef]
    split
    · exact .inr rfl
    · exact .inl rfl

/-- the alias check of the repaired parser passes on diagrams whose alias table is functional -/
theorem aliasesConsistent_mods (d : List DLine) (hf : functionalTbl (aliasTable d) = true) :
    aliasesConsistent (d.flatMap DLine.mods) = true := by
  rw [aliasesConsistent_eq_functionalTbl, aliasTable_mods]; exact hf

/-- L1 + L2: parsing a rendered diagram is the alias check followed by aggregating its per-line contributions -/
theorem pumlParse_diagramText_gen (n1 n2 : Str) (d : List DLine) (hd : ∀ l ∈ d, l.localOK)
    (hn : isInfix "@enduml".toList n2 = false) :
    pumlParse (diagramText n1 d n2) =
      if aliasesConsistent (d.flatMap DLine.mods) = true then
        .ok (pumlAgg (d.flatMap DLine.mods) (d.filterMap DLine.raw))
      else .error .pumlParsingError := by
  rw [diagramText_eq_linesText, OrdT.parse_linesText n1 n2 _
    (fun l hl => ⟨render_clean d hd '\n' (by decide) l hl, render_clean d hd '@' (by decide) l hl⟩)
    hn, (lines_render d hd).1, (lines_render d hd).2]
  rfl

theorem roundtrip_lemma (n1 n2 : Str) (d : List DLine) (hwf : diagramWF d = true)
    (hn : isInfix "@enduml".toList n2 = false) :
    ∃ p, pumlParse (diagramText n1 d n2) = .ok p ∧
      p.modules.Nodup ∧ (∀ x, x ∈ p.modules ↔ x ∈ diagramComponents d) ∧
      (∀ x y, y ∈ p.depsOf x ↔ (x, y) ∈ diagramArrows d) ∧
      DictOK p.dependencies := by
  have w := WF.of d hwf
  have hp : pumlParse (diagramText n1 d n2) = .ok (pumlAgg (d.flatMap DLine.mods) (d.filterMap DLine.raw)) := by
    rw [pumlParse_diagramText_gen n1 n2 d w.localOK hn, if_pos (aliasesConsistent_mods d w.functional)]
  have hspec := pumlAgg_spec (d.flatMap DLine.mods) (d.filterMap DLine.raw)
  simp only [aliasTable_mods] at hspec
  obtain ⟨hok, hnodup, hdeps, hmods⟩ := hspec
  refine ⟨_, hp, hnodup, fun x => ?_, fun x y => ?_, hok⟩
  · rw [hmods]
    show _ ↔ x ∈ d.flatMap (DLine.comps (aliasTable d))
    simp only [List.mem_flatMap, List.mem_filterMap]
    constructor
    · rintro (⟨m, ⟨l, hl, hm⟩, rfl⟩ | ⟨wa, wb, ⟨l, hl, hr⟩, h⟩)
      · exact ⟨l, hl, (w.mem_comps l hl _).2 (.inl ⟨m, hm, rfl⟩)⟩
      · exact ⟨l, hl, (w.mem_comps l hl _).2 (.inr ⟨_, hr, h⟩)⟩
    · rintro ⟨l, hl, hx⟩
      rcases (w.mem_comps l hl _).1 hx with ⟨m, hm, rfl⟩ | ⟨e, he, h⟩
      · exact .inl ⟨m, ⟨l, hl, hm⟩, rfl⟩
      · exact .inr ⟨e.1, e.2, ⟨l, hl, he⟩, h⟩
  · rw [hdeps]
    simp only [diagramArrows, List.mem_filterMap]
    constructor
    · rintro ⟨wa, wb, ⟨l, hl, hr⟩, rfl, rfl⟩
      rcases l with _ | ⟨f, a, b⟩
      · cases hr
      · obtain ⟨ha, hb⟩ := w.unify_arrow f a b hl
        cases hr
        exact ⟨_, hl, by rw [ha, hb]⟩
    · rintro ⟨l, hl, h⟩
      rcases l with _ | ⟨f, a, b⟩
      · cases h
      · obtain ⟨ha, hb⟩ := w.unify_arrow f a b hl
        cases h
        exact ⟨_, _, ⟨_, hl, rfl⟩, ha.symm, hb.symm⟩

/-- evaluation of `pumlParse` on a concrete text without running the tag search in the kernel: the outcome `b` of
    the alias check decides between the aggregate and the rejection -/
theorem pumlParse_concrete (text x body n2 : Str) (b : Bool)
    (h1 : pyStrip text = x ++ (tagStart ++ (body ++ (tagEnd ++ n2))))
    (hb : isInfix tagStart (tagStart ++ body).tail = false) (hn : isInfix tagEnd n2 = false) (hne : body ≠ [])
    (hc : aliasesConsistent ((splitLines body).flatMap lineModules) = b) :
    pumlParse text =
      if b = true then
        .ok (pumlAgg ((splitLines body).flatMap lineModules) ((splitLines body).filterMap lineDependency))
      else .error .pumlParsingError := by
  rw [pumlParse_eq, h1, pumlBody_block_gen x body n2 hb hn hne]
  simp only [hc]

/-- same lines, in any order and multiplicity -/
def SameLines (d d' : List DLine) : Prop := ∀ l, l ∈ d ↔ l ∈ d'

theorem SameLines.mem_tbl {d d' : List DLine} (h : SameLines d d') (p : Str × Str) :
    p ∈ aliasTable d ↔ p ∈ aliasTable d' := Ord.SM.filterMap h _ p

theorem DRef.ok_congr (tbl tbl' : List (Str × Str)) (h : ∀ p, p ∈ tbl ↔ p ∈ tbl') (r : DRef) :
    r.ok tbl = r.ok tbl' := by
  cases r with
  | bare n | bracketed n => rfl
  | viaAlias a =>
    simp only [DRef.ok]
    rw [Bool.eq_iff_iff]
    simp only [List.any_eq_true, h]

theorem DLine.ok_congr (tbl tbl' : List (Str × Str)) (h : ∀ p, p ∈ tbl ↔ p ∈ tbl') (l : DLine) :
    l.ok tbl = l.ok tbl' := by
  cases l with
  | decl f n al => rfl
  | arrow f a b => simp only [DLine.ok, DRef.ok_congr tbl tbl' h]

theorem functionalTbl_congr (tbl tbl' : List (Str × Str)) (h : ∀ p, p ∈ tbl ↔ p ∈ tbl')
    (hf : functionalTbl tbl = true) : functionalTbl tbl' = true := by
  rw [functionalTbl_iff] at hf ⊢
  intro p hp q hq
  exact hf p ((h p).2 hp) q ((h q).2 hq)

theorem resolveStr_miss (tbl : List (Str × Str)) (x : Str) (h : ∀ p ∈ tbl, p.1 ≠ x) : resolveStr tbl x = x := by
  unfold resolveStr
  have : tbl.find? (·.1 == x) = none := by
    rw [List.find?_eq_none]
    intro p hp
    simpa using h p hp
  rw [this]

/-- a lookup that returns the listed value of a listed key and the key itself otherwise reads a functional table as a set
    (`resolveStr` and `unifyWith` are two such lookups) -/
theorem lookup_congr (L : List (Str × Str) → Str → Str)
    (hit : ∀ tbl, functionalTbl tbl = true → ∀ a n, (a, n) ∈ tbl → L tbl a = n)
    (miss : ∀ tbl x, (∀ p ∈ tbl, p.1 ≠ x) → L tbl x = x)
    (tbl tbl' : List (Str × Str)) (h : ∀ p, p ∈ tbl ↔ p ∈ tbl') (hf : functionalTbl tbl = true) (x : Str) :
    L tbl x = L tbl' x := by
  by_cases hx : ∃ p ∈ tbl, p.1 = x
  · obtain ⟨p, hp, rfl⟩ := hx
    rw [hit tbl hf p.1 p.2 hp, hit tbl' (functionalTbl_congr tbl tbl' h hf) p.1 p.2 ((h p).1 hp)]
  · rw [miss tbl x fun p hp hpx => hx ⟨p, hp, hpx⟩, miss tbl' x fun p hp hpx => hx ⟨p, (h p).2 hp, hpx⟩]

theorem resolveStr_congr (tbl tbl' : List (Str × Str)) (h : ∀ p, p ∈ tbl ↔ p ∈ tbl')
    (hf : functionalTbl tbl = true) (x : Str) : resolveStr tbl x = resolveStr tbl' x :=
  lookup_congr resolveStr resolveStr_hit resolveStr_miss tbl tbl' h hf x

theorem DRef.resolve_congr (tbl tbl' : List (Str × Str)) (h : ∀ p, p ∈ tbl ↔ p ∈ tbl')
    (hf : functionalTbl tbl = true) (r : DRef) : r.resolve tbl = r.resolve tbl' := by
  cases r with
  | bare n | bracketed n => rfl
  | viaAlias a => exact resolveStr_congr tbl tbl' h hf a

theorem SameLines.wf {d d' : List DLine} (h : SameLines d d') (hwf : diagramWF d = true) :
    diagramWF d' = true := by
  obtain ⟨h1, h2, h3⟩ := (diagramWF_iff d).1 hwf
  refine (diagramWF_iff d').2 ⟨?_, ?_, functionalTbl_congr _ _ h.mem_tbl h3⟩
  · intro l hl
    rw [← DLine.ok_congr _ _ h.mem_tbl l]
    exact h1 l ((h l).2 hl)
  · intro p hp hn
    exact h2 p ((h.mem_tbl p).2 hp) (((Ord.SM.map h _).flatten p.1).2 hn)

theorem SameLines.meaning {d d' : List DLine} (h : SameLines d d') (hwf : diagramWF d = true) :
    (∀ x, x ∈ diagramComponents d ↔ x ∈ diagramComponents d') ∧
    (∀ e, e ∈ diagramArrows d ↔ e ∈ diagramArrows d') := by
  have hr : ∀ r : DRef, r.resolve (aliasTable d') = r.resolve (aliasTable d) :=
    fun r => (DRef.resolve_congr _ _ h.mem_tbl ((diagramWF_iff d).1 hwf).2.2 r).symm
  simp only [diagramComponents, diagramArrows, hr]
  exact ⟨(Ord.SM.map h _).flatten, Ord.SM.filterMap h _⟩

end Pta

namespace Pta.E2E

/-- "same members", in a form evaluation can establish -/
theorem sm_of_check {α : Type} [DecidableEq α] (l l' : List α)
    (h : (l.all l'.contains && l'.all l.contains) = true) : ∀ x, x ∈ l ↔ x ∈ l' := by
  simp only [Bool.and_eq_true, List.all_eq_true, List.contains_iff_mem] at h
  exact fun x => ⟨h.1 x, h.2 x⟩

end Pta.E2E
