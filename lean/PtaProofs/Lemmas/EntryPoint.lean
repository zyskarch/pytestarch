/-
  PtaProofs.Lemmas.EntryPoint — the two entry points of pytestarch.py (PtaModel/Scan.lean: `dirname`, `parsePath`,
  `entryPaths`, `getEvaluableArchitecture`, `scanForModuleObjects`): `posixpath.dirname` on `dir/file`, the option
  checks and `str(path)` of the path entry point, and the module-object entry point as the path entry point on the two
  directories.
-/
import PtaModel
import PtaProofs.Lemmas.Str
namespace Pta.Entry

/-! ### `posixpath.dirname` -/

theorem dropWhile_ne_slash (l r : Str) (hl : ∀ c ∈ l, c ≠ '/') :
    (l ++ r).dropWhile (· != '/') = r.dropWhile (· != '/') :=
  List.dropWhile_append_of_pos fun c hc => by simpa using hl c hc

theorem dropWhile_ne_slash_reverse (d f : Str) (hf : '/' ∉ f) :
    ((d ++ '/' :: f).reverse.dropWhile (· != '/')) = '/' :: d.reverse := by
  rw [List.reverse_append, List.reverse_cons, List.append_assoc,
    dropWhile_ne_slash _ _ fun c hc e => hf (e ▸ List.mem_reverse.mp hc)]
  simp

theorem dirname_spec_lemma (d f : Str) (hd : d ≠ []) (hlast : d.getLast? ≠ some '/') (hf : '/' ∉ f) :
    dirname (d ++ '/' :: f) = d := by
  obtain ⟨d0, c, rfl⟩ : ∃ d0 c, d = d0 ++ [c] := by
    rcases List.eq_nil_or_concat d with h | ⟨d0, c, h⟩
    · exact absurd h hd
    · exact ⟨d0, c, by simpa using h⟩
  have hc : c ≠ '/' := by
    intro e
    apply hlast
    simp [e]
  unfold dirname
  simp only [dropWhile_ne_slash_reverse (d0 ++ [c]) f hf]
  have hne : (('/' :: (d0 ++ [c]).reverse).reverse).isEmpty = false := by simp
  have hall : (('/' :: (d0 ++ [c]).reverse).reverse).all (· == '/') = false := by
    rw [List.all_eq_false]
    exact ⟨c, by simp, by simpa using hc⟩
  simp only [hne, hall, Bool.not_false, Bool.and_self, if_true, List.reverse_reverse]
  rw [List.dropWhile_cons_of_pos (by simp), List.reverse_append, List.reverse_cons, List.reverse_nil, List.nil_append,
    List.singleton_append, List.dropWhile_cons_of_neg (by simpa using hc)]
  simp

/-! ### the path entry point -/

theorem entryPaths_error (rootPath modulePath : Str) (k : ErrKind) (h : entryPaths rootPath modulePath = .error k) :
    k = .lookupError := by
  unfold entryPaths PPath.relativeTo at h
  by_cases hc : ((parsePath modulePath).root == (parsePath rootPath).root &&
      (parsePath rootPath).parts.isPrefixOf (parsePath modulePath).parts) = true
  · simp only [hc, if_true] at h
    cases h
  · simp only [hc] at h
    cases h
    rfl

/-- the three option checks do not look at the last flag; with the module path outside the root the remaining case
    is the `ValueError` of `relative_to` -/
theorem entryOptionsError_outside (a : EntryArgs) :
    entryOptionsError (a.flags false) = some ((entryOptionsError (a.flags true)).getD .lookupError) := by
  unfold entryOptionsError EntryArgs.flags
  simp only []
  split
  · rfl
  · split
    · rfl
    · split <;> rfl

theorem entryOptionsError_inside (o : EntryOptions) (k : ErrKind) (h : entryOptionsError o = some k)
    (hin : o.modulePathInsideRoot = true) : k = .improperlyConfigured := by
  simp only [entryOptionsError, hin, Bool.not_true, Bool.false_eq_true, if_false] at h
  repeat' split at h
  all_goals cases h
  all_goals rfl

/-! ### the module-object entry point -/

theorem scanForModuleObjects_eq (mt : Str → Str → Bool) (fs : Str → List Entry) (rdir mdir rfile mfile : Str)
    (a : EntryArgs) (hr : rdir ≠ []) (hr' : rdir.getLast? ≠ some '/') (hm : mdir ≠ []) (hm' : mdir.getLast? ≠ some '/')
    (hrf : '/' ∉ rfile) (hmf : '/' ∉ mfile) :
    scanForModuleObjects mt fs ⟨rdir ++ '/' :: rfile⟩ ⟨mdir ++ '/' :: mfile⟩ a =
      getEvaluableArchitecture mt fs rdir mdir a := by
  unfold scanForModuleObjects
  simp only [dirname_spec_lemma rdir rfile hr hr' hrf, dirname_spec_lemma mdir mfile hm hm' hmf]

/-! ### `str(module_as_path)` is `pathStr (str root_as_path) mp` -/

theorem str_of_nonempty (root : Str) (ps : List Str) (h : root ++ joinWith ['/'] ps ≠ []) :
    PPath.str ⟨root, ps⟩ = root ++ joinWith ['/'] ps := by
  unfold PPath.str
  have : (root ++ joinWith ['/'] ps).isEmpty = false := by
    cases hh : root ++ joinWith ['/'] ps with
    | nil => exact absurd hh h
    | cons _ _ => rfl
  simp only [this, Bool.false_eq_true, if_false]

theorem str_append (root : Str) (ps mp : List Str) (hps : ps ≠ []) (hs : root ++ joinWith ['/'] ps ≠ []) :
    PPath.str ⟨root, ps ++ mp⟩ = pathStr (PPath.str ⟨root, ps⟩) mp := by
  induction mp generalizing ps with
  | nil => simp [pathStr]
  | cons c rest ih =>
    have hjoin : root ++ joinWith ['/'] (ps ++ [c]) = (root ++ joinWith ['/'] ps) ++ '/' :: c := by
      rw [joinWith_append _ ps [c] hps (List.cons_ne_nil _ _)]; simp [joinWith, List.append_assoc]
    have hs' : root ++ joinWith ['/'] (ps ++ [c]) ≠ [] := by rw [hjoin]; simp
    have := ih (ps ++ [c]) (by simp) hs'
    rw [List.append_assoc, List.singleton_append] at this
    rw [this, str_of_nonempty _ _ hs', str_of_nonempty _ _ hs, hjoin]
    simp [pathStr]

theorem parsePath_parts_ne (s : Str) : ∀ x ∈ (parsePath s).parts, x ≠ [] := by
  intro x hx
  simp only [parsePath, List.mem_filter] at hx
  intro e
  rw [e] at hx
  simp at hx

end Pta.Entry
