/-
  PtaProofs.Lemmas.PumlLine — line-level lemmas behind Props/C06.lean: the recognisers `lineModules` and
  `lineDependency` on rendered declaration and arrow lines (layer L1).
-/
import Bridge.PumlRender
namespace Pta

theorem kw_component_eq : "component".toList = kwComponent := by decide

theorem wordChar_nameChar {c : Char} (h : isWordChar c = true) : isNameChar c = true := by
  simp [isNameChar, h]

theorem nameChar_innerChar {c : Char} (h : isNameChar c = true) : isInnerChar c = true := by
  simp [isInnerChar, h]

theorem nameChar_not_space {c : Char} (h : isNameChar c = true) : isSpaceChar c = false := by
  cases hs : isSpaceChar c with
  | false => rfl
  | true =>
    exfalso
    simp only [isSpaceChar, Bool.or_eq_true, beq_iff_eq] at hs
    rcases hs with (((rfl | rfl) | rfl) | rfl) | rfl <;> revert h <;> decide

theorem nameChar_ne {c d : Char} (h : isNameChar c = true) (hd : d ∈ ['[', ']', ' ', '-', '<', '>', '\n', '@']) : c ≠ d := by
  rintro rfl
  revert h
  simp only [List.mem_cons, List.not_mem_nil, or_false] at hd
  rcases hd with rfl | rfl | rfl | rfl | rfl | rfl | rfl | rfl <;> decide

/-- a written name / alias / arrow text: non-empty, name characters only -/
def NameLike (w : Str) : Prop := w ≠ [] ∧ ∀ c ∈ w, isNameChar c = true

theorem nameOK_nameLike {n : Str} (h : nameOK n = true) : NameLike n := by
  simp only [nameOK, Bool.and_eq_true, Bool.not_eq_true', List.isEmpty_eq_false_iff, List.all_eq_true] at h
  exact ⟨h.1, h.2⟩

theorem wordOK_nameOK {a : Str} (h : wordOK a = true) : nameOK a = true := by
  simp only [wordOK, nameOK, Bool.and_eq_true, Bool.not_eq_true', List.all_eq_true] at h ⊢
  exact ⟨h.1, fun c hc => wordChar_nameChar (h.2 c hc)⟩

theorem wordOK_word {a : Str} (h : wordOK a = true) : a ≠ [] ∧ ∀ c ∈ a, isWordChar c = true := by
  simp only [wordOK, Bool.and_eq_true, Bool.not_eq_true', List.isEmpty_eq_false_iff, List.all_eq_true] at h
  exact h

theorem NameLike.head {w : Str} (h : NameLike w) : ∃ c r, w = c :: r ∧ isNameChar c = true := by
  obtain ⟨hne, hall⟩ := h
  cases w with
  | nil => exact absurd rfl hne
  | cons c r => exact ⟨c, r, rfl, hall c (by simp)⟩

theorem takeWhile_run {p : Char → Bool} (w r : Str) (hw : ∀ c ∈ w, p c = true)
    (hr : ∀ c ∈ r.head?, p c = false) : (w ++ r).takeWhile p = w := by
  rw [List.takeWhile_append_of_pos hw]
  cases r with
  | nil => simp
  | cons c r => simp [hr c (by simp)]

theorem dropWhile_run {p : Char → Bool} (w r : Str) (hw : ∀ c ∈ w, p c = true)
    (hr : ∀ c ∈ r.head?, p c = false) : (w ++ r).dropWhile p = r := by
  rw [List.dropWhile_append_of_pos hw]
  cases r with
  | nil => rfl
  | cons c r => simp [hr c (by simp)]

/-- what may follow a written name inside a line -/
def Stop (r : Str) : Prop := ∀ c ∈ r.head?, isNameChar c = false

theorem stop_nil : Stop [] := by simp [Stop]
theorem stop_cons {c : Char} {r : Str} (h : isNameChar c = false) : Stop (c :: r) := by simpa [Stop] using h

theorem takeName_run {w r : Str} (hw : NameLike w) (hr : Stop r) : takeName (w ++ r) = (w, r) := by
  simp only [takeName, takeWhile_run w r hw.2 hr, dropWhile_run w r hw.2 hr]

/-! ## references: a name or alias as a line writes it, bare or in brackets (`(\[)?NAME(\])?`, `optBracketName`) -/

theorem dropSpaces1_one (c : Char) (r : Str) (hc : isSpaceChar c = false) :
    dropSpaces1 (' ' :: c :: r) = some (c :: r) := by
  have h1 : isSpaceChar ' ' = true := by decide
  simp [dropSpaces1, h1, hc]

theorem stop_space (t : Str) : Stop (' ' :: t) := stop_cons (by decide)
theorem stop_close (t : Str) : Stop (']' :: t) := stop_cons (by decide)

def stripClose : Str → Str
  | ']' :: r => r
  | r => r

theorem stripClose_nobr (c : Char) (s : Str) (hc : c ≠ ']') : stripClose (c :: s) = c :: s := by
  unfold stripClose
  split
  · rename_i r heq
    cases heq; exact absurd rfl hc
  · rfl

theorem optBracketName_bare {n rest : Str} (hn : NameLike n) (hrest : rest = [] ∨ ∃ t, rest = ' ' :: t) :
    optBracketName (n ++ rest) = some (n, rest) := by
  obtain ⟨c, n', rfl, hc⟩ := hn.head
  rcases hrest with rfl | ⟨t, rfl⟩
  · have ht := takeName_run hn stop_nil
    rw [List.append_nil] at ht ⊢
    simp [optBracketName, nameChar_ne hc List.mem_cons_self, ht]
  · have ht := takeName_run hn (stop_space t)
    rw [List.cons_append] at ht ⊢
    simp [optBracketName, nameChar_ne hc List.mem_cons_self, ht]

theorem optBracketName_bracketed {n rest : Str} (hn : NameLike n) :
    optBracketName ('[' :: n ++ ']' :: rest) = some (n, rest) := by
  simp [optBracketName, takeName_run hn (stop_close rest), hn.1]

theorem optBracketName_ref (r : DRef) (rest : Str) (hw : NameLike r.written)
    (hrest : rest = [] ∨ ∃ t, rest = ' ' :: t) :
    optBracketName (r.render ++ rest) = some (r.written, rest) := by
  cases r with
  | bare n | viaAlias n => exact optBracketName_bare hw hrest
  | bracketed n =>
    simp only [DRef.render, DRef.written, List.cons_append, List.append_assoc, List.nil_append]
    exact optBracketName_bracketed hw

theorem dropSpaces1_ref (r : DRef) (rest : Str) (hw : NameLike r.written) :
    dropSpaces1 (' ' :: (r.render ++ rest)) = some (r.render ++ rest) := by
  cases r with
  | bare n | viaAlias n =>
    obtain ⟨c, t, rfl, hc⟩ := hw.head
    exact dropSpaces1_one c _ (nameChar_not_space hc)
  | bracketed n => exact dropSpaces1_one '[' _ (by decide)

/-! ## arrow tokens: `-(-?|\w+-)>` (`arrowRight`) and `<-(-?|\w+-)` followed by white space (`arrowLeft`) -/

theorem wordChar_ne_dash {c : Char} (h : isWordChar c = true) : c ≠ '-' ∧ c ≠ '>' :=
  ⟨nameChar_ne (wordChar_nameChar h) (by decide), nameChar_ne (wordChar_nameChar h) (by decide)⟩

theorem word_run (t r : Str) (ht : wordOK t = true) :
    (t ++ '-' :: r).takeWhile isWordChar = t ∧ (t ++ '-' :: r).dropWhile isWordChar = '-' :: r :=
  have hstop : ∀ x ∈ ('-' :: r : Str).head?, isWordChar x = false := by simp; decide
  ⟨takeWhile_run _ _ (wordOK_word ht).2 hstop, dropWhile_run _ _ (wordOK_word ht).2 hstop⟩

theorem arrowRight_token (f : ArrowForm) (hf : f.isRight = true) (ht : f.textOK = true) (r : Str) :
    arrowRight (f.token ++ ' ' :: r) = some (' ' :: r) := by
  cases f with
  | r2 => rfl
  | r1 => rfl
  | l2 => cases hf
  | l1 => cases hf
  | lt t => cases hf
  | rt t =>
    obtain ⟨h1, h2⟩ := word_run t ('>' :: ' ' :: r) ht
    cases t with
    | nil => exact absurd rfl (wordOK_word ht).1
    | cons c t =>
      have hc := wordChar_ne_dash ((wordOK_word ht).2 c (by simp))
      simp only [ArrowForm.token, List.cons_append, List.append_assoc, List.nil_append] at h1 h2 ⊢
      simp [arrowRight, hc.1, hc.2, h1, h2]

theorem arrowRight_other (c : Char) (s : Str) (hc : c ≠ '-') : arrowRight (c :: s) = none := by
  simp [arrowRight, hc]

theorem arrowLeft_other (c : Char) (s : Str) (hc : c ≠ '<') : arrowLeft (c :: s) = none := by
  simp [arrowLeft, hc]

theorem dropSpaces1_space (r : Str) : (dropSpaces1 (' ' :: r)).isSome = true := by
  have h1 : isSpaceChar ' ' = true := by decide
  simp [dropSpaces1, h1]

theorem dropSpaces1_nospace (c : Char) (r : Str) (hc : isSpaceChar c = false) : dropSpaces1 (c :: r) = none := by
  simp [dropSpaces1, hc]

theorem arrowLeft_token (f : ArrowForm) (hf : f.isRight = false) (ht : f.textOK = true) (r : Str) :
    arrowLeft (f.token ++ ' ' :: r) = some (' ' :: r) := by
  cases f with
  | r2 => cases hf
  | r1 => cases hf
  | rt t => cases hf
  | l2 => simp [ArrowForm.token, arrowLeft, dropSpaces1_space]
  | l1 => simp [ArrowForm.token, arrowLeft, dropSpaces1_space]
  | lt t =>
    obtain ⟨h1, h2⟩ := word_run t (' ' :: r) ht
    cases t with
    | nil => exact absurd rfl (wordOK_word ht).1
    | cons c t =>
      have hc := (wordOK_word ht).2 c (by simp)
      have h3 : dropSpaces1 (c :: (t ++ '-' :: ' ' :: r)) = none :=
        dropSpaces1_nospace _ _ (nameChar_not_space (wordChar_nameChar hc))
      simp only [ArrowForm.token, List.cons_append, List.append_assoc, List.nil_append] at h1 h2 ⊢
      simp [arrowLeft, (wordChar_ne_dash hc).1, h1, h2, h3]

theorem token_head (f : ArrowForm) :
    ∃ c t, f.token = c :: t ∧ isSpaceChar c = false ∧ isNameChar c = false ∧ c ≠ 'a' ∧ c ≠ '[' := by
  cases f <;> exact ⟨_, _, rfl, by decide, by decide, by decide, by decide⟩

theorem dropSpaces1_token (f : ArrowForm) (r : Str) :
    dropSpaces1 (' ' :: (f.token ++ r)) = some (f.token ++ r) := by
  obtain ⟨c, t, h, hc, _⟩ := token_head f
  rw [h]
  exact dropSpaces1_one c _ hc

/-! ## `lineDependency`: the arrow regex on a whole line, `A --> B` or `B <-- A` -/

/-- an arrow line as it is written, `r1 tok r2`: a right arrow reads `r1 → r2`, a left arrow `r2 → r1` -/
theorem lineDependency_two_refs (f : ArrowForm) (r1 r2 : DRef) (ht : f.textOK = true)
    (h1 : NameLike r1.written) (h2 : NameLike r2.written) :
    lineDependency (r1.render ++ ' ' :: (f.token ++ ' ' :: r2.render)) =
      some (if f.isRight then (r1.written, r2.written) else (r2.written, r1.written)) := by
  have e1 := optBracketName_ref r1 (' ' :: (f.token ++ ' ' :: r2.render)) h1 (Or.inr ⟨_, rfl⟩)
  have e2 := dropSpaces1_token f (' ' :: r2.render)
  have e4 := dropSpaces1_ref r2 [] h2
  have e5 := optBracketName_ref r2 [] h2 (Or.inl rfl)
  simp only [List.append_nil] at e4 e5
  cases hf : f.isRight with
  | true =>
    simp only [lineDependency, parseRightArrow, e1, e2, arrowRight_token f hf ht r2.render, e4, e5,
      Option.bind_eq_bind, Option.bind_some, Option.pure_def, if_true]
  | false =>
    -- a left arrow starts with `<`
    have e3 : arrowRight (f.token ++ ' ' :: r2.render) = none := by cases f <;> first | rfl | cases hf
    simp only [lineDependency, parseRightArrow, parseLeftArrow, e1, e2, e3, arrowLeft_token f hf ht r2.render, e4, e5,
      Option.bind_eq_bind, Option.bind_some, Option.bind_none, Option.pure_def, List.isEmpty_nil, if_true,
      Bool.false_eq_true, if_false]

theorem renderArrow_right (f : ArrowForm) (a b : DRef) (hf : f.isRight = true) :
    renderArrow f a b = a.render ++ ' ' :: (f.token ++ ' ' :: b.render) := by
  simp [renderArrow, hf]

theorem renderArrow_left (f : ArrowForm) (a b : DRef) (hf : f.isRight = false) :
    renderArrow f a b = b.render ++ ' ' :: (f.token ++ ' ' :: a.render) := by
  simp [renderArrow, hf]

theorem lineDependency_arrow_lemma (f : ArrowForm) (a b : DRef) (ht : f.textOK = true)
    (ha : NameLike a.written) (hb : NameLike b.written) :
    lineDependency (renderArrow f a b) = some (a.written, b.written) := by
  cases hf : f.isRight with
  | true => rw [renderArrow_right f a b hf, lineDependency_two_refs f a b ht ha hb, hf]; rfl
  | false => rw [renderArrow_left f a b hf, lineDependency_two_refs f b a ht hb ha, hf]; rfl

theorem lineDependency_none_of (line x rest : Str) (h : optBracketName line = some (x, rest))
    (h2 : dropSpaces1 rest = none ∨ ∃ c s, dropSpaces1 rest = some (c :: s) ∧ c ≠ '-' ∧ c ≠ '<') :
    lineDependency line = none := by
  rcases h2 with h2 | ⟨c, s, h2, hc1, hc2⟩
  · simp only [lineDependency, parseRightArrow, parseLeftArrow, h, h2, Option.bind_eq_bind, Option.bind_some,
      Option.bind_none]
  · simp only [lineDependency, parseRightArrow, parseLeftArrow, h, h2, Option.bind_eq_bind, Option.bind_some,
      Option.bind_none, arrowRight_other c s hc1, arrowLeft_other c s hc2]

theorem kwComponent_nameLike : NameLike kwComponent := by
  refine ⟨by decide, ?_⟩
  decide

theorem lineDependency_decl_lemma (f : DeclForm) (n : Str) (al : Option Str) (hn : NameLike n) :
    lineDependency (renderDecl f n al) = none := by
  cases f with
  | bracket =>
    refine lineDependency_none_of _ _ _ (optBracketName_bracketed hn) ?_
    cases al with
    | none => exact Or.inl rfl
    | some a => exact Or.inr ⟨'a', 's' :: ' ' :: a, dropSpaces1_one 'a' _ (by decide), by decide, by decide⟩
  | compBare =>
    refine lineDependency_none_of _ _ _ (optBracketName_bare kwComponent_nameLike (Or.inr ⟨_, rfl⟩)) ?_
    obtain ⟨c, n', rfl, hc⟩ := hn.head
    exact Or.inr ⟨c, n', dropSpaces1_one c _ (nameChar_not_space hc), nameChar_ne hc (by decide),
      nameChar_ne hc (by decide)⟩
  | compBracket =>
    have h : optBracketName (kwComponent ++ ' ' :: '[' :: n ++ ']' :: renderAlias al)
        = some (kwComponent, ' ' :: '[' :: n ++ ']' :: renderAlias al) :=
      optBracketName_bare kwComponent_nameLike (Or.inr ⟨_, rfl⟩)
    exact lineDependency_none_of _ _ _ h (Or.inr ⟨'[', _, dropSpaces1_one '[' _ (by decide), by decide, by decide⟩)

/-! ## `bracketDecl`: a fuel-free scan, and the two pieces of `bracketDeclAt` -/

def bdScan : Str → Option PModule
  | [] => none
  | c :: cs =>
    match bracketDeclAt (c :: cs) with
    | some m => some m
    | none => bdScan cs

theorem bracketDeclAt_nil : bracketDeclAt [] = none := by decide

theorem bracketDecl_go_eq (s : Str) (fuel : Nat) (h : s.length < fuel) : bracketDecl.go s fuel = bdScan s := by
  induction s generalizing fuel with
  | nil =>
    cases fuel with
    | zero => omega
    | succ f => simp [bracketDecl.go, bdScan, bracketDeclAt_nil]
  | cons c cs ih =>
    cases fuel with
    | zero => omega
    | succ f =>
      simp only [bracketDecl.go, bdScan]
      cases bracketDeclAt (c :: cs) with
      | some m => rfl
      | none => exact ih f (by simp at h; omega)

theorem bracketDecl_eq (s : Str) : bracketDecl s = bdScan s :=
  bracketDecl_go_eq s _ (Nat.lt_succ_self _)

/-- the optional `component\s+` prefix -/
def compStrip (s : Str) : Str :=
  if startsWith "component".toList s then
    match dropSpaces1 (s.drop 9) with | some r => r | none => s
  else s

/-- `\[INNER\](\s+as\s+(.+))?$` -/
def bdCore (s : Str) : Option PModule :=
  match s with
  | '[' :: r =>
    let inner := r.takeWhile isInnerChar
    if inner.isEmpty then none
    else match r.dropWhile isInnerChar with
      | ']' :: rest =>
        if rest.isEmpty then some ⟨inner, none⟩
        else match dropSpaces1 rest with
          | some ('a' :: 's' :: r2) =>
            match dropSpaces1 r2 with
            | some al => if al.isEmpty then none else some ⟨inner, some al⟩
            | none => none
          | _ => none
      | _ => none
  | _ => none

theorem bracketDeclAt_eq (s : Str) : bracketDeclAt s = bdCore (compStrip s) := by
  -- unfolded by hand: a bare `rfl` leaves the search for the unfolding to the elaborator
  unfold bracketDeclAt bdCore compStrip
  rfl

theorem bdCore_other (c : Char) (s : Str) (hc : c ≠ '[') : bdCore (c :: s) = none := by
  simp [bdCore, hc]

theorem bdCore_nil : bdCore [] = none := rfl

theorem bdCore_of_head (s : Str) (h : s.head? ≠ some '[') : bdCore s = none := by
  cases s with
  | nil => rfl
  | cons c s => exact bdCore_other c s (by intro hc; apply h; simp [hc])

theorem inner_run (n rest : Str) (hn : NameLike n) :
    (n ++ ']' :: rest).takeWhile isInnerChar = n ∧ (n ++ ']' :: rest).dropWhile isInnerChar = ']' :: rest :=
  have hw : ∀ c ∈ n, isInnerChar c = true := fun c hc => nameChar_innerChar (hn.2 c hc)
  have hr : ∀ c ∈ (']' :: rest : Str).head?, isInnerChar c = false := by simp; decide
  ⟨takeWhile_run n _ hw hr, dropWhile_run n _ hw hr⟩

theorem bdCore_bracket_end (n : Str) (hn : NameLike n) : bdCore ('[' :: n ++ [']']) = some ⟨n, none⟩ := by
  simp [bdCore, inner_run n [] hn, hn.1]

theorem bdCore_bracket_as (n al : Str) (hn : NameLike n) (hal : NameLike al) :
    bdCore ('[' :: n ++ ']' :: (kwAs ++ al)) = some ⟨n, some al⟩ := by
  obtain ⟨c, t, rfl, hc⟩ := hal.head
  have h1 : dropSpaces1 (' ' :: 'a' :: 's' :: ' ' :: c :: t) = some ('a' :: 's' :: ' ' :: c :: t) :=
    dropSpaces1_one 'a' _ (by decide)
  have h2 : dropSpaces1 (' ' :: c :: t) = some (c :: t) := dropSpaces1_one c _ (nameChar_not_space hc)
  simp [bdCore, inner_run n _ hn, hn.1, h1, h2, kwAs]

theorem bdCore_bracket_arrow (n : Str) (c : Char) (t : Str) (hn : NameLike n) (hc : isSpaceChar c = false)
    (hca : c ≠ 'a') : bdCore ('[' :: n ++ ']' :: ' ' :: c :: t) = none := by
  simp [bdCore, inner_run n _ hn, hn.1, dropSpaces1_one c t hc, hca]

theorem startsWith_run (pat w rest : Str) (hp : ∀ c ∈ pat, isNameChar c = true) (hrest : Stop rest)
    (h : startsWith pat (w ++ rest) = true) : ∃ w', w = pat ++ w' := by
  induction pat generalizing w with
  | nil => exact ⟨w, rfl⟩
  | cons a pat ih =>
    cases w with
    | nil =>
      cases rest with
      | nil => simp [startsWith] at h
      | cons x r =>
        simp only [List.nil_append, startsWith, Bool.and_eq_true, beq_iff_eq] at h
        have hx : isNameChar x = false := hrest x (by simp)
        rw [← h.1, hp a (by simp)] at hx
        cases hx
    | cons c w =>
      simp only [List.cons_append, startsWith, Bool.and_eq_true, beq_iff_eq] at h
      obtain ⟨w', hw'⟩ := ih w (fun c hc => hp c (by simp [hc])) h.2
      exact ⟨w', by rw [h.1, hw']; rfl⟩

theorem startsWith_kw_other (c : Char) (s : Str) (hc : c ≠ 'c') : startsWith "component".toList (c :: s) = false := by
  rw [kw_component_eq]
  simp only [kwComponent, startsWith, Bool.and_eq_false_iff, beq_eq_false_iff_ne]
  exact Or.inl (fun h => hc h.symm)

theorem startsWith_kw (s : Str) : startsWith "component".toList (kwComponent ++ s) = true := by
  rw [kw_component_eq]
  simp [kwComponent, startsWith]

theorem drop_kw (s : Str) : (kwComponent ++ s).drop 9 = s := by simp [kwComponent]

theorem compStrip_other (c : Char) (s : Str) (hc : c ≠ 'c') : compStrip (c :: s) = c :: s := by
  simp only [compStrip, startsWith_kw_other c s hc, Bool.false_eq_true, if_false]

theorem compStrip_comp_space (c : Char) (s : Str) (hc : isSpaceChar c = false) :
    compStrip (kwComponent ++ ' ' :: c :: s) = c :: s := by
  simp only [compStrip, startsWith_kw, if_true, drop_kw, dropSpaces1_one c s hc]

theorem dropSpaces1_head (rest r : Str) (h : dropSpaces1 rest = some r) : r = rest.dropWhile isSpaceChar := by
  cases rest with
  | nil => simp [dropSpaces1] at h
  | cons c t =>
    simp only [dropSpaces1] at h
    split at h
    · exact (Option.some.inj h).symm
    · cases h

theorem compStrip_run (w rest : Str) (hw : NameLike w) (hrest : Stop rest)
    (hr : (rest.dropWhile isSpaceChar).head? ≠ some '[') : (compStrip (w ++ rest)).head? ≠ some '[' := by
  have hhead : (w ++ rest).head? ≠ some '[' := by
    obtain ⟨c, t, rfl, hc⟩ := hw.head
    simp only [List.cons_append, List.head?_cons, ne_eq, Option.some.injEq]
    exact nameChar_ne hc (by decide)
  unfold compStrip
  split
  · rename_i hsw
    rw [kw_component_eq] at hsw
    obtain ⟨w', rfl⟩ := startsWith_run kwComponent w rest kwComponent_nameLike.2 hrest hsw
    rw [List.append_assoc, drop_kw]
    cases w' with
    | nil =>
      cases hds : dropSpaces1 ([] ++ rest) with
      | none => exact hhead
      | some r =>
        have := dropSpaces1_head _ _ hds
        simp only [List.nil_append] at this
        rw [this]; exact hr
    | cons c t =>
      have hc : isNameChar c = true := hw.2 c (by simp)
      rw [List.cons_append, dropSpaces1_nospace c _ (nameChar_not_space hc)]
      exact hhead
  · exact hhead

theorem bdScan_skip_char (c : Char) (s : Str) (h1 : c ≠ '[') (h2 : c ≠ 'c') : bdScan (c :: s) = bdScan s := by
  have h : bracketDeclAt (c :: s) = none := by
    rw [bracketDeclAt_eq, compStrip_other c s h2]; exact bdCore_other c s h1
  simp only [bdScan, h]

theorem bdScan_skip_run (w rest : Str) (hw : ∀ c ∈ w, isNameChar c = true) (hrest : Stop rest)
    (hr : (rest.dropWhile isSpaceChar).head? ≠ some '[') : bdScan (w ++ rest) = bdScan rest := by
  induction w with
  | nil => rfl
  | cons c w ih =>
    have h : bracketDeclAt (c :: w ++ rest) = none := by
      rw [bracketDeclAt_eq]
      exact bdCore_of_head _ (compStrip_run (c :: w) rest ⟨by simp, hw⟩ hrest hr)
    rw [List.cons_append] at h ⊢
    simp only [bdScan, h]
    exact ih (fun c hc => hw c (by simp [hc]))

theorem bdScan_nil : bdScan [] = none := rfl

theorem bdScan_hit (s : Str) (m : PModule) (h : bracketDeclAt s = some m) : bdScan s = some m := by
  cases s with
  | nil => rw [bracketDeclAt_nil] at h; cases h
  | cons c s => simp only [bdScan, h]

theorem dropWhile_space_nospace (c : Char) (s : Str) (hc : isSpaceChar c = false) :
    (c :: s).dropWhile isSpaceChar = c :: s := by
  simp [hc]

theorem bdScan_skip_chars (w s : Str) (hw : (w.all fun c => c != '[' && c != 'c') = true) :
    bdScan (w ++ s) = bdScan s := by
  induction w with
  | nil => rfl
  | cons c w ih =>
    simp only [List.all_cons, Bool.and_eq_true, bne_iff_ne, ne_eq] at hw
    rw [List.cons_append, bdScan_skip_char c _ hw.1.1 hw.1.2, ih hw.2]

theorem bdScan_token (f : ArrowForm) (ht : f.textOK = true) (s : Str) :
    bdScan (' ' :: (f.token ++ ' ' :: s)) = bdScan s := by
  have word : ∀ t : Str, wordOK t = true → ∀ r : Str, bdScan (t ++ '-' :: r) = bdScan ('-' :: r) := fun t ht r =>
    bdScan_skip_run t _ (fun c hc => wordChar_nameChar ((wordOK_word ht).2 c hc)) (stop_cons (by decide))
      (by rw [dropWhile_space_nospace _ _ (by decide)]; simp)
  cases f with
  | r2 => exact bdScan_skip_chars [' ', '-', '-', '>', ' '] s (by decide)
  | r1 => exact bdScan_skip_chars [' ', '-', '>', ' '] s (by decide)
  | l2 => exact bdScan_skip_chars [' ', '<', '-', '-', ' '] s (by decide)
  | l1 => exact bdScan_skip_chars [' ', '<', '-', ' '] s (by decide)
  | rt t =>
    simp only [ArrowForm.token, List.cons_append, List.nil_append, List.append_assoc]
    show bdScan ([' ', '-'] ++ (t ++ '-' :: (['>', ' '] ++ s))) = _
    rw [bdScan_skip_chars _ _ (by decide), word t ht]
    exact bdScan_skip_chars ['-', '>', ' '] s (by decide)
  | lt t =>
    simp only [ArrowForm.token, List.cons_append, List.nil_append, List.append_assoc]
    show bdScan ([' ', '<', '-'] ++ (t ++ '-' :: ([' '] ++ s))) = _
    rw [bdScan_skip_chars _ _ (by decide), word t ht]
    exact bdScan_skip_chars ['-', ' '] s (by decide)

theorem bdScan_first_ref (r : DRef) (f : ArrowForm) (s : Str) (hw : NameLike r.written) :
    bdScan (r.render ++ ' ' :: (f.token ++ s)) = bdScan (' ' :: (f.token ++ s)) := by
  obtain ⟨c, t, htok, hc1, _, hc2, hc3⟩ := token_head f
  have hr : ((' ' :: (f.token ++ s)).dropWhile isSpaceChar).head? ≠ some '[' := by
    rw [htok]
    have h1 : isSpaceChar ' ' = true := by decide
    simp only [List.cons_append, List.dropWhile_cons, h1, if_true, hc1, Bool.false_eq_true, if_false,
      List.head?_cons, ne_eq, Option.some.injEq]
    exact hc3
  cases r with
  | bare n | viaAlias n => exact bdScan_skip_run n _ hw.2 (stop_space _) hr
  | bracketed n =>
    simp only [DRef.render, List.cons_append, List.append_assoc, List.nil_append]
    have h : bracketDeclAt ('[' :: (n ++ ']' :: ' ' :: (f.token ++ s))) = none := by
      rw [bracketDeclAt_eq, compStrip_other _ _ (by decide), htok]
      exact bdCore_bracket_arrow n c (t ++ s) hw hc1 hc2
    simp only [bdScan, h]
    rw [bdScan_skip_run n _ hw.2 (stop_close _)
      (by rw [dropWhile_space_nospace _ _ (by decide)]; simp)]
    exact bdScan_skip_char _ _ (by decide) (by decide)

theorem bdScan_last_ref (r : DRef) (hw : NameLike r.written) :
    bdScan r.render = r.inlineModule.head? := by
  cases r with
  | bare n | viaAlias n =>
    have := bdScan_skip_run n [] hw.2 stop_nil (by simp)
    simpa [DRef.render, bdScan_nil, DRef.inlineModule] using this
  | bracketed n =>
    apply bdScan_hit
    rw [bracketDeclAt_eq, DRef.render, List.cons_append, compStrip_other _ _ (by decide)]
    exact bdCore_bracket_end n hw

/-! ## `lineModules`: the declaration regex, `^component\s+NAME` first, otherwise the bracket form `bracketDecl` -/

/-- first alternative `^component\s+NAME` -/
def compFirst (line : Str) : Option PModule :=
  if startsWith "component".toList line then
    match dropSpaces1 (line.drop 9) with
    | some r => let n := r.takeWhile isNameChar; if n.isEmpty then none else some ⟨n, none⟩
    | none => none
  else none

theorem lineModules_eq (line : Str) :
    lineModules line =
      match compFirst line with
      | some m =>
        m :: (match bracketDecl (((line.drop 9).dropWhile isSpaceChar).dropWhile isNameChar) with
              | some b => [b] | none => [])
      | none => match bracketDecl line with | some b => [b] | none => [] := by
  unfold lineModules compFirst
  rfl

theorem compFirst_other (c : Char) (s : Str) (hc : c ≠ 'c') : compFirst (c :: s) = none := by
  simp only [compFirst, startsWith_kw_other c s hc, Bool.false_eq_true, if_false]

theorem compFirst_word_then (w : Str) (c : Char) (s : Str) (hw : ∀ x ∈ w, isNameChar x = true)
    (hc1 : isSpaceChar c = false) (hc2 : isNameChar c = false) :
    compFirst (w ++ ' ' :: c :: s) = none := by
  unfold compFirst
  split
  · rename_i hsw
    rw [kw_component_eq] at hsw
    obtain ⟨w', rfl⟩ := startsWith_run kwComponent w _ kwComponent_nameLike.2 (stop_space _) hsw
    rw [List.append_assoc, drop_kw]
    cases w' with
    | nil =>
      simp only [List.nil_append, dropSpaces1_one c s hc1, List.takeWhile_cons, hc2, Bool.false_eq_true,
        if_false, List.isEmpty_nil, if_true]
    | cons x t =>
      have hx : isNameChar x = true := hw x (by simp)
      rw [List.cons_append, dropSpaces1_nospace x _ (nameChar_not_space hx)]
  · rfl

theorem compFirst_comp_name (n : Str) (hn : NameLike n) :
    compFirst (kwComponent ++ ' ' :: n) = some ⟨n, none⟩ := by
  obtain ⟨c, t, rfl, hc⟩ := hn.head
  have h3 : (c :: t).takeWhile isNameChar = c :: t := by simpa using takeWhile_run (c :: t) [] hn.2 (by simp)
  simp only [compFirst, startsWith_kw, if_true, drop_kw, dropSpaces1_one c t (nameChar_not_space hc), h3,
    List.isEmpty_cons, Bool.false_eq_true, if_false]

theorem renderDecl_bracket (n : Str) (al : Option Str) :
    renderDecl .bracket n al = '[' :: (n ++ ']' :: renderAlias al) := by
  simp [renderDecl]

theorem renderDecl_compBracket (n : Str) (al : Option Str) :
    renderDecl .compBracket n al = kwComponent ++ ' ' :: '[' :: (n ++ ']' :: renderAlias al) := by
  simp [renderDecl]

theorem bracketDecl_bracket (s n : Str) (al : Option Str) (hn : NameLike n) (hal : ∀ a, al = some a → NameLike a)
    (hs : compStrip s = '[' :: (n ++ ']' :: renderAlias al)) : bracketDecl s = some ⟨n, al⟩ := by
  rw [bracketDecl_eq]
  apply bdScan_hit
  rw [bracketDeclAt_eq, hs]
  cases al with
  | none => exact bdCore_bracket_end n hn
  | some a => exact bdCore_bracket_as n a hn (hal a rfl)

theorem lineModules_bracketDecl (line : Str) (h : compFirst line = none) :
    lineModules line = (bracketDecl line).toList := by
  rw [lineModules_eq, h]
  cases bracketDecl line <;> rfl

theorem lineModules_decl_lemma (f : DeclForm) (n : Str) (al : Option Str) (hn : NameLike n)
    (hal : ∀ a, al = some a → NameLike a ∧ f ≠ .compBare) :
    lineModules (renderDecl f n al) = [⟨n, al⟩] := by
  have hal' : ∀ a, al = some a → NameLike a := fun a h => (hal a h).1
  cases f with
  | bracket =>
    have h1 : compFirst (renderDecl .bracket n al) = none := compFirst_other _ _ (by decide)
    rw [lineModules_bracketDecl _ h1, bracketDecl_bracket _ n al hn hal'
      (by rw [renderDecl_bracket]; exact compStrip_other _ _ (by decide))]
    rfl
  | compBracket =>
    have h1 : compFirst (renderDecl .compBracket n al) = none := by
      rw [renderDecl_compBracket]
      exact compFirst_word_then kwComponent '[' _ kwComponent_nameLike.2 (by decide) (by decide)
    rw [lineModules_bracketDecl _ h1, bracketDecl_bracket _ n al hn hal'
      (by rw [renderDecl_compBracket]; exact compStrip_comp_space _ _ (by decide))]
    rfl
  | compBare =>
    obtain rfl : al = none := by
      cases al with
      | none => rfl
      | some a => exact absurd rfl (hal a rfl).2
    have h1 : compFirst (renderDecl .compBare n none) = some ⟨n, none⟩ := compFirst_comp_name n hn
    have h2 : (((renderDecl .compBare n none).drop 9).dropWhile isSpaceChar).dropWhile isNameChar = [] := by
      obtain ⟨c, t, rfl, hc⟩ := hn.head
      have h3 : (c :: t).dropWhile isNameChar = [] := by simpa using dropWhile_run (c :: t) [] hn.2 (by simp)
      have h1 : isSpaceChar ' ' = true := by decide
      rw [renderDecl, drop_kw, List.dropWhile_cons, if_pos h1, dropWhile_space_nospace c t (nameChar_not_space hc), h3]
    rw [lineModules_eq, h1]
    simp only [h2, bracketDecl_eq, bdScan_nil]

theorem lineModules_two_refs (r1 r2 : DRef) (f : ArrowForm) (ht : f.textOK = true)
    (h1 : NameLike r1.written) (h2 : NameLike r2.written) :
    lineModules (r1.render ++ ' ' :: (f.token ++ ' ' :: r2.render)) = r2.inlineModule := by
  have hc : compFirst (r1.render ++ ' ' :: (f.token ++ ' ' :: r2.render)) = none := by
    obtain ⟨c, t, htok, hc1, hc2, _⟩ := token_head f
    rw [htok]
    cases r1 with
    | bare n | viaAlias n => exact compFirst_word_then n c _ h1.2 hc1 hc2
    | bracketed n => exact compFirst_other _ _ (by decide)
  rw [lineModules_bracketDecl _ hc, bracketDecl_eq, bdScan_first_ref r1 f _ h1, bdScan_token f ht,
    bdScan_last_ref r2 h2]
  cases r2 <;> rfl

theorem lineModules_arrow_lemma (f : ArrowForm) (a b : DRef) (ht : f.textOK = true)
    (ha : NameLike a.written) (hb : NameLike b.written) :
    lineModules (renderArrow f a b) = (lastRef f a b).inlineModule := by
  cases hf : f.isRight with
  | true =>
    rw [renderArrow_right f a b hf, lineModules_two_refs a b f ht ha hb]
    simp [lastRef, hf]
  | false =>
    rw [renderArrow_left f a b hf, lineModules_two_refs b a f ht hb ha]
    simp [lastRef, hf]

end Pta
