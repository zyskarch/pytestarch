/-
  PtaProofs.Lemmas.ScanSpec — `scanParsed` against the specification (property C04: the modules and files of the walk): the walk from
  `module_path` registers exactly the entries the specification's `survives` selects (through `toSEntry`),
  each under its `entryName`, once.
-/
import Bridge.Abs
import Bridge.ScanTree
import Bridge.ScanExcl
import PtaProofs.Lemmas.Render
import PtaProofs.Lemmas.ScanWalk
import PtaProofs.Lemmas.ScanNames
namespace Pta
namespace ScanSpec
open PtaSpec ScanWalk ScanNames

variable (excl : Str → Bool) (base : Str)

theorem isPrefixOf_eq_false_iff {α : Type} [BEq α] [LawfulBEq α] (l m : List α) : l.isPrefixOf m = false ↔ ¬ l <+: m := by
  rw [← List.isPrefixOf_iff_prefix, Bool.not_eq_true]

theorem kind_iff (e : Entry) :
    (e.isDir || (!e.isDir && isPyFile (lastName e))) = true ↔
      (e.isDir = true ∨ ∃ name, e.rel.getLast? = some name ∧ isPyFile name = true) := by
  rw [← dirOrPy_iff, dirOrPy]
  cases e.isDir <;> rfl

theorem Survives.congr {mp : List Str} {d d' : Entry} (hr : d.rel = d'.rel) (hd : d.isDir = d'.isDir)
    (h : Survives excl base mp d) : Survives excl base mp d' := by
  unfold Survives at h ⊢
  rw [← hr, ← hd]
  exact h

theorem survives_iff {entries : List Entry} (s : Shape entries) (mp : List Str) (e : Entry)
    (he : e ∈ rootEntry :: entries) :
    survives (toSEntries excl base entries) mp (toSEntry excl base e) = true ↔ Survives excl base mp e := by
  unfold survives Survives
  simp only [Bool.and_eq_true, List.isPrefixOf_iff_prefix, List.all_eq_true, toSEntries, List.mem_map]
  show ((mp <+: e.rel ∧ (e.isDir || (!e.isDir && isPyFile (lastName e))) = true) ∧ _) ↔ _
  rw [kind_iff]
  constructor
  · rintro ⟨⟨h1, h2⟩, h3⟩
    refine ⟨h1, h2, ?_⟩
    intro k hk1 hk2
    -- the entry at depth k on the way to e
    have hd : ∃ d ∈ rootEntry :: entries, d.rel = e.rel.take k ∧ (d.isDir = true ∨ d.rel = e.rel) := by
      by_cases hk : e.rel.take k = e.rel
      · exact ⟨e, he, hk.symm, Or.inr rfl⟩
      · obtain ⟨c, hc, hcd, hcr⟩ := prefix_root s e he _ (List.take_prefix _ _) hk
        exact ⟨c, hc, hcr, Or.inl hcd⟩
    obtain ⟨d, hdm, hdr, hdk⟩ := hd
    have := h3 (toSEntry excl base d) ⟨d, hdm, rfl⟩
    simp only [toSEntry, Bool.not_eq_true', Bool.and_eq_false_iff, Bool.or_eq_false_iff, beq_eq_false_iff_ne,
      isPrefixOf_eq_false_iff] at this
    rcases this with ((h | h) | h) | h
    · rw [← hdr]; exact h
    · exact absurd (by rw [hdr]; exact List.take_prefix _ _) h
    · refine absurd ?_ h
      rw [hdr]
      refine List.prefix_of_prefix_length_le h1 (List.take_prefix _ _) ?_
      rw [List.length_take]; omega
    · rcases hdk with h' | h'
      · rw [h'] at h; cases h.1
      · exact absurd h' h.2
  · rintro ⟨h1, h2, h3⟩
    refine ⟨⟨h1, h2⟩, ?_⟩
    rintro x ⟨d, -, rfl⟩
    simp only [toSEntry, Bool.not_eq_true', Bool.and_eq_false_iff, isPrefixOf_eq_false_iff]
    by_cases hp : d.rel <+: e.rel
    · by_cases hm : mp <+: d.rel
      · left; left; left
        have := h3 d.rel.length hm.length_le hp.length_le
        rwa [← List.prefix_iff_eq_take.1 hp] at this
      · left; right; exact hm
    · left; left; right; exact hp

/-! ### the walk `scanParsed` starts: from the directory `module_path` with fuel `maxDepth + 2` -/

def startEntry (mp : List Str) : Entry := { rel := mp, isDir := true }

theorem mpOK_cases {entries : List Entry} {mp : List Str} (h : mpOK entries mp = true) :
    mp = [] ∨ ∃ e' ∈ entries, e'.isDir = true ∧ e'.rel = mp := by
  simp only [mpOK, Bool.or_eq_true, List.isEmpty_iff, List.any_eq_true, Bool.and_eq_true, beq_iff_eq] at h
  rcases h with h | ⟨e', h1, h2, h3⟩
  · exact Or.inl h
  · exact Or.inr ⟨e', h1, h2, h3⟩

theorem start_repr {entries : List Entry} {mp : List Str} (h : mpOK entries mp = true) :
    ∃ e ∈ rootEntry :: entries, e.rel = mp ∧ e.isDir = true := by
  rcases mpOK_cases h with h | ⟨e', h1, h2, h3⟩
  · exact ⟨rootEntry, List.mem_cons_self, h.symm, rfl⟩
  · exact ⟨e', List.mem_cons_of_mem _ h1, h3, h2⟩

section
variable {entries : List Entry} (s : Shape entries) {mp : List Str} (hmp : mpOK entries mp = true)
include s hmp

theorem at_mp_isDir (e : Entry) (he : e ∈ rootEntry :: entries) (hr : e.rel = mp) : e.isDir = true := by
  rcases List.mem_cons.1 he with rfl | he'
  · rfl
  · rcases mpOK_cases hmp with h | ⟨e', h1, h2, h3⟩
    · exact absurd (hr.trans h) (s.ne e he')
    · rw [s.inj e he' e' h1 (hr.trans h3.symm)]; exact h2

omit hmp in
theorem mem_walk_start (d : Entry) :
    d ∈ walkList excl base entries (maxDepth entries + 2) (startEntry mp) ↔
      (d = startEntry mp ∨ (d ∈ entries ∧ d.rel ≠ mp)) ∧ Survives excl base mp d :=
  mem_walk_step excl base s (startEntry mp) (Or.inr rfl) _
    (fun c hc => mem_walkList excl base s _ c ((mem_childrenOf entries mp c).1 hc).1 (by omega)) d

theorem walk_modules (root : Str) (x : Str) :
    x ∈ (walkFrom excl base root mp entries).allModules ↔
      ∃ e ∈ rootEntry :: entries, Survives excl base mp e ∧ x = moduleName root e.rel := by
  simp only [walkFrom, parseWalk_eq, List.mem_map]
  constructor
  · rintro ⟨d, hd, rfl⟩
    obtain ⟨h1, h2⟩ := (mem_walk_start excl base s d).1 hd
    rcases h1 with rfl | ⟨h, -⟩
    · obtain ⟨e, he, hr, hdir⟩ := start_repr hmp
      exact ⟨e, he, Survives.congr excl base hr.symm hdir.symm h2, by rw [hr]; rfl⟩
    · exact ⟨d, List.mem_cons_of_mem _ h, h2, rfl⟩
  · rintro ⟨e, he, hs, rfl⟩
    by_cases hr : e.rel = mp
    · have hdir := at_mp_isDir s hmp e he hr
      refine ⟨startEntry mp, ?_, by rw [hr]; rfl⟩
      exact (mem_walk_start excl base s _).2 ⟨Or.inl rfl, Survives.congr excl base hr hdir hs⟩
    · have hee : e ∈ entries := by
        rcases List.mem_cons.1 he with rfl | h
        · exfalso
          apply hr
          have := hs.1
          simp only [rootEntry, List.prefix_nil] at this
          rw [this]; rfl
        · exact h
      exact ⟨e, (mem_walk_start excl base s e).2 ⟨Or.inr ⟨hee, hr⟩, hs⟩, rfl⟩

theorem walk_files (root : Str) (y : Str × List ImportStmt) :
    y ∈ (walkFrom excl base root mp entries).files ↔
      ∃ e ∈ entries, e.isDir = false ∧ Survives excl base mp e ∧ y = (moduleName root e.rel, e.stmts) := by
  simp only [walkFrom, parseWalk_eq, List.mem_map, List.mem_filter, Bool.not_eq_true']
  constructor
  · rintro ⟨d, ⟨hd, hdir⟩, rfl⟩
    obtain ⟨h1, h2⟩ := (mem_walk_start excl base s d).1 hd
    rcases h1 with rfl | ⟨h, -⟩
    · cases hdir
    · exact ⟨d, h, hdir, h2, rfl⟩
  · rintro ⟨e, he, hdir, hs, rfl⟩
    refine ⟨e, ⟨(mem_walk_start excl base s e).2 ⟨Or.inr ⟨he, ?_⟩, hs⟩, hdir⟩, rfl⟩
    intro hr
    have := at_mp_isDir s hmp e (List.mem_cons_of_mem _ he) hr
    rw [hdir] at this; cases this

theorem walk_modules_nodup (nm : Names (Rel excl base mp) entries) (root : Str) (hroot : compWF root = true) :
    (walkFrom excl base root mp entries).allModules.Nodup := by
  rw [walkFrom, parseWalk_eq, List.nodup_iff_pairwise_ne, List.pairwise_map]
  refine List.Pairwise.imp_of_mem ?_ (walk_pairwise excl base s.pw _ _)
  intro a b ha hb hne heq
  -- a walked entry is, up to its path, an entry the specification sees
  have facts : ∀ a ∈ walkList excl base entries (maxDepth entries + 2) (startEntry mp),
      ∃ e ∈ rootEntry :: entries, e.rel = a.rel ∧ dirOrPy e = true ∧ Rel excl base mp e.rel := by
    intro a ha
    obtain ⟨a1, a2⟩ := (mem_walk_start excl base s a).1 ha
    rcases a1 with rfl | ⟨h, -⟩
    · obtain ⟨e, he, hr, hd⟩ := start_repr hmp
      exact ⟨e, he, hr, by simp [dirOrPy, hd], hr ▸ Rel.self excl base mp⟩
    · exact ⟨a, List.mem_cons_of_mem _ h, rfl, survives_dirOrPy excl base a2, Rel.of_survives a2⟩
  obtain ⟨e, he, hr, ke, re⟩ := facts a ha
  obtain ⟨e', he', hr', ke', re'⟩ := facts b hb
  exact hne (hr ▸ hr' ▸ moduleName_inj s nm root hroot e e' he he' ke ke' re re' (hr.symm ▸ hr'.symm ▸ heq))

end

section
variable (mt : Str → Str → Bool) (root : Str) (mp : List Str) (entries : List Entry) (o : ScanOptions)

theorem scan_modules_lemma (hshape : treeShape entries = true) (hmp : mpOK entries mp = true) (x : Str) :
    x ∈ (scanParsed mt base root mp entries o).allModules ↔
      ∃ e ∈ rootEntry :: entries,
        survives (toSEntries (isExcluded mt o.exclusions) base entries) mp
          (toSEntry (isExcluded mt o.exclusions) base e) = true ∧
        x = render (entryName root (toSEntry (isExcluded mt o.exclusions) base e)) := by
  have s := shape_of entries hshape
  rw [scanParsed_eq_walkFrom, walk_modules _ base s hmp root x]
  refine exists_congr fun e => and_congr_right fun he => ?_
  rw [survives_iff _ base s mp e he, entryName_toSEntry, moduleName_eq]

theorem scan_files_lemma (hshape : treeShape entries = true) (hmp : mpOK entries mp = true)
    (y : Str × List ImportStmt) :
    y ∈ (scanParsed mt base root mp entries o).files ↔
      ∃ e ∈ entries, e.isDir = false ∧
        survives (toSEntries (isExcluded mt o.exclusions) base entries) mp
          (toSEntry (isExcluded mt o.exclusions) base e) = true ∧
        y = (render (entryName root (toSEntry (isExcluded mt o.exclusions) base e)), e.stmts) := by
  have s := shape_of entries hshape
  rw [scanParsed_eq_walkFrom, walk_files _ base s hmp root y]
  refine exists_congr fun e => and_congr_right fun he => and_congr_right fun _ => ?_
  rw [survives_iff _ base s mp e (List.mem_cons_of_mem _ he), entryName_toSEntry, moduleName_eq]

theorem scan_modules_wf_lemma (hwf : treeWFFor (isExcluded mt o.exclusions) base mp entries = true)
    (hroot : compWF root = true) (e : Entry)
    (he : e ∈ rootEntry :: entries)
    (hs : survives (toSEntries (isExcluded mt o.exclusions) base entries) mp
      (toSEntry (isExcluded mt o.exclusions) base e) = true) :
    nameWF (entryName root (toSEntry (isExcluded mt o.exclusions) base e)) = true := by
  obtain ⟨-, s, nm⟩ := tree_facts hwf
  have hS := (survives_iff _ base s mp e he).1 hs
  rw [entryName_toSEntry]
  exact relName_wf s nm root hroot e he (survives_dirOrPy _ base hS)
    (Rel.of_survives hS)

end

theorem mem_ownNames (root : Str) (mp : List Str) (entries : List Entry) (n : Name) :
    n ∈ ownNames root (toSEntries excl base entries) mp ↔
      ∃ e ∈ rootEntry :: entries, survives (toSEntries excl base entries) mp (toSEntry excl base e) = true ∧
        n = entryName root (toSEntry excl base e) := by
  unfold ownNames
  simp only [List.mem_map, List.mem_filter, toSEntries]
  constructor
  · rintro ⟨se, ⟨⟨e, he, rfl⟩, hs⟩, rfl⟩
    exact ⟨e, he, hs, rfl⟩
  · rintro ⟨e, he, hs, rfl⟩
    exact ⟨_, ⟨⟨e, he, rfl⟩, hs⟩, rfl⟩

section
variable {base} {mt : Str → Str → Bool} {root : Str} {mp : List Str} {entries : List Entry} {o : ScanOptions}

theorem own_wf (hwf : treeWFFor (isExcluded mt o.exclusions) base mp entries = true) (hroot : compWF root = true) :
    ∀ n ∈ ownNames root (toSEntries (isExcluded mt o.exclusions) base entries) mp, nameWF n = true := by
  intro n hn
  obtain ⟨e, he, hsv, rfl⟩ := (mem_ownNames _ base root mp entries n).1 hn
  exact scan_modules_wf_lemma base mt root mp entries o hwf hroot e he hsv

theorem modules_own (hshape : treeShape entries = true) (hmp : mpOK entries mp = true) (x : Str) :
    x ∈ (scanParsed mt base root mp entries o).allModules ↔
      ∃ n ∈ ownNames root (toSEntries (isExcluded mt o.exclusions) base entries) mp, x = render n := by
  rw [scan_modules_lemma base mt root mp entries o hshape hmp x]
  constructor
  · rintro ⟨e, he, hsv, rfl⟩
    exact ⟨_, (mem_ownNames _ base root mp entries _).2 ⟨e, he, hsv, rfl⟩, rfl⟩
  · rintro ⟨n, hn, rfl⟩
    obtain ⟨e, he, hsv, rfl⟩ := (mem_ownNames _ base root mp entries n).1 hn
    exact ⟨e, he, hsv, rfl⟩

end

section
variable (root : Str) {entries : List Entry} {mp : List Str} (s : Shape entries) (nm : Names (Rel excl base mp) entries)
include s nm

omit s nm in
theorem survives_ancestor {c d : Entry} (hS : Survives excl base mp d) (hc : c.isDir = true) (h1 : mp <+: c.rel)
    (h2 : c.rel <+: d.rel) : Survives excl base mp c := by
  refine ⟨h1, Or.inl hc, fun k hk1 hk2 => ?_⟩
  have := hS.2.2 k hk1 (Nat.le_trans hk2 h2.length_le)
  obtain ⟨t, ht⟩ := h2
  rwa [← ht, List.take_append_of_le_length hk2] at this

/-- the prefix is `root :: q` for a prefix `q` of the entry's path, and `q` is the path of a directory at or below
    `module_path`, or lies strictly above it -/
theorem prefix_explicit (d : Entry) (hd : d ∈ rootEntry :: entries) (hS : Survives excl base mp d) (n : Name)
    (hn : n ≠ []) (hpre : n <+: relName root d) :
    (∃ e ∈ rootEntry :: entries, Survives excl base mp e ∧ n = relName root e) ∨
    (∃ k, 0 < k ∧ k ≤ mp.length ∧ n = (root :: mp).take k) := by
  by_cases heq : n = relName root d
  · exact Or.inl ⟨d, hd, hS, heq⟩
  have hq : ∃ q, n = root :: q ∧ q <+: d.rel ∧ q ≠ d.rel := by
    have hp := FlatTree.prefix_dropLast hpre heq
    by_cases hdne : d.rel = []
    · simp only [relName, hdne, List.isEmpty_nil, if_true, List.dropLast_singleton, List.prefix_nil] at hp
      exact absurd hp hn
    · have hrn : relName root d = (root :: d.rel.dropLast) ++ [dropSuffix (lastName d)] := by
        simp [relName, hdne]
      rw [hrn, List.dropLast_concat] at hp
      cases n with
      | nil => exact absurd rfl hn
      | cons x q =>
        obtain ⟨rfl, hq⟩ := List.cons_prefix_cons.1 hp
        refine ⟨q, rfl, hq.trans (List.dropLast_prefix _), fun h => ?_⟩
        have := hq.length_le
        rw [h, List.length_dropLast] at this
        have := List.length_pos_iff.2 hdne
        omega
  obtain ⟨q, rfl, hqd, hqne⟩ := hq
  by_cases hmq : mp <+: q
  · obtain ⟨c, hc, hcd, hcr⟩ := prefix_root s d hd q hqd hqne
    have hcS : Survives excl base mp c := survives_ancestor excl base hS hcd (hcr ▸ hmq) (hcr ▸ hqd)
    exact Or.inl ⟨c, hc, hcS, by rw [relName_dir s nm root c hc hcd (Rel.of_survives hcS), hcr]⟩
  · have hqm : q <+: mp := (List.prefix_or_prefix_of_prefix hqd hS.1).resolve_right hmq
    have hlt : q.length < mp.length :=
      Nat.lt_of_le_of_ne hqm.length_le fun h => hmq (hqm.eq_of_length h ▸ List.prefix_refl _)
    refine Or.inr ⟨q.length + 1, Nat.succ_pos _, hlt, ?_⟩
    rw [List.take_succ_cons, ← List.prefix_iff_eq_take.1 hqm]

end

section
-- scanning a sub-directory: `R` is generic because the sub-scan lemmas use the naming facts of the whole-root scan
-- (`R := Rel excl base []`) together with another `mp` (`SubScan.survives_subscan_name`, `C04.subscan_modules`)
variable {R : List Str → Prop} {entries : List Entry} (s : Shape entries) (nm : Names R entries) {mp : List Str}
  (hmp : mpOK entries mp = true)

theorem survives_subscan (hclear : ∀ k, k < mp.length → excl (pathStr base (mp.take k)) = false) (d : Entry) :
    Survives excl base mp d ↔ mp <+: d.rel ∧ Survives excl base [] d := by
  constructor
  · intro h
    exact ⟨h.1, survives_mono excl base (List.nil_prefix) h (fun k _ hk => hclear k hk)⟩
  · rintro ⟨h1, h2⟩
    exact survives_restrict excl base h2 h1 (Nat.zero_le _)

include s nm hmp

/-- the name of `module_path` is well-formed (its directories are relevant, hence named well) -/
theorem mp_wf (hR : R mp) (root : Str) (hroot : compWF root = true) : nameWF (root :: mp) = true := by
  obtain ⟨e, he, hr, hd⟩ := start_repr hmp
  have := relName_wf s nm root hroot e he (by simp [dirOrPy, hd]) (hr ▸ hR)
  rwa [relName_dir s nm root e he hd (hr ▸ hR), hr] at this

theorem prefix_relName_iff (root : Str) (e : Entry) (he : e ∈ rootEntry :: entries) (hk : dirOrPy e = true)
    (hR : R e.rel) :
    (root :: mp) <+: relName root e ↔ mp <+: e.rel := by
  cases hd : e.isDir with
  | true => rw [relName_dir s nm root e he hd hR, List.cons_prefix_cons]; exact and_iff_right rfl
  | false =>
    have hee : e ∈ entries := (List.mem_cons.1 he).resolve_left fun h => by rw [h] at hd; cases hd
    have hne : mp ≠ e.rel := fun h => by rw [at_mp_isDir s hmp e he h.symm] at hd; cases hd
    simp only [relName, List.isEmpty_iff, s.ne e hee, if_false, List.cons_prefix_cons, true_and]
    refine ⟨fun h => ?_, fun h => (FlatTree.prefix_dropLast h hne).trans (List.prefix_append _ _)⟩
    rcases List.prefix_concat_iff.1 h with heq | hp
    · rcases mpOK_cases hmp with h0 | ⟨e', h1, h2, h3⟩
      · rw [h0]; exact List.nil_prefix
      · simp only [dirOrPy, hd, Bool.false_or] at hk
        exact absurd (h3.trans heq) (nm.noClash e hee hR hd hk e' h1 h2)
    · exact hp.trans (List.dropLast_prefix _)

end

end ScanSpec
end Pta
