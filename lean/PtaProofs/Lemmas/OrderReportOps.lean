/-
  PtaProofs.Lemmas.OrderReportOps —
  order independence at the level of the fluent API: two call chains that differ only in the order in which module names /
  layer names are listed inside `are_named(...)`, `are_sub_modules_of(...)`, `have_name_containing(...)` (and, for layer
  rules, in the order in which the layers of the architecture were defined) give the same outcome: the same error raised by
  the same call, or the same verdict with the same message lines.
-/
import PtaProofs.Lemmas.OrderReport
import PtaProofs.Lemmas.LayerRuleSim
namespace Pta.OrdR
open Pta.Ord Pta.OrdS

inductive RuleOpPerm : RuleOp → RuleOp → Prop
  | refl (op : RuleOp) : RuleOpPerm op op
  | areNamed {ns ns' : List Str} (h : ns.Perm ns') : RuleOpPerm (.areNamed ns) (.areNamed ns')
  | areSubModulesOf {ns ns' : List Str} (h : ns.Perm ns') : RuleOpPerm (.areSubModulesOf ns) (.areSubModulesOf ns')
  | haveNameContaining {ps ps' : List Str} (h : ps.Perm ps') : RuleOpPerm (.haveNameContaining ps) (.haveNameContaining ps')

/-- two `Rule` objects in the same builder state: configurations that list the same subjects, objects and removed
    subjects (`CfgRel`), and the same `next` (`_modules_to_check_to_be_specified_next`: the list the next naming call
    fills), so that every fluent call acts alike on both -/
def SRel (s s' : RuleState) : Prop := CfgRel s.cfg s'.cfg ∧ s.next = s'.next

theorem SRel.refl (s : RuleState) : SRel s s := ⟨CfgRel.refl _, rfl⟩

theorem setModules_rel {s s' : RuleState} (h : SRel s s') {ms ms' : List Filter} (hm : SM ms ms') :
    ERel SRel (s.setModules ms) (s'.setModules ms') := by
  obtain ⟨hc, hn⟩ := h
  unfold RuleState.setModules
  rw [← hn]
  cases s.next with
  | none => rfl
  | some b =>
    cases b
    · exact ⟨{ hc with objects := hm }, rfl⟩
    · exact ⟨{ hc with subjects := hm }, rfl⟩

theorem step_rel (glob : Str → Str) {s s' : RuleState} (h : SRel s s') {op op' : RuleOp} (ho : RuleOpPerm op op') :
    ERel SRel (s.step glob op) (s'.step glob op') := by
  cases ho with
  | areNamed hp => exact setModules_rel h (SM.of_perm (hp.map _))
  | areSubModulesOf hp => exact setModules_rel h (SM.of_perm (hp.map _))
  | haveNameContaining hp => exact setModules_rel h (SM.of_perm (hp.map _))
  | refl op =>
    obtain ⟨hc, hn⟩ := h
    -- every other call sets the same fields to the same values on both sides
    cases op with
    | modulesThat => exact ⟨hc, rfl⟩
    | areNamed ns => exact setModules_rel ⟨hc, hn⟩ (SM.refl _)
    | areSubModulesOf ns => exact setModules_rel ⟨hc, hn⟩ (SM.refl _)
    | haveNameMatching p => exact setModules_rel ⟨hc, hn⟩ (SM.refl _)
    | haveNameContaining ps => exact setModules_rel ⟨hc, hn⟩ (SM.refl _)
    | should => exact ⟨{ hc with should := rfl }, hn⟩
    | shouldOnly => exact ⟨{ hc with shouldOnly := rfl }, hn⟩
    | shouldNot => exact ⟨{ hc with shouldNot := rfl }, hn⟩
    | importThat => exact ⟨{ hc with importDir := rfl }, rfl⟩
    | beImportedByThat => exact ⟨{ hc with importDir := rfl }, rfl⟩
    | importExcept => exact ⟨{ hc with importDir := rfl, exceptPresent := rfl }, rfl⟩
    | beImportedByExcept => exact ⟨{ hc with importDir := rfl, exceptPresent := rfl }, rfl⟩
    | importAnything => exact ⟨{ hc with importDir := rfl, anything := rfl }, rfl⟩
    | beImportedByAnything => exact ⟨{ hc with importDir := rfl, anything := rfl }, rfl⟩

theorem runRuleOpsTextGo_rel (glob : Str → Str) (mt : Str → Str → Bool) {g g' : PGraph Str} (hg : GraphEquiv g g')
    {ops ops' : List RuleOp} (ho : ListRel RuleOpPerm ops ops') :
    ∀ (s s' : RuleState) (i : Nat), SRel s s' →
      runRuleOpsTextGo glob mt g s i ops = runRuleOpsTextGo glob mt g' s' i ops' := by
  induction ho with
  | nil =>
    intro s s' i h
    simp only [runRuleOpsTextGo]
    rw [Pta.report_congr_lemma mt g g' hg s s' h.1]
  | cons hop _ ih =>
    intro s s' i h
    simp only [runRuleOpsTextGo]
    obtain ⟨e, hx, hy⟩ | ⟨t, t', hx, hy, hr⟩ := (step_rel glob h hop).cases <;> simp only [hx, hy]
    exact ih t t' (i + 1) hr

/-- layered architectures that look the same to `LayerRule`: the same layers in another definition order, and every
    layer name denotes the same filters -/
def ArchRel (a a' : LArch) : Prop := a.Perm a' ∧ ∀ n, a.get n = a'.get n

theorem ArchRel.refl (a : LArch) : ArchRel a a := ⟨List.Perm.refl _, fun _ => rfl⟩

/-- for architectures with distinct layer names (all the builder produces) a permutation is enough -/
theorem archRel_of_perm {a a' : LArch} (hp : a.Perm a') (hn : (a.map (·.1)).Nodup) : ArchRel a a' :=
  ⟨hp, LArch.get_perm hp hn⟩

inductive LayerRuleOpPerm : LayerRuleOp → LayerRuleOp → Prop
  | refl (op : LayerRuleOp) : LayerRuleOpPerm op op
  | areNamed {ls ls' : List Str} (isList : Bool) (h : ls.Perm ls') : LayerRuleOpPerm (.areNamed ls isList) (.areNamed ls' isList)
  | basedOn {a a' : LArch} (h : ArchRel a a') : LayerRuleOpPerm (.basedOn a) (.basedOn a')

/-- two `LayerRule` objects in the same builder state: the architectures handed to `based_on` (none yet on both sides, or
    two that `ArchRel` relates) and the inner `Rule` objects (none yet, or `SRel`) -/
def LSRel (s s' : LayerRuleState) : Prop := ORel ArchRel s.arch s'.arch ∧ ORel SRel s.rule s'.rule

theorem LSRel.refl (s : LayerRuleState) : LSRel s s := by
  rcases s with ⟨a, r⟩
  constructor
  · cases a <;> simp [ORel, ArchRel.refl]
  · cases r <;> simp [ORel, SRel.refl]

/-- stated as an implication: a hypothesis in scope would be abstracted into the `match` -/
theorem optList_sm {o o' : Option (List Filter)} :
    ORel SM o o' → SM (match o with | some l => l | none => []) (match o' with | some l => l | none => []) := by
  cases o <;> cases o' <;> intro h
  · exact SM.refl _
  · exact h.elim
  · exact h.elim
  · exact h

theorem addModules_rel {r r' : RuleState} (h : SRel r r') {ms ms' : List Filter} (hm : SM ms ms') :
    SRel (r.addModules ms) (r'.addModules ms') := by
  obtain ⟨hc, hn⟩ := h
  unfold RuleState.addModules
  rw [← hn]
  split
  · exact ⟨{ hc with subjects := SM.append (optList_sm hc.subjects) hm }, rfl⟩
  · exact ⟨{ hc with objects := SM.append (optList_sm hc.objects) hm }, rfl⟩

/-- the `Rule` call a `LayerRule` call forwards to (none for the three calls `LayerRule` handles itself) -/
def ropOf : LayerRuleOp → Option RuleOp
  | .should => some .should | .shouldOnly => some .shouldOnly | .shouldNot => some .shouldNot
  | .access => some .importThat | .beAccessedBy => some .beImportedByThat
  | .accessExcept => some .importExcept | .beAccessedByExcept => some .beImportedByExcept
  | .accessAny => some .importAnything | .beAccessedByAny => some .beImportedByAnything
  | _ => none

theorem step_forward (s : LayerRuleState) (op : LayerRuleOp) (rop : RuleOp) (h : ropOf op = some rop) :
    s.step op = match s.rule with
      | none => .error .improperlyConfigured
      | some r => (r.step noGlob rop).map fun r' => { s with rule := some r' } := by
  cases op <;> simp only [ropOf, reduceCtorEq, Option.some.injEq] at h <;> subst h <;> rfl

theorem forward_rel {s s' : LayerRuleState} (h : LSRel s s') (rop : RuleOp) :
    ERel LSRel
      (match s.rule with
        | none => .error .improperlyConfigured
        | some r => (r.step noGlob rop).map fun r' => { s with rule := some r' })
      (match s'.rule with
        | none => .error .improperlyConfigured
        | some r => (r.step noGlob rop).map fun r' => { s' with rule := some r' }) := by
  obtain ⟨ha, hr⟩ := h
  rcases s with ⟨a, r⟩
  rcases s' with ⟨a', r'⟩
  cases r <;> cases r' <;> simp only [ORel] at hr
  · rfl
  · exact ERel.map_rel _ _ (step_rel noGlob hr (RuleOpPerm.refl rop)) (fun t t' ht => ⟨ha, ht⟩)

theorem areNamed_rel {s s' : LayerRuleState} (h : LSRel s s') {ls ls' : List Str} (isList : Bool) (hp : ls.Perm ls') :
    ERel LSRel (s.step (.areNamed ls isList)) (s'.step (.areNamed ls' isList)) := by
  obtain ⟨ha, hr⟩ := h
  rcases s with ⟨a, r⟩
  rcases s' with ⟨a', r'⟩
  cases r <;> cases r' <;> simp only [ORel] at hr
  · rfl
  · rename_i r r'
    cases a <;> cases a' <;> simp only [ORel] at ha
    · rfl
    · rename_i a a'
      rw [Hist.step_areNamed _ r a ls isList rfl rfl, Hist.step_areNamed _ r' a' ls' isList rfl rfl, ← hr.2,
        neOpt_congr hr.1.subjects, (funext fun n => (ha.2 n).symm : a'.get = a.get)]
      exact ERel.guard _ _ (ERel.guard _ _ (ERel.map_rel _ _ (OrdL.layers_get_perm a hp) fun ms ms' hms =>
        ⟨ha, addModules_rel hr (SM.of_perm hms)⟩))

theorem basedOn_rel {s s' : LayerRuleState} (h : LSRel s s') {a a' : LArch} (hab : ArchRel a a') :
    ERel LSRel (s.step (.basedOn a)) (s'.step (.basedOn a')) := by
  obtain ⟨ha, hr⟩ := h
  rcases s with ⟨x, r⟩
  rcases s' with ⟨x', r'⟩
  simp only [LayerRuleState.step]
  cases x <;> cases x' <;> simp only [ORel] at ha
  · exact ⟨hab, hr⟩
  · rfl

theorem layersThat_rel {s s' : LayerRuleState} (h : LSRel s s') :
    ERel LSRel (s.step .layersThat) (s'.step .layersThat) := by
  obtain ⟨ha, hr⟩ := h
  rcases s with ⟨x, r⟩
  rcases s' with ⟨x', r'⟩
  simp only [LayerRuleState.step]
  cases x <;> cases x' <;> simp only [ORel] at ha
  · rfl
  · exact ⟨ha, SRel.refl _⟩

theorem layerStep_rel {s s' : LayerRuleState} (h : LSRel s s') {op op' : LayerRuleOp} (ho : LayerRuleOpPerm op op') :
    ERel LSRel (s.step op) (s'.step op') := by
  cases ho with
  | areNamed isList hp => exact areNamed_rel h isList hp
  | basedOn hab => exact basedOn_rel h hab
  | refl op =>
    cases hop : ropOf op with
    | some rop =>
      rw [step_forward s op rop hop, step_forward s' op rop hop]
      exact forward_rel h rop
    | none =>
      cases op <;> simp only [ropOf, reduceCtorEq] at hop
      · exact basedOn_rel h (ArchRel.refl _)
      · exact layersThat_rel h
      · exact areNamed_rel h _ (List.Perm.refl _)

theorem assertAppliesLayerText_rel (mt : Str → Str → Bool) {g g' : PGraph Str} (hg : GraphEquiv g g')
    {s s' : LayerRuleState} (h : LSRel s s') : assertAppliesLayerText mt s g = assertAppliesLayerText mt s' g' := by
  obtain ⟨ha, hr⟩ := h
  rcases s with ⟨a, r⟩
  rcases s' with ⟨a', r'⟩
  cases r <;> cases r' <;> simp only [ORel] at hr
  · rfl
  · cases a <;> cases a' <;> simp only [ORel] at ha
    · rfl
    · exact Pta.report_layer_congr_lemma mt g g' hg _ _ ha.1 _ _ hr.1

theorem runLayerRuleOpsTextGo_rel (mt : Str → Str → Bool) {g g' : PGraph Str} (hg : GraphEquiv g g')
    {ops ops' : List LayerRuleOp} (ho : ListRel LayerRuleOpPerm ops ops') :
    ∀ (s s' : LayerRuleState) (i : Nat), LSRel s s' →
      runLayerRuleOpsTextGo mt g s i ops = runLayerRuleOpsTextGo mt g' s' i ops' := by
  induction ho with
  | nil =>
    intro s s' i h
    simp only [runLayerRuleOpsTextGo]
    rw [assertAppliesLayerText_rel mt hg h]
  | cons hop _ ih =>
    intro s s' i h
    simp only [runLayerRuleOpsTextGo]
    obtain ⟨e, hx, hy⟩ | ⟨t, t', hx, hy, hr⟩ := (layerStep_rel h hop).cases <;> simp only [hx, hy]
    exact ih t t' (i + 1) hr

end Pta.OrdR

namespace Pta

/-- two `Rule` call chains that differ only in the order in which names are listed inside a call -/
def RuleOpsUpToOrder (ops ops' : List RuleOp) : Prop := OrdR.ListRel OrdR.RuleOpPerm ops ops'

/-- two `LayerRule` call chains that differ only in the order in which layer names are listed inside `are_named` and in
    the definition order of the architecture handed to `based_on` -/
def LayerRuleOpsUpToOrder (ops ops' : List LayerRuleOp) : Prop := OrdR.ListRel OrdR.LayerRuleOpPerm ops ops'

end Pta
