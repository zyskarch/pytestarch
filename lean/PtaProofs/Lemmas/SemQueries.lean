/-
  PtaProofs.Lemmas.SemQueries — the second layer of the C01 proof: what the three query families return on a rule in whose
  filter lists no `sub modules of` parent lies inside another filter (`PFree`; `RuleCtx`), and the shape of
  `assertApplies (compile r)`.
-/
import PtaProofs.Lemmas.SemHier
import PtaProofs.Lemmas.Expansion
namespace Pta
open PtaSpec

theorem mem_dedup_map (os : List SFilter) (F : Filter) :
    F ∈ dedup (os.map compileFilter) ↔ ∃ o ∈ os, F = compileFilter o := by
  simp only [mem_dedup, List.mem_map]
  constructor
  · rintro ⟨o, ho, rfl⟩; exact ⟨o, ho, rfl⟩
  · rintro ⟨o, ho, rfl⟩; exact ⟨o, ho, rfl⟩

/-- what a query family returns: for every index `i` with `I i` an entry with key `key i` whose pairs represent
    `tgt i`, and no other entry -/
def Keyed {ι κ : Type} (I : ι → Prop) (key : ι → κ) (tgt : ι → List (Name × Name))
    (e : List (κ × List (Str × Str))) : Prop :=
  (∀ kd ∈ e, ∃ i, I i ∧ kd.1 = key i ∧ Rep kd.2 (tgt i)) ∧ (∀ i, I i → ∃ kd ∈ e, kd.1 = key i ∧ Rep kd.2 (tgt i))

theorem Keyed.exists_pair {ι κ : Type} {I : ι → Prop} {key : ι → κ} {tgt : ι → List (Name × Name)}
    {e : List (κ × List (Str × Str))} (h : Keyed I key tgt e) (φ : Str × Str → Prop) :
    (∃ kd ∈ e, ∃ p ∈ kd.2, φ p) ↔ ∃ i, I i ∧ ∃ x ∈ tgt i, φ (render x.1, render x.2) := by
  constructor
  · rintro ⟨kd, hkd, p, hp, hφ⟩
    obtain ⟨i, hi, _, hrep⟩ := h.1 kd hkd
    obtain ⟨x, hx, h1, h2⟩ := (hrep p.1 p.2).1 hp
    exact ⟨i, hi, x, hx, by rw [← h1, ← h2]; exact hφ⟩
  · rintro ⟨i, hi, x, hx, hφ⟩
    obtain ⟨kd, hkd, _, hrep⟩ := h.2 i hi
    exact ⟨kd, hkd, _, (hrep _ _).2 ⟨x, hx, rfl, rfl⟩, hφ⟩

section queries
variable {a : Arch} {g : PGraph Str} (hw : ArchWF a) (hg : GraphOf a g)
include hw hg

theorem pairQuery_rep (dir : Bool) (s o : SFilter) (hs : s.id ∈ a.nodes) (ho : o.id ∈ a.nodes)
    (hso : PFree s o) (hos : PFree o s) :
    ∃ l, pairQuery g dir (compileFilter s) (compileFilter o) = .ok l ∧ Rep l (edges a dir s o) := by
  cases dir
  · exact depBetween_rep hw hg o s ho hs hos hso
  · exact depBetween_rep hw hg s o hs ho hso hos

theorem otherQuery_rep (dir : Bool) (s : SFilter) (O : List SFilter) (hs : s.id ∈ a.nodes)
    (hO : ∀ o ∈ O, o.id ∈ a.nodes) (hoo : ∀ o ∈ O, ∀ p ∈ O, PFree o p) :
    ∃ l, otherQuery g dir (compileFilter s) (O.map compileFilter) = .ok l ∧ Rep l (others a dir s O) := by
  cases dir
  · exact otherTo_rep hw hg s O _ (mem_dedup_map O) hs hO hoo
  · exact otherFrom_rep hw hg s O _ (mem_dedup_map O) hs hO hoo

end queries

/-- the behaviour flags the call chain of `r` leaves in the builder (`compile r`): one verb flag, and `except` as the rule has
    it or as the `anything` alias sets it (`effExc`). The matcher of `compile r` runs with it (`assertApplies_compile`) -/
def beh (r : RuleSpec) : Behavior := ⟨r.verb == .should, r.verb == .shouldOnly, r.verb == .shouldNot, r.effExc⟩

theorem compileFilter_noregex (fs : List SFilter) : ∀ F ∈ fs.map compileFilter, F.isRegex = false := fun F hF => by
  obtain ⟨f, _, rfl⟩ := List.mem_map.1 hF
  exact compileFilter_isRegex f

theorem convertFilters_map (mt : Str → Str → Bool) (mods : List Str) (fs : List SFilter) :
    convertFilters mt mods (fs.map compileFilter) = .ok (fs.map compileFilter) :=
  convertFilters_noregex mt mods _ (compileFilter_noregex fs)

theorem beh_consistent (r : RuleSpec) : (beh r).inconsistent = false := by
  unfold beh
  cases r.verb <;> cases r.effExc <;> rfl

theorem front_compile (mt : Str → Str → Bool) (g : PGraph Str) (r : RuleSpec)
    (hs : r.subjects ≠ []) (ho : r.anything = true ∨ r.objects ≠ [])
    (hany : r.anything = true → r.verb = .shouldNot)
    (hdd : r.anything = true → dedupSubjects (r.subjects.map compileFilter) = r.subjects.map compileFilter) :
    front mt g (compile r).cfg =
      queries mt g (beh r) r.importDir (r.subjects.map compileFilter) (r.effObjects.map compileFilter) := by
  have hb := beh_consistent r
  obtain ⟨verb, dir, exc, subjects, objects, anything⟩ := r
  simp only at hs ho hany hdd
  have hv : (verb == .should || verb == .shouldOnly || verb == .shouldNot) = true := by cases verb <;> rfl
  have hS : subjects.map compileFilter ≠ [] := by simpa using hs
  cases anything
  · exact front_finished mt g _ _ _ dir exc false _ _ hv hb nofun hS (ho.imp_right (by simpa using ·)) nofun
  · have h := front_finished mt g _ _ _ dir exc true _ (objects.map compileFilter) hv hb (fun _ => by rw [hany rfl]; rfl)
      (by rw [if_pos rfl, hdd rfl]; exact hS) (.inl rfl) (fun _ => droppedAbsentIn_of_dedup_eq g _ (hdd rfl))
    rw [if_pos rfl, hdd rfl] at h
    exact h

theorem assertApplies_compile (mt : Str → Str → Bool) (g : PGraph Str) (r : RuleSpec)
    (hs : r.subjects ≠ []) (ho : r.anything = true ∨ r.objects ≠ [])
    (hany : r.anything = true → r.verb = .shouldNot)
    (hdd : r.anything = true → dedupSubjects (r.subjects.map compileFilter) = r.subjects.map compileFilter) :
    (assertApplies mt (compile r) g).2 =
      matchRule mt g (beh r) r.importDir (r.subjects.map compileFilter) (r.effObjects.map compileFilter) :=
  assertApplies_of_front (front_compile mt g r hs ho hany hdd)

/-- what the transfer from model to specification needs of a rule on an architecture: no filter of the rule has a member that is
    the parent identifier of another (`PFree`: the searches' special case for `are_sub_modules_of` identifiers never fires),
    and every identifier the rule names is a module (no lookup fails) -/
structure RuleCtx (a : Arch) (r : RuleSpec) : Prop where
  pfree : ∀ f ∈ r.subjects ++ r.effObjects, ∀ f' ∈ r.subjects ++ r.effObjects, PFree f f'
  names : ∀ f ∈ r.subjects ++ r.effObjects, f.id ∈ a.nodes

/-- the result of `get_dependencies` for `compile r`, against the specification: one entry per (subject, object) pair of the
    rule, keyed by the two modules importer first, whose imports represent `edges a r.importDir s o` -/
abbrev ESpec (a : Arch) (r : RuleSpec) : ExplDeps → Prop :=
  Keyed (fun so : SFilter × SFilter => so.1 ∈ r.subjects ∧ so.2 ∈ r.effObjects)
    (fun so => userOrder r.importDir (sfilterMod so.1, sfilterMod so.2)) (fun so => edges a r.importDir so.1 so.2)

/-- the result of the "something else" search for `compile r`: one entry per subject, keyed by its module, whose imports
    represent `others a r.importDir s r.effObjects` -/
abbrev OSpec (a : Arch) (r : RuleSpec) : OtherDeps → Prop :=
  Keyed (· ∈ r.subjects) sfilterMod (fun s => others a r.importDir s r.effObjects)

theorem rep_okD {x : Except ErrKind (List (Str × Str))} {es : List (Name × Name)} (h : ∃ l, x = .ok l ∧ Rep l es) :
    Rep (okD x) es := by
  obtain ⟨l, rfl, hr⟩ := h
  exact hr

theorem runQueries_compile {a : Arch} {g : PGraph Str} (hw : ArchWF a) (hg : GraphOf a g) (r : RuleSpec)
    (ctx : RuleCtx a r) :
    ∃ e o, ESpec a r e ∧ OSpec a r o ∧
      runQueries g (beh r) r.importDir (r.subjects.map compileFilter) (r.effObjects.map compileFilter) =
        .ok (if ((beh r).explReq || (beh r).explForb) = true then some e else none,
             if ((beh r).otherReq || (beh r).otherForb) = true then some o else none) := by
  have hS : ∀ f ∈ r.subjects, f.id ∈ a.nodes := fun f hf => ctx.names f (List.mem_append_left _ hf)
  have hO : ∀ f ∈ r.effObjects, f.id ∈ a.nodes := fun f hf => ctx.names f (List.mem_append_right _ hf)
  have hP := fun s hs o ho => pairQuery_rep hw hg r.importDir s o (hS s hs) (hO o ho)
    (ctx.pfree s (List.mem_append_left _ hs) o (List.mem_append_right _ ho))
    (ctx.pfree o (List.mem_append_right _ ho) s (List.mem_append_left _ hs))
  have hX := fun s hs => otherQuery_rep hw hg r.importDir s r.effObjects (hS s hs) hO fun o ho p hp =>
    ctx.pfree o (List.mem_append_right _ ho) p (List.mem_append_right _ hp)
  refine ⟨_, _, ⟨?_, fun so h => ⟨_, mem_ansE.2 ⟨_, List.mem_map_of_mem h.1, _, List.mem_map_of_mem h.2, rfl⟩,
      by simp only [compileFilter_toMod], rep_okD (hP _ h.1 _ h.2)⟩⟩,
    ⟨?_, fun s h => ⟨_, mem_ansO.2 ⟨_, List.mem_map_of_mem h, rfl⟩, compileFilter_toMod s, rep_okD (hX s h)⟩⟩,
    (runQueries_iff ..).2 ⟨?_, rfl⟩⟩
  · intro kd hkd
    obtain ⟨_, hs', _, ho', rfl⟩ := mem_ansE.1 hkd
    obtain ⟨s, hs, rfl⟩ := List.mem_map.1 hs'
    obtain ⟨o, ho, rfl⟩ := List.mem_map.1 ho'
    exact ⟨(s, o), ⟨hs, ho⟩, by simp only [compileFilter_toMod], rep_okD (hP s hs o ho)⟩
  · intro kd hkd
    obtain ⟨_, hs', rfl⟩ := mem_ansO.1 hkd
    obtain ⟨s, hs, rfl⟩ := List.mem_map.1 hs'
    exact ⟨s, hs, compileFilter_toMod s, rep_okD (hX s hs)⟩
  · intro _ hs'
    obtain ⟨s, hs, rfl⟩ := List.mem_map.1 hs'
    refine ⟨fun _ _ ho' => ?_, fun _ => (hX s hs).imp fun _ h => h.1⟩
    obtain ⟨o, ho, rfl⟩ := List.mem_map.1 ho'
    exact (hP s hs o ho).imp fun _ h => h.1

end Pta
