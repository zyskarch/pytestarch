/-
  PtaProofs.Lemmas.SemHier — the first layer of the C01 proof: on a graph representing a well-formed architecture,
  hierarchy reachability is the dotted-prefix relation, and the three searches on compiled filters return
  exactly the rendered `edges` / `others` of the specification.
-/
import Bridge.Abs
import PtaProofs.Lemmas.Render
import PtaProofs.Lemmas.BuildNames
import PtaProofs.Lemmas.ExtNames
import PtaProofs.Lemmas.BuildGen
import PtaProofs.Lemmas.SearchChar
namespace Pta
open PtaSpec

/-- `a.wf = true` clause by clause, as the proofs use it (`archWF_of_wf`): node names are well formed; every non-empty prefix
    of a node is a node (a package exists with its sub modules); imports run between nodes; and no module imports one of its
    own strict sub modules (`noAnc`; used where the "be imported by" search skips the importer itself, `otherTo_rep`) -/
structure ArchWF (a : Arch) : Prop where
  nwf : ∀ n ∈ a.nodes, nameWF n = true
  pref : ∀ n ∈ a.nodes, ∀ p, p ≠ [] → p <+: n → p ∈ a.nodes
  impL : ∀ e ∈ a.imports, e.1 ∈ a.nodes
  impR : ∀ e ∈ a.imports, e.2 ∈ a.nodes
  noAnc : ∀ e ∈ a.imports, sdesc e.1 e.2 = false

theorem archWF_of_wf (a : Arch) (h : a.wf = true) : ArchWF a :=
  ⟨BuildNames.wf_nodes a h, fun _ hn _ hp hpre => BuildNames.wf_of_prefix a h hn hp hpre,
    fun e he => (BuildNames.wf_import a h e he).1, fun e he => (BuildNames.wf_import a h e he).2.1,
    fun e he => (BuildNames.wf_import a h e he).2.2.2⟩

theorem sdesc_length {x n : Name} (h : sdesc x n = true) : x.length < n.length :=
  ((sdesc_iff_lt x n).1 h).2

theorem related_of_prefixes {x y n : Name} (hx : x <+: n) (hy : y <+: n) : related x y = true := by
  unfold related
  rcases List.prefix_or_prefix_of_prefix hx hy with h | h
  · simp [(desc_iff _ _).2 h]
  · simp [(desc_iff _ _).2 h]

theorem related_comm (x y : Name) : related x y = related y x := by
  simp [related, Bool.or_comm]

theorem pu_iff (l : List Name) : pairwiseUnrelated l = true ↔ l.Pairwise fun a b => related a b = false := by
  induction l with
  | nil => simp [pairwiseUnrelated]
  | cons x xs ih => simp [pairwiseUnrelated, ih]

theorem pairwise_sym_mem {α : Type} {R : α → α → Prop} (hsym : ∀ a b, R a b → R b a) {l : List α}
    (h : l.Pairwise R) : ∀ a ∈ l, ∀ b ∈ l, a = b ∨ R a b :=
  List.Pairwise.forall_of_forall_of_flip (R := fun a b => a = b ∨ R a b) (fun _ _ => .inl rfl) (h.imp .inr)
    (h.imp fun hab => .inr (hsym _ _ hab))

theorem reach_sound {a : Arch} {g : PGraph Str} (hw : ArchWF a) (hg : GraphOf a g) (x : Name) (hx : x ∈ a.nodes)
    (r s : Str) (hr : r = render x) (h : Reach g r s) : ∃ n ∈ a.nodes, s = render n ∧ x <+: n := by
  induction h with
  | refl => exact ⟨x, hx, hr, List.prefix_refl _⟩
  | step _ hc0 ih =>
    obtain ⟨n, hn, rfl, hpre⟩ := ih
    obtain ⟨c, hc, hlen, hs, rfl⟩ := (hg.hier _ _).1 hc0
    have hdl : c.dropLast ≠ [] := by
      intro h0
      have := congrArg List.length h0
      simp [List.length_dropLast] at this
      omega
    have : n = c.dropLast := render_injective n c.dropLast (hw.nwf n hn)
      (nameWF_of_prefix (hw.nwf c hc) hdl (List.dropLast_prefix c)) hs
    exact ⟨c, hc, rfl, hpre.trans (this ▸ List.dropLast_prefix c)⟩

/-- dotted ancestors are nodes, and every immediate-parent pair into a node is a hierarchy edge -/
structure DottedHier (g : PGraph Str) : Prop where
  closed : ∀ e ∈ g.nodes, ∀ s ∈ ExtNames.chain e, s ∈ g.nodes
  hier : ∀ a b, ExtNames.hierPair a b → b ∈ g.nodes → b ∈ g.hierChildren a

theorem DottedHier.reach {g : PGraph Str} (hd : DottedHier g) (a : Str) :
    ∀ k b, b ∈ g.nodes → splitDots a <+: splitDots b → (splitDots b).length = (splitDots a).length + k →
      Reach g a b := by
  intro k
  induction k with
  | zero =>
    intro b _ hp hl
    have : splitDots a = splitDots b := hp.eq_of_length (by omega)
    rw [ExtNames.splitDots_injective this]
    exact .refl _
  | succ k ih =>
    intro b hb hp hl
    have hane : splitDots a ≠ [] := splitDots_ne_nil a
    have halen : 0 < (splitDots a).length := List.length_pos_iff.2 hane
    have hbne : splitDots b ≠ [] := splitDots_ne_nil b
    have hdne : (splitDots b).dropLast ≠ [] := by
      intro h
      have := congrArg List.length h
      simp at this
      omega
    have hnodot : ∀ c ∈ (splitDots b).dropLast, '.' ∉ c :=
      fun c hc => ExtNames.splitDots_mem_nodot b c (List.dropLast_subset _ hc)
    have hsplit : splitDots (joinDots (splitDots b).dropLast) = (splitDots b).dropLast :=
      splitDots_joinDots _ hnodot hdne
    have hpair : ExtNames.hierPair (joinDots (splitDots b).dropLast) b := by
      rw [ExtNames.hierPair_iff, hsplit]
      exact ⟨(splitDots b).getLast hbne, (List.dropLast_concat_getLast hbne).symm⟩
    have hb' : joinDots (splitDots b).dropLast ∈ g.nodes :=
      hd.closed b hb _ (ExtNames.parent_mem_chain (ExtNames.hierPair_parent hpair))
    have hp' : splitDots a <+: splitDots (joinDots (splitDots b).dropLast) := by
      rw [hsplit]
      obtain ⟨t, ht⟩ := hp
      have htne : t ≠ [] := by
        rintro rfl
        rw [List.append_nil] at ht
        rw [← ht] at hl; omega
      rw [← ht, List.dropLast_append_of_ne_nil htne]
      exact List.prefix_append _ _
    have hl' : (splitDots (joinDots (splitDots b).dropLast)).length = (splitDots a).length + k := by
      rw [hsplit, List.length_dropLast]; omega
    exact .step (ih _ hb' hp' hl') (hd.hier _ _ hpair hb)

theorem graphOf_dottedHier {a : Arch} {g : PGraph Str} (hw : ArchWF a) (hg : GraphOf a g) : DottedHier g := by
  have hnode : ∀ s, s ∈ g.nodes ↔ ∃ n ∈ a.nodes, s = render n := fun s => (BuildGen.hasNode_iff g s).symm.trans (hg.nodes s)
  constructor
  · intro e he s hs
    obtain ⟨n, hn, rfl⟩ := (hnode e).1 he
    obtain ⟨p, hne, hp, rfl⟩ := (ExtNames.mem_chain_render (hw.nwf n hn) s).1 hs
    exact (hnode _).2 ⟨p, hw.pref n hn p hne hp, rfl⟩
  · intro x b hp hb
    obtain ⟨c, hc, rfl⟩ := (hnode b).1 hb
    obtain ⟨hlen, rfl⟩ := (ExtNames.hierPair_render (hw.nwf c hc) x).1 hp
    exact (hg.hier _ _).2 ⟨c, hc, hlen, rfl, rfl⟩

theorem reach_iff {a : Arch} {g : PGraph Str} (hw : ArchWF a) (hg : GraphOf a g) (x : Name) (hx : x ∈ a.nodes)
    (s : Str) : Reach g (render x) s ↔ ∃ n ∈ a.nodes, s = render n ∧ x <+: n := by
  constructor
  · exact reach_sound hw hg x hx _ s rfl
  · rintro ⟨n, hn, rfl, hpre⟩
    have h := (graphOf_dottedHier hw hg).reach (render x) (n.length - x.length) (render n)
      ((BuildGen.hasNode_iff g _).1 ((hg.nodes _).2 ⟨n, hn, rfl⟩))
    rw [splitDots_render x (hw.nwf x hx), splitDots_render n (hw.nwf n hn)] at h
    have := hpre.length_le
    exact h hpre (by omega)

theorem reach_render {a : Arch} {g : PGraph Str} (hw : ArchWF a) (hg : GraphOf a g) (x n : Name) (hx : x ∈ a.nodes)
    (hn : n ∈ a.nodes) : Reach g (render x) (render n) ↔ desc x n = true := by
  rw [reach_iff hw hg x hx, desc_iff]
  constructor
  · rintro ⟨m, hm, he, hpre⟩
    rw [render_injective n m (hw.nwf n hn) (hw.nwf m hm) he]; exact hpre
  · intro h; exact ⟨n, hn, rfl, h⟩

theorem hasNode_render {a : Arch} {g : PGraph Str} (hg : GraphOf a g) (n : Name) (hn : n ∈ a.nodes) :
    g.hasNode (render n) = true := (hg.nodes _).2 ⟨n, hn, rfl⟩

theorem submodules_of_graphOf (a : Arch) (g : PGraph Str) (hwf : a.wf = true) (hg : GraphOf a g) (n : Name)
    (hn : n ∈ a.nodes) :
    ∃ l, submodulesOf g (render n) = .ok l ∧ ∀ x, x ∈ l ↔ ∃ m ∈ a.nodes, x = render m ∧ n <+: m := by
  obtain ⟨l, hl, hm⟩ := (submodulesOf_lookup g (render n)).1 (hasNode_render hg n hn)
  refine ⟨l, hl, fun x => ?_⟩
  rw [hm x, reach_iff (archWF_of_wf a hwf) hg n hn x]

theorem hasNode_render_false {a : Arch} {g : PGraph Str} (hw : ArchWF a) (hg : GraphOf a g) (n : Name)
    (hwf : nameWF n = true) (hn : n ∉ a.nodes) : g.hasNode (render n) = false := by
  cases h : g.hasNode (render n)
  · rfl
  · obtain ⟨m, hm, he⟩ := (hg.nodes _).1 h
    exact absurd (render_injective n m hwf (hw.nwf m hm) he ▸ hm) hn

@[simp] theorem compileFilter_id (f : SFilter) : (compileFilter f).id = render f.id := by cases f <;> rfl
@[simp] theorem compileFilter_isParent (f : SFilter) : (compileFilter f).isParent = f.isSub := by cases f <;> rfl
@[simp] theorem compileFilter_isRegex (f : SFilter) : (compileFilter f).isRegex = false := by cases f <;> rfl
@[simp] theorem compileFilter_toMod (f : SFilter) : (compileFilter f).toMod = sfilterMod f := by cases f <;> rfl

theorem compileFilter_inj (f f' : SFilter) (hf : nameWF f.id = true) (hf' : nameWF f'.id = true)
    (h : compileFilter f = compileFilter f') : f = f' := by
  cases f <;> cases f' <;> simp [compileFilter] at h <;>
    simp only [SFilter.id] at hf hf' <;> rw [render_injective _ _ hf hf' h]

theorem mem_parentIds_of_mem (L : List Filter) (os : List SFilter) (hL : ∀ F, F ∈ L ↔ ∃ o ∈ os, F = compileFilter o)
    (x : Str) : x ∈ parentIds L ↔ ∃ f ∈ os, f.isSub = true ∧ x = render f.id := by
  simp only [parentIds, List.mem_map, List.mem_filter, hL]
  constructor
  · rintro ⟨_, ⟨⟨o, ho, rfl⟩, hp⟩, rfl⟩
    exact ⟨o, ho, by simpa using hp, by simp⟩
  · rintro ⟨o, ho, hs, rfl⟩
    exact ⟨_, ⟨⟨o, ho, rfl⟩, by simpa using hs⟩, by simp⟩

/-- any two filters of a strict rule (`strict_compat_pairs`): the same filter, or identifiers of which neither is a dotted prefix
    of the other; `compatible r` (Bridge/RuleChain.lean) asks this only of the pairs with an `are_sub_modules_of` filter. It
    implies `PFree` (`pfree_of_compat`), which is all the searches need -/
def Compat (f o : SFilter) : Prop := f = o ∨ related f.id o.id = false

theorem mem_desc (f : SFilter) (n : Name) (h : f.mem n = true) : desc f.id n = true := by
  cases f <;> simp_all [SFilter.mem, SFilter.id, sdesc, desc]

theorem mem_iff (f : SFilter) (n : Name) : f.mem n = true ↔ desc f.id n = true ∧ (f.isSub = true → n ≠ f.id) := by
  cases f with
  | named x => simp [SFilter.mem, SFilter.id, SFilter.isSub]
  | subOf x =>
    simp only [SFilter.mem, SFilter.id, SFilter.isSub, sdesc, desc, Bool.and_eq_true, bne_iff_ne, ne_eq,
      true_imp_iff]
    exact and_congr_right fun _ => ⟨fun h e => h e.symm, fun h e => h e.symm⟩

/-! ### what the searches need of two filters

    The searches treat the identifier of an `are_sub_modules_of` filter specially (`parentIds`). All that the
    correspondence with `edges` / `others` needs of two filters `f`, `o` of a rule is that no member of `f` is that
    identifier of `o`; so `are_named` filters may be related to each other in any way (equal, nested, repeated). -/

/-- no member of `f` is the parent identifier of `o` (vacuous when `o` is an `are_named` filter) -/
def PFree (f o : SFilter) : Prop := o.isSub = true → f.mem o.id = false

theorem pfree_self (f : SFilter) : PFree f f := by
  intro h
  cases f with
  | named x => cases h
  | subOf x => simp [SFilter.mem, SFilter.id, sdesc]

theorem pfree_of_compat {f o : SFilter} (h : Compat f o) : PFree f o := by
  rcases h with rfl | h
  · exact pfree_self f
  · intro _
    cases hm : f.mem o.id
    · rfl
    · have := mem_desc f _ hm
      unfold related at h
      rw [this] at h; cases h

theorem pfree_named (f o : SFilter) (ho : o.isSub = false) : PFree f o := by
  intro h; rw [ho] at h; cases h

/-- lists of search results that represent a list of architecture imports -/
def Rep (l : List (Str × Str)) (es : List (Name × Name)) : Prop :=
  ∀ u v, (u, v) ∈ l ↔ ∃ e ∈ es, u = render e.1 ∧ v = render e.2

theorem Rep.isEmpty {l : List (Str × Str)} {es : List (Name × Name)} (h : Rep l es) : l.isEmpty = es.isEmpty := by
  rw [Bool.eq_iff_iff, List.isEmpty_iff, List.isEmpty_iff]
  constructor
  · intro hl
    cases es with
    | nil => rfl
    | cons e es =>
      have := (h (render e.1) (render e.2)).2 ⟨e, by simp, rfl, rfl⟩
      simp [hl] at this
  · intro hes
    cases l with
    | nil => rfl
    | cons p l =>
      obtain ⟨e, he, _⟩ := (h p.1 p.2).1 (by simp)
      simp [hes] at he

section searches
variable {a : Arch} {g : PGraph Str} (hw : ArchWF a) (hg : GraphOf a g)
include hw hg

omit hg in
theorem render_eq_iff {x y : Name} (hx : x ∈ a.nodes) (hy : y ∈ a.nodes) : render x = render y ↔ x = y :=
  ⟨render_injective x y (hw.nwf x hx) (hw.nwf y hy), fun h => by rw [h]⟩

theorem reach_mem (s : SFilter) (hs : s.id ∈ a.nodes) {n : Name} (hn : n ∈ a.nodes) :
    (Reach g (render s.id) (render n) ∧ (s.isSub = true → render n ≠ render s.id)) ↔ s.mem n = true := by
  rw [reach_render hw hg _ _ hs hn, mem_iff, ne_eq, render_eq_iff hw hn hs]

theorem mem_iff_reach (f : SFilter) (os : List SFilter) (L : List Filter)
    (hL : ∀ F, F ∈ L ↔ ∃ o ∈ os, F = compileFilter o) (hf : f ∈ os) (hos : ∀ o ∈ os, o.id ∈ a.nodes)
    (hpf : ∀ o ∈ os, PFree f o) (n : Name) (hn : n ∈ a.nodes) :
    (Reach g (render f.id) (render n) ∧ render n ∉ parentIds L) ↔ f.mem n = true := by
  rw [reach_render hw hg _ _ (hos f hf) hn, mem_parentIds_of_mem L os hL, mem_iff]
  constructor
  · rintro ⟨hd, hnp⟩
    exact ⟨hd, fun hsub he => hnp ⟨f, hf, hsub, by rw [he]⟩⟩
  · intro hm
    refine ⟨hm.1, ?_⟩
    rintro ⟨o, ho, hsub, hr⟩
    have hmem := (mem_iff f n).2 hm
    rw [(render_eq_iff hw hn (hos o ho)).1 hr, hpf o ho hsub] at hmem
    cases hmem

/-- `get_dependency_between_modules` on compiled filters = the specification's `edges` (import direction) -/
theorem depBetween_rep (f o : SFilter) (hf : f.id ∈ a.nodes) (ho : o.id ∈ a.nodes)
    (hfo : PFree f o) (hof : PFree o f) :
    ∃ l, depBetween g (compileFilter f) (compileFilter o) = .ok l ∧ Rep l (edges a true f o) := by
  obtain ⟨l, hl, hm⟩ := depBetween_ok g (compileFilter f) (compileFilter o)
    (by simpa using hasNode_render hg _ hf) (by simpa using hasNode_render hg _ ho)
  have hL : ∀ F, F ∈ [compileFilter f, compileFilter o] ↔ ∃ p ∈ [f, o], F = compileFilter p := by simp
  have hos : ∀ p ∈ [f, o], p.id ∈ a.nodes := by simp [hf, ho]
  have hF := mem_iff_reach hw hg f [f, o] _ hL (by simp) hos (by simp [pfree_self, hfo])
  have hO := mem_iff_reach hw hg o [f, o] _ hL (by simp) hos (by simp [pfree_self, hof])
  refine ⟨l, hl, fun u v => ?_⟩
  rw [hm]
  simp only [compileFilter_id, edges, if_true, List.mem_filter, Bool.and_eq_true]
  constructor
  · rintro ⟨h1, h2, h3, h4, h5⟩
    obtain ⟨e, he, rfl, rfl⟩ := (hg.succs _ _).1 h2
    exact ⟨e, ⟨he, (hF _ (hw.impL e he)).1 ⟨h1, h4⟩, (hO _ (hw.impR e he)).1 ⟨h3, h5⟩⟩, rfl, rfl⟩
  · rintro ⟨e, ⟨he, h1, h2⟩, rfl, rfl⟩
    obtain ⟨r1, p1⟩ := (hF _ (hw.impL e he)).2 h1
    obtain ⟨r2, p2⟩ := (hO _ (hw.impR e he)).2 h2
    exact ⟨r1, (hg.succs _ _).2 ⟨e, he, rfl, rfl⟩, r2, p1, p2⟩

section others
variable (s : SFilter) (os : List SFilter) (L : List Filter) (hL : ∀ F, F ∈ L ↔ ∃ o ∈ os, F = compileFilter o)
  (hs : s.id ∈ a.nodes) (hos : ∀ o ∈ os, o.id ∈ a.nodes) (hoo : ∀ o ∈ os, ∀ p ∈ os, PFree o p)
include hL hs hos hoo

/-- the exclusion set of the two "something else" searches, on a node `far` outside the subject's sub tree -/
theorem far_excl (far : Name) (hfar : far ∈ a.nodes) (hnd : desc s.id far = false) :
    (¬ ((∃ O ∈ L, O ≠ compileFilter s ∧ Reach g O.id (render far)) ∧ render far ∉ parentIds L)) ↔
      (os.all fun o => !o.mem far) = true := by
  simp only [List.all_eq_true, Bool.not_eq_true']
  constructor
  · intro h o ho
    cases hm : o.mem far
    · rfl
    · obtain ⟨hr, hp⟩ := (mem_iff_reach hw hg o os L hL ho hos (hoo o ho) far hfar).2 hm
      refine absurd ⟨⟨compileFilter o, (hL _).2 ⟨o, ho, rfl⟩, ?_, by simpa using hr⟩, hp⟩ h
      intro heq
      rw [← compileFilter_inj o s (hw.nwf _ (hos o ho)) (hw.nwf _ hs) heq, mem_desc _ _ hm] at hnd
      cases hnd
  · rintro h ⟨⟨O, hO, _, hr⟩, hnp⟩
    obtain ⟨o, ho, rfl⟩ := (hL O).1 hO
    have hm := (mem_iff_reach hw hg o os L hL ho hos (hoo o ho) far hfar).1 ⟨by simpa using hr, hnp⟩
    rw [h o ho] at hm
    cases hm

/-- the two ends of an import as the "something else" searches test them = the filter of `others` -/
theorem others_ends {near far : Name} (hn : near ∈ a.nodes) (hf : far ∈ a.nodes) :
    (Reach g (render s.id) (render near) ∧ (s.isSub = true → render near ≠ render s.id) ∧
      ¬ Reach g (render s.id) (render far) ∧
      ¬ ((∃ O ∈ L, O ≠ compileFilter s ∧ Reach g O.id (render far)) ∧ render far ∉ parentIds L)) ↔
    (s.mem near && !desc s.id far && os.all fun o => !o.mem far) = true := by
  rw [← and_assoc, reach_mem hw hg s hs hn, reach_render hw hg _ _ hs hf, Bool.not_eq_true, Bool.and_eq_true,
    Bool.and_eq_true, Bool.not_eq_true', and_assoc]
  exact and_congr_right fun _ => and_congr_right fun hnd => far_excl hw hg s os L hL hs hos hoo far hf hnd

/-- `any_dependency_to_module_other_than` on compiled filters = `others` (import direction) -/
theorem otherFrom_rep :
    ∃ l, otherFrom g (compileFilter s) L = .ok l ∧ Rep l (others a true s os) := by
  obtain ⟨l, hl, hm⟩ := otherFrom_ok g (compileFilter s) L (by simpa using hasNode_render hg _ hs) (by
    intro F hF
    obtain ⟨o, ho, rfl⟩ := (hL F).1 hF
    simpa using hasNode_render hg _ (hos o ho))
  refine ⟨l, hl, fun u v => ?_⟩
  rw [hm]
  simp only [compileFilter_id, compileFilter_isParent, others, if_true, List.mem_filter]
  constructor
  · rintro ⟨h1, h2, h3, h4, h5⟩
    obtain ⟨e, he, rfl, rfl⟩ := (hg.succs _ _).1 h3
    exact ⟨e, ⟨he, (others_ends hw hg s os L hL hs hos hoo (hw.impL e he) (hw.impR e he)).1 ⟨h1, h2, h4, h5⟩⟩,
      rfl, rfl⟩
  · rintro ⟨e, ⟨he, h⟩, rfl, rfl⟩
    obtain ⟨h1, h2, h4, h5⟩ := (others_ends hw hg s os L hL hs hos hoo (hw.impL e he) (hw.impR e he)).2 h
    exact ⟨h1, h2, (hg.succs _ _).2 ⟨e, he, rfl, rfl⟩, h4, h5⟩

/-- `any_other_dependency_to_module_than` on compiled filters = `others` (be-imported-by direction) -/
theorem otherTo_rep :
    ∃ l, otherTo g L (compileFilter s) = .ok l ∧ Rep l (others a false s os) := by
  obtain ⟨l, hl, hm⟩ := otherTo_ok g L (compileFilter s) (by simpa using hasNode_render hg _ hs) (by
    intro F hF
    obtain ⟨o, ho, rfl⟩ := (hL F).1 hF
    simpa using hasNode_render hg _ (hos o ho))
  refine ⟨l, hl, fun u v => ?_⟩
  rw [hm]
  simp only [compileFilter_id, compileFilter_isParent, others, Bool.false_eq_true, if_false, List.mem_filter]
  constructor
  · rintro ⟨h1, h2, h3, h4, h5⟩
    obtain ⟨e, he, rfl, rfl⟩ := (hg.preds _ _).1 h3
    refine ⟨e, ⟨he, (others_ends hw hg s os L hL hs hos hoo (hw.impR e he) (hw.impL e he)).1 ⟨h1, h2, ?_, h5⟩⟩,
      rfl, rfl⟩
    -- the search only skips the importer `s.id` itself when `s` is a sub-module filter; but then the importee lies
    -- strictly below the importer, which well-formedness excludes
    intro hr
    refine h4 ⟨hr, fun hsub heq => ?_⟩
    have hmem := (mem_iff s e.2).1 ((reach_mem hw hg s hs (hw.impR e he)).1 ⟨h1, h2⟩)
    rw [← (render_eq_iff hw (hw.impL e he) hs).1 heq] at hmem
    have hsd : sdesc e.1 e.2 = true := (sdesc_iff _ _).2 ⟨(desc_iff _ _).1 hmem.1, fun h => hmem.2 hsub h.symm⟩
    rw [hw.noAnc e he] at hsd
    cases hsd
  · rintro ⟨e, ⟨he, h⟩, rfl, rfl⟩
    obtain ⟨h1, h2, h4, h5⟩ := (others_ends hw hg s os L hL hs hos hoo (hw.impR e he) (hw.impL e he)).2 h
    exact ⟨h1, h2, (hg.preds _ _).2 ⟨e, he, rfl, rfl⟩, fun h => h4 h.1, h5⟩

end others

end searches

end Pta
