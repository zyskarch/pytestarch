/-
  PtaProofs.Lemmas.Detector — the one table both violation detectors (`detect`, `detectL`) are: which of the two query
  results, under which flag of the behaviour, fills which of the eight buckets by which function. `onOpt` is the
  dispatcher of a single bucket; a fact about a detector (it respects a relation between two runs, it raises only one
  kind of error, it collapses to a pure expression) is `onOpt_rel` / `onOpt_ind` applied to the entries of the table.
-/
import PtaModel
namespace Pta.Det

/-- A query result that was asked for is handed to `f` if the behaviour's flag is set; otherwise the bucket is `d`. -/
def onOpt {α β : Type} (d : β) (x : Option α) (flag : Bool) (f : α → β) : β :=
  match x with | some a => if flag then f a else d | none => d

theorem onOpt_rel {α α' β β' : Type} (R : β → β' → Prop) (Q : α → α' → Prop) {d : β} {d' : β'} (hd : R d d')
    {x : Option α} {x' : Option α'} (hx : (x = none ∧ x' = none) ∨ ∃ a a', x = some a ∧ x' = some a' ∧ Q a a')
    (flag : Bool) {f : α → β} {f' : α' → β'} (h : ∀ a a', Q a a' → R (f a) (f' a')) :
    R (onOpt d x flag f) (onOpt d' x' flag f') := by
  rcases hx with ⟨rfl, rfl⟩ | ⟨a, a', rfl, rfl, hq⟩
  · exact hd
  · cases flag
    · exact hd
    · exact h a a' hq

theorem onOpt_map {α α' β β' : Type} (R : β → β' → Prop) (F : α → α') {d : β} {d' : β'} (hd : R d d') (x : Option α)
    (flag : Bool) {f : α → β} {f' : α' → β'} (h : ∀ a, x = some a → R (f a) (f' (F a))) :
    R (onOpt d x flag f) (onOpt d' (x.map F) flag f') :=
  onOpt_rel R (fun a a' => x = some a ∧ a' = F a) hd (by cases x <;> simp) flag fun a _ ⟨e, e'⟩ => e' ▸ h a e

theorem onOpt_map_list {α α' γ γ' : Type} (F : α → α') (k : γ → γ') (x : Option α) (flag : Bool) {f : α → List γ}
    {f' : α' → List γ'} (h : ∀ a, x = some a → f' (F a) = (f a).map k) :
    onOpt [] (x.map F) flag f' = (onOpt [] x flag f).map k :=
  onOpt_map (fun (y : List γ) y' => y' = y.map k) F (d := []) (d' := []) rfl x flag h

theorem onOpt_ind {α β : Type} (P : β → Prop) {d : β} (hd : P d) (x : Option α) (flag : Bool) {f : α → β}
    (h : ∀ a, x = some a → P (f a)) : P (onOpt d x flag f) :=
  onOpt_map (fun y (_ : β) => P y) id (d' := d) hd x flag (f' := f) h

theorem mem_onOpt {α β : Type} {x : Option α} {flag : Bool} {f : α → List β} {y : β} (h : y ∈ onOpt [] x flag f) :
    ∃ a, x = some a ∧ y ∈ f a :=
  onOpt_ind (fun l => y ∈ l → ∃ a, x = some a ∧ y ∈ f a) (fun h => absurd h List.not_mem_nil) x flag (fun a ha h => ⟨a, ha, h⟩) h

theorem detect_eq (b : Behavior) (ir : Bool) (expl : Option ExplDeps) (other : Option OtherDeps) (objs : List Mod) :
    detect b ir expl other objs =
      { shouldNot := onOpt [] expl b.expExplNotPresent (realised ir)
        should := onOpt [] expl b.expExplPresent (abstractWithout ir)
        shouldOnlyNoImport := onOpt [] expl b.expExplAndNoOther (abstractWithout ir)
        shouldOnlyForbidden := onOpt [] other b.expExplAndNoOther (realised ir)
        shouldExcept := onOpt [] other b.expAtLeastOneOther (fun o => missingOther o objs)
        shouldOnlyExceptNoImport := onOpt [] other b.expExplNotButOthers (fun o => missingOther o objs)
        shouldOnlyExceptForbidden := onOpt [] expl b.expExplNotButOthers (realised ir)
        shouldNotExcept := onOpt [] other b.expOtherNotPresent (realised ir) } := by
  cases expl <;> cases other <;> rfl

theorem detectL_eq (m : LayerMap) (b : Behavior) (ir : Bool) (expl : Option ExplDeps) (other : Option OtherDeps)
    (objs : List Mod) :
    detectL m b ir expl other objs = (do
      let shouldNot ← onOpt (pure []) expl b.expExplNotPresent (realisedL m ir)
      let should ← onOpt (pure []) expl b.expExplPresent (abstractWithoutAny m ir)
      let shouldOnlyNoImport ← onOpt (pure []) expl b.expExplAndNoOther (abstractWithoutAny m ir)
      let shouldOnlyForbidden ← onOpt (pure []) other b.expExplAndNoOther (realisedL m ir)
      let shouldExcept ← onOpt (pure []) other b.expAtLeastOneOther (fun o => anyMissing m ir o objs)
      let shouldOnlyExceptNoImport ← onOpt (pure []) other b.expExplNotButOthers (fun o => anyMissing m ir o objs)
      let shouldOnlyExceptForbidden ← onOpt (pure []) expl b.expExplNotButOthers (realisedL m ir)
      let shouldNotExcept ← onOpt (pure []) other b.expOtherNotPresent (realisedL m ir)
      pure { should, shouldOnlyForbidden, shouldOnlyNoImport, shouldNot, shouldExcept,
             shouldOnlyExceptForbidden, shouldOnlyExceptNoImport, shouldNotExcept }) := by
  cases expl <;> cases other <;> rfl

end Pta.Det
