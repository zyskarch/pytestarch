/-
  PtaProofs.Lemmas.HistoryBuild — histories that interleave builder calls with applications on one `Rule` object
  (Bridge/HistoryBuild.lean): which fluent calls respect the `_convert_aliases`-equivalence `RuleState.Equiv`, and the
  transparency of applications under the synchronisation condition.
-/
import Bridge.HistoryBuild
import PtaProofs.Lemmas.History
import PtaProofs.Lemmas.DroppedAbsent
namespace Pta.HistoryBuild

theorem equiv_next {s t : RuleState} (h : s.Equiv t) : s.next = t.next := by
  unfold RuleState.Equiv RuleState.normalForm at h
  have := congrArg RuleState.next h
  split at this <;> split at this <;> exact this

/-- whether a fluent call raises, and what, depends on `_modules_to_check_to_be_specified_next` only -/
theorem stepOut_equiv (glob : Str → Str) (s t : RuleState) (op : RuleOp) (h : s.Equiv t) :
    s.stepOut glob op = t.stepOut glob op := by
  have h := equiv_next h
  cases op <;> simp only [RuleState.stepOut, RuleState.step, RuleState.setModules, h] <;> cases t.next <;> try rfl
  all_goals (rename_i b; cases b <;> rfl)

theorem normalForm_of_not_rewriting (s : RuleState) (h : s.rewriting = false) : s.normalForm = s := by
  unfold RuleState.normalForm
  cases ha : s.cfg.anything
  · rw [convertAliases_not_anything _ ha]
    split <;> rfl
  · rw [if_pos]
    simpa [RuleState.rewriting, anythingMisused, ha] using h

theorem equiv_cases {s t : RuleState} (h : s.Equiv t) :
    s = t ∨ (s.rewriting = true ∧ t.rewriting = true) ∨ (s.rewriting = true ∧ t = s.normalForm) ∨
      (t.rewriting = true ∧ s = t.normalForm) := by
  unfold RuleState.Equiv at h
  cases hs : s.rewriting <;> cases ht : t.rewriting
  · rw [normalForm_of_not_rewriting s hs, normalForm_of_not_rewriting t ht] at h
    exact .inl h
  · rw [normalForm_of_not_rewriting s hs] at h
    exact .inr (.inr (.inr ⟨rfl, h⟩))
  · rw [normalForm_of_not_rewriting t ht] at h
    exact .inr (.inr (.inl ⟨rfl, h.symm⟩))
  · exact .inr (.inl ⟨rfl, rfl⟩)

theorem anything_ne_normalForm {s : RuleState} (hs : s.rewriting = true) :
    s.cfg.anything ≠ s.normalForm.cfg.anything := by
  simp only [RuleState.rewriting, Bool.and_eq_true] at hs
  simp [RuleState.normalForm, anythingMisused, convertAliases_anything, hs.1, hs.2]

/-- no call clears `anything` or `should_not`, and the normal form of such an object does not depend on its objects, its
    `except` flag or the subjects it remembers -/
theorem stepStay_equiv_of_rewriting (glob : Str → Str) (s t : RuleState) (op : RuleOp) (hs : s.rewriting = true)
    (ht : t.rewriting = true) (h : s.Equiv t) : (s.stepStay glob op).Equiv (t.stepStay glob op) := by
  obtain ⟨⟨subj, obj, sh, so, sn, ex, dir, any, dr⟩, nx⟩ := s
  obtain ⟨⟨subj', obj', sh', so', sn', ex', dir', any', dr'⟩, nx'⟩ := t
  simp only [RuleState.rewriting, Bool.and_eq_true] at hs ht
  obtain ⟨rfl, rfl⟩ := hs
  obtain ⟨rfl, rfl⟩ := ht
  have key : ∀ (u u' : Option (List Filter)), u.map dedupSubjects = u'.map dedupSubjects →
      (match u with | none => [] | some ss => droppedSubjects ss) =
        (match u' with | none => [] | some ss => droppedSubjects ss) →
      ∀ (o o' : Option (List Filter)) (e e' : Bool) (d d' : List Filter) (sh so : Bool) (dir nx : Option Bool),
        RuleState.Equiv ⟨⟨u, o, sh, so, true, e, dir, true, d⟩, nx⟩ ⟨⟨u', o', sh, so, true, e', dir, true, d'⟩, nx⟩ := by
    intro u u' hu hd o o' e e' d d' sh so dir nx
    simp only [RuleState.Equiv, RuleState.normalForm, anythingMisused, convertAliases, Bool.not_true, Bool.and_false,
      Bool.false_eq_true, if_false, hu]
    congr 2
  simp only [RuleState.Equiv, RuleState.normalForm, anythingMisused, convertAliases, Bool.not_true, Bool.and_false,
    Bool.false_eq_true, if_false, RuleState.mk.injEq, RuleConfig.mk.injEq, true_and] at h
  obtain ⟨⟨hsubj, -, rfl, rfl, rfl, hdr⟩, rfl⟩ := h
  cases op <;> simp only [RuleState.stepStay, RuleState.step, RuleState.setModules]
  case areNamed | areSubModulesOf | haveNameMatching | haveNameContaining =>
    rcases nx with _ | _ | _
    · exact key _ _ hsubj hdr ..
    · exact key _ _ hsubj hdr ..
    · exact key _ _ rfl rfl ..
  all_goals exact key _ _ hsubj hdr ..

/-- between an object that an application would rewrite and its normal form: the eight safe calls commute with
    `_convert_aliases`; `import_anything` / `be_imported_by_anything` start the conversion afresh from the converted
    subjects, which gives the same result when the conversion had removed no subject -/
theorem stepStay_normalForm_equiv (glob : Str → Str) (s : RuleState) (op : RuleOp) (hs : s.rewriting = true)
    (hop : op.safe = true ∨ (op.setsAnything = true ∧ s.normalForm.cfg.dropped = [])) :
    (s.stepStay glob op).Equiv (s.normalForm.stepStay glob op) := by
  obtain ⟨⟨subj, obj, sh, so, sn, ex, dir, any, dr⟩, nx⟩ := s
  simp only [RuleState.rewriting, Bool.and_eq_true] at hs
  obtain ⟨rfl, rfl⟩ := hs
  simp only [RuleState.normalForm, anythingMisused, convertAliases, Bool.not_true, Bool.and_false,
    Bool.false_eq_true, if_false] at hop ⊢
  cases op <;>
    simp only [RuleOp.safe, RuleOp.setsAnything, Bool.false_eq_true, false_and, or_self, true_and, false_or] at hop <;>
    simp only [RuleState.stepStay, RuleState.step, RuleState.Equiv, RuleState.normalForm, anythingMisused, convertAliases,
      Bool.not_true, Bool.not_false, Bool.and_false, Bool.false_eq_true, if_false, if_true]
  all_goals
    cases subj with
    | none => rfl
    | some ss =>
      simp only [Option.map_some, dedupSubjects_idem, dropped_dedup] at hop ⊢
      rw [hop]

theorem stepStay_equiv_of_sync (glob : Str → Str) (s t : RuleState) (op : RuleOp) (h : s.Equiv t)
    (hop : (op.safe || s.cfg.anything == t.cfg.anything ||
      (op.setsAnything && s.cfg.dropped.isEmpty && t.cfg.dropped.isEmpty)) = true) :
    (s.stepStay glob op).Equiv (t.stepStay glob op) := by
  simp only [Bool.and_eq_true, Bool.or_eq_true, beq_iff_eq, List.isEmpty_iff] at hop
  rcases equiv_cases h with rfl | ⟨hs, ht⟩ | ⟨hs, rfl⟩ | ⟨ht, rfl⟩
  · rfl
  · exact stepStay_equiv_of_rewriting glob s t op hs ht h
  · rcases hop with (hsafe | ha) | ⟨⟨hset, -⟩, hdt⟩
    · exact stepStay_normalForm_equiv glob s op hs (.inl hsafe)
    · exact absurd ha (anything_ne_normalForm hs)
    · exact stepStay_normalForm_equiv glob s op hs (.inr ⟨hset, hdt⟩)
  · rcases hop with (hsafe | ha) | ⟨⟨hset, hds⟩, -⟩
    · exact Eq.symm (stepStay_normalForm_equiv glob t op ht (.inl hsafe))
    · exact absurd ha.symm (anything_ne_normalForm ht)
    · exact Eq.symm (stepStay_normalForm_equiv glob t op ht (.inr ⟨hset, hds⟩))

theorem stepREv_apply_equiv (glob : Str → Str) (mt : Str → Str → Bool) (archs : List (PGraph Str)) (s t : RuleState)
    (j : Nat) (h : s.Equiv t) :
    (stepREv glob mt archs s (.apply j)).2 = (stepREv glob mt archs t (.apply j)).2 ∧
    (stepREv glob mt archs s (.apply j)).1.Equiv t := by
  simp only [stepREv]
  cases archs[j]? with
  | none => exact ⟨rfl, h⟩
  | some g =>
    exact ⟨congrArg ROut.applied (Pta.History.assertAppliesText_congr mt s t h g),
      Eq.trans (Pta.History.assertAppliesText_equiv mt s g) h⟩

theorem stepREv_apply_of_not_rewriting (glob : Str → Str) (mt : Str → Str → Bool) (archs : List (PGraph Str))
    (s : RuleState) (j : Nat) (h : (!s.rewriting || (archs[j]?).isNone) = true) :
    (stepREv glob mt archs s (.apply j)).1 = s := by
  simp only [stepREv]
  cases hg : archs[j]? with
  | none => rfl
  | some g =>
    simp only [hg, Option.isNone_some, Bool.or_false, Bool.not_eq_eq_eq_not, Bool.not_true] at h
    simp only [Pta.History.assertAppliesText_fst]
    exact normalForm_of_not_rewriting s h

theorem run_eq_ref_lemma (glob : Str → Str) (mt : Str → Str → Bool) (archs : List (PGraph Str)) :
    ∀ (h : List REv) (s t : RuleState), s.Equiv t → syncAtUnsafe glob mt archs s t h = true →
      runREvs glob mt archs s h = refREvs glob mt archs t h ∧
      (execREvs glob mt archs s h).Equiv (buildOnly glob t (forget h))
  | [], s, t, he, _ => ⟨rfl, he⟩
  | .call op :: es, s, t, he, hs => by
    simp only [syncAtUnsafe, Bool.and_eq_true] at hs
    have ih := run_eq_ref_lemma glob mt archs es _ _ (stepStay_equiv_of_sync glob s t op he hs.1) hs.2
    simp only [runREvs, refREvs, execREvs, forget, buildOnly, stepREv]
    exact ⟨by rw [ih.1, stepOut_equiv glob s t op he], ih.2⟩
  | .apply j :: es, s, t, he, hs => by
    simp only [syncAtUnsafe] at hs
    have ha := stepREv_apply_equiv glob mt archs s t j he
    have ih := run_eq_ref_lemma glob mt archs es _ _ ha.2 hs
    simp only [runREvs, refREvs, execREvs, forget]
    exact ⟨by rw [ih.1, ha.1], ih.2⟩

theorem sync_of_all_safe (glob : Str → Str) (mt : Str → Str → Bool) (archs : List (PGraph Str)) :
    ∀ (h : List REv) (s t : RuleState),
      (h.all fun e => match e with | .call op => op.safe | .apply _ => true) = true →
      syncAtUnsafe glob mt archs s t h = true
  | [], _, _, _ => rfl
  | .call op :: es, s, t, ha => by
    simp only [List.all_cons, Bool.and_eq_true] at ha
    simp only [syncAtUnsafe, ha.1, Bool.true_or, Bool.true_and]
    exact sync_of_all_safe glob mt archs es _ _ ha.2
  | .apply j :: es, s, t, ha => by
    simp only [List.all_cons, Bool.true_and] at ha
    simp only [syncAtUnsafe]
    exact sync_of_all_safe glob mt archs es _ _ ha

theorem sync_of_safeAfterApply (glob : Str → Str) (mt : Str → Str → Bool) (archs : List (PGraph Str)) :
    ∀ (h : List REv) (s : RuleState), safeAfterApply h = true → syncAtUnsafe glob mt archs s s h = true
  | [], _, _ => rfl
  | .call op :: es, s, ha => by
    simp only [safeAfterApply] at ha
    simp only [syncAtUnsafe, beq_self_eq_true, Bool.or_true, Bool.true_or, Bool.true_and]
    exact sync_of_safeAfterApply glob mt archs es _ ha
  | .apply j :: es, s, ha => by
    simp only [safeAfterApply] at ha
    simp only [syncAtUnsafe]
    exact sync_of_all_safe glob mt archs es _ _ ha

end Pta.HistoryBuild
