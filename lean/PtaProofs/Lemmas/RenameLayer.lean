/-
  PtaProofs.Lemmas.RenameLayer — the CODE MODEL of LAYER rules commutes with every injective map `φ` of node names
  that preserves the boundary-aware strict-sub-module test between the identifiers the layers list and the names the
  graph and the rule mention (namespace `Pta.RL`): layer mapping, consistency check, layer lookup, the lenient
  detector, the tagged report and `LayerRule.assert_applies`. All results are exact equalities.
-/
import Bridge.Abs
import Bridge.Rename
import Bridge.RenameLayer
import PtaProofs.Lemmas.RenameModel
import PtaProofs.Lemmas.RenameBuild
import PtaProofs.Lemmas.RenameNames
import PtaProofs.Lemmas.LayerDetect
import PtaProofs.Lemmas.LayerRule
namespace Pta.RL
open PtaSpec Pta.RM

theorem mapM_ok_mem' {α β : Type} (f : α → Except ErrKind β) (l : List α) (r : List β) (h : l.mapM f = .ok r) :
    ∀ y ∈ r, ∃ x ∈ l, f x = .ok y := Pta.mapM_ok_mem f l r h

section Layer
variable (φ : Str → Str) (hφ : ∀ x y, φ x = φ y → x = y)
include hφ

theorem consistent_map (m : LayerMap) : (m.mapIds φ).consistent = m.consistent := by
  simp only [LayerMap.consistent, LayerMap.mapIds, List.all_map, List.any_map, Function.comp_def, contains_map_inj φ hφ]

theorem layerOfListed_map (m : LayerMap) (id : Str) : (m.mapIds φ).layerOfListed (φ id) = m.layerOfListed id := by
  simp only [LayerMap.layerOfListed, LayerMap.mapIds, List.filter_map, Function.comp_def, contains_map_inj φ hφ,
    List.getLast?_map, Option.map_map]

omit hφ in
theorem listed_map (m : LayerMap) : (m.mapIds φ).listed = m.listed.map φ := by
  simp only [LayerMap.listed, LayerMap.mapIds, List.flatMap_map, List.map_flatMap]

theorem layerOf_map (m : LayerMap) (n : Str) (h : ∀ c ∈ m.listed, isStrictSub (φ c) (φ n) = isStrictSub c n) :
    (m.mapIds φ).layerOf (φ n) = m.layerOf n := by
  simp only [LayerMap.layerOf]
  rw [layerOfListed_map φ hφ, listed_map, List.filter_map, List.filterMap_map]
  have h1 : (m.listed.filter ((fun c => isStrictSub c (φ n)) ∘ φ)) = m.listed.filter fun c => isStrictSub c n := by
    apply List.filter_congr
    intro c hc
    exact h c hc
  have h2 : ((m.mapIds φ).layerOfListed ∘ φ) = m.layerOfListed := by
    funext c; exact layerOfListed_map φ hφ m c
  rw [h1, h2]

end Layer

def LOK (φ : Str → Str) (m : LayerMap) (n : Str) : Prop := (m.mapIds φ).layerOf (φ n) = m.layerOf n

section Detect
variable (φ : Str → Str) (m : LayerMap)

theorem tagS_map {n : Str} (h : LOK φ m n) : tagS (m.mapIds φ) (φ n) = tagS m n := by
  unfold tagS; rw [h]

theorem okAll_map (ids : List Str) (h : ∀ s ∈ ids, LOK φ m s) : okAll (m.mapIds φ) (ids.map φ) = okAll m ids := by
  rw [Bool.eq_iff_iff, okAll_iff, okAll_iff, List.forall_mem_map]
  refine forall₂_congr fun s hs => ?_
  unfold TagOk
  rw [h s hs, tagS_map φ m (h s hs)]

/-! #### the identifiers looked up are the images of the identifiers looked up -/

theorem depIds_map (ds : List Dep) : depIds (ds.map (mapDep φ)) = (depIds ds).map φ := by
  simp only [depIds, List.flatMap_map, List.map_flatMap, List.map_cons, List.map_nil, mapDep, Mod.mapId]

theorem pairIds_map (ir : Bool) {κ κ' : Type} (k : κ → κ') (deps : List (κ × List (Str × Str))) :
    pairIds ir (deps.map fun kd => (k kd.1, kd.2.map (Prod.map φ φ))) = (pairIds ir deps).map φ := by
  unfold pairIds
  rw [realised_map, depIds_map]

theorem keyIds_map (ir : Bool) (deps : ExplDeps) : keyIds ir (deps.map (mapExpl φ)) = (keyIds ir deps).map φ := by
  simp only [keyIds, List.flatMap_map, List.map_flatMap, List.map_cons, List.map_nil]
  congr 1; funext kd
  cases ir <;> rfl

theorem detectIds_map (b : Behavior) (ir : Bool) (expl : Option ExplDeps) (other : Option OtherDeps) :
    detectIds b ir (expl.map (List.map (mapExpl φ))) (other.map (List.map (mapOther φ))) =
      (detectIds b ir expl other).map φ := by
  have hEp := fun flag => Det.onOpt_map_list (List.map (mapExpl φ)) φ
    expl flag fun e _ => pairIds_map φ ir (mapDep φ) e
  have hEk := fun flag => Det.onOpt_map_list (List.map (mapExpl φ)) φ
    expl flag fun e _ => keyIds_map φ ir e
  have hOp := fun flag => Det.onOpt_map_list (List.map (mapOther φ)) φ
    other flag fun o _ => pairIds_map φ ir (Mod.mapId φ) o
  simp only [detectIds, hEp, hEk, hOp, List.map_append]

/-! #### the pure forms commute with the map, given that every name in the input is looked up alike -/

theorem realisedP_map (ir : Bool) {κ κ' : Type} (k : κ → κ') (deps : List (κ × List (Str × Str)))
    (h : ∀ kd ∈ deps, ∀ p ∈ kd.2, LOK φ m p.1 ∧ LOK φ m p.2) :
    realisedP (m.mapIds φ) ir (deps.map fun kd => (k kd.1, kd.2.map (Prod.map φ φ))) =
      (realisedP m ir deps).map (mapDep φ) := by
  unfold realisedP
  rw [realised_map, List.filter_map]
  refine congrArg _ (List.filter_congr fun x hx => ?_)
  obtain ⟨h1, h2⟩ := realised_in _ ir deps h x hx
  simp only [Function.comp_def, mapDep, Mod.mapId, tagS_map φ m h1, tagS_map φ m h2]

theorem abstractP_map (ir : Bool) (deps : ExplDeps) (h : ∀ kd ∈ deps, LOK φ m kd.1.1.id ∧ LOK φ m kd.1.2.id) :
    abstractP (m.mapIds φ) ir (deps.map (mapExpl φ)) = (abstractP m ir deps).map (mapDep φ) := by
  have hf : ∀ layer : Str, (deps.map (mapExpl φ)).filter (fun kd => tagS (m.mapIds φ) (relevantOf ir kd).id == some layer) =
      (deps.filter fun kd => tagS m (relevantOf ir kd).id == some layer).map (mapExpl φ) := by
    intro layer
    rw [List.filter_map]
    refine congrArg _ (List.filter_congr fun kd hkd => ?_)
    have : tagS (m.mapIds φ) (relevantOf ir (mapExpl φ kd)).id = tagS m (relevantOf ir kd).id := by
      cases ir
      · exact tagS_map φ m (h kd hkd).1
      · exact tagS_map φ m (h kd hkd).2
    simp only [Function.comp_def, this]
  unfold abstractP
  show (List.map (fun l => (l.1, l.2.map φ)) m).flatMap _ = _
  rw [List.flatMap_map, List.map_flatMap]
  congr 1; funext layer
  simp only [hf, List.isEmpty_map, List.any_map]
  split
  · rfl
  · split
    · rename_i h2
      rw [if_pos (by simpa only [Function.comp_def, mapExpl, List.isEmpty_map] using h2)]
      rfl
    · rename_i h2
      rw [if_neg (by simpa only [Function.comp_def, mapExpl, List.isEmpty_map] using h2), List.map_map, List.map_map]
      exact List.map_congr_left fun kd _ => by cases ir <;> rfl

theorem anyMissingP_map (ir : Bool) (deps : OtherDeps) (objs : List Mod) (h : OtherIn (LOK φ m) deps) :
    anyMissingP (m.mapIds φ) ir (deps.map (mapOther φ)) (objs.map (Mod.mapId φ)) =
      (anyMissingP m ir deps objs).map (mapDep φ) := by
  unfold anyMissingP
  rw [show deps.map (mapOther φ) = deps.map fun kd => (Mod.mapId φ kd.1, kd.2.map (Prod.map φ φ)) from rfl,
    realisedP_map φ m ir (Mod.mapId φ) deps fun kd hkd => (h kd hkd).2, List.isEmpty_map]
  split
  · rfl
  · simp only [List.flatMap_map, List.map_flatMap, List.map_map, Function.comp_def, mapDep]

theorem detectP_map (b : Behavior) (ir : Bool) (expl : Option ExplDeps) (other : Option OtherDeps) (objs : List Mod)
    (hE : ∀ e, expl = some e → ExplIn (LOK φ m) e) (hO : ∀ o, other = some o → OtherIn (LOK φ m) o) :
    detectP (m.mapIds φ) b ir (expl.map (List.map (mapExpl φ))) (other.map (List.map (mapOther φ)))
      (objs.map (Mod.mapId φ)) = mapV φ (detectP m b ir expl other objs) := by
  have hEr := fun flag => Det.onOpt_map_list (List.map (mapExpl φ)) (mapDep φ)
    expl flag (f' := realisedP (m.mapIds φ) ir) fun e he => realisedP_map φ m ir (mapDep φ) e fun kd hkd => (hE e he kd hkd).2
  have hEa := fun flag => Det.onOpt_map_list (List.map (mapExpl φ)) (mapDep φ)
    expl flag (f' := abstractP (m.mapIds φ) ir) fun e he => abstractP_map φ m ir e fun kd hkd => (hE e he kd hkd).1
  have hOr := fun flag => Det.onOpt_map_list (List.map (mapOther φ)) (mapDep φ)
    other flag (f' := realisedP (m.mapIds φ) ir) fun o ho => realisedP_map φ m ir (Mod.mapId φ) o fun kd hkd => (hO o ho kd hkd).2
  have hOm := fun flag => Det.onOpt_map_list (List.map (mapOther φ)) (mapDep φ)
    other flag (f' := fun o => anyMissingP (m.mapIds φ) ir o (objs.map (Mod.mapId φ))) fun o ho =>
      anyMissingP_map φ m ir o objs (hO o ho)
  simp only [detectP, mapV, hEr, hEa, hOr, hOm]

/-! #### the tagged report: the tags are kept, the names of an `imports` line mapped -/

theorem impItemsP_map (ir : Bool) (ds : List Dep) (h : DepsIn (LOK φ m) ds) :
    impItemsP (m.mapIds φ) ir (ds.map (mapDep φ)) = (impItemsP m ir ds).map (LItem.mapId φ) := by
  unfold impItemsP
  rw [List.map_map, List.map_map]
  refine List.map_congr_left fun d hd => ?_
  obtain ⟨h1, h2⟩ := h d hd
  cases ir <;> simp only [Function.comp_def, userOrder, mapDep, Mod.mapId, LItem.mapId, tagS_map φ m h1, tagS_map φ m h2,
    if_true, if_false, Bool.false_eq_true]

theorem missItemsP_map (any ir : Bool) (ds : List Dep) (h : DepsIn (LOK φ m) ds) :
    missItemsP (m.mapIds φ) any ir (ds.map (mapDep φ)) = (missItemsP m any ir ds).map (LItem.mapId φ) := by
  have hl : ((ds.map (mapDep φ)).map fun dd => (tagS (m.mapIds φ) dd.1.id, tagS (m.mapIds φ) dd.2.id)) =
      ds.map fun dd => (tagS m dd.1.id, tagS m dd.2.id) := by
    rw [List.map_map]
    exact List.map_congr_left fun d hd => Prod.ext (tagS_map φ m (h d hd).1) (tagS_map φ m (h d hd).2)
  unfold missItemsP missOfPairsL
  simp only [hl, List.map_map, Function.comp_def, LItem.mapId]

theorem reportItemsP_map (ir : Bool) (v : Violations) (h : DepsIn (LOK φ m) v.all) :
    reportItemsP (m.mapIds φ) ir (mapV φ v) = (reportItemsP m ir v).map (LItem.mapId φ) := by
  simp only [Violations.all, depsIn_append] at h
  obtain ⟨h1, h2, h3, h4, h5, h6, h7, h8⟩ := h
  simp only [reportItemsP, mapV, List.map_append, missItemsP_map φ m _ ir _ h1, impItemsP_map φ m ir _ h2,
    missItemsP_map φ m _ ir _ h3, impItemsP_map φ m ir _ h4, missItemsP_map φ m _ ir _ h5, impItemsP_map φ m ir _ h6,
    missItemsP_map φ m _ ir _ h7, impItemsP_map φ m ir _ h8]

theorem mapV_all (v : Violations) : (mapV φ v).all = v.all.map (mapDep φ) := by
  simp only [Violations.all, mapV, List.map_append]

variable (x : Front) (hE : ∀ e, x.expl = some e → ExplIn (LOK φ m) e) (hO : ∀ o, x.other = some o → OtherIn (LOK φ m) o)
include hE hO

theorem idsL_map : (x.mapId φ).idsL (m.mapIds φ) = (x.idsL m).map φ := by
  unfold Front.idsL Front.mapId
  simp only [toMod_map, detectP_map φ m _ _ _ _ _ hE hO, mapV_any, detectIds_map, mapV_all, depIds_map, List.map_append,
    apply_ite (List.map φ), List.map_nil]

theorem itemsP_map (hobj : ∀ o ∈ x.objs.map Filter.toMod, LOK φ m o.id) :
    (x.mapId φ).itemsP (m.mapIds φ) = (x.itemsP m).map (List.map (LItem.mapId φ)) := by
  unfold Front.itemsP Front.mapId
  simp only [toMod_map, detectP_map φ m _ _ _ _ _ hE hO, mapV_any,
    reportItemsP_map φ m _ _ (detectP_in _ m _ _ hE hO _ hobj), apply_ite (Option.map (List.map (LItem.mapId φ))),
    Option.map_some, Option.map_none]

end Detect

theorem runQueries_in (P : Str → Prop) (g : PGraph Str) (b : Behavior) (ir : Bool) (S O : List Filter)
    (expl : Option ExplDeps) (other : Option OtherDeps) (h : runQueries g b ir S O = .ok (expl, other))
    (hN : ∀ n ∈ g.names ++ (S ++ O).map Filter.id, P n) :
    (∀ e, expl = some e → ExplIn P e) ∧ (∀ o, other = some o → OtherIn P o) ∧ ∀ o ∈ O.map Filter.toMod, P o.id := by
  have hS : ∀ f ∈ S, P f.toMod.id := fun f hf =>
    hN _ (List.mem_append_right _ (List.mem_map_of_mem (List.mem_append_left _ hf)))
  have hO : ∀ f ∈ O, P f.toMod.id := fun f hf =>
    hN _ (List.mem_append_right _ (List.mem_map_of_mem (List.mem_append_right _ hf)))
  have hp : ∀ u v, v ∈ g.importSuccs u → P u ∧ P v := by
    intro u v huv
    have hm : ∀ x ∈ [u, v], P x := fun x hx =>
      hN x (List.mem_append_left _ (List.mem_append_right _
        (List.mem_flatMap.2 ⟨_, (BuildGen.mem_importSuccs g u v).1 huv, hx⟩)))
    exact ⟨hm _ (by simp), hm _ (by simp)⟩
  obtain ⟨h1, h2⟩ := Pta.runQueries_spec g b ir S O expl other h
  refine ⟨fun e he kd hkd => ?_, fun e he kd hkd => ?_, fun o ho => ?_⟩
  · obtain ⟨s, hs, o, ho, hk, hd⟩ := h1 e he kd hkd
    refine ⟨?_, fun p hp' => hp p.1 p.2 (hd p.1 p.2 hp').1⟩
    cases ir
    · simp only [userOrder, Bool.false_eq_true, if_false, Prod.mk.injEq] at hk
      rw [hk.1, hk.2]
      exact ⟨hO o ho, hS s hs⟩
    · simp only [userOrder, if_true] at hk
      rw [hk]
      exact ⟨hS s hs, hO o ho⟩
  · obtain ⟨s, hs, hk, hd⟩ := h2 e he kd hkd
    refine ⟨?_, fun p hp' => hp p.1 p.2 (hd p.1 p.2 hp').1⟩
    rw [hk]; exact hS s hs
  · obtain ⟨f, hf, rfl⟩ := List.mem_map.1 ho
    exact hO f hf

theorem updateLayerMap_nil (mt : Str → Str → Bool) (mods : List Str) (a : LArch) :
    updateLayerMap mt mods a [] = a.map fun l => (l.1, (l.2.filter fun f => !f.isRegex).map Filter.id) := by
  unfold updateLayerMap
  apply List.map_congr_left
  intro l _
  congr 1
  induction l.2 with
  | nil => rfl
  | cons f fs ih =>
    rw [List.flatMap_cons, ih]
    cases f <;> rfl

theorem updateLayerMap_listed (mt : Str → Str → Bool) (mods : List Str) (a : LArch) :
    (updateLayerMap mt mods a []).listed = a.listedIds := by
  rw [updateLayerMap_nil]
  simp only [LayerMap.listed, LArch.listedIds, List.flatMap_map]

theorem updateLayerMap_map (φ : Str → Str) (mt : Str → Str → Bool) (mods mods' : List Str) (a : LArch) :
    updateLayerMap mt mods' (a.mapIds φ) [] = (updateLayerMap mt mods a []).mapIds φ := by
  rw [updateLayerMap_nil, updateLayerMap_nil]
  simp only [LArch.mapIds, LayerMap.mapIds, List.map_map, Function.comp_def, List.filter_map, mapId_isRegex, mapId_id]

theorem converted_nil (ss os : List Filter) (hss : ∀ f ∈ ss, f.isRegex = false) (hos : ∀ f ∈ os, f.isRegex = false) :
    ((ss ++ os).filter (·.isRegex)).map (·.id) = [] := by
  have : (ss ++ os).filter (·.isRegex) = [] := by
    rw [List.filter_eq_nil_iff]
    intro f hf
    rcases List.mem_append.1 hf with h | h
    · simp [hss f h]
    · simp [hos f h]
  rw [this]; rfl

section Match
variable (φ : Str → Str) (hφ : ∀ x y, φ x = φ y → x = y)
include hφ

omit hφ in
theorem mapId_ofRes (r : Except ErrKind (Option (List LItem))) :
    (LVerdict.ofRes r).mapId φ = .ofRes (r.map (Option.map (List.map (LItem.mapId φ)))) := by
  rcases r with _ | _ | _ <;> rfl

/-- the layer detector and the tagged report at a result of the queries of a regex-free rule: every name in it is a name
    of the graph or an identifier of the rule, so its layer is looked up alike on both sides -/
theorem outcomeL_map (mt : Str → Str → Bool) (g : PGraph Str) (a : LArch) (b : Behavior) (d : Bool)
    (ss os : List Filter) (hss : ∀ f ∈ ss, f.isRegex = false) (hos : ∀ f ∈ os, f.isRegex = false)
    (hsub : subOK φ a.listedIds (g.names ++ (ss ++ os).map Filter.id)) (x : Front) (hx : queries mt g b d ss os = .ok x) :
    Front.outcome (Front.violationsL mt (mapGraph φ g) (a.mapIds φ)) (Front.itemsL mt (mapGraph φ g) (a.mapIds φ)) (x.mapId φ) =
      (Front.outcome (Front.violationsL mt g a) (Front.itemsL mt g a) x).map (Option.map (List.map (LItem.mapId φ))) := by
  rw [Hist.queries_noregex mt g b d ss os hss hos] at hx
  cases hq : runQueries g b d ss os with
  | error k => rw [hq] at hx; cases hx
  | ok q =>
    rw [hq] at hx
    obtain rfl : ⟨b, d, ss, os, os, q.1, q.2⟩ = x := Except.ok.inj hx
    have hm' : Front.layerMap mt (mapGraph φ g) (a.mapIds φ) (Front.mapId φ ⟨b, d, ss, os, os, q.1, q.2⟩) =
        (updateLayerMap mt g.nodes a []).mapIds φ :=
      (congrArg (updateLayerMap mt _ _) (converted_nil _ _ (noregex_map φ ss hss) (noregex_map φ os hos))).trans (updateLayerMap_map φ mt g.nodes _ a)
    have hm : Front.layerMap mt g a ⟨b, d, ss, os, os, q.1, q.2⟩ = updateLayerMap mt g.nodes a [] :=
      congrArg (updateLayerMap mt g.nodes a) (converted_nil ss os hss hos)
    have hlok : ∀ n ∈ g.names ++ (ss ++ os).map Filter.id, LOK φ (updateLayerMap mt g.nodes a []) n := fun n hn =>
      layerOf_map φ hφ _ n fun c hc => hsub c (by rwa [updateLayerMap_listed] at hc) n hn
    obtain ⟨hE, hOt, hobjs⟩ := runQueries_in _ g b d ss os q.1 q.2 hq hlok
    rw [Front.outcomeL_nf, Front.outcomeL_nf, hm', hm, consistent_map φ hφ]
    split
    · rfl
    · rw [guardL_map, idsL_map φ _ ⟨b, d, ss, os, os, q.1, q.2⟩ hE hOt, itemsP_map φ _ ⟨b, d, ss, os, os, q.1, q.2⟩ hE hOt hobjs]
      unfold guardL
      rw [okAll_map φ _ _ (Front.idsL_in _ _ ⟨b, d, ss, os, os, q.1, q.2⟩ hE hOt hobjs)]

omit hφ in
theorem mem_ids_subject (c : RuleConfig) (ss : List Filter) (h : c.subjects = some ss) (f : Filter) (hf : f ∈ ss) :
    f.id ∈ c.ids := by
  unfold RuleConfig.ids
  rw [h]
  exact List.mem_map_of_mem (List.mem_append_left _ hf)

omit hφ in
theorem convertAliases_ids (c : RuleConfig) : ∀ x ∈ (convertAliases c).ids, x ∈ c.ids := by
  unfold convertAliases
  split
  · exact fun x h => h
  · cases hs : c.subjects with
    | none => intro x hx; cases hx
    | some ss0 =>
      intro x hx
      obtain ⟨f, hf, rfl⟩ := List.mem_map.1 hx
      have hf' : f ∈ dedupSubjects ss0 := by rcases List.mem_append.1 hf with h | h <;> exact h
      exact mem_ids_subject c ss0 hs f (dedupSubjects_subset ss0 f hf')

/-- `LayerRule.assert_applies` commutes with every injective map of node names that preserves the strict-sub-module
    test between (layer-listed or rule) identifiers and (graph or rule) names, for every layered architecture and every
    regex-free rule object -/
theorem assertAppliesLayer_map (mt : Str → Str → Bool) (g : PGraph Str) (a : LArch) (r : RuleState)
    (hreg : cfgNoRegex r.cfg) (hsub : subOK φ (a.listedIds ++ r.cfg.ids) (g.names ++ r.cfg.ids)) :
    assertAppliesLayer mt ⟨some (a.mapIds φ), some (r.mapId φ)⟩ (mapGraph φ g) =
      (assertAppliesLayer mt ⟨some a, some r⟩ g).mapId φ := by
  have hcs : cfgSubOK φ r.cfg := by
    intro ss hss f hf f' hf'
    exact hsub _ (List.mem_append_right _ (mem_ids_subject _ ss hss f hf)) _
      (List.mem_append_right _ (mem_ids_subject _ ss hss f' hf'))
  have hcfg : (r.mapId φ).cfg = r.cfg.mapId φ := rfl
  rw [assertAppliesLayer_front, assertAppliesLayer_front, hcfg, front_map φ hφ mt g r.cfg hreg hcs, mapId_ofRes]
  refine congrArg _ (bind_map_comm fun x hx => ?_)
  rcases front_cases mt g r.cfg with ⟨_, he⟩ | ⟨_, _, _, he⟩ | ⟨_, d, ss, os, ⟨-, -, -, -, hs, ho⟩, hf⟩
  · cases he.symm.trans hx
  · cases he.symm.trans hx
  have hq := hf.symm.trans hx
  have hreg' := cfgNoRegex_convert r.cfg hreg
  have hids : (ss ++ os).map Filter.id = (convertAliases r.cfg).ids := by
    unfold RuleConfig.ids; rw [hs, ho]
  refine outcomeL_map φ hφ mt g a _ d ss os (hreg'.1 ss hs) (hreg'.2 os ho) (fun y hy z hz => ?_) x hq
  apply hsub y (List.mem_append_left _ hy) z
  rw [hids] at hz
  rcases List.mem_append.1 hz with hz | hz
  · exact List.mem_append_left _ hz
  · exact List.mem_append_right _ (convertAliases_ids r.cfg z hz)

end Match

theorem renStr_strictSub_wf {ρ : Comp → Comp} (hρ : GoodRen ρ) (x y : Str) (hx : wfStr x) (hy : wfStr y) :
    isStrictSub (renStr ρ x) (renStr ρ y) = isStrictSub x y := by
  have ex : x = render (splitDots x) := (joinDots_splitDots x).symm
  have ey : y = render (splitDots y) := (joinDots_splitDots y).symm
  rw [ex, ey]
  exact renStr_strictSub hρ _ _ hx hy

theorem archGraph_names_wf (a : Arch) (hwf : a.wf = true) : ∀ n ∈ (archGraph a).names, wfStr n := by
  obtain ⟨hn, he⟩ := archGraph_nodes a hwf
  have hnode : ∀ s ∈ (archGraph a).nodes, wfStr s := fun s hs => by
    obtain ⟨n, h, rfl⟩ := hn s hs
    exact wfStr_render n (BuildNames.wf_nodes a hwf n h)
  intro s hs
  rcases List.mem_append.1 hs with h | h
  · exact hnode s h
  · obtain ⟨e, he', hs'⟩ := List.mem_flatMap.1 h
    simp only [List.mem_cons, List.not_mem_nil, or_false] at hs'
    rcases hs' with rfl | rfl
    · exact hnode _ (he e he').1
    · exact hnode _ (he e he').2

theorem layersWF_iff (ls : Layers) : layersWF ls = true ↔ ∀ l ∈ ls, ∀ x ∈ l.2, nameWF x = true := by
  simp only [layersWF, List.all_eq_true]

theorem compileLArch_ren (ρ : Comp → Comp) (ls : Layers) (hls : layersWF ls = true) :
    compileLArch (renLayers ρ ls) = (compileLArch ls).mapIds (renStr ρ) := by
  rw [layersWF_iff] at hls
  simp only [compileLArch, renLayers, LArch.mapIds, List.map_map]
  apply List.map_congr_left
  intro l hl
  simp only [Function.comp_def, List.map_map, Prod.mk.injEq, true_and]
  apply List.map_congr_left
  intro x hx
  simp only [Filter.mapId, renStr_render ρ x (hls l hl x hx)]

theorem compileLArch_listedIds (ls : Layers) : (compileLArch ls).listedIds = (ls.flatMap (·.2)).map render := by
  simp only [LArch.listedIds, compileLArch, List.flatMap_map, List.map_flatMap, List.filter_map, List.map_map, Function.comp_def,
    Filter.isRegex, Bool.not_false, Filter.id]
  congr 1; funext l; congr 1
  exact List.filter_eq_self.2 (fun _ _ => rfl)

theorem getD_mapIds (φ : Str → Str) (a : LArch) (n : Str) : (a.mapIds φ).getD n = (a.getD n).map (Filter.mapId φ) := by
  simp only [LArch.getD, LArch.get, LArch.mapIds, List.find?_map, Function.comp_def]
  cases a.find? (fun l => l.1 == n) <;> rfl

theorem compileLayerRule_map (φ : Str → Str) (L : LArch) (r : LRuleSpec) :
    compileLayerRule (L.mapIds φ) r = (compileLayerRule L r).mapId φ := by
  have hg : (LArch.mapIds φ L).getD = fun n => (L.getD n).map (Filter.mapId φ) := funext (getD_mapIds φ L)
  cases h : r.anything <;>
    simp [compileLayerRule, LayerRuleState.mapId, RuleState.mapId, RuleConfig.mapId, hg, h, List.map_flatMap]

/-- the rule a specification layer rule denotes -/
def layerRuleOf (L : LArch) (r : LRuleSpec) : RuleState := ((compileLayerRule L r).rule).getD {}

theorem compileLayerRule_eq (L : LArch) (r : LRuleSpec) : compileLayerRule L r = ⟨some L, some (layerRuleOf L r)⟩ := rfl

theorem getD_compileLArch (ls : Layers) (hls : layersWF ls = true) (n : Str) (f : Filter)
    (hf : f ∈ (compileLArch ls).getD n) : f.isRegex = false ∧ wfStr f.id := by
  rw [compileLArch_getD, List.map_map] at hf
  obtain ⟨x, hx, rfl⟩ := List.mem_map.1 hf
  obtain ⟨l, hl, _, hxl⟩ := mem_of_mem_get ls n x hx
  exact ⟨rfl, wfStr_render x ((layersWF_iff ls).1 hls l hl x hxl)⟩

/-- The hypotheses of `assertAppliesLayer_map` hold for the layers and a layer rule of the specification on a
    well-formed architecture, for every map that preserves the strict-sub-module test between well-formed dotted names:
    all identifiers and all names of the graph are such names. -/
theorem layerSpec_hyps (φ : Str → Str) (hsub : ∀ x y, wfStr x → wfStr y → isStrictSub (φ x) (φ y) = isStrictSub x y)
    (a : Arch) (hwf : a.wf = true) (ls : Layers) (hls : layersWF ls = true) (r : LRuleSpec) :
    cfgNoRegex (layerRuleOf (compileLArch ls) r).cfg ∧
    subOK φ ((compileLArch ls).listedIds ++ (layerRuleOf (compileLArch ls) r).cfg.ids)
      ((archGraph a).names ++ (layerRuleOf (compileLArch ls) r).cfg.ids) := by
  -- the filters of the rule are filters of its layers
  have hf : (∀ ss, (layerRuleOf (compileLArch ls) r).cfg.subjects = some ss → ∀ f ∈ ss, f.isRegex = false ∧ wfStr f.id) ∧
      ∀ os, (layerRuleOf (compileLArch ls) r).cfg.objects = some os → ∀ f ∈ os, f.isRegex = false ∧ wfStr f.id := by
    constructor
    · rintro ss ⟨rfl⟩ f hf
      exact getD_compileLArch ls hls _ f hf
    · intro os hos f hf
      simp only [layerRuleOf, compileLayerRule, Option.getD_some] at hos
      split at hos
      · cases hos
      · cases hos
        obtain ⟨n, _, hf⟩ := List.mem_flatMap.1 hf
        exact getD_compileLArch ls hls n f hf
  have hids : ∀ x ∈ (layerRuleOf (compileLArch ls) r).cfg.ids, wfStr x := by
    intro x hx
    obtain ⟨f, hf', rfl⟩ := List.mem_map.1 hx
    rcases List.mem_append.1 hf' with h | h
    · exact (hf.1 _ rfl f h).2
    · cases ho : (layerRuleOf (compileLArch ls) r).cfg.objects with
      | none => rw [ho] at h; cases h
      | some os => rw [ho] at h; exact (hf.2 os ho f h).2
  refine ⟨⟨fun ss hss f h => (hf.1 ss hss f h).1, fun os hos f h => (hf.2 os hos f h).1⟩, fun x hx y hy => hsub x y ?_ ?_⟩
  · rcases List.mem_append.1 hx with hx | hx
    · rw [compileLArch_listedIds] at hx
      obtain ⟨n, hn, rfl⟩ := List.mem_map.1 hx
      obtain ⟨l, hl, hn⟩ := List.mem_flatMap.1 hn
      exact wfStr_render n ((layersWF_iff ls).1 hls l hl n hn)
    · exact hids x hx
  · rcases List.mem_append.1 hy with hy | hy
    · exact archGraph_names_wf a hwf y hy
    · exact hids y hy

theorem lverdict_mapId_eq (φ ψ : Str → Str) (v : LVerdict) : v.mapId φ = v.mapId ψ ↔ ∀ s ∈ v.names, φ s = ψ s := by
  have hi : ∀ i : LItem, i.mapId φ = i.mapId ψ ↔ ∀ s ∈ i.names, φ s = ψ s := by
    intro i; cases i <;> simp [LItem.mapId, LItem.names]
  cases v with
  | fail items =>
    simp only [LVerdict.mapId, LVerdict.fail.injEq, List.map_inj_left, hi, LVerdict.names, List.mem_flatMap]
    exact ⟨fun h s ⟨i, hi, hs⟩ => h i hi s hs, fun h i hi s hs => h s ⟨i, hi, hs⟩⟩
  | _ => simp [LVerdict.mapId, LVerdict.names]

theorem lverdict_mapId_id (v : LVerdict) : v.mapId id = v := by
  have hi : LItem.mapId id = id := by funext i; cases i <;> rfl
  cases v <;> simp [LVerdict.mapId, hi]

theorem compileLArch_fix (ls : Layers) (hls : layersWF ls = true) : (compileLArch ls).mapIds fixW = compileLArch ls := by
  rw [layersWF_iff] at hls
  simp only [compileLArch, LArch.mapIds, List.map_map]
  apply List.map_congr_left
  intro l hl
  simp only [Function.comp_def, List.map_map, Prod.mk.injEq, true_and]
  apply List.map_congr_left
  intro x hx
  simp only [Filter.mapId, fixW_render x (hls l hl x hx)]

/-! ### Bool-valued checks of the hypotheses (for `decide`d examples) -/

def cfgNoRegexB (c : RuleConfig) : Bool :=
  (match c.subjects with | some l => l.all fun f => !f.isRegex | none => true) &&
  (match c.objects with | some l => l.all fun f => !f.isRegex | none => true)

theorem cfgNoRegex_of_check (c : RuleConfig) (h : cfgNoRegexB c = true) : cfgNoRegex c := by
  unfold cfgNoRegexB at h
  rw [Bool.and_eq_true] at h
  constructor
  · intro ss hss f hf
    rw [hss] at h
    have := List.all_eq_true.1 h.1 f hf
    simpa using this
  · intro os hos f hf
    rw [hos] at h
    have := List.all_eq_true.1 h.2 f hf
    simpa using this

def subOKB (φ : Str → Str) (xs ys : List Str) : Bool :=
  xs.all fun x => ys.all fun y => isStrictSub (φ x) (φ y) == isStrictSub x y

theorem subOK_of_check (φ : Str → Str) (xs ys : List Str) (h : subOKB φ xs ys = true) : subOK φ xs ys := by
  intro x hx y hy
  have := List.all_eq_true.1 (List.all_eq_true.1 h x hx) y hy
  simpa using this

end Pta.RL
