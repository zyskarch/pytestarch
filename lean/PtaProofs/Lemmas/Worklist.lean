/-
  PtaProofs.Lemmas.Worklist — the worklist of `get_all_submodules_of` computes exactly the
  reflexive-transitive closure of the hierarchy-child relation, and the fuel fixed by the top-level
  definition always suffices (potential: worklist length + number of hierarchy edges whose source
  has not been visited; it drops by exactly one per iteration).
-/
import PtaModel.Search
namespace Pta
variable {α : Type} [DecidableEq α]

/-- reflexive-transitive closure of the hierarchy-child relation -/
inductive Reach (g : PGraph α) : α → α → Prop
  | refl (a) : Reach g a a
  | step {a b c} : Reach g a b → c ∈ g.hierChildren b → Reach g a c

theorem Reach.head {g : PGraph α} {a b c : α} (h1 : b ∈ g.hierChildren a) (h2 : Reach g b c) :
    Reach g a c := by
  induction h2 with
  | refl => exact .step (.refl a) h1
  | step _ hc ih => exact .step ih hc

theorem Reach.trans {g : PGraph α} {a b c : α} (h1 : Reach g a b) (h2 : Reach g b c) : Reach g a c := by
  induction h2 with
  | refl => exact h1
  | step _ hc ih => exact .step ih hc

/-- hierarchy edges whose source has not been visited -/
def pendH (es : List (Edge α)) (seen : List α) : Nat :=
  es.countP (fun e => e.inh && !decide (e.src ∈ seen))

theorem countP_split {β : Type} (p r : β → Bool) (l : List β) :
    l.countP (fun x => p x && !r x) + l.countP (fun x => p x && r x) = l.countP p := by
  rw [List.countP_eq_countP_filter_add l p r, List.countP_filter, List.countP_filter, Nat.add_comm]

theorem hierChildren_length (g : PGraph α) (n : α) :
    (g.hierChildren n).length = g.edges.countP (fun e => e.src == n && e.inh) := by
  unfold PGraph.hierChildren
  rw [List.length_map, ← List.countP_eq_length_filter]

theorem pendH_expand (es : List (Edge α)) (seen : List α) (n : α) (hn : n ∉ seen) :
    pendH es (n :: seen) + es.countP (fun e => e.src == n && e.inh) = pendH es seen := by
  unfold pendH
  rw [← countP_split (fun e => e.inh && !decide (e.src ∈ seen)) (fun e => e.src == n) es]
  congr 1
  · apply List.countP_congr
    intro e _
    by_cases h1 : e.src = n <;> by_cases h2 : e.src ∈ seen <;> cases e.inh <;> simp [h1, h2]
  · apply List.countP_congr
    intro e _
    by_cases h1 : e.src = n
    · have : e.src ∉ seen := h1 ▸ hn
      cases e.inh <;> simp [h1, hn]
    · cases e.inh <;> simp [h1]

theorem subLoop_sound (g : PGraph α) (f : Nat) (work seen : List α) :
    ∀ x ∈ subLoop g f work seen, x ∈ seen ∨ ∃ w ∈ work, Reach g w x := by
  induction f generalizing work seen with
  | zero => intro x hx; simp [subLoop] at hx; exact .inl hx
  | succ f ih =>
    cases work with
    | nil => intro x hx; simp [subLoop] at hx; exact .inl hx
    | cons n rest =>
      intro x hx
      simp only [subLoop] at hx
      split at hx
      · rcases ih _ _ x hx with h | ⟨w, hw, hr⟩
        · exact .inl h
        · exact .inr ⟨w, List.mem_cons_of_mem _ hw, hr⟩
      · rcases ih _ _ x hx with h | ⟨w, hw, hr⟩
        · rcases List.mem_cons.mp h with rfl | h
          · exact .inr ⟨x, by simp, .refl _⟩
          · exact .inl h
        · rcases List.mem_append.mp hw with hw | hw
          · exact .inr ⟨n, by simp, Reach.head hw hr⟩
          · exact .inr ⟨w, List.mem_cons_of_mem _ hw, hr⟩

theorem subLoop_complete (g : PGraph α) (f : Nat) (work seen : List α)
    (hf : work.length + pendH g.edges seen < f) :
    (∀ x ∈ seen, x ∈ subLoop g f work seen) ∧ (∀ w ∈ work, w ∈ subLoop g f work seen) ∧
    (∀ x ∈ subLoop g f work seen, x ∈ seen ∨ ∀ c ∈ g.hierChildren x, c ∈ subLoop g f work seen) := by
  induction f generalizing work seen with
  | zero => omega
  | succ f ih =>
    cases work with
    | nil => simp only [subLoop]; exact ⟨fun x h => h, by simp, fun x h => .inl h⟩
    | cons n rest =>
      simp only [subLoop]
      split
      · rename_i hn
        obtain ⟨i1, i2, i3⟩ := ih rest seen (by simp at hf; omega)
        refine ⟨i1, ?_, i3⟩
        intro w hw
        rcases List.mem_cons.mp hw with rfl | h
        · exact i1 _ hn
        · exact i2 _ h
      · rename_i hn
        have hexp := pendH_expand g.edges seen n hn
        have hlen := hierChildren_length g n
        obtain ⟨i1, i2, i3⟩ := ih (g.hierChildren n ++ rest) (n :: seen) (by
          simp only [List.length_append, List.length_cons] at hf ⊢; omega)
        refine ⟨fun x hx => i1 x (List.mem_cons_of_mem _ hx), ?_, ?_⟩
        · intro w hw
          rcases List.mem_cons.mp hw with rfl | h
          · exact i1 _ (by simp)
          · exact i2 _ (List.mem_append_right _ h)
        · intro x hx
          rcases i3 x hx with h | h
          · rcases List.mem_cons.mp h with rfl | h
            · exact .inr fun c hc => i2 c (List.mem_append_left _ hc)
            · exact .inl h
          · exact .inr h

theorem pendH_nil (g : PGraph α) : pendH g.edges [] = hierCount g := by
  unfold pendH hierCount; congr 1; funext e; simp

theorem mem_subLoop_top (g : PGraph α) (s x : α) :
    x ∈ subLoop g (hierCount g + 2) [s] [] ↔ Reach g s x := by
  constructor
  · intro h
    rcases subLoop_sound g _ [s] [] x h with h | ⟨w, hw, hr⟩
    · cases h
    · simp at hw; subst hw; exact hr
  · intro h
    obtain ⟨_, i2, i3⟩ := subLoop_complete g (hierCount g + 2) [s] [] (by rw [pendH_nil]; simp; omega)
    induction h with
    | refl => exact i2 _ (by simp)
    | step _ hc ih =>
      rcases i3 _ ih with h | h
      · cases h
      · exact h _ hc

end Pta
