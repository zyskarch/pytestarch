/-
  PtaProofs.Lemmas.LayerSem — core of C05: once the filters of a layer rule are converted to the modules `S` (subject
  layer) and `O` (object layers), and every node has a layer tag that agrees with the specification's `inLayer`
  on the layers the rule mentions, `matchLayerRule` (queries, lenient detector, report) returns pass / fail exactly as
  `layerVerdict` says.
-/
import PtaProofs.Lemmas.Semantics
import PtaProofs.Lemmas.LayerTag
import PtaProofs.Lemmas.LayerDetect
import PtaProofs.Lemmas.SameMembers
namespace Pta
open PtaSpec

def nearE (dir : Bool) (e : Name × Name) : Name := if dir then e.1 else e.2
def farE (dir : Bool) (e : Name × Name) : Name := if dir then e.2 else e.1

theorem mem_edges_named (a : Arch) (dir : Bool) (x y : Name) (e : Name × Name) :
    e ∈ edges a dir (.named x) (.named y) ↔
      e ∈ a.imports ∧ desc x (nearE dir e) = true ∧ desc y (farE dir e) = true := by
  cases dir <;> simp [edges, SFilter.mem, nearE, farE, and_comm]

theorem mem_others_named (a : Arch) (dir : Bool) (x : Name) (O : List Name) (e : Name × Name) :
    e ∈ others a dir (.named x) (O.map .named) ↔
      e ∈ a.imports ∧ desc x (nearE dir e) = true ∧ desc x (farE dir e) = false ∧
        ∀ y ∈ O, desc y (farE dir e) = false := by
  cases dir <;> simp [others, SFilter.mem, SFilter.id, nearE, farE, and_assoc]

theorem mem_access (a : Arch) (dir : Bool) (s o : List Name) (e : Name × Name) :
    e ∈ access a dir s o ↔ e ∈ a.imports ∧ inLayer s (nearE dir e) = true ∧ inLayer o (farE dir e) = true := by
  cases dir <;> simp [access, nearE, farE, and_comm]

theorem mem_otherAccess (a : Arch) (dir : Bool) (s : List Name) (os : List (List Name)) (e : Name × Name) :
    e ∈ otherAccess a dir s os ↔
      e ∈ a.imports ∧ inLayer s (nearE dir e) = true ∧ inLayer s (farE dir e) = false ∧
        ∀ o ∈ os, inLayer o (farE dir e) = false := by
  cases dir <;> simp [otherAccess, nearE, farE, and_assoc]

theorem inLayer_congr {S s : List Name} (h : ∀ x, x ∈ S ↔ x ∈ s) (n : Name) : inLayer S n = inLayer s n :=
  Ord.any_congr h _

theorem access_congr (a : Arch) (dir : Bool) {s s' o o' : List Name} (hs : ∀ n, inLayer s n = inLayer s' n)
    (ho : ∀ n, inLayer o n = inLayer o' n) : access a dir s o = access a dir s' o' := by
  unfold access
  simp only [hs, ho]

theorem otherAccess_congr (a : Arch) (dir : Bool) {s s' : List Name} {os os' : List (List Name)}
    (hs : ∀ n, inLayer s n = inLayer s' n)
    (ho : ∀ n, (os.all fun o => !inLayer o n) = (os'.all fun o => !inLayer o n)) :
    otherAccess a dir s os = otherAccess a dir s' os' := by
  unfold otherAccess
  simp only [hs, ho]

theorem layerVerdict_congr_isEmpty (a a' : Arch) (ls ls' : Layers) (r : LRuleSpec)
    (hA : r.anything = false → ∀ on ∈ r.objects,
      (access a r.importDir (ls.get r.subject) (ls.get on)).isEmpty =
        (access a' r.importDir (ls'.get r.subject) (ls'.get on)).isEmpty)
    (hO : (otherAccess a r.importDir (ls.get r.subject) (if r.anything = true then [] else r.objects.map ls.get)).isEmpty =
      (otherAccess a' r.importDir (ls'.get r.subject) (if r.anything = true then [] else r.objects.map ls'.get)).isEmpty) :
    layerVerdict a ls r = layerVerdict a' ls' r := by
  unfold layerVerdict
  simp only []
  rw [hO]
  cases hany : r.anything with
  | true => rfl
  | false =>
    simp only [Bool.false_eq_true, if_false, List.all_map]
    rw [all_congr_mem r.objects ((fun o => !(access a r.importDir (ls.get r.subject) o).isEmpty) ∘ ls.get)
        ((fun o => !(access a' r.importDir (ls'.get r.subject) o).isEmpty) ∘ ls'.get)
        (fun on hon => by simp only [Function.comp_def, hA hany on hon]),
      all_congr_mem r.objects ((fun o => (access a r.importDir (ls.get r.subject) o).isEmpty) ∘ ls.get)
        ((fun o => (access a' r.importDir (ls'.get r.subject) o).isEmpty) ∘ ls'.get) (hA hany)]

/-- a regex layer resolves to the matching modules in the node order of the graph, so two resolutions of it agree as
    sets only -/
theorem layerVerdict_congr_sets (a : Arch) (ls ls' : Layers) (r : LRuleSpec)
    (hS : ∀ x, x ∈ ls.get r.subject ↔ x ∈ ls'.get r.subject)
    (hO : r.anything = false → ∀ on ∈ r.objects, ∀ x, x ∈ ls.get on ↔ x ∈ ls'.get on) :
    layerVerdict a ls r = layerVerdict a ls' r := by
  have hinS := inLayer_congr hS
  apply layerVerdict_congr_isEmpty
  · intro hany on hon
    rw [access_congr a _ hinS (inLayer_congr (hO hany on hon))]
  · congr 1
    apply otherAccess_congr a _ hinS
    intro n
    split
    · rfl
    · rename_i hany
      rw [List.all_map, List.all_map]
      exact all_congr_mem _ _ _ fun on hon => by
        simp only [Function.comp_def, inLayer_congr (hO (by simpa using hany) on hon)]

theorem layerVerdict_congr (a : Arch) (ls ls' : Layers) (r : LRuleSpec)
    (hs : ls.get r.subject = ls'.get r.subject) (ho : r.anything = false → ∀ on ∈ r.objects, ls.get on = ls'.get on) :
    layerVerdict a ls r = layerVerdict a ls' r :=
  layerVerdict_congr_sets a ls ls' r (fun x => by rw [hs]) (fun hany on hon x => by rw [ho hany on hon])

/-- the module rule the converted layer rule amounts to (before the lenient detector) -/
def coreRule (r : LRuleSpec) (S O : List Name) : RuleSpec :=
  { verb := r.verb, importDir := r.importDir, exc := r.anything || r.exc,
    subjects := S.map .named, objects := O.map .named, anything := false }

/-- the behaviour flags of a layer rule after `_convert_aliases` -/
def behL (r : LRuleSpec) : Behavior :=
  ⟨r.verb == .should, r.verb == .shouldOnly, r.verb == .shouldNot, r.anything || r.exc⟩

theorem beh_coreRule (r : LRuleSpec) (S O : List Name) : beh (coreRule r S O) = behL r := by
  simp [beh, behL, coreRule, RuleSpec.effExc]

/-- what the core lemma assumes of one application of a layer rule `r` on the architecture `a` with resolved layers `ls`:
    `m` is the layer mapping the matcher looks names up in (instantiated with `ruleLayerMap`, the rendering of the layers the
    rule works with), `tag` its lookup on nodes in the specification's vocabulary (instantiated with `layerTag` of those
    layers; `tagOk`, `tagSub`, `tagObj` say it agrees with `inLayer` on the mentioned layers), `S` / `O` the modules the
    subject / object filters convert to (from `convertFilters_layer`: all modules of the layers, or for `any layer` the
    listed modules that are not below other listed ones). `lctx_core` builds it from `LDom` -/
structure LCtx (a : Arch) (ls : Layers) (r : LRuleSpec) (m : LayerMap) (S O : List Name)
    (tag : Name → Option Str) : Prop where
  tagOk : ∀ n ∈ a.nodes, m.layerOf (render n) = .ok (tag n)
  tagSub : ∀ n, tag n = some r.subject ↔ inLayer (ls.get r.subject) n = true
  tagObj : r.anything = false → ∀ on ∈ r.objects, ∀ n, tag n = some on ↔ inLayer (ls.get on) n = true
  hasObj : r.anything = false → ∀ on ∈ r.objects, ∃ e ∈ m, e.1 = on
  /-- the queried subject modules generate the subject layer (they need not be all of its listed modules: the `any layer`
      aliases query the listed modules without those that are sub modules of other listed modules) -/
  inS : ∀ n, inLayer S n = inLayer (ls.get r.subject) n
  memO : ∀ x, x ∈ O ↔ if r.anything = true then x ∈ S else ∃ on ∈ r.objects, x ∈ ls.get on
  nodes : ∀ x ∈ S ++ O, x ∈ a.nodes
  sne : S ≠ []
  one : O ≠ []
  objNe : r.anything = false → ∀ on ∈ r.objects, ls.get on ≠ []
  subjNotObj : r.anything = false → r.subject ∉ r.objects
  cons : m.consistent = true

section core
variable {a : Arch} {g : PGraph Str} {ls : Layers} {r : LRuleSpec} {m : LayerMap} {S O : List Name}
  {tag : Name → Option Str}

theorem LCtx.tagS_node (c : LCtx a ls r m S O tag) (n : Name) (hn : n ∈ a.nodes) : tagS m (render n) = tag n :=
  tagS_of_eq (c.tagOk n hn)

theorem LCtx.tagOkS (c : LCtx a ls r m S O tag) (n : Name) (hn : n ∈ a.nodes) : TagOk m (render n) :=
  tagOk_of_eq (c.tagOk n hn)

theorem nearE_mem (hw : ArchWF a) (dir : Bool) (e : Name × Name) (he : e ∈ a.imports) : nearE dir e ∈ a.nodes := by
  cases dir
  · exact hw.impR e he
  · exact hw.impL e he

theorem farE_mem (hw : ArchWF a) (dir : Bool) (e : Name × Name) (he : e ∈ a.imports) : farE dir e ∈ a.nodes := by
  cases dir
  · exact hw.impL e he
  · exact hw.impR e he

/-- tags of the two raw ends differ iff the tags of near and far end differ -/
theorem tags_ne_iff (c : LCtx a ls r m S O tag) (hw : ArchWF a) (dir : Bool) (e : Name × Name) (he : e ∈ a.imports) :
    tagS m (render e.1) ≠ tagS m (render e.2) ↔ tag (nearE dir e) ≠ tag (farE dir e) := by
  rw [c.tagS_node _ (hw.impL e he), c.tagS_node _ (hw.impR e he)]
  cases dir
  · simp only [nearE, farE, Bool.false_eq_true, if_false]
    exact ⟨fun h h' => h h'.symm, fun h h' => h h'.symm⟩
  · simp only [nearE, farE, if_true]

theorem mem_core_subjects (f : SFilter) : f ∈ (coreRule r S O).subjects ↔ ∃ x ∈ S, f = .named x := by
  simp only [coreRule, List.mem_map, eq_comm]

theorem mem_core_objects (f : SFilter) : f ∈ (coreRule r S O).effObjects ↔ ∃ y ∈ O, f = .named y := by
  simp only [coreRule, RuleSpec.effObjects, Bool.false_eq_true, if_false, List.mem_map, eq_comm]

theorem core_effObjects : (coreRule r S O).effObjects = O.map .named := by
  simp [coreRule, RuleSpec.effObjects]

theorem core_dir : (coreRule r S O).importDir = r.importDir := rfl

/-! #### every raw identifier the detector looks up has a tag -/

theorem pairs_imports {ι κ : Type} {I : ι → Prop} {key : ι → κ} {tgt : ι → List (Name × Name)}
    {e : List (κ × List (Str × Str))} (h : Keyed I key tgt e) (ht : ∀ i, ∀ x ∈ tgt i, x ∈ a.imports) :
    ∀ kd ∈ e, ∀ p ∈ kd.2, ∃ e' ∈ a.imports, p.1 = render e'.1 ∧ p.2 = render e'.2 := by
  intro kd hkd p hp
  obtain ⟨i, _, _, hrep⟩ := h.1 kd hkd
  obtain ⟨e', he', h1, h2⟩ := (hrep p.1 p.2).1 hp
  exact ⟨e', ht i e' he', h1, h2⟩

theorem pairs_E {e : ExplDeps} (hE : ESpec a (coreRule r S O) e) :
    ∀ kd ∈ e, ∀ p ∈ kd.2, ∃ e' ∈ a.imports, p.1 = render e'.1 ∧ p.2 = render e'.2 :=
  pairs_imports hE fun _ _ hx => (List.mem_filter.1 hx).1

theorem pairs_O {o : OtherDeps} (hO : OSpec a (coreRule r S O) o) :
    ∀ kd ∈ o, ∀ p ∈ kd.2, ∃ e' ∈ a.imports, p.1 = render e'.1 ∧ p.2 = render e'.2 :=
  pairs_imports hO fun _ _ hx => (List.mem_filter.1 hx).1

theorem tagOk_of_imports (c : LCtx a ls r m S O tag) (hw : ArchWF a) {κ : Type} {deps : List (κ × List (Str × Str))}
    (h : ∀ kd ∈ deps, ∀ p ∈ kd.2, ∃ e' ∈ a.imports, p.1 = render e'.1 ∧ p.2 = render e'.2) :
    ∀ kd ∈ deps, ∀ p ∈ kd.2, TagOk m p.1 ∧ TagOk m p.2 := by
  intro kd hkd p hp
  obtain ⟨e', he', h1, h2⟩ := h kd hkd p hp
  rw [h1, h2]
  exact ⟨c.tagOkS _ (hw.impL e' he'), c.tagOkS _ (hw.impR e' he')⟩

theorem key_E {e : ExplDeps} (hE : ESpec a (coreRule r S O) e) (kd : Dep × List (Str × Str)) (hkd : kd ∈ e) :
    ∃ x ∈ S, ∃ y ∈ O, kd.1 = userOrder r.importDir ((⟨false, render x⟩ : Mod), (⟨false, render y⟩ : Mod)) ∧
      Rep kd.2 (edges a r.importDir (.named x) (.named y)) := by
  obtain ⟨⟨s, o⟩, ⟨hs, ho⟩, h1, hrep⟩ := hE.1 kd hkd
  obtain ⟨x, hx, rfl⟩ := (mem_core_subjects s).1 hs
  obtain ⟨y, hy, rfl⟩ := (mem_core_objects o).1 ho
  exact ⟨x, hx, y, hy, h1, hrep⟩

theorem relevantOf_key (dir : Bool) (kd : Dep × List (Str × Str)) (sx sy : Mod) (h : kd.1 = userOrder dir (sx, sy)) :
    relevantOf dir kd = sy := by
  cases dir <;> simp [relevantOf, h, userOrder]

/-! #### the emptiness equations -/

theorem mem_access_iff (c : LCtx a ls r m S O tag) (o : List Name) (e' : Name × Name) :
    e' ∈ access a r.importDir (ls.get r.subject) o ↔
      ∃ x ∈ S, ∃ y ∈ o, e' ∈ edges a r.importDir (.named x) (.named y) := by
  simp only [mem_access, mem_edges_named, ← c.inS, inLayer_iff, desc_iff]
  constructor
  · rintro ⟨him, ⟨x, hx, hxn⟩, y, hy, hyn⟩
    exact ⟨x, hx, y, hy, him, hxn, hyn⟩
  · rintro ⟨x, hx, y, hy, him, hxn, hyn⟩
    exact ⟨him, ⟨x, hx, hxn⟩, y, hy, hyn⟩

theorem eq_of_false_iff {a b : Bool} (h : a = false ↔ b = false) : a = b := by
  cases a <;> cases b <;> simp at h ⊢

theorem all_isEmpty_iff {α β γ : Type} (l : List α) (g : α → γ) (f : γ → List β) :
    ((l.map g).all fun o => (f o).isEmpty) = false ↔ ∃ o ∈ l, (f (g o)).isEmpty = false := by
  simp

theorem all_not_isEmpty_iff {α β γ : Type} (l : List α) (g : α → γ) (f : γ → List β) :
    ((l.map g).all fun o => !(f o).isEmpty) = false ↔ ∃ o ∈ l, (f (g o)).isEmpty = true := by
  simp

/-- (E1) no realised explicit dependency across layers ⟺ no object layer is accessed -/
theorem realisedP_E_isEmpty (c : LCtx a ls r m S O tag) (hw : ArchWF a) (hany : r.anything = false)
    {e : ExplDeps} (hE : ESpec a (coreRule r S O) e) :
    (realisedP m r.importDir e).isEmpty =
      (r.objects.map ls.get).all fun o => (access a r.importDir (ls.get r.subject) o).isEmpty := by
  refine eq_of_false_iff ?_
  rw [all_isEmpty_iff, realisedP_isEmpty, hE.exists_pair]
  have hmemO := c.memO
  simp only [hany, Bool.false_eq_true, if_false] at hmemO
  constructor
  · rintro ⟨⟨s, o⟩, ⟨hs, ho⟩, e', he', _⟩
    obtain ⟨x, hx, rfl⟩ := (mem_core_subjects s).1 hs
    obtain ⟨y, hy, rfl⟩ := (mem_core_objects o).1 ho
    obtain ⟨on, hon, hyon⟩ := (hmemO y).1 hy
    exact ⟨on, hon, List.isEmpty_eq_false_iff_exists_mem.2 ⟨e', (mem_access_iff c _ e').2 ⟨x, hx, y, hyon, he'⟩⟩⟩
  · rintro ⟨on, hon, hne⟩
    obtain ⟨e', he'⟩ := List.isEmpty_eq_false_iff_exists_mem.1 hne
    obtain ⟨him, hnear, hfar⟩ := (mem_access a _ _ _ e').1 he'
    obtain ⟨x, hxS, y, hy, he''⟩ := (mem_access_iff c _ e').1 he'
    refine ⟨(.named x, .named y), ⟨(mem_core_subjects _).2 ⟨x, hxS, rfl⟩,
      (mem_core_objects _).2 ⟨y, (hmemO y).2 ⟨on, hon, hy⟩, rfl⟩⟩, e', he'', ?_⟩
    rw [tags_ne_iff c hw r.importDir e' him, (c.tagSub _).2 hnear, (c.tagObj hany on hon _).2 hfar]
    intro h
    exact c.subjNotObj hany ((Option.some.inj h) ▸ hon)

/-- (E2) no object layer without a realised dependency ⟺ every object layer is accessed -/
theorem abstractP_isEmpty (c : LCtx a ls r m S O tag) (hany : r.anything = false)
    {e : ExplDeps} (hE : ESpec a (coreRule r S O) e) :
    (abstractP m r.importDir e).isEmpty =
      (r.objects.map ls.get).all fun o => !(access a r.importDir (ls.get r.subject) o).isEmpty := by
  refine eq_of_false_iff ?_
  rw [all_not_isEmpty_iff, abstractP_nonempty]
  have hmemO := c.memO
  simp only [hany, Bool.false_eq_true, if_false] at hmemO
  -- the tag of the relevant module of an entry is the object layer listing its object module
  have htag : ∀ kd ∈ e, ∀ x ∈ S, ∀ y ∈ O,
      kd.1 = userOrder r.importDir ((⟨false, render x⟩ : Mod), (⟨false, render y⟩ : Mod)) →
      ∀ on ∈ r.objects, y ∈ ls.get on → tagS m (relevantOf r.importDir kd).id = some on := by
    intro kd _ x _ y hy h1 on hon hyon
    rw [relevantOf_key _ _ _ _ h1]
    show tagS m (render y) = some on
    rw [c.tagS_node y (c.nodes y (List.mem_append_right _ hy))]
    exact (c.tagObj hany on hon y).2 (inLayer_self _ _ hyon)
  constructor
  · rintro ⟨layer, _, ⟨kd0, hkd0, ht0⟩, hall⟩
    obtain ⟨x0, hx0, y0, hy0, h10, _⟩ := key_E hE kd0 hkd0
    obtain ⟨on0, hon0, hyon0⟩ := (hmemO y0).1 hy0
    have hl : some layer.1 = some on0 := by rw [← ht0]; exact htag kd0 hkd0 x0 hx0 y0 hy0 h10 on0 hon0 hyon0
    refine ⟨on0, hon0, ?_⟩
    rw [List.isEmpty_iff]
    apply List.eq_nil_iff_forall_not_mem.2
    intro e' he'
    obtain ⟨x, hxS, y, hy, he''⟩ := (mem_access_iff c _ e').1 he'
    have hyO : y ∈ O := (hmemO y).2 ⟨on0, hon0, hy⟩
    obtain ⟨kd, hkd, h1, hrep⟩ := hE.2 (.named x, .named y)
      ⟨(mem_core_subjects _).2 ⟨x, hxS, rfl⟩, (mem_core_objects _).2 ⟨y, hyO, rfl⟩⟩
    have hnil := hall kd hkd (by rw [hl]; exact htag kd hkd x hxS y hyO h1 on0 hon0 hy)
    have := (hrep (render e'.1) (render e'.2)).2 ⟨e', he'', rfl, rfl⟩
    rw [hnil] at this; cases this
  · rintro ⟨on, hon, hemp⟩
    obtain ⟨layer, hl, hln⟩ := c.hasObj hany on hon
    obtain ⟨y0, hy0⟩ := List.exists_mem_of_ne_nil _ (c.objNe hany on hon)
    obtain ⟨x0, hx0⟩ := List.exists_mem_of_ne_nil _ c.sne
    have hy0O : y0 ∈ O := (hmemO y0).2 ⟨on, hon, hy0⟩
    obtain ⟨kd0, hkd0, h10, _⟩ := hE.2 (.named x0, .named y0)
      ⟨(mem_core_subjects _).2 ⟨x0, hx0, rfl⟩, (mem_core_objects _).2 ⟨y0, hy0O, rfl⟩⟩
    refine ⟨layer, hl, ⟨kd0, hkd0, ?_⟩, ?_⟩
    · rw [hln]; exact htag kd0 hkd0 x0 hx0 y0 hy0O h10 on hon hy0
    · intro kd hkd ht
      obtain ⟨x, hx, y, hy, h1, hrep⟩ := key_E hE kd hkd
      obtain ⟨on', hon', hyon'⟩ := (hmemO y).1 hy
      have : on' = on := by
        have h' := htag kd hkd x hx y hy h1 on' hon' hyon'
        rw [ht, hln] at h'
        exact (Option.some.inj h').symm
      subst this
      apply List.eq_nil_iff_forall_not_mem.2
      intro p hp
      obtain ⟨e', he', _, _⟩ := (hrep p.1 p.2).1 hp
      have := (mem_access_iff c (ls.get on') e').2 ⟨x, hx, y, hyon', he'⟩
      rw [List.isEmpty_iff] at hemp
      rw [hemp] at this; cases this

/-- (E3) no realised "other" dependency across layers ⟺ the subject layer accesses nothing else -/
theorem realisedP_O_isEmpty (c : LCtx a ls r m S O tag) (hw : ArchWF a)
    {o : OtherDeps} (hO : OSpec a (coreRule r S O) o) :
    (realisedP m r.importDir o).isEmpty =
      (otherAccess a r.importDir (ls.get r.subject)
        (if r.anything = true then [] else r.objects.map ls.get)).isEmpty := by
  refine eq_of_false_iff ?_
  rw [realisedP_isEmpty, hO.exists_pair, core_effObjects, List.isEmpty_eq_false_iff_exists_mem]
  have hmemO := c.memO
  constructor
  · rintro ⟨s, hs, e', he', hne⟩
    obtain ⟨x, hx, rfl⟩ := (mem_core_subjects s).1 hs
    obtain ⟨him, hnear, hfarx, hfarO⟩ := (mem_others_named a r.importDir x O e').1 he'
    rw [tags_ne_iff c hw r.importDir e' him] at hne
    have hnearL : inLayer (ls.get r.subject) (nearE r.importDir e') = true := by
      rw [← c.inS]; exact (inLayer_iff _ _).2 ⟨x, hx, (desc_iff _ _).1 hnear⟩
    rw [(c.tagSub _).2 hnearL] at hne
    refine ⟨e', (mem_otherAccess a _ _ _ e').2 ⟨him, hnearL, ?_, ?_⟩⟩
    · cases hh : inLayer (ls.get r.subject) (farE r.importDir e')
      · rfl
      · exact absurd ((c.tagSub _).2 hh).symm hne
    · intro o' ho'
      cases hany : r.anything
      · simp only [hany, Bool.false_eq_true, if_false, List.mem_map] at ho' hmemO
        obtain ⟨on, hon, rfl⟩ := ho'
        cases hh : inLayer (ls.get on) (farE r.importDir e')
        · rfl
        · obtain ⟨y, hy, hyn⟩ := (inLayer_iff _ _).1 hh
          have := hfarO y ((hmemO y).2 ⟨on, hon, hy⟩)
          rw [(desc_iff _ _).2 hyn] at this; cases this
      · simp [hany] at ho'
  · rintro ⟨e', he'⟩
    obtain ⟨him, hnear, hfarS, hfarO⟩ := (mem_otherAccess a _ _ _ e').1 he'
    obtain ⟨x, hxS, hxn⟩ := (inLayer_iff _ _).1 (by rw [c.inS]; exact hnear)
    have hfarS' : inLayer S (farE r.importDir e') = false := by rw [c.inS]; exact hfarS
    have hnotS : ∀ z ∈ S, desc z (farE r.importDir e') = false := by
      intro z hz
      cases hd : desc z (farE r.importDir e')
      · rfl
      · rw [(inLayer_iff _ _).2 ⟨z, hz, (desc_iff _ _).1 hd⟩] at hfarS'; cases hfarS'
    have he'' : e' ∈ others a r.importDir (.named x) (O.map .named) := by
      refine (mem_others_named a _ x O e').2 ⟨him, (desc_iff _ _).2 hxn, hnotS x hxS, ?_⟩
      intro y hy
      cases hany : r.anything
      · simp only [hany, Bool.false_eq_true, if_false] at hmemO hfarO
        obtain ⟨on, hon, hyon⟩ := (hmemO y).1 hy
        cases hd : desc y (farE r.importDir e')
        · rfl
        · have := hfarO (ls.get on) (List.mem_map.2 ⟨on, hon, rfl⟩)
          rw [(inLayer_iff _ _).2 ⟨y, hyon, (desc_iff _ _).1 hd⟩] at this; cases this
      · simp only [hany, if_true] at hmemO
        exact hnotS y ((hmemO y).1 hy)
    refine ⟨.named x, (mem_core_subjects _).2 ⟨x, hxS, rfl⟩, e', he'', ?_⟩
    rw [tags_ne_iff c hw r.importDir e' him, (c.tagSub _).2 hnear]
    intro h
    rw [(c.tagSub _).1 h.symm] at hfarS; cases hfarS

theorem detectP_buckets (m : LayerMap) (b : Behavior) (v : Verb) (x : Bool)
    (hb : b = ⟨v == .should, v == .shouldOnly, v == .shouldNot, x⟩) (d : Bool) (e : ExplDeps) (o : OtherDeps)
    (objsM : List Mod) :
    detectP m b d (if (b.explReq || b.explForb) = true then some e else none)
      (if (b.otherReq || b.otherForb) = true then some o else none) objsM =
    buckets v x (abstractP m d e) (realisedP m d e) (anyMissingP m d o objsM) (realisedP m d o) := by
  subst hb
  cases v <;> cases x <;> rfl

/-- `matchLayerRule` in pure form: the filters convert, the layer mapping `m` the matcher works with passes its check,
    the queries succeed and every lookup has a tag -/
theorem matchLayerRule_pure (mt : Str → Str → Bool) (g : PGraph Str) (larch : LArch) (m : LayerMap) (b : Behavior)
    (d : Bool) (ss os subs objs : List Filter) (expl : Option ExplDeps) (other : Option OtherDeps)
    (hs : convertFilters mt g.nodes ss = .ok subs) (ho : convertFilters mt g.nodes os = .ok objs)
    (hm : ruleMap mt g larch ss os = m) (hc : m.consistent = true)
    (hq : runQueries g b d subs objs = .ok (expl, other))
    (hE : ∀ e, expl = some e → ExplIn (TagOk m) e) (hO : ∀ o, other = some o → OtherIn (TagOk m) o)
    (hobj : ∀ o ∈ objs.map Filter.toMod, TagOk m o.id) :
    matchLayerRule mt g larch b d ss os =
      if (detectP m b d expl other (objs.map Filter.toMod)).any then
        .fail (reportItemsP m d (detectP m b d expl other (objs.map Filter.toMod)))
      else .pass := by
  rw [matchLayerRule_queries, queries_of_conv hs ho, hq]
  show LVerdict.ofRes (Front.outcome _ _ ⟨b, d, ss, os, objs, expl, other⟩) = _
  rw [Front.outcomeL_nf]
  simp only [Front.layerMap_eq, hm, hc, Bool.not_true, Bool.false_eq_true, if_false]
  rw [guardL_ok m _ _ (Front.idsL_in (TagOk m) m ⟨b, d, ss, os, objs, expl, other⟩ hE hO hobj)]
  unfold Front.itemsP
  cases (detectP m b d expl other (objs.map Filter.toMod)).any <;> rfl

/-- the filters `ss`, `os` of a layer rule convert to the modules `S`, `O`, and `m` is the layer mapping the matcher
    works with -/
structure Converts (mt : Str → Str → Bool) (g : PGraph Str) (larch : LArch) (ss os : List Filter) (m : LayerMap)
    (S O : List Name) : Prop where
  subs : convertFilters mt g.nodes ss = .ok ((S.map SFilter.named).map compileFilter)
  objs : convertFilters mt g.nodes os = .ok ((O.map SFilter.named).map compileFilter)
  map : ruleMap mt g larch ss os = m

variable {mt : Str → Str → Bool} {larch : LArch} {ss os : List Filter}

theorem matchLayerRule_core (c : LCtx a ls r m S O tag) (hw : ArchWF a) (hg : GraphOf a g)
    (cv : Converts mt g larch ss os m S O) :
    ∃ e o, ESpec a (coreRule r S O) e ∧ OSpec a (coreRule r S O) o ∧
      let expl := if ((behL r).explReq || (behL r).explForb) = true then some e else none
      let other := if ((behL r).otherReq || (behL r).otherForb) = true then some o else none
      let objsM := ((O.map SFilter.named).map compileFilter).map Filter.toMod
      let V := detectP m (behL r) r.importDir expl other objsM
      matchLayerRule mt g larch (behL r) r.importDir ss os =
        if V.any then .fail (reportItemsP m r.importDir V) else .pass := by
  have hmem : ∀ f ∈ (coreRule r S O).subjects ++ (coreRule r S O).effObjects, ∃ x ∈ S ++ O, f = .named x := by
    intro f hf
    rcases List.mem_append.1 hf with hf | hf
    · obtain ⟨x, hx, rfl⟩ := (mem_core_subjects f).1 hf
      exact ⟨x, List.mem_append_left _ hx, rfl⟩
    · obtain ⟨x, hx, rfl⟩ := (mem_core_objects f).1 hf
      exact ⟨x, List.mem_append_right _ hx, rfl⟩
  -- all filters name a module, so no filter can meet the excluded parent of another (`pfree_named`)
  obtain ⟨e, o, hE, hO, hq⟩ := runQueries_compile hw hg (coreRule r S O)
    ⟨fun f _ p hp => by obtain ⟨x, _, rfl⟩ := hmem p hp; exact pfree_named f _ rfl,
     fun f hf => by obtain ⟨x, hx, rfl⟩ := hmem f hf; exact c.nodes x hx⟩
  rw [beh_coreRule, core_effObjects] at hq
  refine ⟨e, o, hE, hO, ?_⟩
  have hq' : runQueries g (behL r) r.importDir ((S.map SFilter.named).map compileFilter)
      ((O.map SFilter.named).map compileFilter) = _ := hq
  have hS : ∀ x ∈ S, TagOk m (render x) := fun x hx => c.tagOkS x (c.nodes x (List.mem_append_left _ hx))
  have hOb : ∀ y ∈ O, TagOk m (render y) := fun y hy => c.tagOkS y (c.nodes y (List.mem_append_right _ hy))
  simp only []
  apply matchLayerRule_pure mt g larch m (behL r) r.importDir ss os _ _ _ _ cv.subs cv.objs cv.map c.cons hq'
  · intro e' he'
    split at he'
    · cases he'
      intro kd hkd
      obtain ⟨x', hx', y', hy', h1, _⟩ := key_E hE kd hkd
      refine ⟨?_, tagOk_of_imports c hw (pairs_E hE) kd hkd⟩
      rw [h1]
      cases r.importDir
      · exact ⟨hOb y' hy', hS x' hx'⟩
      · exact ⟨hS x' hx', hOb y' hy'⟩
    · cases he'
  · intro o' ho'
    split at ho'
    · cases ho'
      intro kd hkd
      obtain ⟨s, hs, h1, _⟩ := hO.1 kd hkd
      obtain ⟨x', hx', rfl⟩ := (mem_core_subjects s).1 hs
      exact ⟨by rw [h1]; exact hS x' hx', tagOk_of_imports c hw (pairs_O hO) kd hkd⟩
    · cases ho'
  · intro om hom
    simp only [List.mem_map] at hom
    obtain ⟨F, ⟨sf, ⟨y', hy', rfl⟩, rfl⟩, rfl⟩ := hom
    exact hOb y' hy'

theorem other_ne_nil (c : LCtx a ls r m S O tag) {o : OtherDeps} (hO : OSpec a (coreRule r S O) o) : o ≠ [] := by
  obtain ⟨x0, hx0⟩ := List.exists_mem_of_ne_nil _ c.sne
  obtain ⟨kd, hkd, _⟩ := hO.2 (.named x0) ((mem_core_subjects _).2 ⟨x0, hx0, rfl⟩)
  intro h; rw [h] at hkd; cases hkd

/-- the verdict class of the matcher = the documented layer semantics -/
theorem matchLayerRule_verdict (c : LCtx a ls r m S O tag) (hw : ArchWF a) (hg : GraphOf a g)
    (cv : Converts mt g larch ss os m S O) (hanyV : r.anything = true → r.verb = .shouldNot) :
    (matchLayerRule mt g larch (behL r) r.importDir ss os).cls = VClass.ofBool (layerVerdict a ls r) := by
  obtain ⟨e, o, hE, hO, hmt⟩ := matchLayerRule_core c hw hg cv
  simp only [] at hmt
  rw [hmt]
  have hcls : ∀ (b : Bool) (items : List LItem),
      (if b = true then LVerdict.fail items else LVerdict.pass).cls = VClass.ofBool (!b) := by
    intro b items; cases b <;> rfl
  rw [hcls]
  congr 1
  rw [detectP_buckets m (behL r) r.verb (r.anything || r.exc) rfl, buckets_any, Bool.not_not]
  have hobjs : (((O.map SFilter.named).map compileFilter).map Filter.toMod) ≠ [] := by
    simpa using c.one
  have h4 := anyMissingP_isEmpty m r.importDir o _ (other_ne_nil c hO) hobjs
  unfold layerVerdict
  simp only []
  rw [h4, realisedP_O_isEmpty c hw hO]
  cases hany : r.anything
  · rw [realisedP_E_isEmpty c hw hany hE, abstractP_isEmpty c hany hE]
    simp only [Bool.false_eq_true, if_false, Bool.false_or, Bool.not_not]
    -- the six arms of `buckets_any` have become those of `layerVerdict`
    rfl
  · -- the two `any layer` aliases
    rw [hanyV hany]
    simp

theorem ite_fail_eq {b : Bool} {xs items : List LItem}
    (h : (if b = true then LVerdict.fail xs else .pass) = .fail items) : items = xs := by
  cases b
  · cases h
  · exact (LVerdict.fail.inj h).symm

/-- soundness of the layer report: every reported import line is an import of the architecture whose ends carry
    different layer tags — the tags printed with it -/
theorem matchLayerRule_sound (c : LCtx a ls r m S O tag) (hw : ArchWF a) (hg : GraphOf a g)
    (cv : Converts mt g larch ss os m S O) (items : List LItem)
    (h : matchLayerRule mt g larch (behL r) r.importDir ss os = .fail items) :
    ∀ u v b tu tv, LItem.imp u v b tu tv ∈ items →
      ∃ e ∈ a.imports, u = render e.1 ∧ v = render e.2 ∧ tu = tag e.1 ∧ tv = tag e.2 ∧ tu ≠ tv := by
  obtain ⟨e, o, hE, hO, hmt⟩ := matchLayerRule_core c hw hg cv
  simp only [] at hmt
  rw [hmt] at h
  intro u v b tu tv hmem
  rw [ite_fail_eq h] at hmem
  obtain ⟨dd, hdd, huv, htu, htv⟩ := imp_mem_reportItemsP m _ _ u v b tu tv hmem
  have key : ∀ {κ : Type} (deps : List (κ × List (Str × Str))),
      (∀ kd ∈ deps, ∀ p ∈ kd.2, ∃ e' ∈ a.imports, p.1 = render e'.1 ∧ p.2 = render e'.2) →
      dd ∈ realisedP m r.importDir deps →
      ∃ e ∈ a.imports, u = render e.1 ∧ v = render e.2 ∧ tu = tag e.1 ∧ tv = tag e.2 ∧ tu ≠ tv := by
    intro κ deps hdeps hin
    obtain ⟨kd, hkd, p, hp, hp1, hne⟩ := mem_realisedP m _ deps dd hin
    obtain ⟨e', he', h1, h2⟩ := hdeps kd hkd p hp
    rw [← huv] at hp1
    have hu : u = render e'.1 := by rw [← h1, ← hp1]
    have hv : v = render e'.2 := by rw [← h2, ← hp1]
    refine ⟨e', he', hu, hv, ?_, ?_, ?_⟩
    · rw [htu, hu]; exact c.tagS_node _ (hw.impL e' he')
    · rw [htv, hv]; exact c.tagS_node _ (hw.impR e' he')
    · rw [htu, htv]
      rw [← hp1] at hne
      exact hne
  rcases detectP_forbidden_mem m _ _ _ _ _ dd hdd with ⟨e', he', hin⟩ | ⟨o', ho', hin⟩
  · split at he'
    · cases he'
      exact key _ (pairs_E hE) hin
    · cases he'
  · split at ho'
    · cases ho'
      exact key _ (pairs_O hO) hin
    · cases ho'

end core

end Pta
