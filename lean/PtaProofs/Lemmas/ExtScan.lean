/-
  PtaProofs.Lemmas.ExtScan — the scan pipeline (`generateGraph`, PtaModel/Scan.lean) seen through the external
  options: which steps depend on `excludeExternal` / `externalExclusions` (only `retainImports` and `moduleList`),
  what every converted import looks like, and the comparison of two runs that differ only in these options.
-/
import Bridge.Abs
import Bridge.ExtAbs
import Bridge.ScanLimit
import PtaProofs.Lemmas.ExtNames
import PtaProofs.Lemmas.ExtBuild
import PtaProofs.Lemmas.ScanStmt
import PtaProofs.Lemmas.ScanWalk
namespace Pta
namespace ExtScan
open ExtNames ExtBuild BuildGen

theorem withParents_eq_chain (m : Str) : withParents m = chain m := rfl

def FilesIn (p : Parsed) : Prop := ∀ f ∈ p.files, f.1 ∈ p.allModules

theorem parseWalk_filesIn (excl : Str → Bool) (base rootName : Str) (entries : List Entry) :
    ∀ fuel e, FilesIn (parseWalk excl base rootName entries fuel e) := by
  intro fuel e f hf
  rw [ScanWalk.parseWalk_eq] at hf ⊢
  obtain ⟨d, hd, rfl⟩ := List.mem_map.1 hf
  exact List.mem_map.2 ⟨d, (List.mem_filter.1 hd).1, rfl⟩

theorem scanParsed_filesIn (mt : Str → Str → Bool) (base rootName : Str) (mp : List Str) (entries : List Entry)
    (o : ScanOptions) : FilesIn (scanParsed mt base rootName mp entries o) :=
  parseWalk_filesIn _ _ _ _ _ _

theorem scanParsed_congr (mt : Str → Str → Bool) (base rootName : Str) (mp : List Str) (entries : List Entry)
    (o o' : ScanOptions) (h : o.exclusions = o'.exclusions) :
    scanParsed mt base rootName mp entries o = scanParsed mt base rootName mp entries o' := by
  unfold scanParsed; rw [h]

theorem retainImports_eq (mt : Str → Str → Bool) (o : ScanOptions) (pre : Str) (I : List ImportRec) :
    retainImports mt o pre I = I.filter (retained mt o pre) := by
  unfold retainImports retained
  simp only
  by_cases h1 : (!o.excludeExternal && o.externalExclusions.isEmpty) = true
  · simp only [h1, if_true]
    exact (List.filter_eq_self.2 (fun _ _ => rfl)).symm
  · simp only [h1, Bool.false_eq_true, if_false]
    by_cases h2 : (!o.externalExclusions.isEmpty) = true
    · simp only [h2, if_true]
    · simp only [h2, Bool.false_eq_true, if_false]

theorem retained_internal (mt : Str → Str → Bool) (o : ScanOptions) (pre : Str) (i : ImportRec)
    (h : isInternal i.importee pre = true) : retained mt o pre i = true := by
  unfold retained
  split
  · rfl
  · split <;> simp [h]

theorem mem_retainImports (mt : Str → Str → Bool) (o : ScanOptions) (pre : Str) (I : List ImportRec) (i : ImportRec) :
    i ∈ retainImports mt o pre I ↔ i ∈ I ∧ retained mt o pre i = true := by
  rw [retainImports_eq, List.mem_filter]

theorem mem_moduleList (mt : Str → Str → Bool) (base : Str) (o : ScanOptions) (pre : Str) (P : List Str)
    (R : List ImportRec) (m : Str) :
    m ∈ moduleList mt base o pre P R ↔
      m ∈ P ∨ (o.excludeExternal = false ∧
        (∃ i ∈ R, isInternal i.importee pre = false ∧ m ∈ i.importee :: i.importeeParents) ∧
        (o.externalExclusions.isEmpty = true ∨ isExcluded mt o.externalExclusions m = false)) := by
  unfold moduleList
  by_cases hx : o.excludeExternal = true
  · simp [hx]
  · have hx' : o.excludeExternal = false := by simpa using hx
    simp only [hx', Bool.false_eq_true, if_false, true_and]
    have hadd : m ∈ dedup (P ++ (R.filter fun i => !isInternal i.importee pre).flatMap
          fun i => i.importee :: i.importeeParents) ↔
        m ∈ P ∨ ∃ i ∈ R, isInternal i.importee pre = false ∧ m ∈ i.importee :: i.importeeParents := by
      rw [mem_dedup, List.mem_append]
      simp only [List.mem_flatMap, List.mem_filter, Bool.not_eq_true', and_assoc]
    by_cases he : o.externalExclusions.isEmpty = true
    · simp only [he, if_true, true_or, and_true]
      exact hadd
    · simp only [he, Bool.false_eq_true, if_false, false_or]
      rw [List.mem_filter, hadd]
      simp only [Bool.or_eq_true, List.contains_iff_mem, Bool.not_eq_true']
      exact or_and_left.symm

/-! ### `generateGraph` in two steps: the retained records (`scanRetained`), then the constructor -/

section
variable (mt : Str → Str → Bool) (base rootName : Str) (mp : List Str) (entries : List Entry) (o : ScanOptions)

theorem scanRetained_eq :
    scanRetained mt base rootName mp entries o =
      (convertAll (scanParsed mt base rootName mp entries o) (absolutePrefix rootName mp)
        ((scanParsed mt base rootName mp entries o).allModules.filter fun m => isInternal m (internalPrefix rootName mp))).map
        (retainImports mt o (internalPrefix rootName mp)) := by
  unfold scanRetained
  cases convertAll _ _ _ <;> rfl

theorem generateGraph_map :
    generateGraph mt base rootName mp entries o =
      (scanRetained mt base rootName mp entries o).map fun R =>
        buildGraph (moduleList mt base o (internalPrefix rootName mp) (scanParsed mt base rootName mp entries o).allModules R)
          R (shiftedLimit o mp) := by
  rw [scanRetained_eq]
  unfold generateGraph
  simp only [bind, Except.bind, pure, Except.pure]
  cases convertAll _ _ _ <;> rfl

theorem generateGraph_error_iff (e : ErrKind) :
    generateGraph mt base rootName mp entries o = .error e ↔ scanRetained mt base rootName mp entries o = .error e := by
  rw [generateGraph_map]
  cases scanRetained mt base rootName mp entries o <;> simp [Except.map]

theorem generateGraph_ok_iff (g : PGraph Str) :
    generateGraph mt base rootName mp entries o = .ok g ↔
      ∃ R, scanRetained mt base rootName mp entries o = .ok R ∧
        g = buildGraph (moduleList mt base o (internalPrefix rootName mp) (scanParsed mt base rootName mp entries o).allModules R)
          R (shiftedLimit o mp) := by
  rw [generateGraph_map]
  cases scanRetained mt base rootName mp entries o <;> simp [Except.map, eq_comm]

theorem scanRetained_ok (R : List ImportRec) (hR : scanRetained mt base rootName mp entries o = .ok R) :
    ∃ I, convertAll (scanParsed mt base rootName mp entries o) (absolutePrefix rootName mp)
        ((scanParsed mt base rootName mp entries o).allModules.filter fun m => isInternal m (internalPrefix rootName mp)) = .ok I ∧
      R = retainImports mt o (internalPrefix rootName mp) I := by
  rw [scanRetained_eq] at hR
  cases hc : convertAll _ _ _ with
  | error e => rw [hc] at hR; cases hR
  | ok I => rw [hc] at hR; exact ⟨I, rfl, (Except.ok.inj hR).symm⟩

theorem retained_recs (R : List ImportRec) (hR : scanRetained mt base rootName mp entries o = .ok R) :
    ∀ i ∈ R, ∃ f ∈ (scanParsed mt base rootName mp entries o).files,
      i.importer = f.1 ∧ i.importeeParents = parentModules i.importee := by
  obtain ⟨I, hI, rfl⟩ := scanRetained_ok mt base rootName mp entries o R hR
  exact fun i hi => ScanStmt.convertAll_recs _ _ _ I hI i ((mem_retainImports mt o _ I i).1 hi).1

theorem scan_graph (g : PGraph Str) (h : generateGraph mt base rootName mp entries o = .ok g) :
    ∃ I, convertAll (scanParsed mt base rootName mp entries o) (absolutePrefix rootName mp)
        ((scanParsed mt base rootName mp entries o).allModules.filter fun m => isInternal m (internalPrefix rootName mp)) = .ok I ∧
      g = buildGraph (moduleList mt base o (internalPrefix rootName mp) (scanParsed mt base rootName mp entries o).allModules
          (retainImports mt o (internalPrefix rootName mp) I))
        (retainImports mt o (internalPrefix rootName mp) I) (shiftedLimit o mp) ∧
      ∀ i ∈ I, i.importer ∈ (scanParsed mt base rootName mp entries o).allModules ∧
        i.importeeParents = parentModules i.importee := by
  obtain ⟨R, hR, rfl⟩ := (generateGraph_ok_iff mt base rootName mp entries o g).1 h
  obtain ⟨I, hI, rfl⟩ := scanRetained_ok mt base rootName mp entries o R hR
  refine ⟨I, hI, rfl, fun i hi => ?_⟩
  obtain ⟨f, hf, h1, h2⟩ := ScanStmt.convertAll_recs _ _ _ I hI i hi
  rw [h1]
  exact ⟨scanParsed_filesIn mt base rootName mp entries o f hf, h2⟩

theorem scan_lists (g : PGraph Str) (h : generateGraph mt base rootName mp entries o = .ok g) (I : List ImportRec)
    (hI : convertAll (scanParsed mt base rootName mp entries o) (absolutePrefix rootName mp)
      ((scanParsed mt base rootName mp entries o).allModules.filter fun m => isInternal m (internalPrefix rootName mp)) = .ok I) :
    g = buildGraph (moduleList mt base o (internalPrefix rootName mp) (scanParsed mt base rootName mp entries o).allModules
          (retainImports mt o (internalPrefix rootName mp) I))
        (retainImports mt o (internalPrefix rootName mp) I) (shiftedLimit o mp) ∧
      ∀ i ∈ I, i.importer ∈ (scanParsed mt base rootName mp entries o).allModules ∧
        i.importeeParents = parentModules i.importee := by
  obtain ⟨I', hI', hg, hgood⟩ := scan_graph mt base rootName mp entries o g h
  rw [hI] at hI'
  cases hI'
  exact ⟨hg, hgood⟩

end

theorem internal_chain {pre s x : Str} (h : isInternal s pre = true) (hs : s ∈ chain x) : isInternal x pre = true := by
  rw [isInternal, isModuleOrSub_iff] at *
  exact h.trans ((mem_chain s x).1 hs)

theorem nodeOf_internal (lim : Option Nat) (pre : Str) (M M' : List Str)
    (hM : ∀ m, isInternal m pre = true → m ∈ M → m ∈ M') (s : Str) (hs : isInternal s pre = true)
    (h : NodeOf lim M s) : NodeOf lim M' s := by
  obtain ⟨m, hm, hc⟩ := h
  exact ⟨m, hM m (internal_chain hs (chain_trans hc (flatten_mem_chain lim m))) hm, hc⟩

/-- one direction of the comparison: everything internal in the first graph is in the second -/
theorem internal_sub (lim : Option Nat) (pre : Str) (M M' : List Str) (R R' : List ImportRec)
    (h1 : KnownRecs M R) (h2 : KnownRecs M' R')
    (hM : ∀ m, isInternal m pre = true → m ∈ M → m ∈ M')
    (hR : ∀ i, isInternal i.importee pre = true → i ∈ R → i ∈ R') :
    (∀ s, s ∈ internalNodes pre (buildGraph M R lim) → s ∈ internalNodes pre (buildGraph M' R' lim)) ∧
    (∀ p, p ∈ internalImports pre (buildGraph M R lim) → p ∈ internalImports pre (buildGraph M' R' lim)) ∧
    (∀ p, p ∈ internalHier pre (buildGraph M R lim) → p ∈ internalHier pre (buildGraph M' R' lim)) := by
  obtain ⟨n1, t1, f1⟩ := buildGraph_known M R lim h1
  obtain ⟨n2, t2, f2⟩ := buildGraph_known M' R' lim h2
  refine ⟨?_, ?_, ?_⟩
  · intro s
    unfold internalNodes
    simp only [List.mem_filter]
    rintro ⟨hs, hi⟩
    exact ⟨(n2 s).2 (nodeOf_internal lim pre M M' hM s hi ((n1 s).1 hs)), hi⟩
  · rintro ⟨a, b⟩
    unfold internalImports bothInternal
    simp only [List.mem_filter, Bool.and_eq_true, mem_importPairs]
    rintro ⟨he, ha, hb⟩
    refine ⟨?_, ha, hb⟩
    obtain ⟨e1, e2, i, hi, hy, rfl, rfl⟩ := (f1 a b).1 he
    have hint := internal_chain hb (flatten_mem_chain lim _)
    exact (f2 _ _).2 ⟨e1, e2, i, hR i hint hi, nodeOf_internal none pre M M' hM _ hint hy, rfl, rfl⟩
  · rintro ⟨a, b⟩
    unfold internalHier bothInternal
    simp only [List.mem_filter, Bool.and_eq_true, mem_hierPairs]
    rintro ⟨he, ha, hb⟩
    refine ⟨?_, ha, hb⟩
    obtain ⟨e1, e2⟩ := (t1 a b).1 he
    exact (t2 a b).2 ⟨e1, nodeOf_internal lim pre M M' hM _ hb e2⟩

theorem retained_excluded (mt : Str → Str → Bool) (o : ScanOptions) (pre : Str) (i : ImportRec)
    (hx : o.excludeExternal = true) (hadm : o.admissible = true) :
    retained mt o pre i = isInternal i.importee pre := by
  unfold ScanOptions.admissible at hadm
  simp only [hx, Bool.not_true, Bool.false_or] at hadm
  unfold retained
  simp [hx, hadm]

theorem isExcluded_of_isEmpty (mt : Str → Str → Bool) (ps : Patterns) (s : Str) (h : ps.isEmpty = true) :
    isExcluded mt ps s = false := by
  cases ps <;> simp_all [Patterns.isEmpty, isExcluded]

theorem retained_external (mt : Str → Str → Bool) (o : ScanOptions) (pre : Str) (i : ImportRec)
    (hx : o.excludeExternal = false) (hext : isInternal i.importee pre = false) :
    retained mt o pre i = !(i.importee :: i.importeeParents).any (isExcluded mt o.externalExclusions) := by
  unfold retained
  by_cases he : o.externalExclusions.isEmpty = true
  · simp [hx, he, isExcluded_of_isEmpty mt _ _ he]
  · simp [hx, he, hext]

/-! ### the constructor on the lists of a scan

`P` are the parsed modules, `I` the converted imports; the constructor receives the extended module list and the
retained imports.  Everything is read off `buildGraph_known`. -/

section
variable (mt : Str → Str → Bool) (base : Str) (o : ScanOptions) (pre : Str) (P : List Str) (I : List ImportRec)
  (hI : ∀ i ∈ I, i.importer ∈ P ∧ i.importeeParents = parentModules i.importee)
include hI

theorem lists_known : KnownRecs (moduleList mt base o pre P (retainImports mt o pre I)) (retainImports mt o pre I) := by
  intro i hi
  obtain ⟨h1, h2⟩ := hI i ((mem_retainImports mt o pre I i).1 hi).1
  exact ⟨⟨i.importer, (mem_moduleList ..).2 (Or.inl h1), self_mem_chain _⟩, h2⟩

theorem moduleList_internal (m : Str) (hm : isInternal m pre = true) :
    m ∈ moduleList mt base o pre P (retainImports mt o pre I) ↔ m ∈ P := by
  rw [mem_moduleList]
  constructor
  · rintro (h | ⟨-, ⟨i, hi, hext, hmem⟩, -⟩)
    · exact h
    · rw [(hI i ((mem_retainImports mt o pre I i).1 hi).1).2, mem_cons_parents_chain] at hmem
      rw [internal_chain hm hmem] at hext
      cases hext
  · exact Or.inl

theorem retained_iff_chain (i : ImportRec) (hx : o.excludeExternal = false) (hi : i ∈ I)
    (hext : isInternal i.importee pre = false) :
    retained mt o pre i = true ↔ ∀ p ∈ chain i.importee, isExcluded mt o.externalExclusions p = false := by
  rw [retained_external mt o pre i hx hext, (hI i hi).2, Bool.not_eq_true', List.any_eq_false]
  exact forall_congr' fun p => by rw [mem_cons_parents_chain, Bool.not_eq_true]

theorem importee_mem_moduleList (i : ImportRec) (hx : o.excludeExternal = false) (hi : i ∈ I)
    (hext : isInternal i.importee pre = false) (hret : retained mt o pre i = true) :
    i.importee ∈ moduleList mt base o pre P (retainImports mt o pre I) := by
  rw [mem_moduleList]
  exact Or.inr ⟨hx, ⟨i, (mem_retainImports mt o pre I i).2 ⟨hi, hret⟩, hext, List.mem_cons_self⟩,
    Or.inr ((retained_iff_chain mt o pre P I hI i hx hi hext).1 hret _ (self_mem_chain _))⟩

theorem mem_nodes (lim : Option Nat) (s : Str) :
    s ∈ (buildGraph (moduleList mt base o pre P (retainImports mt o pre I)) (retainImports mt o pre I) lim).nodes ↔
      (∃ m ∈ P, s ∈ chain (flattenNode lim m)) ∨
      (o.excludeExternal = false ∧ ∃ j ∈ I, isInternal j.importee pre = false ∧ retained mt o pre j = true ∧
        s ∈ chain (flattenNode lim j.importee)) := by
  rw [(buildGraph_known _ _ lim (lists_known mt base o pre P I hI)).1]
  constructor
  · rintro ⟨m, hm, hs⟩
    rcases (mem_moduleList ..).1 hm with hm | ⟨hx, ⟨j, hj, hjext, hmj⟩, -⟩
    · exact .inl ⟨m, hm, hs⟩
    · obtain ⟨hjI, hjret⟩ := (mem_retainImports mt o pre I j).1 hj
      rw [(hI j hjI).2, mem_cons_parents_chain] at hmj
      exact .inr ⟨hx, j, hjI, hjext, hjret, chain_trans hs (flatten_chain_mono _ hmj)⟩
  · rintro (⟨m, hm, hs⟩ | ⟨hx, j, hjI, hjext, hjret, hs⟩)
    · exact ⟨m, (mem_moduleList ..).2 (.inl hm), hs⟩
    · exact ⟨j.importee, importee_mem_moduleList mt base o pre P I hI j hx hjI hjext hjret, hs⟩

theorem retained_external_edge (lim : Option Nat) (i : ImportRec) (hx : o.excludeExternal = false) (hi : i ∈ I)
    (hext : isInternal i.importee pre = false) (hret : retained mt o pre i = true)
    (hXint : isInternal (flattenNode lim i.importer) pre = true)
    (hYext : isInternal (flattenNode lim i.importee) pre = false) :
    (flattenNode lim i.importer, flattenNode lim i.importee) ∈
      (buildGraph (moduleList mt base o pre P (retainImports mt o pre I)) (retainImports mt o pre I) lim).importPairs := by
  rw [mem_importPairs, (buildGraph_known _ _ lim (lists_known mt base o pre P I hI)).2.2]
  refine ⟨fun hp => ?_, fun he => ?_, i, (mem_retainImports mt o pre I i).2 ⟨hi, hret⟩,
    ⟨i.importee, importee_mem_moduleList mt base o pre P I hI i hx hi hext hret, self_mem_chain _⟩, rfl, rfl⟩
  · rw [internal_chain hXint (parent_mem_chain (hierPair_parent hp))] at hYext
    cases hYext
  · rw [he, hYext] at hXint
    cases hXint

end

theorem scan_known (mt : Str → Str → Bool) (base rootName : Str) (mp : List Str) (entries : List Entry)
    (o : ScanOptions) (R : List ImportRec) (hR : scanRetained mt base rootName mp entries o = .ok R) :
    KnownRecs (moduleList mt base o (internalPrefix rootName mp) (scanParsed mt base rootName mp entries o).allModules R) R := by
  intro i hi
  obtain ⟨f, hf, h1, h2⟩ := retained_recs mt base rootName mp entries o R hR i hi
  exact ⟨⟨i.importer, (mem_moduleList ..).2 (Or.inl (h1 ▸ scanParsed_filesIn mt base rootName mp entries o f hf)),
    self_mem_chain _⟩, h2⟩

theorem internal_invariant_lemma (mt : Str → Str → Bool) (base rootName : Str) (mp : List Str) (entries : List Entry)
    (o o' : ScanOptions) (hex : o.exclusions = o'.exclusions) (hlim : o.levelLimit = o'.levelLimit) :
    (∀ e, generateGraph mt base rootName mp entries o = .error e ↔
          generateGraph mt base rootName mp entries o' = .error e) ∧
    ∀ g g', generateGraph mt base rootName mp entries o = .ok g →
      generateGraph mt base rootName mp entries o' = .ok g' →
      (∀ s, s ∈ internalNodes (internalPrefix rootName mp) g ↔ s ∈ internalNodes (internalPrefix rootName mp) g') ∧
      (∀ p, p ∈ internalImports (internalPrefix rootName mp) g ↔ p ∈ internalImports (internalPrefix rootName mp) g') ∧
      (∀ p, p ∈ internalHier (internalPrefix rootName mp) g ↔ p ∈ internalHier (internalPrefix rootName mp) g') := by
  have hp := scanParsed_congr mt base rootName mp entries o o' hex
  have hs : shiftedLimit o mp = shiftedLimit o' mp := by unfold shiftedLimit; rw [hlim]
  constructor
  · intro e
    rw [generateGraph_error_iff, generateGraph_error_iff, scanRetained_eq, scanRetained_eq, ← hp]
    generalize convertAll _ _ _ = c
    cases c <;> simp [Except.map]
  · intro g g' h h'
    obtain ⟨I, hI, rfl, hgood⟩ := scan_graph mt base rootName mp entries o g h
    obtain ⟨rfl, -⟩ := scan_lists mt base rootName mp entries o' g' h' I (by rw [← hp]; exact hI)
    rw [← hp, ← hs]
    -- the internal part under `o₁` is contained in that under `o₂`, for any two option records
    have sub := fun o₁ o₂ : ScanOptions => internal_sub (shiftedLimit o mp) (internalPrefix rootName mp) _ _ _ _
      (lists_known mt base o₁ _ _ I hgood) (lists_known mt base o₂ _ _ I hgood)
      (fun m hm h => (moduleList_internal mt base o₂ _ _ I hgood m hm).2
        ((moduleList_internal mt base o₁ _ _ I hgood m hm).1 h))
      (fun i hi h => (mem_retainImports mt o₂ _ I i).2
        ⟨((mem_retainImports mt o₁ _ I i).1 h).1, retained_internal mt o₂ _ i hi⟩)
    obtain ⟨x1, x2, x3⟩ := sub o o'
    obtain ⟨y1, y2, y3⟩ := sub o' o
    exact ⟨fun s => ⟨x1 s, y1 s⟩, fun p => ⟨x2 p, y2 p⟩, fun p => ⟨x3 p, y3 p⟩⟩

theorem isInternal_flatten (pre x : Str) (k : Nat) (hk : (splitDots pre).length ≤ k + 1) :
    isInternal (flattenNode (some k) x) pre = isInternal x pre := by
  rw [Bool.eq_iff_iff]
  unfold isInternal
  rw [isModuleOrSub_iff, isModuleOrSub_iff, splitDots_flatten, List.prefix_take_iff]
  exact ⟨fun h => h.1, fun h => ⟨h, hk⟩⟩

/-- with dot-free directory names the shifted limit never cuts into the internal prefix -/
theorem isInternal_shifted (rootName : Str) (mp : List Str) (o : ScanOptions) (x : Str)
    (hr : '.' ∉ rootName) (hmp : ∀ c ∈ mp, '.' ∉ c) :
    isInternal (flattenNode (shiftedLimit o mp) x) (internalPrefix rootName mp) = isInternal x (internalPrefix rootName mp) := by
  unfold shiftedLimit
  cases hl : o.levelLimit with
  | none => rfl
  | some k =>
    simp only [Option.map_some]
    apply isInternal_flatten
    rw [internalPrefix_eq, show render (rootName :: mp) = joinDots (rootName :: mp) from rfl,
      splitDots_joinDots (rootName :: mp) (by simpa using ⟨hr, hmp⟩) (by simp)]
    cases mp <;> simp

/-- so node / edge-pair lists of two scanned graphs with the same members are equal up to order (`List.Perm`) -/
theorem generateGraph_nodup (mt : Str → Str → Bool) (base rootName : Str) (mp : List Str) (entries : List Entry)
    (o : ScanOptions) (g : PGraph Str) (h : generateGraph mt base rootName mp entries o = .ok g) :
    g.nodes.Nodup ∧ g.importPairs.Nodup ∧ g.hierPairs.Nodup := by
  obtain ⟨I, -, rfl, -⟩ := ExtScan.scan_graph mt base rootName mp entries o g h
  exact ⟨ExtBuild.buildGraph_nodup _ _ _, ExtBuild.pairs_nodup (ExtBuild.buildGraph_pairsNodup _ _ _) _,
    ExtBuild.pairs_nodup (ExtBuild.buildGraph_pairsNodup _ _ _) _⟩

end ExtScan
end Pta
