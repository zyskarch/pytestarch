/-
  PtaProofs.Lemmas.FlatTree — a tree given as a flat list of items with paths (`Entry.rel` below the root directory,
  `AstNode.path` below the module node). Two facts both walks rest on: pairwise distinct paths make the path a key,
  and a list that holds the parent of every item holds every prefix of every item's path.
-/
namespace Pta.FlatTree

theorem pairwise_inj {α β : Type} {f : α → β} {l : List α} (h : l.Pairwise fun a b => f a ≠ f b) :
    ∀ a ∈ l, ∀ b ∈ l, f a = f b → a = b :=
  List.Pairwise.forall_of_forall_of_flip (R := fun a b => f a = f b → a = b) (fun _ _ _ => rfl)
    (h.imp fun hne e => absurd e hne) (h.imp fun hne e => absurd e.symm hne)

theorem prefix_dropLast {β : Type} {q l : List β} (h : q <+: l) (hne : q ≠ l) : q <+: l.dropLast := by
  obtain ⟨t, rfl⟩ := h
  have ht : t ≠ [] := by rintro rfl; exact hne (List.append_nil q).symm
  rw [List.dropLast_append_of_ne_nil ht]
  exact List.prefix_append _ _

/-- `D` is what is known of a parent (in a directory tree: it is a directory) -/
theorem prefix_closed {α β : Type} {path : α → List β} {D : α → Prop} {l : List α}
    (parent : ∀ m ∈ l, path m ≠ [] → ∃ p ∈ l, D p ∧ path p = (path m).dropLast)
    (m : α) (hm : m ∈ l) (q : List β) (hq : q <+: path m) (hne : q ≠ path m) : ∃ p ∈ l, D p ∧ path p = q := by
  induction hn : (path m).length generalizing m with
  | zero =>
    rw [List.length_eq_zero_iff.1 hn] at hq hne
    exact absurd (List.prefix_nil.1 hq) hne
  | succ n ih =>
    obtain ⟨p, hp, hD, hpp⟩ := parent m hm (by intro h; rw [h] at hn; cases hn)
    by_cases h : q = path p
    · exact ⟨p, hp, hD, h.symm⟩
    · exact ih p hp (hpp ▸ prefix_dropLast hq hne) h (by rw [hpp, List.length_dropLast, hn]; rfl)

end Pta.FlatTree
