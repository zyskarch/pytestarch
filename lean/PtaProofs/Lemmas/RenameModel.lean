/-
  PtaProofs.Lemmas.RenameModel — the CODE MODEL commutes with every injective map of node names
  (namespace `Pta.RM`): graph accessors, the worklist searches, the three queries, violation detection, the
  report and `assert_applies`. All results are exact list equalities (`… = (…).map φ`), not only set equalities.
-/
import Bridge.Rename
import PtaProofs.Lemmas.RenameAux
import PtaProofs.Lemmas.Pipeline
import PtaProofs.Lemmas.QueryErr
import PtaProofs.Lemmas.DroppedAbsent
import PtaProofs.Lemmas.SameMembers
import PtaProofs.Lemmas.Detector
namespace Pta.RM

def mapDep (φ : Str → Str) (d : Dep) : Dep := (d.1.mapId φ, d.2.mapId φ)
def mapExpl (φ : Str → Str) (kd : Dep × List (Str × Str)) : Dep × List (Str × Str) :=
  (mapDep φ kd.1, kd.2.map (Prod.map φ φ))
def mapOther (φ : Str → Str) (kd : Mod × List (Str × Str)) : Mod × List (Str × Str) :=
  (kd.1.mapId φ, kd.2.map (Prod.map φ φ))

def _root_.Pta.Front.mapId (φ : Str → Str) (x : Front) : Front :=
  { x with ss := x.ss.map (Filter.mapId φ), os := x.os.map (Filter.mapId φ), objs := x.objs.map (Filter.mapId φ),
           expl := x.expl.map (List.map (mapExpl φ)), other := x.other.map (List.map (mapOther φ)) }

section Graph
variable (φ : Str → Str) (hφ : ∀ x y, φ x = φ y → x = y) (mt : Str → Str → Bool) (g : PGraph Str)
include hφ

theorem hasNode_map (n : Str) : (mapGraph φ g).hasNode (φ n) = g.hasNode n :=
  contains_map_inj_d φ hφ g.nodes n

theorem hierChildren_map (n : Str) :
    (mapGraph φ g).hierChildren (φ n) = (g.hierChildren n).map φ := by
  simp only [PGraph.hierChildren, mapGraph, List.filter_map, List.map_map, Function.comp_def, beq_inj_d φ hφ]

theorem importSuccs_map (n : Str) :
    (mapGraph φ g).importSuccs (φ n) = (g.importSuccs n).map φ := by
  simp only [PGraph.importSuccs, mapGraph, List.filter_map, List.map_map, Function.comp_def, beq_inj_d φ hφ]

theorem importPreds_map (n : Str) :
    (mapGraph φ g).importPreds (φ n) = (g.importPreds n).map φ := by
  simp only [PGraph.importPreds, mapGraph, List.filter_map, List.map_map, Function.comp_def, beq_inj_d φ hφ]

omit hφ in
theorem hierCount_map : hierCount (mapGraph φ g) = hierCount g := by
  simp only [hierCount, mapGraph, List.countP_map, Function.comp_def]

theorem subLoop_map (f : Nat) (work seen : List Str) :
    subLoop (mapGraph φ g) f (work.map φ) (seen.map φ) = (subLoop g f work seen).map φ := by
  induction f generalizing work seen with
  | zero => rfl
  | succ f ih =>
    cases work with
    | nil => rfl
    | cons n rest =>
      simp only [List.map_cons, subLoop, mem_map_inj φ hφ]
      split
      · exact ih rest seen
      · rw [hierChildren_map φ hφ, ← List.map_append, ← List.map_cons]
        exact ih _ _

theorem submodulesOf_map (s : Str) :
    submodulesOf (mapGraph φ g) (φ s) = (submodulesOf g s).map (List.map φ) := by
  simp only [submodulesOf, hasNode_map φ hφ, hierCount_map]
  split
  · have := subLoop_map φ hφ g (hierCount g + 2) [s] []
    simp only [List.map_cons, List.map_nil] at this
    rw [this]; rfl
  · rfl

omit hφ in
theorem mapId_id (f : Filter) : (f.mapId φ).id = φ f.id := by cases f <;> rfl

omit hφ in
theorem mapId_isParent (f : Filter) : (f.mapId φ).isParent = f.isParent := by cases f <;> rfl

omit hφ in
theorem mapId_isRegex (f : Filter) : (f.mapId φ).isRegex = f.isRegex := by cases f <;> rfl

omit hφ in
theorem mapId_toMod (f : Filter) : (f.mapId φ).toMod = f.toMod.mapId φ := by cases f <;> rfl

theorem filter_mapId_inj (f f' : Filter) (h : f.mapId φ = f'.mapId φ) : f = f' := by
  cases f <;> cases f' <;> simp only [Filter.mapId, Filter.name.injEq, Filter.parent.injEq, Filter.regex.injEq, reduceCtorEq] at h <;>
    rw [hφ _ _ h]

theorem mod_mapId_inj (m m' : Mod) (h : m.mapId φ = m'.mapId φ) : m = m' := by
  cases m; cases m'
  simp only [Mod.mapId, Mod.mk.injEq] at h ⊢
  exact ⟨h.1, hφ _ _ h.2⟩

omit hφ in
theorem parentIds_map (fs : List Filter) : parentIds (fs.map (Filter.mapId φ)) = (parentIds fs).map φ := by
  simp only [parentIds, List.filter_map, List.map_map, Function.comp_def, mapId_isParent, mapId_id]

abbrev pm : Str × Str → Str × Str := Prod.map φ φ

theorem depBetween_map (f o : Filter) :
    depBetween (mapGraph φ g) (f.mapId φ) (o.mapId φ) = (depBetween g f o).map (List.map (Prod.map φ φ)) := by
  unfold depBetween
  rw [mapId_id, mapId_id, submodulesOf_map φ hφ, submodulesOf_map φ hφ]
  refine bind_map_comm fun upon _ => bind_map_comm fun own _ => congrArg Except.ok ?_
  have hp : parentIds [f.mapId φ, o.mapId φ] = (parentIds [f, o]).map φ := parentIds_map φ [f, o]
  simp only [hp, List.flatMap_map, List.map_flatMap, importSuccs_map φ hφ, List.filter_map, List.map_map, Function.comp_def,
    contains_map_inj φ hφ, Prod.map]

theorem mapId_eq_iff (f f' : Filter) : f.mapId φ = f'.mapId φ ↔ f = f' :=
  ⟨filter_mapId_inj φ hφ f f', fun h => by rw [h]⟩

theorem exclUnion_aux (self : Filter) (others : List Filter) (acc : List Str) :
    (others.map (Filter.mapId φ)).foldlM (fun acc o => if o = self.mapId φ then pure acc else do
        let s ← submodulesOf (mapGraph φ g) o.id
        pure (acc ++ s)) (acc.map φ) =
    (others.foldlM (fun acc o => if o = self then pure acc else do
        let s ← submodulesOf g o.id
        pure (acc ++ s)) acc).map (List.map φ) := by
  induction others generalizing acc with
  | nil => rfl
  | cons o os ih =>
    simp only [List.map_cons, List.foldlM_cons, mapId_eq_iff φ hφ, mapId_id, submodulesOf_map φ hφ]
    by_cases ho : o = self
    · simp only [ho, if_true, pure_bind]
      exact ih acc
    · simp only [ho, if_false]
      cases submodulesOf g o.id with
      | error e => rfl
      | ok sub =>
        simp only [Except.map, bind, Except.bind, pure, Except.pure]
        rw [← List.map_append]
        exact ih _

theorem exclUnion_map (self : Filter) (others : List Filter) :
    exclUnion (mapGraph φ g) (self.mapId φ) (others.map (Filter.mapId φ)) =
      (exclUnion g self others).map (List.map φ) :=
  exclUnion_aux φ hφ g self others []

theorem otherFrom_map (f : Filter) (os : List Filter) :
    otherFrom (mapGraph φ g) (f.mapId φ) (os.map (Filter.mapId φ)) =
      (otherFrom g f os).map (List.map (Prod.map φ φ)) := by
  unfold otherFrom
  rw [exclUnion_map φ hφ, mapId_id, submodulesOf_map φ hφ, mapId_isParent, parentIds_map]
  refine bind_map_comm fun excl0 _ => bind_map_comm fun own _ => congrArg Except.ok ?_
  have hskip : (if f.isParent = true then [φ f.id] else []) = (if f.isParent = true then [f.id] else []).map φ := by
    split <;> rfl
  rw [hskip]
  simp only [List.flatMap_map, List.map_flatMap, importSuccs_map φ hφ, List.filter_map, List.map_map, Function.comp_def,
    contains_map_inj φ hφ, Prod.map]

theorem otherTo_map (fs : List Filter) (o : Filter) :
    otherTo (mapGraph φ g) (fs.map (Filter.mapId φ)) (o.mapId φ) =
      (otherTo g fs o).map (List.map (Prod.map φ φ)) := by
  unfold otherTo
  rw [exclUnion_map φ hφ, mapId_id, submodulesOf_map φ hφ, mapId_isParent, parentIds_map]
  refine bind_map_comm fun excl0 _ => bind_map_comm fun own0 _ => congrArg Except.ok ?_
  have hown : (if o.isParent = true then (own0.map φ).filter (· != φ o.id) else own0.map φ) =
      (if o.isParent = true then own0.filter (· != o.id) else own0).map φ := by
    split
    · simp only [List.filter_map, Function.comp_def, bne, beq_inj φ hφ]
    · rfl
  rw [hown]
  simp only [List.flatMap_map, List.map_flatMap, importPreds_map φ hφ, List.filter_map, List.map_map, Function.comp_def,
    contains_map_inj φ hφ, Prod.map]

def mapQ (φ : Str → Str) (p : Option ExplDeps × Option OtherDeps) : Option ExplDeps × Option OtherDeps :=
  (p.1.map (List.map (mapExpl φ)), p.2.map (List.map (mapOther φ)))

omit hφ in
theorem okD_map {α β : Type} (f : α → β) (x : Except ErrKind (List α)) : okD (x.map (List.map f)) = (okD x).map f := by
  cases x <;> rfl

theorem answered_map (b : Behavior) (d : Bool) (O : List Filter) (s : Filter) :
    Answered (mapGraph φ g) b d (O.map (Filter.mapId φ)) (s.mapId φ) ↔ Answered g b d O s := by
  simp only [Answered, pairQuery_ok_iff, otherQuery_ok_iff, List.forall_mem_map, mapId_id, hasNode_map φ hφ, ne_eq,
    mapId_eq_iff φ hφ]

theorem answers_map (b : Behavior) (d : Bool) (S O : List Filter) :
    answers (mapGraph φ g) b d (S.map (Filter.mapId φ)) (O.map (Filter.mapId φ)) = mapQ φ (answers g b d S O) := by
  have hE : ansE (mapGraph φ g) d (S.map (Filter.mapId φ)) (O.map (Filter.mapId φ)) = (ansE g d S O).map (mapExpl φ) := by
    simp only [ansE, pairsOf, dedup_map_inj _ (filter_mapId_inj φ hφ)]
    cases d <;>
      simp only [Bool.false_eq_true, if_false, if_true, List.flatMap_map, List.map_flatMap, List.map_map, Function.comp_def,
        pairQuery, depBetween_map φ hφ, okD_map, mapId_toMod, mapExpl, mapDep, userOrder]
  have hO : ansO (mapGraph φ g) d (S.map (Filter.mapId φ)) (O.map (Filter.mapId φ)) = (ansO g d S O).map (mapOther φ) := by
    simp only [ansO, otherQuery, dedup_map_inj _ (filter_mapId_inj φ hφ), List.map_map, Function.comp_def]
    cases d <;>
      simp only [Bool.false_eq_true, if_false, if_true, otherTo_map φ hφ, otherFrom_map φ hφ, okD_map, mapId_toMod, mapOther]
  simp only [answers, mapQ, hE, hO]
  cases (b.explReq || b.explForb) <;> cases (b.otherReq || b.otherForb) <;> rfl

theorem runQueries_map (b : Behavior) (ir : Bool) (S O : List Filter) :
    runQueries (mapGraph φ g) b ir (S.map (Filter.mapId φ)) (O.map (Filter.mapId φ)) =
      (runQueries g b ir S O).map (mapQ φ) := by
  cases h : runQueries g b ir S O with
  | ok r =>
    obtain ⟨ha, rfl⟩ := (runQueries_iff ..).1 h
    exact (runQueries_iff ..).2 ⟨List.forall_mem_map.2 fun s hs => (answered_map φ hφ g b ir O s).2 (ha s hs),
      (answers_map φ hφ g b ir S O).symm⟩
  | error k =>
    obtain ⟨rfl, hn⟩ := (runQueries_error_iff ..).1 h
    exact (runQueries_error_iff ..).2 ⟨rfl, fun ha => hn fun s hs =>
      (answered_map φ hφ g b ir O s).1 (ha _ (List.mem_map_of_mem hs))⟩

omit hφ in
theorem userOrder_map {α β : Type} (k : α → β) (ir : Bool) (d : α × α) :
    userOrder ir (k d.1, k d.2) = ((userOrder ir d).1 |> k, (userOrder ir d).2 |> k) := by
  cases ir <;> rfl

omit hφ in
theorem realised_map (ir : Bool) {κ κ' : Type} (k : κ → κ') (deps : List (κ × List (Str × Str))) :
    realised ir (deps.map fun kd => (k kd.1, kd.2.map (Prod.map φ φ))) = (realised ir deps).map (mapDep φ) := by
  simp only [realised, List.flatMap_map, List.map_flatMap, List.map_map, Function.comp_def]
  congr 1; funext kd; congr 1; funext p
  cases ir <;> rfl

omit hφ in
theorem abstractWithout_map (ir : Bool) (e : ExplDeps) :
    abstractWithout ir (e.map (mapExpl φ)) = (abstractWithout ir e).map (mapDep φ) := by
  simp only [abstractWithout, List.filter_map, List.map_map, Function.comp_def, mapExpl, List.isEmpty_map]
  congr 1; funext kd
  cases ir <;> rfl

omit hφ in
theorem missingOther_map (o : OtherDeps) (objs : List Mod) :
    missingOther (o.map (mapOther φ)) (objs.map (Mod.mapId φ)) = (missingOther o objs).map (mapDep φ) := by
  simp only [missingOther, List.filter_map, List.flatMap_map, List.map_flatMap, List.map_map, Function.comp_def, mapOther,
    List.isEmpty_map, mapDep]

def mapV (φ : Str → Str) (v : Violations) : Violations :=
  { should := v.should.map (mapDep φ)
    shouldOnlyForbidden := v.shouldOnlyForbidden.map (mapDep φ)
    shouldOnlyNoImport := v.shouldOnlyNoImport.map (mapDep φ)
    shouldNot := v.shouldNot.map (mapDep φ)
    shouldExcept := v.shouldExcept.map (mapDep φ)
    shouldOnlyExceptForbidden := v.shouldOnlyExceptForbidden.map (mapDep φ)
    shouldOnlyExceptNoImport := v.shouldOnlyExceptNoImport.map (mapDep φ)
    shouldNotExcept := v.shouldNotExcept.map (mapDep φ) }

omit hφ in
theorem mapV_any (v : Violations) : (mapV φ v).any = v.any := by
  simp only [Violations.any, mapV, List.isEmpty_map]

omit hφ in
theorem detect_map (b : Behavior) (ir : Bool) (expl : Option ExplDeps) (other : Option OtherDeps) (objs : List Mod) :
    detect b ir (expl.map (List.map (mapExpl φ))) (other.map (List.map (mapOther φ))) (objs.map (Mod.mapId φ)) =
      mapV φ (detect b ir expl other objs) := by
  have hEr := fun flag => Det.onOpt_map_list (List.map (mapExpl φ)) (mapDep φ)
    expl flag fun e _ => realised_map φ ir (mapDep φ) e
  have hEa := fun flag => Det.onOpt_map_list (List.map (mapExpl φ)) (mapDep φ)
    expl flag fun e _ => abstractWithout_map φ ir e
  have hOr := fun flag => Det.onOpt_map_list (List.map (mapOther φ)) (mapDep φ)
    other flag fun o _ => realised_map φ ir (Mod.mapId φ) o
  have hOm := fun flag => Det.onOpt_map_list (List.map (mapOther φ)) (mapDep φ)
    other flag (f' := fun o => missingOther o (objs.map (Mod.mapId φ))) fun o _ => missingOther_map φ o objs
  rw [Det.detect_eq, Det.detect_eq]
  simp only [mapV, hEr, hEa, hOr, hOm]

omit hφ in
theorem impItems_map (ir : Bool) (ds : List Dep) :
    impItems ir (ds.map (mapDep φ)) = (impItems ir ds).map (Item.mapId φ) := by
  simp only [impItems, List.map_map, Function.comp_def]
  congr 1; funext d
  cases ir <;> rfl

theorem missItems_map (any ir : Bool) (ds : List Dep) :
    missItems any ir (ds.map (mapDep φ)) = (missItems any ir ds).map (Item.mapId φ) := by
  simp only [missItems, List.map_map, Function.comp_def]
  have h1 : (ds.map fun d => (mapDep φ d).1) = (ds.map (·.1)).map (Mod.mapId φ) := by
    simp only [List.map_map, Function.comp_def, mapDep]
  rw [h1, dedup_map_inj _ (mod_mapId_inj φ hφ), List.map_map]
  congr 1; funext s
  simp only [Function.comp_def, Item.mapId, List.filter_map]
  have h2 : (fun d : Dep => decide ((mapDep φ d).1 = Mod.mapId φ s)) = fun d => decide (d.1 = s) := by
    funext d
    apply decide_eq_decide.2
    exact ⟨mod_mapId_inj φ hφ _ _, fun h => by rw [mapDep, h]⟩
  rw [h2]
  have h3 : (((ds.filter fun d => decide (d.1 = s)).map (mapDep φ)).map fun x => x.2) =
      ((ds.filter fun d => decide (d.1 = s)).map (·.2)).map (Mod.mapId φ) := by
    simp only [List.map_map, Function.comp_def, mapDep]
  rw [h3, dedup_map_inj _ (mod_mapId_inj φ hφ)]

theorem reportItems_map (ir : Bool) (v : Violations) :
    reportItems ir (mapV φ v) = (reportItems ir v).map (Item.mapId φ) := by
  simp only [reportItems, mapV, List.map_append, impItems_map, missItems_map φ hφ]

omit hφ in
theorem noregex_map (fs : List Filter) (h : ∀ f ∈ fs, f.isRegex = false) :
    ∀ f ∈ fs.map (Filter.mapId φ), f.isRegex = false := by
  intro f hf
  obtain ⟨f0, hf0, rfl⟩ := List.mem_map.1 hf
  rw [mapId_isRegex]; exact h f0 hf0

omit hφ in
theorem toMod_map (fs : List Filter) : (fs.map (Filter.mapId φ)).map Filter.toMod = (fs.map Filter.toMod).map (Mod.mapId φ) := by
  simp only [List.map_map, Function.comp_def, mapId_toMod]

omit hφ in
/-- regex-free filters are not converted: the front end of such a rule is its queries -/
theorem _root_.Pta.Hist.queries_noregex (b : Behavior) (d : Bool) (ss os : List Filter)
    (hss : ∀ f ∈ ss, f.isRegex = false) (hos : ∀ f ∈ os, f.isRegex = false) :
    queries mt g b d ss os = (runQueries g b d ss os).map fun q => ⟨b, d, ss, os, os, q.1, q.2⟩ :=
  queries_of_conv (convertFilters_noregex mt _ _ hss) (convertFilters_noregex mt _ _ hos)

theorem queries_map (b : Behavior) (d : Bool) (ss os : List Filter)
    (hss : ∀ f ∈ ss, f.isRegex = false) (hos : ∀ f ∈ os, f.isRegex = false) :
    queries mt (mapGraph φ g) b d (ss.map (Filter.mapId φ)) (os.map (Filter.mapId φ)) =
      (queries mt g b d ss os).map (Front.mapId φ) := by
  rw [Hist.queries_noregex mt _ b d _ _ (noregex_map φ ss hss) (noregex_map φ os hos), Hist.queries_noregex mt g b d ss os hss hos,
    runQueries_map φ hφ]
  cases runQueries g b d ss os <;> rfl

omit hφ in
/-- the test of `_convert_aliases`, "some subject that is not a parent filter lies strictly above `m`", on mapped subjects -/
theorem above_map (fs : List Filter)
    (hsub : ∀ f ∈ fs, ∀ f' ∈ fs, isStrictSub (φ f.id) (φ f'.id) = isStrictSub f.id f'.id) (m : Filter) (hm : m ∈ fs) :
    ((fs.map (Filter.mapId φ)).any fun o => !o.isParent && isStrictSub o.id (m.mapId φ).id) =
      fs.any fun o => !o.isParent && isStrictSub o.id m.id := by
  simp only [List.any_map, Function.comp_def, mapId_id, mapId_isParent]
  exact any_congr_mem _ _ _ fun o ho => by rw [hsub o ho m hm]

omit hφ in
theorem dedupSubjects_map (fs : List Filter)
    (hsub : ∀ f ∈ fs, ∀ f' ∈ fs, isStrictSub (φ f.id) (φ f'.id) = isStrictSub f.id f'.id) :
    dedupSubjects (fs.map (Filter.mapId φ)) = (dedupSubjects fs).map (Filter.mapId φ) := by
  rw [dedupSubjects, List.filter_map]
  exact congrArg _ (List.filter_congr fun m hm => by rw [Function.comp, above_map φ fs hsub m hm])

def cfgNoRegex (c : RuleConfig) : Prop :=
  (∀ ss, c.subjects = some ss → ∀ f ∈ ss, f.isRegex = false) ∧ (∀ os, c.objects = some os → ∀ f ∈ os, f.isRegex = false)

/-- `φ` preserves the strict-sub-module test among the subject identifiers -/
def cfgSubOK (φ : Str → Str) (c : RuleConfig) : Prop :=
  ∀ ss, c.subjects = some ss → ∀ f ∈ ss, ∀ f' ∈ ss, isStrictSub (φ f.id) (φ f'.id) = isStrictSub f.id f'.id

omit hφ in
theorem droppedSubjects_map (fs : List Filter)
    (hsub : ∀ f ∈ fs, ∀ f' ∈ fs, isStrictSub (φ f.id) (φ f'.id) = isStrictSub f.id f'.id) :
    droppedSubjects (fs.map (Filter.mapId φ)) = (droppedSubjects fs).map (Filter.mapId φ) := by
  rw [droppedSubjects_eq, droppedSubjects_eq, List.filter_map]
  exact congrArg _ (List.filter_congr fun m hm => above_map φ fs hsub m hm)

omit hφ in
theorem convertAliases_map (c : RuleConfig) (hsub : cfgSubOK φ c) :
    convertAliases (c.mapId φ) = (convertAliases c).mapId φ := by
  unfold convertAliases
  cases ha : c.anything
  · simp only [RuleConfig.mapId, ha, Bool.not_false, if_true]
  · simp only [RuleConfig.mapId, ha, Bool.not_true, Bool.false_eq_true, if_false]
    cases hs : c.subjects with
    | none => rfl
    | some ss =>
      simp only [Option.map_some, dedupSubjects_map φ ss (hsub ss hs), droppedSubjects_map φ ss (hsub ss hs)]

theorem droppedAbsent_map (c : RuleConfig) :
    droppedAbsent (mapGraph φ g) (c.mapId φ) = droppedAbsent g c := by
  unfold droppedAbsent
  simp only [RuleConfig.mapId, List.any_map, Function.comp_def, mapId_id, mapId_isRegex, hasNode_map φ hφ]

omit hφ in
theorem configMissing_map (c : RuleConfig) : configMissing (c.mapId φ) = configMissing c := by
  unfold configMissing
  cases hs : c.subjects <;> cases ho : c.objects <;> simp [RuleConfig.mapId, hs, ho]

omit hφ in
theorem cfgNoRegex_convert (c : RuleConfig) (hreg : cfgNoRegex c) : cfgNoRegex (convertAliases c) := by
  unfold convertAliases
  split
  · exact hreg
  · cases hs : c.subjects with
    | none => exact ⟨fun ss h => (nomatch h), fun os h => (nomatch h)⟩
    | some ss0 =>
      -- subjects and objects are both the retained subjects
      have h : ∀ l, some (dedupSubjects ss0) = some l → ∀ f ∈ l, f.isRegex = false := by
        rintro l ⟨rfl⟩ f hf
        exact hreg.1 ss0 hs f (dedupSubjects_subset ss0 f hf)
      exact ⟨h, h⟩

theorem gate_map (c : RuleConfig) :
    gate (mapGraph φ g) (c.mapId φ) =
      (gate g c).map fun t => (t.1, t.2.1.map (Filter.mapId φ), t.2.2.map (Filter.mapId φ)) := by
  have hb : (c.mapId φ).behavior = c.behavior := rfl
  unfold gate
  rw [configMissing_map, droppedAbsent_map φ hφ, hb]
  cases configMissing c
  · cases droppedAbsent g c
    · cases c.behavior.inconsistent
      · obtain ⟨subjects, objects, _, _, _, _, dir, _, _⟩ := c
        cases dir <;> cases subjects <;> cases objects <;> rfl
      · rfl
    · rfl
  · rfl

theorem front_map (c : RuleConfig) (hreg : cfgNoRegex c) (hsub : cfgSubOK φ c) :
    front mt (mapGraph φ g) (c.mapId φ) = (front mt g c).map (Front.mapId φ) := by
  have hmis : anythingMisused (c.mapId φ) = anythingMisused c := rfl
  unfold front
  rw [hmis, convertAliases_map φ c hsub, gate_map φ hφ]
  split
  · rfl
  · have hreg' := cfgNoRegex_convert c hreg
    refine bind_map_comm fun t ht => ?_
    obtain ⟨-, -, -, -, hs, ho⟩ := (gate_ok_iff g _ t.1 t.2.1 t.2.2).1 ht
    exact queries_map φ hφ mt g _ t.1 t.2.1 t.2.2 (hreg'.1 _ hs) (hreg'.2 _ ho)

omit hφ in
/-- The report has to commute only on what the detector returned at `x` (`hr`): the layer report does so only for
    violations between names of the graph and the rule. -/
theorem outcome_mapId {β β' : Type} (f : β → β') {viol viol' : Front → Except ErrKind Violations}
    {report : Front → Violations → Except ErrKind β} {report' : Front → Violations → Except ErrKind β'} {x : Front}
    (hv : viol' (x.mapId φ) = (viol x).map (mapV φ))
    (hr : ∀ v, viol x = .ok v → report' (x.mapId φ) (mapV φ v) = (report x v).map f) :
    Front.outcome viol' report' (x.mapId φ) = (Front.outcome viol report x).map (Option.map f) := by
  unfold Front.outcome
  rw [hv]
  cases hvx : viol x with
  | error k => rfl
  | ok v =>
    show (if (mapV φ v).any then _ else _) = Except.map _ (if v.any then _ else _)
    rw [mapV_any]
    cases v.any
    · rfl
    · rw [if_pos rfl, if_pos rfl, hr v hvx]
      cases report x v <;> rfl

theorem outcome_items_map (x : Front) :
    Front.outcome Front.violations Front.items (x.mapId φ) =
      (Front.outcome Front.violations Front.items x).map (Option.map (List.map (Item.mapId φ))) :=
  outcome_mapId φ _ (congrArg Except.ok ((congrArg _ (toMod_map φ x.objs)).trans (detect_map φ x.b x.dir x.expl x.other _)))
    fun v _ => congrArg Except.ok (reportItems_map φ hφ x.dir v)

omit hφ in
theorem mapId_ofRes (r : Except ErrKind (Option (List Item))) :
    (Verdict.ofRes r).mapId φ = .ofRes (r.map (Option.map (List.map (Item.mapId φ)))) := by
  rcases r with _ | _ | _ <;> rfl

theorem assertApplies_map (s : RuleState)
    (hreg : cfgNoRegex s.cfg) (hsub : cfgSubOK φ s.cfg) :
    assertApplies mt (s.mapId φ) (mapGraph φ g) =
      ((assertApplies mt s g).1.mapId φ, (assertApplies mt s g).2.mapId φ) := by
  have hcfg : (s.mapId φ).cfg = s.cfg.mapId φ := rfl
  have hmis : anythingMisused (s.cfg.mapId φ) = anythingMisused s.cfg := rfl
  rw [assertApplies_front, assertApplies_front mt g, hcfg, hmis, front_map φ hφ mt g s.cfg hreg hsub,
    bind_map_comm fun x _ => outcome_items_map φ hφ x, ← mapId_ofRes, convertAliases_map φ _ hsub]
  split <;> rfl

end Graph

end Pta.RM
