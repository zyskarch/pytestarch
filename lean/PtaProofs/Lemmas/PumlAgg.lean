/-
  PtaProofs.Lemmas.PumlAgg — aggregation lemmas behind Props/C06.lean (layer L3): the insertion-ordered
  dictionary `addDep`, the two folds of `pumlParse`, alias unification.
-/
import Bridge.PumlRender
import PtaProofs.Lemmas.Str
namespace Pta

/-! ## `pumlParse` = tag slicing, then line recognisers, then aggregation -/

/-- everything `pumlParse` does after the per-line recognisers and the alias check -/
def pumlAgg (modules : List PModule) (rawDeps : List (Str × Str)) : Parsed' :=
  let aliases := modules.filterMap fun m => m.alias.map fun a => (a, m.name)
  let unify (x : Str) : Str := match (aliases.filter (·.1 == x)).getLast? with | some p => p.2 | none => x
  let grouped := rawDeps.foldl (fun acc d => addDep acc d.1 d.2) []
  let unified := grouped.foldl (fun acc kv => kv.2.foldl (fun acc v => addDep acc (unify kv.1) (unify v)) acc) []
  let all := dedup (modules.map (·.name) ++ unified.map (·.1) ++ unified.flatMap (·.2))
  ⟨all, unified⟩

theorem pumlParse_eq (content : Str) :
    pumlParse content =
      match pumlBody (pyStrip content) with
      | .error e => .error e
      | .ok body =>
        if aliasesConsistent ((splitLines body).flatMap lineModules) = true then
          .ok (pumlAgg ((splitLines body).flatMap lineModules) ((splitLines body).filterMap lineDependency))
        else .error .pumlParsingError := by
  unfold pumlParse
  cases pumlBody (pyStrip content) <;> rfl

/-- the check of `_get_modules_by_alias`, unpacked -/
theorem aliasesConsistent_iff_forall (modules : List PModule) :
    aliasesConsistent modules = true ↔
      ∀ m1 ∈ modules, ∀ m2 ∈ modules, ∀ a, m1.alias = some a → m2.alias = some a → m1.name = m2.name := by
  unfold aliasesConsistent
  simp only [List.all_eq_true]
  constructor
  · intro h m1 h1 m2 h2 a ha1 ha2
    have := h m1 h1 m2 h2
    rw [ha1, ha2] at this
    simpa using this
  · intro h m1 h1 m2 h2
    rcases ha1 : m1.alias with _ | a1 <;> rcases ha2 : m2.alias with _ | a2 <;> simp
    by_cases e : a1 = a2
    · subst e; exact .inr (h m1 h1 m2 h2 a1 ha1 ha2)
    · exact .inl e

/-- the parser rejects the diagram as soon as two declarations give one alias to different names -/
theorem aliasesConsistent_false_of_conflict (modules : List PModule) (m1 m2 : PModule) (a : Str)
    (h1 : m1 ∈ modules) (h2 : m2 ∈ modules) (ha1 : m1.alias = some a) (ha2 : m2.alias = some a)
    (hne : m1.name ≠ m2.name) : aliasesConsistent modules = false := by
  rw [Bool.eq_false_iff]
  exact fun h => hne ((aliasesConsistent_iff_forall modules).1 h m1 h1 m2 h2 a ha1 ha2)

/-- `v ∈ d[k]` -/
def Pairs (d : List (Str × List Str)) (k v : Str) : Prop := ∃ e ∈ d, e.1 = k ∧ v ∈ e.2

/-- keys are unique; value lists are duplicate free and non-empty -/
def DictOK (d : List (Str × List Str)) : Prop :=
  (d.map (·.1)).Nodup ∧ ∀ kv ∈ d, kv.2.Nodup ∧ kv.2 ≠ []

theorem dictOK_nil : DictOK [] := by simp [DictOK]
theorem pairs_nil (k v : Str) : ¬ Pairs [] k v := by simp [Pairs]

/-- the update function of `addDep` -/
def addDepStep (k v : Str) (e : Str × List Str) : Str × List Str :=
  if e.1 == k then (e.1, if e.2.contains v then e.2 else e.2 ++ [v]) else e

theorem addDep_eq (d : List (Str × List Str)) (k v : Str) :
    addDep d k v = if d.any (·.1 == k) then d.map (addDepStep k v) else d ++ [(k, [v])] := rfl

theorem addDepStep_fst (k v : Str) (e : Str × List Str) : (addDepStep k v e).1 = e.1 := by
  unfold addDepStep; split <;> rfl

theorem addDepStep_mem (k v : Str) (e : Str × List Str) (x : Str) :
    x ∈ (addDepStep k v e).2 ↔ x ∈ e.2 ∨ (e.1 = k ∧ x = v) := by
  unfold addDepStep
  by_cases hk : e.1 = k <;> by_cases hc : v ∈ e.2 <;> simp [hk, hc]
  rintro rfl; exact hc

theorem addDepStep_ok (k v : Str) (e : Str × List Str) (h : e.2.Nodup ∧ e.2 ≠ []) :
    (addDepStep k v e).2.Nodup ∧ (addDepStep k v e).2 ≠ [] := by
  unfold addDepStep
  by_cases hk : e.1 = k <;> by_cases hc : v ∈ e.2 <;> simp [hk, hc, h, List.nodup_append]
  rintro a ha rfl; exact hc ha

theorem pairs_addDep (d : List (Str × List Str)) (k v k' v' : Str) :
    Pairs (addDep d k v) k' v' ↔ Pairs d k' v' ∨ (k' = k ∧ v' = v) := by
  rw [addDep_eq]
  split
  · rename_i hany
    obtain ⟨e0, he0, hk0⟩ := List.any_eq_true.1 hany
    have hk0 : e0.1 = k := by simpa using hk0
    constructor
    · rintro ⟨_, hm, h1, h2⟩
      obtain ⟨e, he, rfl⟩ := List.mem_map.1 hm
      rw [addDepStep_fst] at h1
      rcases (addDepStep_mem k v e v').1 h2 with h | ⟨hk, hv⟩
      · exact .inl ⟨e, he, h1, h⟩
      · exact .inr ⟨by rw [← h1, hk], hv⟩
    · rintro (⟨e, he, h1, h⟩ | ⟨rfl, rfl⟩)
      · exact ⟨_, List.mem_map_of_mem he, by rw [addDepStep_fst]; exact h1, (addDepStep_mem k v e v').2 (.inl h)⟩
      · exact ⟨_, List.mem_map_of_mem he0, by rw [addDepStep_fst]; exact hk0,
          (addDepStep_mem k' v' e0 v').2 (.inr ⟨hk0, rfl⟩)⟩
  · simp only [Pairs, List.mem_append, List.mem_singleton]
    constructor
    · rintro ⟨e, he | rfl, rfl, hv⟩
      · exact .inl ⟨e, he, rfl, hv⟩
      · exact .inr ⟨rfl, by simpa using hv⟩
    · rintro (⟨e, he, rfl, hv⟩ | ⟨rfl, rfl⟩)
      · exact ⟨e, .inl he, rfl, hv⟩
      · exact ⟨(k', [v']), .inr rfl, rfl, by simp⟩

theorem dictOK_addDep (d : List (Str × List Str)) (k v : Str) (h : DictOK d) : DictOK (addDep d k v) := by
  rw [addDep_eq]
  split
  · refine ⟨?_, fun kv hkv => ?_⟩
    · rw [List.map_map, List.map_congr_left (g := (·.1)) fun e _ => by exact addDepStep_fst k v e]; exact h.1
    · obtain ⟨e, he, rfl⟩ := List.mem_map.1 hkv
      exact addDepStep_ok k v e (h.2 e he)
  · rename_i hany
    have hk : ∀ e ∈ d, e.1 ≠ k := fun e he hek => hany (List.any_eq_true.2 ⟨e, he, by simpa using hek⟩)
    refine ⟨?_, fun kv hkv => ?_⟩
    · simpa [List.nodup_append, h.1] using fun a b hab => hk (a, b) hab
    · rcases List.mem_append.1 hkv with hkv | hkv
      · exact h.2 kv hkv
      · rw [List.mem_singleton.1 hkv]; simp

def addAll (init : List (Str × List Str)) (l : List (Str × Str)) : List (Str × List Str) :=
  l.foldl (fun acc d => addDep acc d.1 d.2) init

theorem pairs_addAll (l : List (Str × Str)) (init : List (Str × List Str)) (k v : Str) :
    Pairs (addAll init l) k v ↔ Pairs init k v ∨ (k, v) ∈ l := by
  induction l generalizing init with
  | nil => simp [addAll]
  | cons p l ih =>
    have : addAll init (p :: l) = addAll (addDep init p.1 p.2) l := rfl
    rw [this, ih, pairs_addDep]
    simp only [List.mem_cons, Prod.ext_iff]
    constructor
    · rintro ((h | h) | h)
      · exact .inl h
      · exact .inr (.inl h)
      · exact .inr (.inr h)
    · rintro (h | h | h)
      · exact .inl (.inl h)
      · exact .inl (.inr h)
      · exact .inr h

theorem dictOK_addAll (l : List (Str × Str)) (init : List (Str × List Str)) (h : DictOK init) :
    DictOK (addAll init l) := by
  induction l generalizing init with
  | nil => exact h
  | cons p l ih => exact ih _ (dictOK_addDep init p.1 p.2 h)

/-- the second fold of `pumlParse` -/
def unifyAll (u : Str → Str) (init grouped : List (Str × List Str)) : List (Str × List Str) :=
  grouped.foldl (fun acc kv => kv.2.foldl (fun acc v => addDep acc (u kv.1) (u v)) acc) init

/-- it adds, entry by entry, the unified pairs of the grouped dictionary -/
theorem unifyAll_eq (u : Str → Str) (grouped init : List (Str × List Str)) :
    unifyAll u init grouped = addAll init (grouped.flatMap fun kv => kv.2.map fun v => (u kv.1, u v)) := by
  unfold unifyAll
  induction grouped generalizing init with
  | nil => rfl
  | cons kv g ih => rw [List.foldl_cons, ih, List.flatMap_cons, addAll, addAll, List.foldl_append, List.foldl_map]

theorem pairs_unifyAll (u : Str → Str) (grouped init : List (Str × List Str)) (k v : Str) :
    Pairs (unifyAll u init grouped) k v ↔
      Pairs init k v ∨ ∃ k0 v0, Pairs grouped k0 v0 ∧ k = u k0 ∧ v = u v0 := by
  rw [unifyAll_eq, pairs_addAll]
  simp only [List.mem_flatMap, List.mem_map, Prod.mk.injEq, Pairs]
  exact or_congr_right ⟨fun ⟨kv, hkv, v0, hv, h1, h2⟩ => ⟨kv.1, v0, ⟨kv, hkv, rfl, hv⟩, h1.symm, h2.symm⟩,
    fun ⟨_, v0, ⟨kv, hkv, rfl, hv⟩, h1, h2⟩ => ⟨kv, hkv, v0, hv, h1.symm, h2.symm⟩⟩

theorem dictOK_unifyAll (u : Str → Str) (grouped init : List (Str × List Str)) (h : DictOK init) :
    DictOK (unifyAll u init grouped) := by
  rw [unifyAll_eq]
  exact dictOK_addAll _ _ h

theorem dict_unique (d : List (Str × List Str)) (h : (d.map (·.1)).Nodup) (k : Str) (v1 v2 : List Str)
    (h1 : (k, v1) ∈ d) (h2 : (k, v2) ∈ d) : v1 = v2 :=
  (Prod.mk.inj (Option.some.inj ((find?_key_of_nodup d h (k, v1) h1).symm.trans (find?_key_of_nodup d h (k, v2) h2)))).2

theorem depsOf_of_mem (p : Parsed') (hk : (p.dependencies.map (·.1)).Nodup) (kv : Str × List Str)
    (h : kv ∈ p.dependencies) : p.depsOf kv.1 = kv.2 := by
  unfold Parsed'.depsOf
  rw [find?_key_of_nodup _ hk kv h]

theorem entry_of_depsOf (p : Parsed') (x y : Str) (h : y ∈ p.depsOf x) :
    ∃ kv ∈ p.dependencies, kv.1 = x ∧ kv.2 = p.depsOf x := by
  unfold Parsed'.depsOf at h ⊢
  cases hf : p.dependencies.find? (·.1 == x) with
  | none => rw [hf] at h; cases h
  | some kv =>
    exact ⟨kv, List.mem_of_find?_eq_some hf, by simpa using List.find?_some hf, rfl⟩

theorem mem_depsOf (p : Parsed') (hk : (p.dependencies.map (·.1)).Nodup) (x y : Str) :
    y ∈ p.depsOf x ↔ Pairs p.dependencies x y := by
  constructor
  · intro h
    obtain ⟨kv, hkv, h1, h2⟩ := entry_of_depsOf p x y h
    exact ⟨kv, hkv, h1, by rw [h2]; exact h⟩
  · rintro ⟨e, he, rfl, hy⟩
    rw [depsOf_of_mem p hk e he]; exact hy

theorem mem_keys_iff (d : List (Str × List Str)) (hok : DictOK d) (x : Str) :
    x ∈ d.map (·.1) ↔ ∃ v, Pairs d x v := by
  constructor
  · intro h
    obtain ⟨kv, hkv, rfl⟩ := List.mem_map.1 h
    obtain ⟨v, hv⟩ := List.exists_mem_of_ne_nil _ (hok.2 kv hkv).2
    exact ⟨v, kv, hkv, rfl, hv⟩
  · rintro ⟨v, e, hm, rfl, _⟩
    exact List.mem_map_of_mem hm

theorem mem_vals_iff (d : List (Str × List Str)) (x : Str) :
    x ∈ d.flatMap (·.2) ↔ ∃ k, Pairs d k x := by
  simp only [List.mem_flatMap, Pairs]
  exact ⟨fun ⟨kv, hkv, hx⟩ => ⟨kv.1, kv, hkv, rfl, hx⟩, fun ⟨_, kv, hkv, _, hx⟩ => ⟨kv, hkv, hx⟩⟩

/-- `all_aliases.get(x, x)` as the model computes it -/
def unifyWith (tbl : List (Str × Str)) (x : Str) : Str :=
  match (tbl.filter (·.1 == x)).getLast? with
  | some p => p.2
  | none => x

theorem functionalTbl_iff (tbl : List (Str × Str)) :
    functionalTbl tbl = true ↔ ∀ p ∈ tbl, ∀ q ∈ tbl, p.1 = q.1 → p.2 = q.2 := by
  simp only [functionalTbl, List.all_eq_true, Bool.or_eq_true, bne_iff_ne, ne_eq, beq_iff_eq]
  constructor
  · intro h p hp q hq hpq
    rcases h p hp q hq with h | h
    · exact absurd hpq h
    · exact h
  · intro h p hp q hq
    by_cases hpq : p.1 = q.1
    · exact .inr (h p hp q hq hpq)
    · exact .inl hpq

/-- the model's check is functionality of the alias table -/
theorem aliasesConsistent_eq_functionalTbl (modules : List PModule) :
    aliasesConsistent modules = functionalTbl (modules.filterMap fun m => m.alias.map fun a => (a, m.name)) := by
  rw [Bool.eq_iff_iff, aliasesConsistent_iff_forall, functionalTbl_iff]
  simp only [List.mem_filterMap, Option.map_eq_some_iff]
  constructor
  · rintro h p ⟨m1, hm1, a1, ha1, rfl⟩ q ⟨m2, hm2, a2, ha2, rfl⟩ heq
    simp only at heq
    subst heq
    exact h m1 hm1 m2 hm2 a1 ha1 ha2
  · intro h m1 hm1 m2 hm2 a ha1 ha2
    exact h (a, m1.name) ⟨m1, hm1, a, ha1, rfl⟩ (a, m2.name) ⟨m2, hm2, a, ha2, rfl⟩ rfl

theorem unifyWith_hit (tbl : List (Str × Str)) (hf : functionalTbl tbl = true) (a n : Str) (h : (a, n) ∈ tbl) :
    unifyWith tbl a = n := by
  unfold unifyWith
  cases hl : (tbl.filter (·.1 == a)).getLast? with
  | none =>
    rw [List.getLast?_eq_none_iff] at hl
    have : (a, n) ∈ tbl.filter (·.1 == a) := List.mem_filter.2 ⟨h, by simp⟩
    rw [hl] at this; cases this
  | some p =>
    have hp : p ∈ tbl.filter (·.1 == a) := List.mem_of_getLast? hl
    obtain ⟨hp1, hp2⟩ := List.mem_filter.1 hp
    have hp2 : p.1 = a := by simpa using hp2
    exact (functionalTbl_iff tbl).1 hf p hp1 (a, n) h hp2

theorem unifyWith_miss (tbl : List (Str × Str)) (x : Str) (h : ∀ p ∈ tbl, p.1 ≠ x) : unifyWith tbl x = x := by
  unfold unifyWith
  have : tbl.filter (·.1 == x) = [] := by
    rw [List.filter_eq_nil_iff]
    intro p hp
    simpa using h p hp
  rw [this]; rfl

theorem resolveStr_hit (tbl : List (Str × Str)) (hf : functionalTbl tbl = true) (a n : Str) (h : (a, n) ∈ tbl) :
    resolveStr tbl a = n := by
  unfold resolveStr
  cases hl : tbl.find? (·.1 == a) with
  | none =>
    have := List.find?_eq_none.1 hl (a, n) h
    simp at this
  | some p =>
    have hp1 := List.mem_of_find?_eq_some hl
    have hp2 : p.1 = a := by simpa using List.find?_some hl
    exact (functionalTbl_iff tbl).1 hf p hp1 (a, n) h hp2

theorem pumlAgg_spec (modules : List PModule) (raw : List (Str × Str)) :
    let tbl := modules.filterMap fun m => m.alias.map fun a => (a, m.name)
    let p := pumlAgg modules raw
    DictOK p.dependencies ∧ p.modules.Nodup ∧
    (∀ x y, y ∈ p.depsOf x ↔ ∃ a b, (a, b) ∈ raw ∧ x = unifyWith tbl a ∧ y = unifyWith tbl b) ∧
    (∀ x, x ∈ p.modules ↔ (∃ m ∈ modules, m.name = x) ∨
      ∃ a b, (a, b) ∈ raw ∧ (x = unifyWith tbl a ∨ x = unifyWith tbl b)) := by
  intro tbl p
  have hok : DictOK (unifyAll (unifyWith tbl) [] (addAll [] raw)) := dictOK_unifyAll _ _ _ dictOK_nil
  have hpairs : ∀ x y, Pairs (unifyAll (unifyWith tbl) [] (addAll [] raw)) x y ↔
      ∃ a b, (a, b) ∈ raw ∧ x = unifyWith tbl a ∧ y = unifyWith tbl b := by
    intro x y
    rw [pairs_unifyAll]
    simp only [pairs_nil, false_or, pairs_addAll]
  refine ⟨hok, nodup_dedup _, fun x y => (mem_depsOf p hok.1 x y).trans (hpairs x y), fun x => ?_⟩
  show x ∈ dedup (modules.map (·.name) ++ (unifyAll (unifyWith tbl) [] (addAll [] raw)).map (·.1) ++
    (unifyAll (unifyWith tbl) [] (addAll [] raw)).flatMap (·.2)) ↔ _
  simp only [mem_dedup, List.mem_append, mem_keys_iff _ hok, mem_vals_iff, hpairs, List.mem_map]
  constructor
  · rintro ((h | ⟨v, a, b, hab, h1, _⟩) | ⟨k, a, b, hab, _, h2⟩)
    · exact .inl h
    · exact .inr ⟨a, b, hab, .inl h1⟩
    · exact .inr ⟨a, b, hab, .inr h2⟩
  · rintro (h | ⟨a, b, hab, (h | h)⟩)
    · exact .inl (.inl h)
    · exact .inl (.inr ⟨_, a, b, hab, h, rfl⟩)
    · exact .inr ⟨_, a, b, hab, rfl, h⟩

/-- what the parser returns: no dependor with an empty list of dependees, every component listed once, every end of an
    arrow is a component -/
theorem pumlParse_ok_props (c : Str) (p : Parsed') (h : pumlParse c = .ok p) :
    DictOK p.dependencies ∧ p.modules.Nodup ∧
    ∀ kv ∈ p.dependencies, kv.1 ∈ p.modules ∧ ∀ v ∈ kv.2, v ∈ p.modules := by
  rw [pumlParse_eq] at h
  split at h
  · cases h
  · split at h
    · cases h
      refine ⟨(pumlAgg_spec _ _).1, (pumlAgg_spec _ _).2.1, fun kv hkv => ?_⟩
      -- the module list is made of the declared names, the keys and the values
      show kv.1 ∈ dedup _ ∧ ∀ v ∈ kv.2, v ∈ dedup _
      simp only [mem_dedup, List.mem_append, List.mem_map, List.mem_flatMap]
      exact ⟨.inl (.inr ⟨kv, hkv, rfl⟩), fun v hv => .inr ⟨kv, hkv, hv⟩⟩
    · cases h

end Pta

-- `DepsOK` and `SameParse` occur in the statements of properties C07 and C06 (Props/C07.lean, Props/C06.lean), hence their namespaces
namespace Pta.C07

/-- the dictionary invariants the congruence needs; the parser guarantees them (`C06.roundtrip`, `C06.aggregate_law`) -/
def DepsOK (p : Parsed') : Prop :=
  (p.dependencies.map (·.1)).Nodup ∧ ∀ kv ∈ p.dependencies, kv.2 ≠ []

theorem DepsOK.of_dictOK {p : Parsed'} (h : DictOK p.dependencies) : DepsOK p :=
  ⟨h.1, fun kv hkv => (h.2 kv hkv).2⟩

end Pta.C07

namespace Pta.C06

/-- two parse results with the same content -/
def SameParse (p q : Parsed') : Prop :=
  (∀ x, x ∈ p.modules ↔ x ∈ q.modules) ∧ (∀ x y, y ∈ p.depsOf x ↔ y ∈ q.depsOf x)

end Pta.C06
