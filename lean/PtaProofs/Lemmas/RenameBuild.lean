/-
  PtaProofs.Lemmas.RenameBuild — graph construction commutes with every injective map `φ` of node names that
  commutes with `get_parent_modules`, and the string renaming `renStr ρ` is such a map. Compiling a rule commutes
  with it too, and a compiled rule meets the side conditions of `assertApplies_map`: hence `assert_applies` on the
  renamed architecture and rule returns the renamed outcome.
-/
import Bridge.Abs
import Bridge.Rename
import PtaProofs.Lemmas.Render
import PtaProofs.Lemmas.BuildNames
import PtaProofs.Lemmas.BuildGen
import PtaProofs.Lemmas.RenameAux
import PtaProofs.Lemmas.RenameModel
import PtaProofs.Lemmas.ExtNames
namespace Pta.RM
open PtaSpec

/-- an import record (`AbsoluteImport`: importer, importee and the importee's precomputed parents) with every name mapped:
    what `ImportConverter` would hand to the graph constructor if all module names were renamed by `φ` -/
def mapImp (φ : Str → Str) (i : ImportRec) : ImportRec := ⟨φ i.importer, φ i.importee, i.importeeParents.map φ⟩

/-- `φ` commutes with the level-limit truncation (`flattenNode lim`, the `level_limit` cut of node names) at `m`. Asked of every
    name the construction sees (modules, importers, importees and their parents); holds for `renStr ρ` on rendered
    well-formed names (`renStr_flatOK`), since truncating and renaming both act component by component -/
def FlatOK (lim : Option Nat) (φ : Str → Str) (m : Str) : Prop := flattenNode lim (φ m) = φ (flattenNode lim m)

theorem mapGraph_congr (φ ψ : Str → Str) (g : PGraph Str) (hn : ∀ x ∈ g.nodes, φ x = ψ x)
    (he : ∀ e ∈ g.edges, e.src ∈ g.nodes ∧ e.dst ∈ g.nodes) : mapGraph φ g = mapGraph ψ g := by
  unfold mapGraph
  congr 1
  · exact List.map_congr_left hn
  · exact List.map_congr_left fun e h => by rw [hn _ (he e h).1, hn _ (he e h).2]

theorem mapGraph_id (g : PGraph Str) : mapGraph id g = g := by
  obtain ⟨nodes, edges⟩ := g
  simp only [mapGraph, id, List.map_id', List.map_id]

section Build
variable (φ : Str → Str) (hφ : ∀ x y, φ x = φ y → x = y) (lim : Option Nat)
include hφ

theorem createNode_map (g : PGraph Str) (n : Str) (hn : FlatOK lim φ n) :
    createNode lim (mapGraph φ g) (φ n) = mapGraph φ (createNode lim g n) := by
  simp only [createNode, show flattenNode lim (φ n) = _ from hn, hasNode_map φ hφ]
  by_cases h : g.hasNode (flattenNode lim n) = true
  · simp only [h, if_true]
  · simp only [h, Bool.false_eq_true, ↓reduceIte, mapGraph, List.map_append, List.map_cons, List.map_nil]

theorem findEdge_map (g : PGraph Str) (s e : Str) :
    (mapGraph φ g).findEdge (φ s) (φ e) = (g.findEdge s e).map fun x => ⟨φ x.src, φ x.dst, x.inh⟩ := by
  simp only [PGraph.findEdge, mapGraph, List.find?_map, Function.comp_def, beq_inj_d φ hφ]

theorem hasEdge_map (g : PGraph Str) (s e : Str) : (mapGraph φ g).hasEdge (φ s) (φ e) = g.hasEdge s e := by
  simp only [PGraph.hasEdge, findEdge_map φ hφ, Option.isSome_map]

theorem setEdge_map (g : PGraph Str) (s e : Str) (inh : Bool) :
    (mapGraph φ g).setEdge (φ s) (φ e) inh = mapGraph φ (g.setEdge s e inh) := by
  simp only [PGraph.setEdge, hasEdge_map φ hφ]
  by_cases h : g.hasEdge s e = true
  · simp only [h, if_true, mapGraph, List.map_map, Function.comp_def, beq_inj_d φ hφ]
    congr 1
    apply List.map_congr_left
    intro x _
    split <;> rfl
  · simp only [h, Bool.false_eq_true, ↓reduceIte, mapGraph, List.map_append, List.map_cons, List.map_nil]

theorem createEdge_map (g : PGraph Str) (s e : Str) (inh : Bool) (hs : FlatOK lim φ s) (he : FlatOK lim φ e) :
    createEdge lim (mapGraph φ g) (φ s) (φ e) inh = mapGraph φ (createEdge lim g s e inh) := by
  simp only [createEdge, show flattenNode lim (φ s) = _ from hs, show flattenNode lim (φ e) = _ from he, beq_inj φ hφ,
    hasNode_map φ hφ, findEdge_map φ hφ]
  generalize flattenNode lim s = s, flattenNode lim e = e
  by_cases h1 : (s == e) = true
  · simp only [h1, if_true]
  · by_cases h2 : (g.hasNode s && g.hasNode e) = true
    · simp only [h1, h2, Bool.false_eq_true, ↓reduceIte]
      cases g.findEdge s e with
      | none => simp only [Option.map_none, setEdge_map φ hφ]
      | some x =>
        simp only [Option.map_some]
        by_cases h3 : (x.inh == inh) = true
        · simp only [h3, if_true]
        · simp only [h3, Bool.false_eq_true, ↓reduceIte, setEdge_map φ hφ]
    · simp only [h1, h2, Bool.false_eq_true, ↓reduceIte]

theorem chain_map (l : List Str) (hl : ∀ m ∈ l, FlatOK lim φ m) (g : PGraph Str) :
    (consecutive (l.map φ)).foldl (fun g pc => createEdge lim g pc.1 pc.2 true) (mapGraph φ g) =
      mapGraph φ ((consecutive l).foldl (fun g pc => createEdge lim g pc.1 pc.2 true) g) := by
  rw [BuildNames.consecutive_map]
  exact foldl_map_comm _ (mapGraph φ) _ _ _ (fun p hp g =>
    createEdge_map φ hφ lim g p.1 p.2 true (hl _ (BuildGen.mem_consecutive_left l p hp).1)
      (hl _ (BuildGen.mem_consecutive_left l p hp).2)) g

theorem addHierarchy_map (g : PGraph Str) (ps : List Str) (c : Str) (h : ∀ m ∈ ps ++ [c], FlatOK lim φ m) :
    addHierarchy lim (mapGraph φ g) (ps.map φ) (φ c) = mapGraph φ (addHierarchy lim g ps c) := by
  have : ps.map φ ++ [φ c] = (ps ++ [c]).map φ := by simp
  rw [addHierarchy, foldl_map_comm φ (mapGraph φ) _ _ ps fun p hp g =>
    createNode_map φ hφ lim g p (h p (List.mem_append_left _ hp)), this, chain_map φ hφ lim _ h]
  rfl

theorem addImport_map (known : List Str) (g : PGraph Str) (i : ImportRec)
    (hp : parentModules (φ i.importer) = (parentModules i.importer).map φ)
    (h1 : ∀ m ∈ parentModules i.importer ++ [i.importer], FlatOK lim φ m)
    (h2 : ∀ m ∈ i.importeeParents ++ [i.importee], FlatOK lim φ m) :
    addImport lim (known.map φ) (mapGraph φ g) (mapImp φ i) = mapGraph φ (addImport lim known g i) := by
  have : i.importeeParents.map φ ++ [φ i.importee] = (i.importeeParents ++ [i.importee]).map φ := by simp
  have hsk : skipImportEdge lim (known.map φ) (mapImp φ i) = skipImportEdge lim known i := by
    simp only [skipImportEdge, mapImp, contains_map_inj φ hφ]
  simp only [addImport, hsk]
  simp only [mapImp, hp, this]
  rw [← chain_map φ hφ lim _ h2, ← addHierarchy_map φ hφ lim _ _ _ h1]
  split
  · rfl
  · rw [createEdge_map φ hφ lim g _ _ false (h1 _ (by simp)) (h2 _ (by simp))]

/-- the graph of the image lists is the image of the graph, for a map that commutes with `get_parent_modules` on the
    modules and importers and with the level limit on every name the construction sees -/
theorem buildGraph_map (mods : List Str) (imports : List ImportRec)
    (hpm : ∀ m ∈ mods, parentModules (φ m) = (parentModules m).map φ)
    (hpi : ∀ i ∈ imports, parentModules (φ i.importer) = (parentModules i.importer).map φ)
    (hm : ∀ m ∈ mods, ∀ x ∈ parentModules m ++ [m], FlatOK lim φ x)
    (hi : ∀ i ∈ imports, ∀ x ∈ (parentModules i.importer ++ [i.importer]) ++ (i.importeeParents ++ [i.importee]),
      FlatOK lim φ x) :
    buildGraph (mods.map φ) (imports.map (mapImp φ)) lim = mapGraph φ (buildGraph mods imports lim) := by
  have hk : knownModules (mods.map φ) = (knownModules mods).map φ := by
    simp only [knownModules, List.map_append, List.flatMap_map, List.map_flatMap]
    rw [List.flatMap_def, List.flatMap_def, List.map_congr_left hpm]
  have h0 : addAllModules lim PGraph.empty (mods.map φ) = mapGraph φ (addAllModules lim PGraph.empty mods) :=
    foldl_map_comm φ (mapGraph φ) _ _ mods (fun m hmm g => by
      rw [createNode_map φ hφ lim g m (hm m hmm m (by simp)), hpm m hmm, addHierarchy_map φ hφ lim _ _ _ (hm m hmm)])
      PGraph.empty
  unfold buildGraph
  rw [h0, hk]
  exact foldl_map_comm (mapImp φ) (mapGraph φ) _ _ imports (fun i hi' g => addImport_map φ hφ lim _ g i (hpi i hi')
    (fun x hx => hi i hi' x (List.mem_append_left _ hx)) (fun x hx => hi i hi' x (List.mem_append_right _ hx))) _

end Build

theorem renStr_render (ρ : Comp → Comp) (n : Name) (hn : nameWF n = true) :
    renStr ρ (render n) = render (renName ρ n) := by
  simp only [renStr, splitDots_render n hn, hn, if_true]

/-- a raw string that is a well-formed dotted name: the test of `renStr` (Bridge/Rename.lean) -/
def wfStr (s : Str) : Prop := nameWF (splitDots s) = true

theorem wfStr_render (n : Name) (hn : nameWF n = true) : wfStr (render n) := by
  unfold wfStr; rw [splitDots_render n hn]; exact hn

theorem renStr_eq_renDotted (ρ : Comp → Comp) (s : Str) (h : wfStr s) : renStr ρ s = renDotted ρ s := by
  simp only [renStr, renDotted, show nameWF (splitDots s) = true from h, if_true]

theorem renStr_inj {ρ : Comp → Comp} (hρ : GoodRen ρ) : ∀ x y, renStr ρ x = renStr ρ y → x = y := by
  have key : ∀ x y, nameWF (splitDots x) = true → nameWF (splitDots y) = false →
      render (renName ρ (splitDots x)) ≠ y := by
    intro x y hx hy h
    rw [← h, splitDots_render _ (Ren.nameWF_ren hρ hx), Ren.nameWF_ren hρ hx] at hy
    cases hy
  intro x y h
  simp only [renStr] at h
  cases hx : nameWF (splitDots x) <;> cases hy : nameWF (splitDots y) <;>
    simp only [hx, hy, if_true, if_false, Bool.false_eq_true] at h
  · exact h
  · exact absurd h.symm (key y x hy hx)
  · exact absurd h (key x y hx hy)
  · exact ExtNames.splitDots_injective
      (Ren.renName_inj hρ (render_injective _ _ (Ren.nameWF_ren hρ hx) (Ren.nameWF_ren hρ hy) h))

theorem renStr_strictSub {ρ : Comp → Comp} (hρ : GoodRen ρ) (x y : Name) (hx : nameWF x = true) (hy : nameWF y = true) :
    isStrictSub (renStr ρ (render x)) (renStr ρ (render y)) = isStrictSub (render x) (render y) := by
  rw [renStr_render ρ x hx, renStr_render ρ y hy, isStrictSub_render _ _ (Ren.nameWF_ren hρ hx) (Ren.nameWF_ren hρ hy),
    isStrictSub_render _ _ hx hy, Ren.sdesc_ren hρ]

theorem renStr_parentModules {ρ : Comp → Comp} (hρ : GoodRen ρ) (n : Name) (hn : nameWF n = true) :
    parentModules (renStr ρ (render n)) = (parentModules (render n)).map (renStr ρ) := by
  rw [renStr_render ρ n hn, parentModules_render _ (Ren.nameWF_ren hρ hn), parentModules_render n hn,
    Ren.properPrefixes_ren, List.map_map, List.map_map]
  apply List.map_congr_left
  intro p hp
  exact (renStr_render ρ p (nameWF_of_prefix hn (mem_properPrefixes_ne_nil hp) (properPrefixes_prefix hp))).symm

theorem renStr_flatOK {ρ : Comp → Comp} (hρ : GoodRen ρ) (lim : Option Nat) (n : Name) (hn : nameWF n = true) :
    FlatOK lim (renStr ρ) (render n) := by
  show flattenNode lim (renStr ρ (render n)) = renStr ρ (flattenNode lim (render n))
  rw [renStr_render ρ n hn, ExtNames.flatten_render lim _ (Ren.nameWF_ren hρ hn), ExtNames.flatten_render lim n hn,
    renStr_render ρ _ (nameWF_trunc lim n hn)]
  cases lim <;> simp only [trunc, renName, List.map_take]

theorem renStr_flatOK_chain {ρ : Comp → Comp} (hρ : GoodRen ρ) (lim : Option Nat) (n : Name) (hn : nameWF n = true) :
    ∀ x ∈ parentModules (render n) ++ [render n], FlatOK lim (renStr ρ) x := by
  intro x hx
  obtain ⟨p, hne, hp, rfl⟩ := (ExtNames.mem_chain_render hn x).1 hx
  exact renStr_flatOK hρ lim p (nameWF_of_prefix hn hne hp)

theorem absImport_ren {ρ : Comp → Comp} (hρ : GoodRen ρ) (a b : Name) (h1 : nameWF a = true) (h2 : nameWF b = true) :
    absImport (render (renName ρ a)) (render (renName ρ b)) = mapImp (renStr ρ) (absImport (render a) (render b)) := by
  simp only [absImport, mapImp, renStr_render ρ _ h1, renStr_render ρ _ h2]
  rw [← renStr_render ρ _ h2, renStr_parentModules hρ _ h2]

theorem archGraph_ren {ρ : Comp → Comp} (hρ : GoodRen ρ) (a : Arch) (hwf : a.wf = true) :
    archGraph (renArch ρ a) = mapGraph (renStr ρ) (archGraph a) := by
  unfold archGraph
  have hn : (renArch ρ a).nodes.map render = (a.nodes.map render).map (renStr ρ) := by
    simp only [renArch, List.map_map]
    apply List.map_congr_left
    intro n hn
    exact (renStr_render ρ n (BuildNames.wf_nodes a hwf n hn)).symm
  have hi : ((renArch ρ a).imports.map fun e => absImport (render e.1) (render e.2)) =
      (a.imports.map fun e => absImport (render e.1) (render e.2)).map (mapImp (renStr ρ)) := by
    simp only [renArch, List.map_map]
    apply List.map_congr_left
    intro e he
    obtain ⟨h1, h2, _⟩ := BuildNames.wf_import a hwf e he
    exact absImport_ren hρ _ _ (BuildNames.wf_nodes a hwf _ h1) (BuildNames.wf_nodes a hwf _ h2)
  rw [hn, hi]
  apply buildGraph_map _ (renStr_inj hρ)
  · intro m hm
    obtain ⟨n, hn, rfl⟩ := List.mem_map.1 hm
    exact renStr_parentModules hρ n (BuildNames.wf_nodes a hwf n hn)
  · intro i hi
    obtain ⟨e, he, rfl⟩ := List.mem_map.1 hi
    obtain ⟨h1, _⟩ := BuildNames.wf_import a hwf e he
    exact renStr_parentModules hρ _ (BuildNames.wf_nodes a hwf _ h1)
  · exact fun _ _ _ _ => rfl
  · exact fun _ _ _ _ => rfl

theorem compileFilter_ren (ρ : Comp → Comp) (f : SFilter) (hf : nameWF f.id = true) :
    compileFilter (renFilter ρ f) = (compileFilter f).mapId (renStr ρ) := by
  cases f with
  | named x => show Filter.name _ = Filter.name _; rw [renStr_render ρ x hf]
  | subOf x => show Filter.parent _ = Filter.parent _; rw [renStr_render ρ x hf]

theorem compile_mapFilters (F : SFilter → SFilter) (φ : Str → Str) (r : RuleSpec)
    (hs : ∀ f ∈ r.subjects, compileFilter (F f) = (compileFilter f).mapId φ)
    (ho : r.anything = false → ∀ f ∈ r.objects, compileFilter (F f) = (compileFilter f).mapId φ) :
    compile { r with subjects := r.subjects.map F, objects := r.objects.map F } = (compile r).mapId φ := by
  have hf : ∀ fs : List SFilter, (∀ f ∈ fs, compileFilter (F f) = (compileFilter f).mapId φ) →
      (fs.map F).map compileFilter = (fs.map compileFilter).map (Filter.mapId φ) := fun fs h => by
    simp only [List.map_map]; exact List.map_congr_left h
  obtain ⟨verb, dir, exc, subjects, objects, anything⟩ := r
  cases anything
  · simp only [compile, RuleState.mapId, RuleConfig.mapId, Option.map_some, hf _ hs, Bool.false_eq_true, if_false,
      hf _ (ho rfl), List.map_nil]
  · simp only [compile, RuleState.mapId, RuleConfig.mapId, Option.map_some, hf _ hs, if_true, Option.map_none, List.map_nil]

theorem ruleWF_iff (r : RuleSpec) :
    ruleWF r = true ↔ (∀ f ∈ r.subjects, nameWF f.id = true) ∧ (r.anything = false → ∀ f ∈ r.objects, nameWF f.id = true) := by
  obtain ⟨verb, dir, exc, subjects, objects, anything⟩ := r
  cases anything
  · simp only [ruleWF, RuleSpec.effObjects, List.all_append, Bool.and_eq_true, List.all_eq_true, Bool.false_eq_true, if_false]
    constructor
    · rintro ⟨h1, h2⟩; exact ⟨h1, fun _ => h2⟩
    · rintro ⟨h1, h2⟩; exact ⟨h1, h2 trivial⟩
  · simp only [ruleWF, RuleSpec.effObjects, List.all_append, Bool.and_eq_true, List.all_eq_true, if_true]
    constructor
    · rintro ⟨h1, _⟩; exact ⟨h1, fun h => by cases h⟩
    · rintro ⟨h1, _⟩; exact ⟨h1, h1⟩

theorem ruleWF_of_namesIn (a : Arch) (hwf : a.wf = true) (r : RuleSpec) (h : r.namesIn a = true) : ruleWF r = true := by
  unfold ruleWF
  unfold RuleSpec.namesIn at h
  rw [List.all_eq_true] at h ⊢
  intro f hf
  exact BuildNames.wf_nodes a hwf f.id (List.contains_iff_mem.1 (h f hf))

theorem compile_ren (ρ : Comp → Comp) (r : RuleSpec) (hr : ruleWF r = true) :
    compile (renRule ρ r) = (compile r).mapId (renStr ρ) := by
  obtain ⟨hs, ho⟩ := (ruleWF_iff r).1 hr
  exact compile_mapFilters (renFilter ρ) (renStr ρ) r (fun f hf => compileFilter_ren ρ f (hs f hf))
    fun h f hf => compileFilter_ren ρ f (ho h f hf)

theorem compile_noRegex (r : RuleSpec) : cfgNoRegex (compile r).cfg := by
  constructor
  · intro ss hss f hf
    simp only [compile, Option.some.injEq] at hss
    subst hss
    obtain ⟨f0, _, rfl⟩ := List.mem_map.1 hf
    cases f0 <;> rfl
  · intro os hos f hf
    simp only [compile] at hos
    split at hos
    · cases hos
    · simp only [Option.some.injEq] at hos
      subst hos
      obtain ⟨f0, _, rfl⟩ := List.mem_map.1 hf
      cases f0 <;> rfl

theorem cfgSubOK_compile (φ : Str → Str) (r : RuleSpec)
    (h : ∀ f ∈ r.subjects, ∀ f' ∈ r.subjects,
      isStrictSub (φ (render f.id)) (φ (render f'.id)) = isStrictSub (render f.id) (render f'.id)) :
    cfgSubOK φ (compile r).cfg := by
  intro ss hss f hf f' hf'
  simp only [compile, Option.some.injEq] at hss
  subst hss
  obtain ⟨f0, h0, rfl⟩ := List.mem_map.1 hf
  obtain ⟨f1, h1, rfl⟩ := List.mem_map.1 hf'
  have e0 : (compileFilter f0).id = render f0.id := by cases f0 <;> rfl
  have e1 : (compileFilter f1).id = render f1.id := by cases f1 <;> rfl
  rw [e0, e1]
  exact h f0 h0 f1 h1

theorem compile_subOK {ρ : Comp → Comp} (hρ : GoodRen ρ) (r : RuleSpec) (hr : ruleWF r = true) :
    cfgSubOK (renStr ρ) (compile r).cfg :=
  cfgSubOK_compile _ r fun f hf f' hf' =>
    renStr_strictSub hρ _ _ ((ruleWF_iff r).1 hr |>.1 f hf) ((ruleWF_iff r).1 hr |>.1 f' hf')

/-- `assert_applies` on the renamed architecture and rule returns the renamed rule state and the
    renamed verdict (same class, same error kind, report items renamed in place, in the same order) -/
theorem model_report_ren_lemma (mt : Str → Str → Bool) (ρ : Comp → Comp) (hρ : GoodRen ρ) (a : Arch) (hwf : a.wf = true)
    (r : RuleSpec) (hr : ruleWF r = true) :
    assertApplies mt (compile (renRule ρ r)) (archGraph (renArch ρ a)) =
      ((assertApplies mt (compile r) (archGraph a)).1.mapId (renStr ρ),
       (assertApplies mt (compile r) (archGraph a)).2.mapId (renStr ρ)) := by
  rw [compile_ren ρ r hr, archGraph_ren hρ a hwf]
  exact assertApplies_map (renStr ρ) (renStr_inj hρ) mt _ _ (compile_noRegex r) (compile_subOK hρ r hr)

theorem cls_mapId (φ : Str → Str) (v : Verdict) : (v.mapId φ).cls = v.cls := by cases v <;> rfl

end Pta.RM
