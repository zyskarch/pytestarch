/-
  PtaProofs.Lemmas.MessageAgg — `applyAllText` (MultipleRuleApplier with message texts) in closed form, its relation to
  `applyAll` (report items), and the text lemmas behind them (`joinWith` of joined blocks; the report of a failing rule is not empty).
-/
import Bridge.MessageAgg
import Bridge.OrderDefs
import PtaProofs.Lemmas.MessageText
import PtaProofs.Lemmas.DiagramApply
namespace Pta.Agg

theorem toText_isFail (v : Verdict) : v.toText.isFail = v.isFail := by cases v <;> rfl
theorem toText_errKind (v : Verdict) : v.toText.errKind = v.errKind := by cases v <;> rfl
theorem toText_lines (v : Verdict) : v.toText.lines = renderItems v.items := by
  cases v <;> simp [Verdict.toText, TextVerdict.lines, Verdict.items, renderItems, sortStr, sortBy, dedup]
theorem toText_cls (v : Verdict) : v.toText.cls = v.cls := by cases v <;> rfl

theorem ruleText_eq (mt : Str → Str → Bool) (g : PGraph Str) (r : RuleState) :
    ruleText mt g r = (ruleVerdict mt g r).toText := by
  unfold ruleText ruleVerdict
  rw [assertAppliesText_eq_lemma]

theorem go_eq (mt : Str → Str → Bool) (g : PGraph Str) (rs : List RuleState) (acc : List Str) :
    applyAllMessages.go mt g acc rs =
      ((rs.map (ruleText mt g)).findSome? TextVerdict.errKind).elim
        (.ok (acc ++ (rs.map (ruleText mt g)).filterMap TextVerdict.msg?)) .error := by
  induction rs generalizing acc with
  | nil => simp [applyAllMessages.go]
  | cons r rs ih =>
    rw [applyAllMessages.go, show (assertAppliesText mt r g).2 = ruleText mt g r from rfl, List.map_cons,
      List.findSome?_cons, List.filterMap_cons]
    cases ruleText mt g r with
    | pass => simp only [ih, TextVerdict.errKind, TextVerdict.msg?]
    | fail lines => simp only [ih, TextVerdict.errKind, TextVerdict.msg?, List.append_assoc, List.singleton_append]
    | err k => rfl

theorem applyAllText_eq_aggOf (mt : Str → Str → Bool) (g : PGraph Str) (rs : List RuleState) :
    applyAllText mt g rs = aggOf (rs.map (ruleText mt g)) := by
  unfold applyAllText applyAllMessages aggOf
  rw [go_eq]
  cases (rs.map (ruleText mt g)).findSome? TextVerdict.errKind <;> rfl

/-! ### `aggOf`: first error, otherwise the messages -/

theorem aggOf_err_iff (ts : List TextVerdict) (k : ErrKind) :
    aggOf ts = .err k ↔ ts.findSome? TextVerdict.errKind = some k := by
  unfold aggOf
  cases ts.findSome? TextVerdict.errKind with
  | some k' => simp
  | none =>
    simp only [reduceCtorEq, iff_false]
    split <;> exact fun h => nomatch h

theorem aggOf_of_noErr (ts : List TextVerdict) (h : ts.findSome? TextVerdict.errKind = none) :
    aggOf ts = if !(ts.filterMap TextVerdict.msg?).isEmpty then .fail (joinWith ['\n'] (ts.filterMap TextVerdict.msg?))
      else .pass := by
  unfold aggOf
  rw [h]

theorem filterMap_msg (mt : Str → Str → Bool) (g : PGraph Str) (rs : List RuleState) :
    (rs.map (ruleText mt g)).filterMap TextVerdict.msg? = aggMessages mt g rs := by
  unfold aggMessages
  induction rs with
  | nil => rfl
  | cons r rs ih =>
    simp only [List.map_cons, List.filterMap_cons, List.filter_cons, ih]
    cases h : ruleText mt g r <;> simp [h, TextVerdict.msg?, TextVerdict.isFail, TextVerdict.lines]

theorem aggLines_eq (mt : Str → Str → Bool) (g : PGraph Str) (rs : List RuleState) :
    aggLines mt g rs = (rs.map (ruleText mt g)).flatMap TextVerdict.lines := by
  unfold aggLines
  rw [List.flatMap_map]
  induction rs with
  | nil => rfl
  | cons r rs ih =>
    simp only [List.filter_cons, List.flatMap_cons, ← ih]
    cases h : ruleText mt g r <;> simp [h, TextVerdict.isFail, TextVerdict.lines]

theorem errKind_eq_some_iff (v : TextVerdict) (k : ErrKind) : v.errKind = some k ↔ v = .err k := by
  cases v <;> simp [TextVerdict.errKind]

theorem errKind_eq_none_iff (v : TextVerdict) : v.errKind = none ↔ ∀ k, v ≠ .err k := by
  cases v <;> simp [TextVerdict.errKind]

theorem findSome_none_iff (mt : Str → Str → Bool) (g : PGraph Str) (rs : List RuleState) :
    (rs.map (ruleText mt g)).findSome? TextVerdict.errKind = none ↔ ∀ r ∈ rs, ∀ k, ruleText mt g r ≠ .err k := by
  simp only [List.findSome?_eq_none_iff, List.forall_mem_map, errKind_eq_none_iff]

theorem applyAllText_of_noErr (mt : Str → Str → Bool) (g : PGraph Str) (rs : List RuleState)
    (hne : ∀ r ∈ rs, ∀ k, ruleText mt g r ≠ .err k) :
    applyAllText mt g rs =
      if !(aggMessages mt g rs).isEmpty then .fail (joinWith ['\n'] (aggMessages mt g rs)) else .pass := by
  rw [applyAllText_eq_aggOf, aggOf_of_noErr _ ((findSome_none_iff mt g rs).2 hne), filterMap_msg]

theorem noErr_of_fail (mt : Str → Str → Bool) (g : PGraph Str) (rs : List RuleState) (text : Str)
    (h : applyAllText mt g rs = .fail text) : ∀ r ∈ rs, ∀ k, ruleText mt g r ≠ .err k := by
  rw [applyAllText_eq_aggOf] at h
  cases hf : (rs.map (ruleText mt g)).findSome? TextVerdict.errKind with
  | some k => rw [(aggOf_err_iff _ k).2 hf] at h; cases h
  | none => exact (findSome_none_iff mt g rs).1 hf

theorem msgs_isEmpty (ts : List TextVerdict) :
    (ts.filterMap TextVerdict.msg?).isEmpty = !(ts.any TextVerdict.isFail) := by
  induction ts with
  | nil => rfl
  | cons t ts ih =>
    cases t with
    | fail ls => rfl
    | pass => exact ih
    | err k => exact ih

theorem aggMessages_isEmpty (mt : Str → Str → Bool) (g : PGraph Str) (rs : List RuleState) :
    (aggMessages mt g rs).isEmpty = !(rs.any fun r => (ruleText mt g r).isFail) := by
  rw [← filterMap_msg, msgs_isEmpty, List.any_map]
  rfl

theorem isFail_iff (v : TextVerdict) : v.isFail = true ↔ ∃ lines, v = .fail lines := by
  cases v <;> simp [TextVerdict.isFail]

theorem aggMessages_ne_nil_iff (mt : Str → Str → Bool) (g : PGraph Str) (rs : List RuleState) :
    (!(aggMessages mt g rs).isEmpty) = true ↔ ∃ r ∈ rs, ∃ lines, ruleText mt g r = .fail lines := by
  rw [aggMessages_isEmpty, Bool.not_not, List.any_eq_true]
  simp only [isFail_iff]

theorem applyAllText_err_iff (mt : Str → Str → Bool) (g : PGraph Str) (rs : List RuleState) (k : ErrKind) :
    applyAllText mt g rs = .err k ↔
      ∃ pre r post, rs = pre ++ r :: post ∧ (∀ r' ∈ pre, ∀ k', ruleText mt g r' ≠ .err k') ∧ ruleText mt g r = .err k := by
  rw [applyAllText_eq_aggOf, aggOf_err_iff, List.findSome?_map, List.findSome?_eq_some_iff]
  simp only [Function.comp, errKind_eq_some_iff, errKind_eq_none_iff]
  constructor
  · rintro ⟨pre, r, post, e, hr, hpre⟩
    exact ⟨pre, r, post, e, hpre, hr⟩
  · rintro ⟨pre, r, post, e, hpre, hr⟩
    exact ⟨pre, r, post, e, hr, hpre⟩

theorem applyAllText_pass_iff (mt : Str → Str → Bool) (g : PGraph Str) (rs : List RuleState)
    (hne : ∀ r ∈ rs, ∀ k, ruleText mt g r ≠ .err k) :
    applyAllText mt g rs = .pass ↔ ∀ r ∈ rs, ruleText mt g r = .pass := by
  rw [applyAllText_of_noErr mt g rs hne]
  split <;> rename_i h
  · obtain ⟨r, hr, ls, hv⟩ := (aggMessages_ne_nil_iff mt g rs).1 h
    exact ⟨nofun, fun h' => by rw [h' r hr] at hv; cases hv⟩
  · refine ⟨fun _ r hr => ?_, fun _ => rfl⟩
    cases hv : ruleText mt g r with
    | pass => rfl
    | err k => exact absurd hv (hne r hr k)
    | fail ls => exact absurd ((aggMessages_ne_nil_iff mt g rs).2 ⟨r, hr, ls, hv⟩) h

/-- if no rule raises: `AssertionError(text)` iff some rule fails, `text` being the join of the messages of all failing rules -/
theorem applyAllText_fail_iff (mt : Str → Str → Bool) (g : PGraph Str) (rs : List RuleState)
    (hne : ∀ r ∈ rs, ∀ k, ruleText mt g r ≠ .err k) (text : Str) :
    applyAllText mt g rs = .fail text ↔
      (∃ r ∈ rs, ∃ lines, ruleText mt g r = .fail lines) ∧ text = joinWith ['\n'] (aggMessages mt g rs) := by
  rw [applyAllText_of_noErr mt g rs hne, ← aggMessages_ne_nil_iff]
  split <;> rename_i h <;> simp [h, eq_comm]

theorem joinWith_blocks (sep : Str) : ∀ (bs : List (List Str)), (∀ b ∈ bs, b ≠ []) →
    joinWith sep (bs.map (joinWith sep)) = joinWith sep bs.flatten
  | [], _ => rfl
  | [b], _ => by simp [joinWith]
  | b :: b2 :: r, h => by
    have ih := joinWith_blocks sep (b2 :: r) (fun x hx => h x (by simp [hx]))
    have hb : b ≠ [] := h b (by simp)
    have hb2 : b2 ≠ [] := h b2 (by simp)
    have hne : (b2 :: r).flatten ≠ [] := by
      obtain ⟨x, t, e⟩ := List.exists_cons_of_ne_nil hb2
      simp [e]
    simp only [List.map_cons] at ih ⊢
    rw [joinWith, ih]
    show joinWith sep b ++ sep ++ joinWith sep (b2 :: r).flatten = joinWith sep (b ++ (b2 :: r).flatten)
    rw [joinWith_append sep b _ hb hne]

/-! ### a failing rule reports at least one line -/

theorem missItems_isEmpty (any ir : Bool) (ds : List Dep) : (missItems any ir ds).isEmpty = ds.isEmpty := by
  cases ds with
  | nil => rfl
  | cons d t =>
    have hm : d.1 ∈ dedup ((d :: t).map (·.1)) := (mem_dedup _ _).2 (by simp)
    unfold missItems
    rw [List.isEmpty_map, List.isEmpty_eq_false_iff.2 (List.ne_nil_of_mem hm)]
    rfl

theorem isEmpty_append {α : Type} (a b : List α) : (a ++ b).isEmpty = (a.isEmpty && b.isEmpty) := by
  cases a <;> rfl

theorem reportItems_isEmpty (ir : Bool) (v : Violations) : (reportItems ir v).isEmpty = !v.any := by
  simp only [reportItems, Violations.any, impItems, isEmpty_append, List.isEmpty_map, missItems_isEmpty,
    Bool.not_or, Bool.not_not]

theorem reportItems_ne_nil (ir : Bool) (v : Violations) (h : v.any = true) : reportItems ir v ≠ [] := by
  rw [← List.isEmpty_eq_false_iff, reportItems_isEmpty, h]
  rfl

theorem renderItems_ne_nil (items : List Item) (h : items ≠ []) : renderItems items ≠ [] := by
  obtain ⟨x, hx⟩ := List.exists_mem_of_ne_nil items h
  exact sortBy_ne_nil _ _ (List.ne_nil_of_mem ((mem_dedup _ _).2 (List.mem_map_of_mem hx)))

theorem fail_items_ne_nil (mt : Str → Str → Bool) (g : PGraph Str) (r : RuleState) (items : List Item)
    (h : (assertApplies mt r g).2 = .fail items) : items ≠ [] := by
  obtain ⟨d, _, _, F⟩ := assertApplies_failed mt g r items h
  obtain ⟨v, -, hany, rfl⟩ := F.report
  exact reportItems_ne_nil d v hany

theorem fail_lines_ne_nil (mt : Str → Str → Bool) (g : PGraph Str) (r : RuleState) (lines : List Str)
    (h : ruleText mt g r = .fail lines) : lines ≠ [] := by
  obtain ⟨items, hi, rfl⟩ := assertAppliesText_fail_lemma mt r g lines h
  exact renderItems_ne_nil items (fail_items_ne_nil mt g r items hi)

theorem join_aggMessages (mt : Str → Str → Bool) (g : PGraph Str) (rs : List RuleState) :
    joinWith ['\n'] (aggMessages mt g rs) = messageText (aggLines mt g rs) := by
  unfold aggMessages aggLines messageText
  rw [List.flatMap_def, ← joinWith_blocks, List.map_map]
  · rfl
  · intro b hb
    obtain ⟨r, hr, rfl⟩ := List.mem_map.1 hb
    obtain ⟨ls, hv⟩ := (isFail_iff _).1 (List.mem_filter.1 hr).2
    rw [hv]
    exact fail_lines_ne_nil mt g r ls hv

theorem aggLines_ne_nil (mt : Str → Str → Bool) (g : PGraph Str) (rs : List RuleState)
    (h : ∃ r ∈ rs, ∃ lines, ruleText mt g r = .fail lines) : aggLines mt g rs ≠ [] := by
  obtain ⟨r, hr, ls, hv⟩ := h
  obtain ⟨l, hl⟩ := List.exists_mem_of_ne_nil ls (fail_lines_ne_nil mt g r ls hv)
  apply List.ne_nil_of_mem (a := l)
  unfold aggLines
  exact List.mem_flatMap.2 ⟨r, List.mem_filter.2 ⟨hr, by rw [hv]; rfl⟩, by rw [hv]; exact hl⟩

theorem aggLines_eq_render (mt : Str → Str → Bool) (g : PGraph Str) (rs : List RuleState) :
    aggLines mt g rs =
      (rs.filter fun r => (ruleVerdict mt g r).isFail).flatMap fun r => renderItems (ruleVerdict mt g r).items := by
  unfold aggLines
  simp only [ruleText_eq, toText_isFail, toText_lines]

theorem mem_aggLines_iff (mt : Str → Str → Bool) (g : PGraph Str) (rs : List RuleState) (line : Str) :
    line ∈ aggLines mt g rs ↔ ∃ x ∈ rs.flatMap fun r => (ruleVerdict mt g r).items, renderItem x = line := by
  rw [aggLines_eq_render]
  simp only [List.mem_flatMap, List.mem_filter, mem_renderItems]
  constructor
  · rintro ⟨r, ⟨hr, _⟩, x, hx, rfl⟩
    exact ⟨x, ⟨r, hr, hx⟩, rfl⟩
  · rintro ⟨x, ⟨r, hr, hx⟩, rfl⟩
    refine ⟨r, ⟨hr, ?_⟩, x, hx, rfl⟩
    cases hv : ruleVerdict mt g r with
    | fail its => rfl
    | pass => rw [hv] at hx; cases hx
    | err k => rw [hv] at hx; cases hx

theorem applyAll_items_of_noErr (mt : Str → Str → Bool) (g : PGraph Str) (rs : List RuleState)
    (hne : ∀ r ∈ rs, ∀ k, ruleText mt g r ≠ .err k) :
    (applyAll mt g rs).items = rs.flatMap fun r => (ruleVerdict mt g r).items := by
  have hne' : ∀ r ∈ rs, ∀ k, ruleVerdict mt g r ≠ .err k := by
    intro r hr k hk
    apply hne r hr k
    rw [ruleText_eq, hk]
    rfl
  rw [Dg.applyAll_eq_agg, Dg.agg_items, Dg.findSome_none_of_noErr mt g rs hne', List.flatMap_map]
  rfl

/-- the class of an aggregated text outcome: the same function of "first error" and "some rule fails" as `Dg.agg_cls` -/
theorem aggOf_cls (ts : List TextVerdict) :
    (aggOf ts).cls = (ts.findSome? TextVerdict.errKind).elim (VClass.ofBool !(ts.any TextVerdict.isFail)) .err := by
  unfold aggOf
  cases ts.findSome? TextVerdict.errKind with
  | some k => rfl
  | none =>
    simp only [msgs_isEmpty, Bool.not_not, Option.elim_none]
    cases ts.any TextVerdict.isFail <;> rfl

theorem cls_eq_applyAll (mt : Str → Str → Bool) (g : PGraph Str) (rs : List RuleState) :
    (applyAllText mt g rs).cls = (applyAll mt g rs).cls := by
  rw [applyAllText_eq_aggOf, Dg.applyAll_eq_agg, aggOf_cls, Dg.agg_cls]
  simp only [List.findSome?_map, List.any_map, Function.comp_def, ruleText_eq, toText_errKind, toText_isFail]

end Pta.Agg
