/-
  PtaProofs.Lemmas.E2EMore — glue for the further end-to-end theorems of Props/E2E.lean: scans with
  `level_limit = k` (the limited and the unlimited scan side by side, both from
  `E2ERule.scan_spec_quotient_lemma`), and the node list / plot labels of a scan graph as permutations of the
  specification's modules / the documented labelling.
-/
import Bridge.Abs
import Bridge.ScanAbs
import Bridge.ScanTree
import Bridge.ScanLimit
import PtaProofs.Lemmas.Render
import PtaProofs.Lemmas.BuildNames
import PtaProofs.Lemmas.ScanGraph
import PtaProofs.Lemmas.ScanLimit
import PtaProofs.Lemmas.E2ERule
import PtaProofs.Lemmas.GlobLabel
namespace Pta
namespace E2EMore
open PtaSpec

section
variable (mt : Str → Str → Bool) (base root : Str) (mp : List Str) (entries : List Entry) (o : ScanOptions)
  (hwf : treeWFFor (isExcluded mt o.exclusions) base mp entries = true) (hmp : mpOK entries mp = true)
  (hroot : compWF root = true)
  (hxx : o.excludeExternal = true) (hext : o.externalExclusions.isEmpty = true)
  (hst : ∀ e ∈ entries, ∀ st ∈ e.stmts, stmtOK (toSStmt st) = true)
  (is : List (Name × Name))
  (his : scanImports root (toSEntries (isExcluded mt o.exclusions) base entries) mp = some is)
include hwf hmp hroot hxx hext hst his

/-- with `level_limit = k` the scan succeeds as well, and its graph is the quotient of the specification architecture
    under truncation to `k + |module_path|` levels below the root -/
theorem scan_limit_lemma (k : Nat) (hlim : o.levelLimit = some k) :
    ∃ g g0, generateGraph mt base root mp entries o = .ok g ∧
      generateGraph mt base root mp entries o.noLimit = .ok g0 ∧
      (Arch.mk (scanModules root (toSEntries (isExcluded mt o.exclusions) base entries) mp) is).wf = true ∧
      GraphOf (Arch.mk (scanModules root (toSEntries (isExcluded mt o.exclusions) base entries) mp) is) g0 ∧
      QuotientOf (Arch.mk (scanModules root (toSEntries (isExcluded mt o.exclusions) base entries) mp) is)
        (some (k + mp.length)) g := by
  obtain ⟨g0, hg0, hawf, hG0⟩ :=
    E2ERule.scan_spec_arch_lemma mt base root mp entries o.noLimit hwf hmp hroot hxx hext hst is his rfl
  obtain ⟨g, hg, -, hq⟩ := E2ERule.scan_spec_quotient_lemma mt base root mp entries o hwf hmp hroot hxx hext hst is his
  rw [ScanLimit.shiftedLimit_some o mp k hlim] at hq
  exact ⟨g, g0, hg, hg0, hawf, hG0, hq⟩

end

section
variable (mt : Str → Str → Bool) (base root : Str) (mp : List Str) (entries : List Entry) (o : ScanOptions)
  (hwf : treeWFFor (isExcluded mt o.exclusions) base mp entries = true) (hmp : mpOK entries mp = true)
  (hroot : compWF root = true)
  (hxx : o.excludeExternal = true) (hlim : o.levelLimit = none) (g : PGraph Str)
  (h : generateGraph mt base root mp entries o = .ok g)
include hwf hmp hroot hxx hlim h

theorem nodes_perm_lemma :
    (g.nodes.map splitDots).Perm (scanModules root (toSEntries (isExcluded mt o.exclusions) base entries) mp) ∧
    (g.nodes.map splitDots).map render = g.nodes ∧
    ∀ n ∈ scanModules root (toSEntries (isExcluded mt o.exclusions) base entries) mp, nameWF n = true := by
  obtain ⟨a, han, hawf, hg, hnd⟩ := ScanGraph.scan_graph_lemma mt base root mp entries o hwf hmp hroot hxx hlim g h
  obtain ⟨hgw, -, hn⟩ := ScanGraph.graphArch_of_graphOf a g hawf hg hnd
  exact ⟨(List.perm_ext_iff_of_nodup ((BuildNames.wf_iff _).1 hgw).1 (ScanGraph.scanModules_nodup _ _ _)).2
      fun n => (hn n).trans (by rw [han]),
    map_render_splitDots g.nodes, fun n hn => BuildNames.wf_nodes a hawf n (by rw [han]; exact hn)⟩

/-- plot labels of a scan graph: for aliases of scanned modules `plotLabels` succeeds, labels every node once (in the
    graph's node order), and the labelling is — up to that order — the documented one on the specification's modules -/
theorem labels_perm_lemma (al : Aliases) (hk : (al.map (·.1)).Nodup)
    (hex : ∀ a ∈ al, a.1 ∈ scanModules root (toSEntries (isExcluded mt o.exclusions) base entries) mp) :
    ∃ ls, plotLabels g.nodes (al.map fun a => (render a.1, a.2)) = .ok ls ∧
      ls.map (·.1) = g.nodes ∧
      ls.Perm ((scanModules root (toSEntries (isExcluded mt o.exclusions) base entries) mp).map
        fun n => (render n, PtaSpec.label al n)) := by
  obtain ⟨hp, hback, hwfn⟩ := nodes_perm_lemma mt base root mp entries o hwf hmp hroot hxx hlim g h
  have hl := labels_spec_lemma (g.nodes.map splitDots) al
    (fun n hn => hwfn n (hp.mem_iff.1 hn)) hk (fun a ha => hp.mem_iff.2 (hex a ha))
  rw [hback] at hl
  refine ⟨_, hl, ?_, hp.map _⟩
  rw [List.map_map]
  exact hback

end

end E2EMore
end Pta
