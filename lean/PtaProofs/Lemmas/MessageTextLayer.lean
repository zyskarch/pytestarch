/-
  PtaProofs.Lemmas.MessageTextLayer — the message text of LAYER rules (`messageLinesL`, PtaModel/Message.lean) against
  the layer report items (`reportItemsL`, PtaModel/Layer.lean) rendered by `renderLItem` (Bridge/Message.lean):
  both look up the two ends of every dependency in the buckets (`guardL`, Lemmas/LayerDetect.lean), and the pure message
  texts are the lines of the pure items: `messageLinesL = renderLItems ∘ reportItemsL`.
-/
import PtaProofs.Lemmas.MessageText
import PtaProofs.Lemmas.LayerDetect
namespace Pta

def SameText (ms : List Msg) (its : List LItem) : Prop := ∀ x, x ∈ ms.map Msg.text ↔ x ∈ its.map renderLItem

theorem layerNameText_eq : layerNameText = layerName := by
  funext o; cases o <;> rfl

theorem layerNameLe_eq : layerNameLe = optStrLe := by
  funext a b; cases a <;> cases b <;> rfl

theorem objectLayerTexts_eq (objs : List (Option Str)) :
    objectLayerTexts objs = (sortBy optStrLe objs).map fun o => "layer ".toList ++ quoted (layerName o) := by
  unfold objectLayerTexts
  rw [layerNameLe_eq, layerNameText_eq]
  rfl

theorem renderLItem_miss (any : Bool) (s : Option Str) (objs : List (Option Str)) (d : Bool) :
    renderLItem (.miss any s objs d) =
      "Layer ".toList ++ (quoted (layerName s) ++ ((if d then " is not imported by ".toList else " does not import ".toList) ++
        ((if any then "any layer that is not ".toList else []) ++
          (joinWith ", ".toList ((sortBy optStrLe objs).map fun o => "layer ".toList ++ quoted (layerName o)) ++ ['.'])))) := rfl

theorem layerPrefix_eq (x : Str) : prependLayerPrefix x = "Layer ".toList ++ x := by
  have h : 'L' :: "ayer ".toList = "Layer ".toList := by decide +kernel
  rw [← h]
  rfl

theorem missTextL_eq (ir any : Bool) (s : Option Str) (J : Str) :
    Msg.text ⟨prependLayerPrefix (quotedName (layerNameText s)), concatVerb (baseVerb ir) (verbPrefix ir true true) [],
        (if any then kwAnyLayer else []) ++ J⟩ =
      "Layer ".toList ++ (quoted (layerName s) ++ ((if !ir then " is not imported by ".toList else " does not import ".toList) ++
        ((if any then "any layer that is not ".toList else []) ++ (J ++ ['.'])))) := by
  rw [Msg.text, layerPrefix_eq, layerNameText_eq, missVerb_text, List.append_assoc, List.append_assoc]
  unfold missVerb kwAnyLayer
  rw [Bool.not_true, if_neg Bool.false_ne_true, if_neg Bool.false_ne_true, quotedName_eq]

theorem objectLayerTexts_ok (objs : List (Option Str)) (h : objs ≠ []) :
    objectLayerTexts objs ≠ [] ∧ ∀ x ∈ objectLayerTexts objs, x ≠ [] := by
  unfold objectLayerTexts
  constructor
  · exact fun e => sortBy_ne_nil layerNameLe objs h (List.map_eq_nil_iff.1 e)
  · intro x hx
    obtain ⟨o, _, rfl⟩ := List.mem_map.1 hx
    simp [prependLayerPrefix]

/-- the `does not import` messages of one bucket, from the looked-up layer pairs, for either way `combine` of putting
    the object layers of a subject layer into one message -/
def missMsgsP (m : LayerMap) (ir : Bool) (combine : List Str → Str → Str → List Msg) (ds : List Dep) : List Msg :=
  let ls := ds.map fun d => (tagS m d.1.id, tagS m d.2.id)
  ((setIter (ls.map (·.1))).map fun s => (s, setIter ((ls.filter fun d => d.1 = s).map (·.2)))).flatMap fun so =>
    combine (objectLayerTexts so.2) (prependLayerPrefix (quotedName (layerNameText so.1)))
      (concatVerb (baseVerb ir) (verbPrefix ir true true) [])

/-- the `imports` messages of one bucket, with the tags of both ends -/
def impMsgsP (m : LayerMap) (ir : Bool) (ds : List Dep) : List Msg :=
  otherViolatingOfNames ir ((setIter ds).map fun d =>
    (quoted d.1.id ++ tagText (tagS m d.1.id), quoted d.2.id ++ tagText (tagS m d.2.id)))

theorem noImportBetweenMsgsL_nf (m : LayerMap) (ir : Bool) (ds : List Dep) :
    noImportBetweenMsgsL m ir ds = guardL m (depIds ds) (missMsgsP m ir addCombinedRuleObjects ds) := by
  unfold noImportBetweenMsgsL violatingSubjectAndObjectLayers
  rw [mapM_lookup2 m (fun _ => Prod.mk)]
  simp only [guardL_bind_pure]
  rfl

theorem noImportOtherThanMsgsL_nf (m : LayerMap) (ir : Bool) (ds : List Dep) :
    noImportOtherThanMsgsL m ir ds =
      guardL m (depIds ds) (missMsgsP m ir (addCombinedAnyRuleObjects · · · kwAnyLayer) ds) := by
  unfold noImportOtherThanMsgsL violatingSubjectAndObjectLayers
  rw [mapM_lookup2 m (fun _ => Prod.mk)]
  simp only [guardL_bind_pure]
  rfl

theorem layerSuffix_eq (m : LayerMap) (n : Str) : layerSuffix m n = (m.layerOf n >>= fun t => pure (tagText t)) := by
  unfold layerSuffix
  congr 1
  funext t
  cases t <;> rfl

theorem otherViolatingMsgsL_nf (m : LayerMap) (ir : Bool) (ds : List Dep) :
    otherViolatingMsgsL m ir ds = guardL m (depIds ds) (impMsgsP m ir ds) := by
  have hf : subjectAndObjectOfDependencyL m = fun d => (do
      let a ← m.layerOf d.1.id
      let b ← m.layerOf d.2.id
      pure (quoted d.1.id ++ tagText a, quoted d.2.id ++ tagText b)) := by
    funext d
    unfold subjectAndObjectOfDependencyL
    simp only [layerSuffix_eq, bind_assoc, pure_bind]
    rfl
  unfold otherViolatingMsgsL
  rw [hf, mapM_lookup2 m (fun d a b => (quoted d.1.id ++ tagText a, quoted d.2.id ++ tagText b)), guardL_bind_pure]
  exact guardL_ids m (fun s => by simp only [mem_depIds, setIter, mem_dedup]) _

def violationMessagesP (m : LayerMap) (ir : Bool) (v : Violations) : List Msg :=
  missMsgsP m ir addCombinedRuleObjects v.should ++ impMsgsP m ir v.shouldOnlyForbidden ++
  missMsgsP m ir addCombinedRuleObjects v.shouldOnlyNoImport ++ impMsgsP m ir v.shouldNot ++
  missMsgsP m ir (addCombinedAnyRuleObjects · · · kwAnyLayer) v.shouldExcept ++ impMsgsP m ir v.shouldOnlyExceptForbidden ++
  missMsgsP m ir (addCombinedAnyRuleObjects · · · kwAnyLayer) v.shouldOnlyExceptNoImport ++ impMsgsP m ir v.shouldNotExcept

theorem violationMessagesL_nf (m : LayerMap) (ir : Bool) (v : Violations) :
    violationMessagesL m ir v = guardL m (depIds v.all) (violationMessagesP m ir v) := by
  unfold violationMessagesL
  simp only [noImportBetweenMsgsL_nf, noImportOtherThanMsgsL_nf, otherViolatingMsgsL_nf, guardL_bind_pure, guardL_bind,
    Violations.all, depIds_append]
  rfl

/-- on the non-empty object lists that occur both ways of combining emit one message per subject layer, whose text is
    the line of that layer's `miss` item (see `noImport_texts`) -/
theorem missMsgsP_texts (m : LayerMap) (any ir : Bool) (ds : List Dep) (combine : List Str → Str → Str → List Msg)
    (hc : ∀ objs subj verb, objs ≠ [] → (∀ x ∈ objs, x ≠ []) →
      combine objs subj verb = [⟨subj, verb, (if any then kwAnyLayer else []) ++ joinWith kwCommaSpace objs⟩]) :
    SameText (missMsgsP m ir combine ds) (missItemsP m any ir ds) := by
  unfold missMsgsP missItemsP missOfPairsL
  generalize (ds.map fun d => (tagS m d.1.id, tagS m d.2.id)) = ls
  suffices h : ∀ s ∈ dedup (ls.map (·.1)),
      (combine (objectLayerTexts (dedup ((ls.filter fun d => d.1 = s).map (·.2))))
        (prependLayerPrefix (quotedName (layerNameText s)))
        (concatVerb (baseVerb ir) (verbPrefix ir true true) [])).map Msg.text =
      [renderLItem (.miss any s (dedup ((ls.filter fun d => d.1 = s).map (·.2))) (!ir))] by
    unfold SameText
    simp only [setIter, List.flatMap_map, List.map_flatMap, List.map_map]
    rw [flatMap_singleton_on _ _ _ h]
    exact fun x => Iff.rfl
  intro s hs
  obtain ⟨h1, h2⟩ := objectLayerTexts_ok _ (objs_of_subject_ne_nil ls s ((mem_dedup _ _).1 hs))
  rw [hc _ _ _ h1 h2, List.map_cons, List.map_nil, renderLItem_miss, ← objectLayerTexts_eq]
  exact congrArg (· :: []) (missTextL_eq ir any s _)

theorem missBetween_texts (m : LayerMap) (ir : Bool) (ds : List Dep) :
    SameText (missMsgsP m ir addCombinedRuleObjects ds) (missItemsP m false ir ds) :=
  missMsgsP_texts m false ir ds _ fun _ _ _ h1 h2 => by
    rw [addCombinedRuleObjects_of_ne _ _ _ (joinWith_ne_nil _ _ h1 h2), if_neg Bool.false_ne_true, List.nil_append]

theorem missOtherThan_texts (m : LayerMap) (ir : Bool) (ds : List Dep) :
    SameText (missMsgsP m ir (addCombinedAnyRuleObjects · · · kwAnyLayer) ds) (missItemsP m true ir ds) :=
  missMsgsP_texts m true ir ds _ fun _ _ _ h1 _ => by
    rw [addCombinedAnyRuleObjects_of_ne _ _ _ _ h1, if_pos rfl]

theorem impTextL_eq (ir : Bool) (a b : Str) (ta tb : Option Str) :
    Msg.text ⟨quoted a ++ tagText ta, concatVerb (baseVerb ir) (verbPrefix ir false true) (verbSuffix ir true),
        quoted b ++ tagText tb⟩ =
      renderLItem (if ir then .imp a b false ta tb else .imp b a true tb ta) := by
  rw [Msg.text, impVerb_text]
  cases ir <;> simp only [renderLItem, List.append_assoc, if_true, if_false, Bool.false_eq_true]

theorem mem_impItemsP_render (m : LayerMap) (ir : Bool) (ds : List Dep) (x : Str) :
    x ∈ (impItemsP m ir ds).map renderLItem ↔
      ∃ d ∈ ds, renderLItem (if ir then .imp d.1.id d.2.id false (tagS m d.1.id) (tagS m d.2.id)
                              else .imp d.2.id d.1.id true (tagS m d.2.id) (tagS m d.1.id)) = x := by
  unfold impItemsP
  simp only [List.mem_map]
  constructor
  · rintro ⟨it, ⟨d, hd, rfl⟩, rfl⟩
    exact ⟨d, hd, by cases ir <;> rfl⟩
  · rintro ⟨d, hd, rfl⟩
    exact ⟨_, ⟨d, hd, rfl⟩, by cases ir <;> rfl⟩

theorem impMsgsP_texts (m : LayerMap) (ir : Bool) (ds : List Dep) : SameText (impMsgsP m ir ds) (impItemsP m ir ds) := by
  intro x
  unfold impMsgsP
  rw [mem_impItemsP_render, mem_otherViolatingOfNames]
  simp only [List.map_map, List.mem_map, setIter, mem_dedup, Function.comp_apply, impTextL_eq]

theorem SameText.append {a b : List Msg} {a' b' : List LItem} (h1 : SameText a a') (h2 : SameText b b') :
    SameText (a ++ b) (a' ++ b') := fun x => by
  simp only [List.map_append, List.mem_append, h1 x, h2 x]

theorem violationMessagesP_texts (m : LayerMap) (ir : Bool) (v : Violations) :
    SameText (violationMessagesP m ir v) (reportItemsP m ir v) :=
  (((((((missBetween_texts m ir _).append (impMsgsP_texts m ir _)).append
    (missBetween_texts m ir _)).append (impMsgsP_texts m ir _)).append (missOtherThan_texts m ir _)).append
    (impMsgsP_texts m ir _)).append (missOtherThan_texts m ir _)).append (impMsgsP_texts m ir _)

/-- `line_of_item` for layer rules: same error, or the lines are the rendered layer report items -/
theorem messageLinesL_eq_lemma (m : LayerMap) (ir : Bool) (v : Violations) :
    messageLinesL m ir v = (reportItemsL m ir v).map renderLItems := by
  unfold messageLinesL
  rw [violationMessagesL_nf, reportItemsL_nf, guardL_map, guardL_map]
  exact congrArg (guardL m _) (canon_ext _ _ (violationMessagesP_texts m ir v))

theorem Front.linesL_eq (mt : Str → Str → Bool) (g : PGraph Str) (a : LArch) (x : Front) (v : Violations) :
    x.linesL mt g a v = (x.itemsL mt g a v).map renderLItems :=
  messageLinesL_eq_lemma _ x.dir v

theorem matchLayerRuleText_eq (mt : Str → Str → Bool) (g : PGraph Str) (a : LArch) (b : Behavior) (d : Bool)
    (ss os : List Filter) : matchLayerRuleText mt g a b d ss os = (matchLayerRule mt g a b d ss os).toText := by
  rw [matchLayerRuleText_queries, matchLayerRule_queries, LVerdict.toText_ofRes,
    Front.bind_outcome_map (Front.linesL_eq mt g a)]

theorem assertAppliesLayerText_eq_lemma (mt : Str → Str → Bool) (s : LayerRuleState) (g : PGraph Str) :
    assertAppliesLayerText mt s g = (assertAppliesLayer mt s g).toText := by
  obtain ⟨_ | a, _ | r⟩ := s
  case some.some =>
    rw [assertAppliesLayerText_front, assertAppliesLayer_front, LVerdict.toText_ofRes,
      Front.bind_outcome_map (Front.linesL_eq mt g a)]
  all_goals rfl

theorem runLayerRuleOpsTextGo_eq (mt : Str → Str → Bool) (g : PGraph Str) (ops : List LayerRuleOp) :
    ∀ (s : LayerRuleState) (i : Nat), runLayerRuleOpsTextGo mt g s i ops =
      ((runLayerRuleOps.go mt g s i ops).1.toText, (runLayerRuleOps.go mt g s i ops).2) := by
  induction ops with
  | nil =>
    intro s i
    simp only [runLayerRuleOpsTextGo, runLayerRuleOps.go, assertAppliesLayerText_eq_lemma]
  | cons op rest ih =>
    intro s i
    simp only [runLayerRuleOpsTextGo, runLayerRuleOps.go]
    cases s.step op with
    | error k => rfl
    | ok s' => exact ih _ _

/-! ### the order `sorted(...)` uses on layer names is a total order -/

theorem optStrLe_total (a b : Option Str) (h : optStrLe a b = false) : optStrLe b a = true := by
  match a, b, h with
  | none, _, h => exact absurd h (by simp [optStrLe])
  | some _, none, _ => rfl
  | some a, some b, h => exact strLe_total a b h

theorem optStrLe_trans (a b c : Option Str) (h1 : optStrLe a b = true) (h2 : optStrLe b c = true) : optStrLe a c = true := by
  match a, b, c, h1, h2 with
  | none, _, _, _, _ => rfl
  | some _, none, _, h1, _ => exact absurd h1 (by simp [optStrLe])
  | some _, some _, none, _, h2 => exact absurd h2 (by simp [optStrLe])
  | some a, some b, some c, h1, h2 => exact strLe_trans a b c h1 h2

theorem optStrLe_antisymm (a b : Option Str) (h1 : optStrLe a b = true) (h2 : optStrLe b a = true) : a = b := by
  match a, b, h1, h2 with
  | none, none, _, _ => rfl
  | none, some _, _, h2 => exact absurd h2 (by simp [optStrLe])
  | some _, none, h1, _ => exact absurd h1 (by simp [optStrLe])
  | some a, some b, h1, h2 => rw [strLe_antisymm a b h1 h2]

end Pta
