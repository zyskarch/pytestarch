/-
  PtaProofs.Lemmas.RuleBasics — what `assertApplies` computes on a finished rule `mkRule …` (`front_mkRule_eq`: the
  configuration checks, then the matcher's front end); the regex conversion as a guard `allMatch` and a function `expand`
  (`convertFilters_eq`), with their readings on a batch and on filters without a regex; when the violation buckets are empty.
-/
import Bridge.Abs
import PtaProofs.Lemmas.Str
import PtaProofs.Lemmas.Pipeline
namespace Pta

/-- the front end on a finished rule without the `anything` alias, every case: the one place where `mkRule` meets the checks -/
theorem front_mkRule_eq (mt : Str → Str → Bool) (g : PGraph Str) (s o n d e : Bool) (A B : List Filter) :
    front mt g (mkRule s o n d e A B).cfg =
      if (!(s || o || n) || A.isEmpty || B.isEmpty) = true then .error .improperlyConfigured
      else if (Behavior.mk s o n e).inconsistent = true then .error .ruleInconsistency
      else queries mt g ⟨s, o, n, e⟩ d A B := by
  have hc : convertAliases (mkRule s o n d e A B).cfg = (mkRule s o n d e A B).cfg := rfl
  have h0 : anythingMisused (mkRule s o n d e A B).cfg = false := rfl
  have hm : configMissing (mkRule s o n d e A B).cfg = (!(s || o || n) || A.isEmpty || B.isEmpty) := by
    simp [configMissing, mkRule]
  have hd : droppedAbsent g (mkRule s o n d e A B).cfg = false := rfl
  unfold front
  rw [h0, hc]
  show (gate g _ >>= _) = _
  unfold gate
  rw [hm, hd]
  split
  · rfl
  · show ((if (Behavior.mk s o n e).inconsistent = true then _ else _) >>= _) = _
    split <;> rfl

theorem assertApplies_mkRule (mt : Str → Str → Bool) (g : PGraph Str) (s o n dir exc : Bool) (subs objs : List Filter) :
    (assertApplies mt (mkRule s o n dir exc subs objs) g).2 =
      if (!(s || o || n) || subs.isEmpty || objs.isEmpty) = true then .err .improperlyConfigured
      else if (Behavior.mk s o n exc).inconsistent = true then .err .ruleInconsistency
      else matchRule mt g ⟨s, o, n, exc⟩ dir subs objs := by
  rw [assertApplies_front]
  show Verdict.ofRes (front mt g (mkRule s o n dir exc subs objs).cfg >>= _) = _
  rw [front_mkRule_eq, matchRule_queries]
  split
  · rfl
  · split <;> rfl

theorem assertApplies_mkRule_of_ok (mt : Str → Str → Bool) (g : PGraph Str) {s o n : Bool} (d e : Bool) {A B : List Filter}
    (hv : (s || o || n) = true) (hA : A ≠ []) (hB : B ≠ []) (hc : (Behavior.mk s o n e).inconsistent = false) :
    (assertApplies mt (mkRule s o n d e A B) g).2 = matchRule mt g ⟨s, o, n, e⟩ d A B := by
  rw [assertApplies_mkRule, hv, List.isEmpty_eq_false_iff.2 hA, List.isEmpty_eq_false_iff.2 hB, hc]; rfl

theorem assertApplies_complete (mt : Str → Str → Bool) (g : PGraph Str) (st : RuleState) (d : Bool) (ss os : List Filter)
    (hany : st.cfg.anything = false) (hcm : configMissing st.cfg = false) (hda : droppedAbsent g st.cfg = false)
    (hinc : st.cfg.behavior.inconsistent = false)
    (hd : st.cfg.importDir = some d) (hs : st.cfg.subjects = some ss) (ho : st.cfg.objects = some os) :
    (assertApplies mt st g).2 = matchRule mt g st.cfg.behavior d ss os := by
  have hca : convertAliases st.cfg = st.cfg := by simp [convertAliases, hany]
  have h0 : anythingMisused st.cfg = false := by simp [anythingMisused, hany]
  rw [assertApplies_of_front (front_of_gate h0 (hca.symm ▸ (gate_ok_iff g _ d ss os).2 ⟨hcm, hda, hinc, hd, hs, ho⟩)), hca]

/-! ### `ModuleNameConverter.convert`: a guard, then a function -/

/-- every regex filter matches some module -/
def allMatch (mt : Str → Str → Bool) (mods : List Str) (fs : List Filter) : Bool :=
  (fs.filter (·.isRegex)).all fun r => mods.any (mt r.id)

/-- the filters after regex expansion -/
def expand (mt : Str → Str → Bool) (mods : List Str) (fs : List Filter) : List Filter :=
  dedup ((mods.filter fun m => (fs.filter (·.isRegex)).any fun r => mt r.id m).map Filter.name) ++
    fs.filter fun f => !f.isRegex

theorem convertFilters_eq (mt : Str → Str → Bool) (mods : List Str) (fs : List Filter) :
    convertFilters mt mods fs = if allMatch mt mods fs = true then .ok (expand mt mods fs) else .error .impossibleMatch := by
  unfold convertFilters allMatch expand
  cases h : (fs.filter (·.isRegex)).all fun r => mods.any (mt r.id) <;>
    simp only [← List.not_all_eq_any_not, h, Bool.not_false, Bool.not_true, if_true, Bool.false_eq_true, if_false]

theorem allMatch_iff (mt : Str → Str → Bool) (mods : List Str) (fs : List Filter) :
    allMatch mt mods fs = true ↔ ∀ r ∈ fs, r.isRegex = true → ∃ m ∈ mods, mt r.id m = true := by
  simp only [allMatch, List.all_eq_true, List.mem_filter, List.any_eq_true, and_imp]

theorem mem_expand (mt : Str → Str → Bool) (mods : List Str) (fs : List Filter) (y : Filter) :
    y ∈ expand mt mods fs ↔
      (∃ r ∈ fs, r.isRegex = true ∧ ∃ m ∈ mods, mt r.id m = true ∧ y = .name m) ∨ (y ∈ fs ∧ y.isRegex = false) := by
  simp only [expand, List.mem_append, mem_dedup, List.mem_map, List.mem_filter, List.any_eq_true, Bool.not_eq_true']
  constructor
  · rintro (⟨m, ⟨hm, r, ⟨hr, hreg⟩, hmt⟩, rfl⟩ | h)
    · exact .inl ⟨r, hr, hreg, m, hm, hmt, rfl⟩
    · exact .inr h
  · rintro (⟨r, hr, hreg, m, hm, hmt, rfl⟩ | h)
    · exact .inl ⟨m, ⟨hm, r, ⟨hr, hreg⟩, hmt⟩, rfl⟩
    · exact .inr h

theorem allMatch_batch (mt : Str → Str → Bool) (mods : List Str) (fs : List Filter) :
    allMatch mt mods fs = true ↔ ∀ x ∈ fs, allMatch mt mods [x] = true := by
  simp only [allMatch_iff, List.mem_singleton, forall_eq]

theorem mem_expand_batch (mt : Str → Str → Bool) (mods : List Str) (fs : List Filter) (y : Filter) :
    y ∈ expand mt mods fs ↔ ∃ x ∈ fs, y ∈ expand mt mods [x] := by
  simp only [mem_expand, List.mem_singleton, exists_eq_left]
  constructor
  · rintro (⟨r, hr, h⟩ | ⟨hy, h⟩)
    · exact ⟨r, hr, .inl h⟩
    · exact ⟨y, hy, .inr ⟨rfl, h⟩⟩
  · rintro ⟨x, hx, h | ⟨rfl, h⟩⟩
    · exact .inl ⟨x, hx, h⟩
    · exact .inr ⟨hx, h⟩

theorem expand_ne_nil (mt : Str → Str → Bool) (mods : List Str) (fs : List Filter) (hne : fs ≠ [])
    (h : allMatch mt mods fs = true) : expand mt mods fs ≠ [] := by
  obtain ⟨x, hx⟩ := List.exists_mem_of_ne_nil fs hne
  cases hreg : x.isRegex
  · exact List.ne_nil_of_mem ((mem_expand ..).2 (.inr ⟨hx, hreg⟩))
  · obtain ⟨m, hm, hmt⟩ := (allMatch_iff ..).1 h x hx hreg
    exact List.ne_nil_of_mem ((mem_expand ..).2 (.inl ⟨x, hx, hreg, m, hm, hmt, rfl⟩))

theorem allMatch_of_noregex (mt : Str → Str → Bool) (mods : List Str) {fs : List Filter}
    (h : ∀ f ∈ fs, f.isRegex = false) : allMatch mt mods fs = true :=
  (allMatch_iff ..).2 fun r hr hreg => absurd ((h r hr).symm.trans hreg) Bool.false_ne_true

theorem expand_of_noregex (mt : Str → Str → Bool) (mods : List Str) {fs : List Filter}
    (h : ∀ f ∈ fs, f.isRegex = false) : expand mt mods fs = fs := by
  have h1 : fs.filter (·.isRegex) = [] := List.filter_eq_nil_iff.2 fun f hf => by simp [h f hf]
  have h2 : fs.filter (fun f => !f.isRegex) = fs := List.filter_eq_self.2 fun f hf => by simp [h f hf]
  have h3 : mods.filter (fun _ => false) = [] := List.filter_eq_nil_iff.2 (by simp)
  simp only [expand, h1, h2, List.any_nil, h3, List.map_nil, dedup, List.nil_append]

theorem mem_expand_of_noregex {mt : Str → Str → Bool} {mods : List Str} {fs : List Filter} {f : Filter} (hf : f ∈ fs)
    (hr : f.isRegex = false) : f ∈ expand mt mods fs := (mem_expand ..).2 (.inr ⟨hf, hr⟩)

theorem convertFilters_ok_iff (mt : Str → Str → Bool) (mods : List Str) (fs R : List Filter) :
    convertFilters mt mods fs = .ok R ↔ allMatch mt mods fs = true ∧ R = expand mt mods fs := by
  rw [convertFilters_eq]
  split <;> simp [*, eq_comm]

theorem convertFilters_error_kind (mt : Str → Str → Bool) (mods : List Str) (fs : List Filter) :
    ErrOnly .impossibleMatch (convertFilters mt mods fs) := by
  intro k h
  rw [convertFilters_eq] at h
  split at h <;> cases h
  rfl

theorem realised_eq_nil (d : Bool) {κ : Type} (deps : List (κ × List (Str × Str))) :
    realised d deps = [] ↔ ∀ kd ∈ deps, kd.2 = [] := by
  simp [realised, List.flatMap_eq_nil_iff]

theorem abstractWithout_eq_nil (d : Bool) (e : ExplDeps) :
    abstractWithout d e = [] ↔ ∀ kd ∈ e, kd.2 ≠ [] := by
  simp [abstractWithout, List.filter_eq_nil_iff]

theorem realised_isEmpty (d : Bool) {κ : Type} (deps : List (κ × List (Str × Str))) :
    (realised d deps).isEmpty = deps.all (fun kd => kd.2.isEmpty) := by
  rw [Bool.eq_iff_iff]
  simp [realised, List.isEmpty_iff, List.flatMap_eq_nil_iff, List.all_eq_true]

theorem abstractWithout_isEmpty (d : Bool) (e : ExplDeps) :
    (abstractWithout d e).isEmpty = e.all (fun kd => !kd.2.isEmpty) := by
  rw [Bool.eq_iff_iff]
  simp [abstractWithout, List.isEmpty_iff, List.filter_eq_nil_iff, List.all_eq_true]

theorem missingOther_isEmpty (e : OtherDeps) (objs : List Mod) :
    (missingOther e objs).isEmpty = (objs.isEmpty || e.all fun kd => !kd.2.isEmpty) := by
  rw [Bool.eq_iff_iff]
  cases objs with
  | nil => simp [missingOther]
  | cons o os => simp [missingOther, List.flatMap_eq_nil_iff, List.all_eq_true]

theorem missingOther_eq_nil (deps : OtherDeps) (objs : List Mod) :
    missingOther deps objs = [] ↔ objs = [] ∨ ∀ kd ∈ deps, kd.2 ≠ [] := by
  rw [← List.isEmpty_iff, missingOther_isEmpty, Bool.or_eq_true, List.all_eq_true]
  simp only [List.isEmpty_iff, Bool.not_eq_true', List.isEmpty_eq_false_iff]

theorem Verdict.cls_eq_err (v : Verdict) (k : ErrKind) : v.cls = .err k ↔ v = .err k := by
  cases v <;> simp [Verdict.cls]

namespace Alg

theorem verdictOf_mkRule (mt : Str → Str → Bool) (g : PGraph Str) (s o n d e : Bool) (A B : List Filter) :
    verdictOf mt g (mkRule s o n d e A B) =
      if (!(s || o || n)) || A.isEmpty || B.isEmpty then .err .improperlyConfigured
      else if (⟨s, o, n, e⟩ : Behavior).inconsistent then .err .ruleInconsistency
      else (matchRule mt g ⟨s, o, n, e⟩ d A B).cls := by
  unfold verdictOf
  rw [assertApplies_mkRule]
  split
  · rfl
  · split <;> rfl

theorem cfg_ofBool (c i : Bool) (m : VClass) (p : Bool) :
    (if c = true then VClass.err .improperlyConfigured else if i = true then .err .ruleInconsistency else m) = .ofBool p ↔
      c = false ∧ i = false ∧ m = .ofBool p := by
  cases c <;> cases i <;> cases p <;> simp [VClass.ofBool]

/-- `p`: the rule passes -/
theorem verdictOf_ofBool (mt : Str → Str → Bool) (g : PGraph Str) (s o n d e : Bool) (A B : List Filter) (p : Bool) :
    verdictOf mt g (mkRule s o n d e A B) = .ofBool p ↔
      (s || o || n) = true ∧ A ≠ [] ∧ B ≠ [] ∧ (⟨s, o, n, e⟩ : Behavior).inconsistent = false ∧
      (matchRule mt g ⟨s, o, n, e⟩ d A B).cls = .ofBool p := by
  rw [verdictOf_mkRule, cfg_ofBool]
  simp only [Bool.or_eq_false_iff, Bool.not_eq_false', List.isEmpty_eq_false_iff, and_assoc]

theorem ofRes_ite_ofBool (v p : Bool) (items : List Item) :
    (Verdict.ofRes (.ok (if v = true then some items else none))).cls = .ofBool p ↔ (v = false ↔ p = true) := by
  cases v <;> cases p <;> simp [VClass.ofBool, Verdict.cls, Verdict.ofRes]

theorem cls_ite_congr (v : Bool) (i j : List Item) :
    (if v = true then Verdict.fail i else Verdict.pass).cls = (if v = true then Verdict.fail j else Verdict.pass).cls := by
  cases v <;> rfl

theorem err_ne_ofBool (k : ErrKind) (p : Bool) : VClass.err k ≠ .ofBool p := by
  cases p <;> simp [VClass.ofBool]

end Alg
end Pta
