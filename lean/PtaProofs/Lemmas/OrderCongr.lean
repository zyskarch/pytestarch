/-
  PtaProofs.Lemmas.OrderCongr —
  the verdict of a rule depends only on member SETS: of the node list, of the three edge relations and of the (converted)
  subject / object lists. The relations are lifted through `Except ErrKind` (`ERel`, with its `bind` congruence) and carried
  once along the pipeline of Lemmas/Pipeline.lean: same members (`SM`) on the inputs, `KR` on the query results,
  `Itm.VioRel` on the eight buckets, `FrontRel` on what detectors and reports see.
-/
import Bridge.Abs
import PtaProofs.Lemmas.SameMembers
import PtaProofs.Lemmas.QueryErr
import PtaProofs.Lemmas.Pipeline
import PtaProofs.Lemmas.Detector
namespace Pta.Ord
open Pta.OrdS

def ERel {α β : Type} (R : α → β → Prop) : Except ErrKind α → Except ErrKind β → Prop
  | .error a, .error b => a = b
  | .ok a, .ok b => R a b
  | _, _ => False

theorem ERel.mono {α β : Type} {R S : α → β → Prop} {x : Except ErrKind α} {y : Except ErrKind β}
    (h : ERel R x y) (hRS : ∀ a b, R a b → S a b) : ERel S x y := by
  cases x <;> cases y <;> simp_all [ERel]

theorem ERel.cases {α β : Type} {R : α → β → Prop} {x : Except ErrKind α} {y : Except ErrKind β} (h : ERel R x y) :
    (∃ e, x = .error e ∧ y = .error e) ∨ ∃ a b, x = .ok a ∧ y = .ok b ∧ R a b := by
  cases x <;> cases y
  · exact .inl ⟨_, rfl, congrArg _ (Eq.symm h)⟩
  · exact h.elim
  · exact h.elim
  · exact .inr ⟨_, _, rfl, rfl, h⟩

theorem ERel.bind {α β α' β' : Type} {R : α → β → Prop} {S : α' → β' → Prop}
    {x : Except ErrKind α} {y : Except ErrKind β} {k : α → Except ErrKind α'} {k' : β → Except ErrKind β'}
    (h : ERel R x y) (hk : ∀ a b, R a b → ERel S (k a) (k' b)) : ERel S (x >>= k) (y >>= k') := by
  cases x <;> cases y
  · exact h
  · exact h.elim
  · exact h.elim
  · exact hk _ _ h

theorem ERel.map_rel {α β α' β' : Type} {R : α → β → Prop} {S : α' → β' → Prop}
    {x : Except ErrKind α} {y : Except ErrKind β} (k : α → α') (k' : β → β')
    (h : ERel R x y) (hk : ∀ a b, R a b → S (k a) (k' b)) : ERel S (x.map k) (y.map k') := by
  cases x <;> cases y <;> simp_all [ERel, Except.map]

theorem ERel.guard {α β : Type} {R : α → β → Prop} (c : Bool) (e : ErrKind) {x : Except ErrKind α} {y : Except ErrKind β}
    (h : ERel R x y) :
    ERel R (if c = true then .error e else x) (if c = true then .error e else y) := by
  cases c
  · exact h
  · rfl

theorem ERel.eq {α : Type} {x y : Except ErrKind α} (h : ERel (fun a b => a = b) x y) : x = y := by
  cases x <;> cases y <;> first | exact h.elim | exact congrArg _ h

theorem reach_congr {g g' : PGraph Str} (h : GraphEquiv g g') (a b : Str) : Reach g a b ↔ Reach g' a b := by
  constructor
  · intro hr
    induction hr with
    | refl => exact .refl _
    | step _ hc ih => exact .step ih ((h.hier _ _).1 hc)
  · intro hr
    induction hr with
    | refl => exact .refl _
    | step _ hc ih => exact .step ih ((h.hier _ _).2 hc)

theorem hasNode_congr {g g' : PGraph Str} (h : GraphEquiv g g') (s : Str) : g.hasNode s = g'.hasNode s := by
  rw [Bool.eq_iff_iff, BuildGen.hasNode_iff, BuildGen.hasNode_iff]
  exact h.nodes s

theorem parentIds_congr {fs fs' : List Filter} (h : SM fs fs') : SM (parentIds fs) (parentIds fs') :=
  (SM.filter h _).map _

/-- `hx`, `hx'`: `Lookup` (Lemmas/SearchChar.lean) unfolded -/
theorem ERel.of_spec {α : Type} {x x' : Except ErrKind (List α)} {c c' : Prop} {P P' : List α → Prop} {e : ErrKind}
    (hx : (c → ∃ a, x = .ok a ∧ P a) ∧ (¬ c → x = .error e))
    (hx' : (c' → ∃ a, x' = .ok a ∧ P' a) ∧ (¬ c' → x' = .error e))
    (hc : c ↔ c') (hP : ∀ a a', P a → P' a' → SM a a') : ERel SM x x' := by
  by_cases h : c
  · obtain ⟨a, rfl, ha⟩ := hx.1 h
    obtain ⟨a', rfl, ha'⟩ := hx'.1 (hc.1 h)
    exact hP a a' ha ha'
  · rw [hx.2 h, hx'.2 fun h' => h (hc.2 h')]
    rfl

theorem depBetween_congr {g g' : PGraph Str} (h : GraphEquiv g g') (f o : Filter) :
    ERel SM (depBetween g f o) (depBetween g' f o) := by
  refine ERel.of_spec (depBetween_lookup g f o) (depBetween_lookup g' f o) (by simp only [hasNode_congr h])
    fun l l' hm hm' => ?_
  rintro ⟨u, v⟩
  rw [hm, hm', reach_congr h, reach_congr h, h.succs]

theorem otherFrom_congr {g g' : PGraph Str} (h : GraphEquiv g g') (f : Filter) (os os' : List Filter) (hos : SM os os') :
    ERel SM (otherFrom g f os) (otherFrom g' f os') := by
  refine ERel.of_spec (otherFrom_lookup g f os) (otherFrom_lookup g' f os')
    (by simp only [hasNode_congr h, hos.forall_congr]) fun l l' hm hm' => ?_
  rintro ⟨u, v⟩
  rw [hm, hm', reach_congr h, reach_congr h, h.succs, parentIds_congr hos v]
  simp only [reach_congr h, hos.exists_congr]

theorem otherTo_congr {g g' : PGraph Str} (h : GraphEquiv g g') (fs fs' : List Filter) (o : Filter) (hfs : SM fs fs') :
    ERel SM (otherTo g fs o) (otherTo g' fs' o) := by
  refine ERel.of_spec (otherTo_lookup g fs o) (otherTo_lookup g' fs' o)
    (by simp only [hasNode_congr h, hfs.forall_congr]) fun l l' hm hm' => ?_
  rintro ⟨p, n⟩
  rw [hm, hm', reach_congr h, reach_congr h, h.preds, parentIds_congr hfs p]
  simp only [reach_congr h, hfs.exists_congr]

/-- `he`: were two kinds of error possible, which of them is raised would depend on the order -/
theorem mapM_sm {α β : Type} (f : α → Except ErrKind β) (e0 : ErrKind) {l l' : List α} (hl : SM l l')
    (he : ∀ x ∈ l, ∀ e, f x = .error e → e = e0) : ERel SM (l.mapM f) (l'.mapM f) := by
  rw [mapM_uniform f e0 l he, mapM_uniform f e0 l' fun x hx => he x ((hl x).2 hx), all_congr hl]
  split
  · exact hl.filterMap _
  · rfl

theorem mapM_perm {α β : Type} (f : α → Except ErrKind β) (e0 : ErrKind) {l l' : List α} (hp : l.Perm l')
    (he : ∀ x ∈ l, ∀ e, f x = .error e → e = e0) : ERel List.Perm (l.mapM f) (l'.mapM f) := by
  rw [mapM_uniform f e0 l he, mapM_uniform f e0 l' fun x hx => he x (hp.mem_iff.2 hx), hp.all_eq]
  split
  · exact hp.filterMap _
  · exact rfl

def KR {κ : Type} (kd kd' : κ × List (Str × Str)) : Prop := kd.1 = kd'.1 ∧ SM kd.2 kd'.2

def QRel (p p' : Option ExplDeps × Option OtherDeps) : Prop :=
  ORel (LRel KR) p.1 p'.1 ∧ ORel (LRel KR) p.2 p'.2

theorem ERel.okD {α : Type} {x y : Except ErrKind (List α)} (h : ERel SM x y) : SM (okD x) (okD y) := by
  cases x <;> cases y <;> first | exact h.elim | exact SM.refl _ | exact h

theorem pairQuery_rel {g g' : PGraph Str} (h : GraphEquiv g g') (d : Bool) (s o : Filter) :
    ERel SM (pairQuery g d s o) (pairQuery g' d s o) := by
  cases d
  · exact depBetween_congr h o s
  · exact depBetween_congr h s o

theorem otherQuery_rel {g g' : PGraph Str} (h : GraphEquiv g g') (d : Bool) (s : Filter) {O O' : List Filter}
    (hO : SM O O') : ERel SM (otherQuery g d s O) (otherQuery g' d s O') := by
  cases d
  · exact otherTo_congr h _ _ s hO.dedup
  · exact otherFrom_congr h s _ _ hO.dedup

theorem answered_congr {g g' : PGraph Str} (h : GraphEquiv g g') (b : Behavior) (d : Bool) {O O' : List Filter}
    (hO : SM O O') (s : Filter) : Answered g b d O s ↔ Answered g' b d O' s := by
  unfold Answered
  simp only [pairQuery_ok_iff, otherQuery_ok_iff, hasNode_congr h, hO.forall_congr]

theorem answers_rel {g g' : PGraph Str} (h : GraphEquiv g g') (b : Behavior) (d : Bool) {S S' O O' : List Filter}
    (hS : SM S S') (hO : SM O O') : QRel (answers g b d S O) (answers g' b d S' O') := by
  have hp : SM (pairsOf d (dedup S) (dedup O)) (pairsOf d (dedup S') (dedup O')) := fun so => by
    rw [mem_pairsOf, mem_pairsOf, hS.dedup so.1, hO.dedup so.2]
  have hE : LRel KR (ansE g d S O) (ansE g' d S' O') :=
    (LRel.of_SM hp).map _ _ fun so _ e => e ▸ ⟨rfl, (pairQuery_rel h d so.1 so.2).okD⟩
  have hX : LRel KR (ansO g d S O) (ansO g' d S' O') :=
    (LRel.of_SM hS.dedup).map _ _ fun s _ e => e ▸ ⟨rfl, (otherQuery_rel h d s hO).okD⟩
  unfold answers
  constructor
  · cases b.explReq || b.explForb
    · trivial
    · exact hE
  · cases b.otherReq || b.otherForb
    · trivial
    · exact hX

theorem runQueries_rel {g g' : PGraph Str} (h : GraphEquiv g g') (b : Behavior) (ir : Bool) (S S' O O' : List Filter)
    (hS : SM S S') (hO : SM O O') :
    ERel QRel (runQueries g b ir S O) (runQueries g' b ir S' O') := by
  have hA : (∀ s ∈ S, Answered g b ir O s) ↔ ∀ s ∈ S', Answered g' b ir O' s := by
    simp only [answered_congr h b ir hO, hS.forall_congr]
  by_cases ha : ∀ s ∈ S, Answered g b ir O s
  · rw [(runQueries_iff ..).2 ⟨ha, rfl⟩, (runQueries_iff ..).2 ⟨hA.1 ha, rfl⟩]
    exact answers_rel h b ir hS hO
  · rw [(runQueries_error_iff ..).2 ⟨rfl, ha⟩, (runQueries_error_iff ..).2 ⟨rfl, fun ha' => ha (hA.2 ha')⟩]
    rfl

theorem convertFilters_congr (mt : Str → Str → Bool) (mods mods' : List Str) (fs fs' : List Filter)
    (hm : SM mods mods') (hf : SM fs fs') :
    ERel SM (convertFilters mt mods fs) (convertFilters mt mods' fs') := by
  have hA : allMatch mt mods fs = allMatch mt mods' fs' :=
    Bool.eq_iff_iff.2 (by simp only [allMatch_iff, hf.forall_congr, hm.exists_congr])
  rw [convertFilters_eq, convertFilters_eq, hA]
  split
  · exact fun y => by simp only [mem_expand, hf.exists_congr, hm.exists_congr, hf y]
  · rfl

theorem filter_empty_rel {κ : Type} {e e' : List (κ × List (Str × Str))} (h : LRel KR e e') :
    LRel KR (e.filter fun kd => kd.2.isEmpty) (e'.filter fun kd => kd.2.isEmpty) :=
  h.filter _ _ fun _ _ r => isEmpty_congr r.2.nil_iff

theorem realised_rel (ir : Bool) {κ : Type} {d d' : List (κ × List (Str × Str))} (h : LRel KR d d') :
    SM (realised ir d) (realised ir d') :=
  h.sm_flatMap _ _ fun _ _ r => r.2.map _

theorem abstractWithout_sm (ir : Bool) {e e' : ExplDeps} (h : LRel KR e e') :
    SM (abstractWithout ir e) (abstractWithout ir e') :=
  (filter_empty_rel h).sm_map _ _ fun _ _ r => by rw [r.1]

theorem missingOther_sm {e e' : OtherDeps} {M M' : List Mod} (hM : SM M M') (h : LRel KR e e') :
    SM (missingOther e M) (missingOther e' M') :=
  (filter_empty_rel h).sm_flatMap _ _ fun _ _ r => by rw [r.1]; exact hM.map _

end Pta.Ord

namespace Pta.Itm
open Pta.Ord

structure VioRel (v v' : Violations) : Prop where
  h1 : SM v.should v'.should
  h2 : SM v.shouldOnlyForbidden v'.shouldOnlyForbidden
  h3 : SM v.shouldOnlyNoImport v'.shouldOnlyNoImport
  h4 : SM v.shouldNot v'.shouldNot
  h5 : SM v.shouldExcept v'.shouldExcept
  h6 : SM v.shouldOnlyExceptForbidden v'.shouldOnlyExceptForbidden
  h7 : SM v.shouldOnlyExceptNoImport v'.shouldOnlyExceptNoImport
  h8 : SM v.shouldNotExcept v'.shouldNotExcept

theorem VioRel.any_eq {v v' : Violations} (h : VioRel v v') : v.any = v'.any := by
  unfold Violations.any
  rw [isEmpty_congr h.h1.nil_iff, isEmpty_congr h.h2.nil_iff, isEmpty_congr h.h3.nil_iff,
    isEmpty_congr h.h4.nil_iff, isEmpty_congr h.h5.nil_iff, isEmpty_congr h.h6.nil_iff,
    isEmpty_congr h.h7.nil_iff, isEmpty_congr h.h8.nil_iff]

end Pta.Itm

namespace Pta.Ord
open Pta.Itm

theorem detect_rel (b : Behavior) (ir : Bool) {expl expl' : Option ExplDeps} {other other' : Option OtherDeps}
    {M M' : List Mod} (hM : SM M M') (he : ORel (LRel KR) expl expl') (ho : ORel (LRel KR) other other') :
    VioRel (detect b ir expl other M) (detect b ir expl' other' M') := by
  have E := fun c {f f'} => Det.onOpt_rel (SM (α := Dep)) _ (SM.refl []) he.inv c (f := f) (f' := f')
  have O := fun c {f f'} => Det.onOpt_rel (SM (α := Dep)) _ (SM.refl []) ho.inv c (f := f) (f' := f')
  rw [Det.detect_eq, Det.detect_eq]
  exact ⟨E _ fun _ _ => abstractWithout_sm ir, O _ fun _ _ => realised_rel ir, E _ fun _ _ => abstractWithout_sm ir,
    E _ fun _ _ => realised_rel ir, O _ fun _ _ => missingOther_sm hM, E _ fun _ _ => realised_rel ir,
    O _ fun _ _ => missingOther_sm hM, O _ fun _ _ => realised_rel ir⟩

theorem graphEquiv_refl (g : PGraph Str) : GraphEquiv g g :=
  ⟨fun _ => Iff.rfl, fun _ _ => Iff.rfl, fun _ _ => Iff.rfl, fun _ _ => Iff.rfl⟩

/-- two fronts (what the part the four `assert_applies` share hands on, Lemmas/Pipeline.lean) in which every detector and
    every report see the same: verbs and direction equal, subject / object filters and converted objects with the same
    members, the query results related entry by entry (`KR`) -/
structure FrontRel (x x' : Front) : Prop where
  b : x.b = x'.b
  dir : x.dir = x'.dir
  ss : SM x.ss x'.ss
  os : SM x.os x'.os
  objs : SM x.objs x'.objs
  expl : ORel (LRel KR) x.expl x'.expl
  other : ORel (LRel KR) x.other x'.other

theorem queries_rel (mt : Str → Str → Bool) {g g' : PGraph Str} (h : GraphEquiv g g') (b : Behavior) (d : Bool)
    {ss ss' os os' : List Filter} (hs : SM ss ss') (ho : SM os os') :
    ERel FrontRel (queries mt g b d ss os) (queries mt g' b d ss' os') := by
  unfold queries
  exact (convertFilters_congr mt _ _ _ _ h.nodes hs).bind fun _ _ hS =>
    (convertFilters_congr mt _ _ _ _ h.nodes ho).bind fun _ _ hO =>
      (runQueries_rel h b d _ _ _ _ hS hO).bind fun _ _ hq => FrontRel.mk rfl rfl hs ho hO hq.1 hq.2

theorem outcome_rel {β β' : Type} {R : β → β' → Prop} {viol viol' : Front → Except ErrKind Violations}
    {report : Front → Violations → Except ErrKind β} {report' : Front → Violations → Except ErrKind β'} {x x' : Front}
    (hv : ERel VioRel (viol x) (viol' x')) (hr : ∀ v v', VioRel v v' → ERel R (report x v) (report' x' v')) :
    ERel (ORel R) (Front.outcome viol report x) (Front.outcome viol' report' x') := by
  unfold Front.outcome
  refine hv.bind fun v v' h => ?_
  rw [h.any_eq]
  cases v'.any
  · exact True.intro
  · exact (hr v v' h).map_rel some some fun _ _ r => r

theorem violations_rel {x x' : Front} (h : FrontRel x x') : ERel VioRel x.violations x'.violations := by
  unfold Front.violations
  rw [h.b, h.dir]
  exact detect_rel _ _ (h.objs.map _) h.expl h.other

/-- the module pipelines on related fronts: `rep` is `reportItems` or `messageLines`, `R` what the caller wants to know
    of two reports -/
theorem module_rel {β : Type} {R : β → β → Prop} (rep : Bool → Violations → β)
    (hR : ∀ ir v v', VioRel v v' → R (rep ir v) (rep ir v')) {X X' : Except ErrKind Front} (hX : ERel FrontRel X X') :
    ERel (ORel R) (X >>= Front.outcome Front.violations fun x v => pure (rep x.dir v))
      (X' >>= Front.outcome Front.violations fun x v => pure (rep x.dir v)) :=
  hX.bind fun x x' h => outcome_rel (violations_rel h) fun v v' hv => by
    rw [← h.dir]
    exact hR x.dir v v' hv

theorem cls_ofRes_congr {R : List Item → List Item → Prop} {r r' : Except ErrKind (Option (List Item))}
    (h : ERel (ORel R) r r') : (Verdict.ofRes r).cls = (Verdict.ofRes r').cls := by
  rcases r with _ | _ | _ <;> rcases r' with _ | _ | _ <;> first | exact h.elim | rfl | exact congrArg VClass.err h

end Pta.Ord

namespace Pta.OrdR
open Pta.Ord

/-- two rule configurations that differ only in the order (and multiplicity) in which subjects, objects and the
    subjects removed by an earlier alias conversion are listed -/
structure CfgRel (c c' : RuleConfig) : Prop where
  subjects : ORel SM c.subjects c'.subjects
  objects : ORel SM c.objects c'.objects
  dropped : SM c.dropped c'.dropped
  should : c.should = c'.should
  shouldOnly : c.shouldOnly = c'.shouldOnly
  shouldNot : c.shouldNot = c'.shouldNot
  exceptPresent : c.exceptPresent = c'.exceptPresent
  importDir : c.importDir = c'.importDir
  anything : c.anything = c'.anything

theorem CfgRel.refl (c : RuleConfig) : CfgRel c c := by
  refine ⟨?_, ?_, SM.refl _, rfl, rfl, rfl, rfl, rfl, rfl⟩
  · cases c.subjects <;> simp [ORel, SM.refl]
  · cases c.objects <;> simp [ORel, SM.refl]

theorem dedupSubjects_sm {fs fs' : List Filter} (h : SM fs fs') : SM (dedupSubjects fs) (dedupSubjects fs') := by
  intro x
  unfold dedupSubjects
  simp only [List.mem_filter, h x, any_congr h]

theorem droppedSubjects_sm {fs fs' : List Filter} (h : SM fs fs') : SM (droppedSubjects fs) (droppedSubjects fs') := by
  intro x
  unfold droppedSubjects
  simp only [List.mem_filter, h x, contains_congr (dedupSubjects_sm h)]

theorem convertAliases_rel {c c' : RuleConfig} (h : CfgRel c c') : CfgRel (convertAliases c) (convertAliases c') := by
  unfold convertAliases
  rw [← h.anything]
  cases c.anything with
  | false => exact h
  | true =>
    simp only [Bool.not_true, Bool.false_eq_true, if_false]
    have hs := h.subjects
    rcases c with ⟨s, _, _, _, _, _, _, _, _⟩
    rcases c' with ⟨s', _, _, _, _, _, _, _, _⟩
    cases s <;> cases s' <;> simp only [ORel] at hs
    · exact ⟨trivial, trivial, SM.refl _, h.should, h.shouldOnly, h.shouldNot, rfl, h.importDir, rfl⟩
    · exact ⟨dedupSubjects_sm hs, dedupSubjects_sm hs, droppedSubjects_sm hs, h.should, h.shouldOnly, h.shouldNot, rfl,
        h.importDir, rfl⟩

/-- stated as an implication: a hypothesis in scope would be abstracted into the `match` of `neOpt` -/
theorem neOpt_congr {o o' : Option (List Filter)} : ORel SM o o' → Hist.neOpt o = Hist.neOpt o' := by
  cases o <;> cases o' <;> intro h
  · rfl
  · exact h.elim
  · exact h.elim
  · exact congrArg (!·) (isEmpty_congr (SM.nil_iff h))

theorem configMissing_congr {c c' : RuleConfig} (h : CfgRel c c') : configMissing c = configMissing c' := by
  rw [Hist.configMissing_eq, Hist.configMissing_eq, neOpt_congr h.subjects, neOpt_congr h.objects, h.should, h.shouldOnly,
    h.shouldNot, h.importDir]

theorem droppedAbsent_congr' {g g' : PGraph Str} (hg : GraphEquiv g g') {c c' : RuleConfig} (h : CfgRel c c') :
    droppedAbsent g c = droppedAbsent g' c' := by
  rw [droppedAbsent_congr g g' c (hasNode_congr hg)]
  unfold droppedAbsent
  rw [any_congr h.dropped]

theorem behavior_congr {c c' : RuleConfig} (h : CfgRel c c') : c.behavior = c'.behavior := by
  unfold RuleConfig.behavior
  rw [h.should, h.shouldOnly, h.shouldNot, h.exceptPresent]

theorem anythingMisused_congr {c c' : RuleConfig} (h : CfgRel c c') : anythingMisused c = anythingMisused c' := by
  unfold anythingMisused
  rw [h.anything, h.shouldNot]

theorem gate_rel {g g' : PGraph Str} (hg : GraphEquiv g g') {c c' : RuleConfig} (h : CfgRel c c') :
    ERel (fun t t' => t.1 = t'.1 ∧ SM t.2.1 t'.2.1 ∧ SM t.2.2 t'.2.2) (gate g c) (gate g' c') := by
  unfold gate
  rw [← configMissing_congr h, ← droppedAbsent_congr' hg h, ← behavior_congr h, ← h.importDir]
  cases configMissing c
  · cases droppedAbsent g c
    · cases c.behavior.inconsistent
      -- both sides take the same branch of the last `match`
      · cases c.importDir
        · rfl
        rcases ORel.inv h.subjects with ⟨e1, e2⟩ | ⟨ss, ss', e1, e2, hs⟩ <;> rw [e1, e2]
        · rfl
        rcases ORel.inv h.objects with ⟨e3, e4⟩ | ⟨os, os', e3, e4, ho⟩ <;> rw [e3, e4]
        · rfl
        exact And.intro rfl (And.intro hs ho)
      · rfl
    · rfl
  · rfl

theorem front_rel (mt : Str → Str → Bool) {g g' : PGraph Str} (hg : GraphEquiv g g') {c c' : RuleConfig} (h : CfgRel c c') :
    ERel FrontRel (front mt g c) (front mt g' c') := by
  have hc := convertAliases_rel h
  unfold front
  rw [← anythingMisused_congr h, ← behavior_congr hc]
  cases anythingMisused c
  · exact (gate_rel hg hc).bind fun t t' ht => by rw [← ht.1]; exact queries_rel mt hg _ t.1 ht.2.1 ht.2.2
  · rfl

end Pta.OrdR

namespace Pta.Ord
open Pta.OrdR

theorem verdictOf_congr (mt : Str → Str → Bool) {g g' : PGraph Str} (h : GraphEquiv g g') {r r' : RuleState}
    (hr : CfgRel r.cfg r'.cfg) : verdictOf mt g r = verdictOf mt g' r' := by
  unfold verdictOf
  rw [assertApplies_front, assertApplies_front]
  exact cls_ofRes_congr (module_rel (R := fun _ _ => True) reportItems (fun _ _ _ _ => trivial) (front_rel mt h hr))

theorem verdict_congr (mt : Str → Str → Bool) (g g' : PGraph Str) (h : GraphEquiv g g') (r : RuleState) :
    verdictOf mt g r = verdictOf mt g' r :=
  verdictOf_congr mt h (CfgRel.refl _)

theorem convertAliases_idem (c : RuleConfig) : convertAliases (convertAliases c) = convertAliases c :=
  Pta.convertAliases_idem c

/-- re-applying a rule object (to the same or to another architecture) gives what a fresh rule object gives: the only
    in-place rewrite (`_convert_aliases`) is idempotent and keeps the subjects it removed (`dropped`), so that the
    existence check on them is repeated on the new architecture -/
theorem reapply (mt : Str → Str → Bool) (s : RuleState) (g g' : PGraph Str) :
    (assertApplies mt (assertApplies mt s g).1 g').2 = (assertApplies mt s g').2 := by
  simp only [assertApplies_front, front_applied]

end Pta.Ord
