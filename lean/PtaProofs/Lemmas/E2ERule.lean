/-
  PtaProofs.Lemmas.E2ERule — glue for the end-to-end theorem on scanned architectures (Props/E2E.lean):
  the specification architecture of a scan, `⟨scanModules …, is⟩` with `scanImports … = some is`, is well-formed
  and the scan graph is its quotient under the shifted level limit, whatever the limit (`scan_spec_quotient_lemma`;
  without a limit that is a graph of it, `scan_spec_arch_lemma`): C04 gives `ScanLike` inputs for an architecture on
  `scanModules`, C02 (on the scan without the limit, which hands the constructor the same lists) identifies its
  import pairs with the rendered `is`, `render` is injective on the (well-formed) names involved, and
  `BuildScan.quotient` does the rest. With `ScanCompose.scan_none` for the other case this is all a scan can return
  (`scan_answers`).
-/
import Bridge.Abs
import Bridge.ScanAbs
import Bridge.ScanTree
import Bridge.ScanLimit
import PtaProofs.Lemmas.Render
import PtaProofs.Lemmas.BuildNames
import PtaProofs.Lemmas.BuildScan
import PtaProofs.Lemmas.ScanGraph
import PtaProofs.Lemmas.ScanCompose
namespace Pta
namespace E2ERule
open PtaSpec

theorem pair_of_render {e e' : Name × Name} (w : nameWF e.1 = true ∧ nameWF e.2 = true)
    (w' : nameWF e'.1 = true ∧ nameWF e'.2 = true) (h1 : render e.1 = render e'.1) (h2 : render e.2 = render e'.2) :
    e = e' :=
  Prod.ext (render_injective _ _ w.1 w'.1 h1) (render_injective _ _ w.2 w'.2 h2)

section
variable (mt : Str → Str → Bool) (base root : Str) (mp : List Str) (entries : List Entry) (o : ScanOptions)
  (hwf : treeWFFor (isExcluded mt o.exclusions) base mp entries = true) (hmp : mpOK entries mp = true)
  (hroot : compWF root = true)
  (hxx : o.excludeExternal = true) (hext : o.externalExclusions.isEmpty = true)
  (hst : ∀ e ∈ entries, ∀ st ∈ e.stmts, stmtOK (toSStmt st) = true)
  (is : List (Name × Name))
  (his : scanImports root (toSEntries (isExcluded mt o.exclusions) base entries) mp = some is)
include hwf hmp hroot hxx hext hst his

/-- C04 ∘ C02 ∘ C09: whatever the level limit, the scan succeeds, the specification architecture `⟨scanModules …, is⟩`
    is well-formed, and the scan graph is its quotient under the (shifted) limit. The lists handed to the constructor
    do not depend on the limit, so they are read off the scan without one. -/
theorem scan_spec_quotient_lemma :
    ∃ g, generateGraph mt base root mp entries o = .ok g ∧
      (Arch.mk (scanModules root (toSEntries (isExcluded mt o.exclusions) base entries) mp) is).wf = true ∧
      QuotientOf (Arch.mk (scanModules root (toSEntries (isExcluded mt o.exclusions) base entries) mp) is)
        (shiftedLimit o mp) g := by
  obtain ⟨g0, hgen0, hpairs⟩ :=
    ScanCompose.scan_some_imports (o := o.noLimit) hwf hmp hroot hxx rfl hext hst is his
  obtain ⟨R, hR, rfl⟩ := (ScanGraph.scan_ok_iff mt base root mp entries o.noLimit hxx g0).1 hgen0
  have hin := ScanGraph.scan_inputs_retained mt base root mp entries o hwf hmp hroot R hR
  have hawf := ScanGraph.scanArch_wf hin
  have hg := ScanGraph.scanArch_graphOf hin
  have hsl := ScanGraph.scanArch_scanLike hin
  obtain ⟨a, ha⟩ : ∃ a, a = ScanGraph.scanArch (ScanGraph.specModules mt base root mp entries o) R := ⟨_, rfl⟩
  have han : ∀ n, n ∈ scanModules root (toSEntries (isExcluded mt o.exclusions) base entries) mp ↔ n ∈ a.nodes := by
    rw [ha]; exact fun _ => Iff.rfl
  rw [← ha] at hawf hg hsl
  have hiswf := ScanCompose.scanImports_wf_tree hwf hroot is his
  have hawfe : ∀ e ∈ a.imports, nameWF e.1 = true ∧ nameWF e.2 = true := by
    intro e he
    obtain ⟨i1, i2, -, -⟩ := BuildNames.wf_import a hawf e he
    exact ⟨BuildNames.wf_nodes a hawf _ i1, BuildNames.wf_nodes a hawf _ i2⟩
  -- both edge lists render to the import pairs of the scan without a limit, and `render` is injective on well-formed names
  have hboth : ∀ u v, (∃ e ∈ is, u = render e.1 ∧ v = render e.2) ↔ ∃ e ∈ a.imports, u = render e.1 ∧ v = render e.2 := by
    intro u v
    rw [← hpairs, BuildGen.mem_importPairs, ← BuildGen.mem_importSuccs]
    exact hg.succs u v
  have himp : ∀ e, e ∈ is ↔ e ∈ a.imports := by
    intro e
    constructor
    · intro he
      obtain ⟨e', he', h1, h2⟩ := (hboth _ _).1 ⟨e, he, rfl, rfl⟩
      rw [pair_of_render (hiswf e he) (hawfe e' he') h1 h2]; exact he'
    · intro he
      obtain ⟨e', he', h1, h2⟩ := (hboth _ _).2 ⟨e, he, rfl, rfl⟩
      rw [pair_of_render (hawfe e he) (hiswf e' he') h1 h2]; exact he'
  have hwfA := BuildNames.wf_congr a (Arch.mk (scanModules root (toSEntries (isExcluded mt o.exclusions) base entries) mp) is)
    hawf (ScanGraph.scanModules_nodup _ _ _) han (fun e he => (himp e).1 he)
  exact ⟨_, (ScanGraph.scan_ok_iff mt base root mp entries o hxx _).2 ⟨R, hR, rfl⟩, hwfA,
    BuildScan.quotient _ hwfA _ _ (hsl.congr han himp) _⟩

omit is his in
/-- what a scan returns: a lookup error, and no other, exactly when the specification has no import list; otherwise a
    graph that is the quotient of the (well-formed) specification architecture -/
theorem scan_answers :
    Answers (scanImports root (toSEntries (isExcluded mt o.exclusions) base entries) mp)
      (generateGraph mt base root mp entries o) .lookupError fun is g =>
        (Arch.mk (scanModules root (toSEntries (isExcluded mt o.exclusions) base entries) mp) is).wf = true ∧
        QuotientOf (Arch.mk (scanModules root (toSEntries (isExcluded mt o.exclusions) base entries) mp) is)
          (shiftedLimit o mp) g :=
  .of_cases (ScanCompose.scan_none hwf hmp hroot hext hst)
    (scan_spec_quotient_lemma mt base root mp entries o hwf hmp hroot hxx hext hst)

/-- C04 ∘ C02: without a level limit the scan graph is a graph of the specification architecture -/
theorem scan_spec_arch_lemma (hlim : o.levelLimit = none) :
    ∃ g, generateGraph mt base root mp entries o = .ok g ∧
      (Arch.mk (scanModules root (toSEntries (isExcluded mt o.exclusions) base entries) mp) is).wf = true ∧
      GraphOf (Arch.mk (scanModules root (toSEntries (isExcluded mt o.exclusions) base entries) mp) is) g := by
  obtain ⟨g, hgen, hawf, hq⟩ := scan_spec_quotient_lemma mt base root mp entries o hwf hmp hroot hxx hext hst is his
  rw [ScanWalk.shiftedLimit_none o mp hlim] at hq
  exact ⟨g, hgen, hawf, BuildScan.graphOf_of_quotient_none _ hawf g hq⟩

end

end E2ERule
end Pta
