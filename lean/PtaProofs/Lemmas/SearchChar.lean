/-
  PtaProofs.Lemmas.SearchChar — the three graph searches on an arbitrary graph, each as a `Lookup x c P` ("`x` only looks
  names up: it succeeds iff `c`, then with a result satisfying `P`, and otherwise raises the lookup error"), in terms of
  hierarchy reachability `Reach` (Lemmas/Worklist.lean) and the import successor / predecessor lists; plus the lemmas on
  report items that Props/C03.lean uses.
-/
import PtaProofs.Lemmas.Worklist
import PtaProofs.Lemmas.Pipeline
namespace Pta

def Lookup {α : Type} (x : Except ErrKind α) (c : Prop) (P : α → Prop) : Prop :=
  (c → ∃ a, x = .ok a ∧ P a) ∧ (¬ c → x = .error .lookupError)

namespace Lookup
variable {α β : Type} {x : Except ErrKind α} {c c' : Prop} {P P' : α → Prop}

theorem pure {a : α} (h : P a) : Lookup (Pure.pure a) True P :=
  ⟨fun _ => ⟨a, rfl, h⟩, fun h => absurd trivial h⟩

theorem bind {k : α → Except ErrKind β} {Q : β → Prop} (hx : Lookup x c P) (hk : ∀ a, P a → Lookup (k a) c' Q) :
    Lookup (x >>= k) (c ∧ c') Q := by
  by_cases hc : c
  · obtain ⟨a, rfl, ha⟩ := hx.1 hc
    exact ⟨fun h => (hk a ha).1 h.2, fun h => (hk a ha).2 fun h' => h ⟨hc, h'⟩⟩
  · rw [hx.2 hc]
    exact ⟨fun h => absurd h.1 hc, fun _ => rfl⟩

theorem imp (hx : Lookup x c P) (hc : c' ↔ c) (hP : ∀ a, P a → P' a) : Lookup x c' P' :=
  ⟨fun h => (hx.1 (hc.1 h)).imp fun a ha => ⟨ha.1, hP a ha.2⟩, fun h => hx.2 fun h' => h (hc.2 h')⟩

theorem iff (hx : Lookup x c P) (hc : c' ↔ c) : Lookup x c' P := hx.imp hc fun _ h => h

theorem map {f : α → β} {Q : β → Prop} (hx : Lookup x c P) (h : ∀ a, P a → Q (f a)) :
    Lookup (x >>= fun a => Pure.pure (f a)) c Q :=
  (hx.bind fun a ha => pure (h a ha)).iff (and_iff_left trivial).symm

theorem of_ok (hx : Lookup x c P) {a : α} (h : x = .ok a) : c ∧ P a := by
  by_cases hc : c
  · obtain ⟨a', ha', hp⟩ := hx.1 hc
    cases h.symm.trans ha'
    exact ⟨hc, hp⟩
  · rw [hx.2 hc] at h; cases h

theorem of_error (hx : Lookup x c P) {e : ErrKind} (h : x = .error e) : e = .lookupError ∧ ¬ c := by
  by_cases hc : c
  · obtain ⟨a, ha, _⟩ := hx.1 hc
    rw [ha] at h; cases h
  · rw [hx.2 hc] at h; cases h; exact ⟨rfl, hc⟩

theorem errOnly (hx : Lookup x c P) : ErrOnly .lookupError x := fun _ he => (hx.of_error he).1

theorem isOk_iff (hx : Lookup x c P) : (∃ a, x = .ok a) ↔ c :=
  ⟨fun ⟨_, ha⟩ => (hx.of_ok ha).1, fun hc => (hx.1 hc).imp fun _ ha => ha.1⟩

theorem ok_nil_iff {β γ : Type} {x : Except ErrKind (List (β × γ))} {Q : β → γ → Prop}
    (hx : Lookup x c fun l => ∀ u v, (u, v) ∈ l ↔ Q u v) : x = .ok [] ↔ c ∧ ∀ u v, ¬ Q u v := by
  constructor
  · intro h
    obtain ⟨hc, hm⟩ := hx.of_ok h
    exact ⟨hc, fun u v hq => List.not_mem_nil ((hm u v).2 hq)⟩
  · rintro ⟨hc, hn⟩
    obtain ⟨l, rfl, hm⟩ := hx.1 hc
    cases l with
    | nil => rfl
    | cons p l => exact absurd ((hm p.1 p.2).1 List.mem_cons_self) (hn _ _)

end Lookup

/-- `get_all_submodules_of`: a lookup error exactly for unknown start nodes, otherwise the reachable set -/
theorem submodulesOf_lookup {α : Type} [DecidableEq α] (g : PGraph α) (s : α) :
    Lookup (submodulesOf g s) (g.hasNode s = true) fun l => ∀ x, x ∈ l ↔ Reach g s x := by
  unfold submodulesOf
  cases h : g.hasNode s
  · exact ⟨nofun, fun _ => rfl⟩
  · exact ⟨fun _ => ⟨_, rfl, mem_subLoop_top g s⟩, fun hn => absurd rfl hn⟩

theorem exclUnion_go (g : PGraph Str) (f : Filter) (os : List Filter) (acc : List Str) :
    Lookup (os.foldlM (fun acc o => if o = f then pure acc else do
        let s ← submodulesOf g o.id
        pure (acc ++ s)) acc) (∀ o ∈ os, o ≠ f → g.hasNode o.id = true)
      fun l => ∀ x, x ∈ l ↔ x ∈ acc ∨ ∃ o ∈ os, o ≠ f ∧ Reach g o.id x := by
  induction os generalizing acc with
  | nil => exact (Lookup.pure (by simp)).iff (by simp)
  | cons o os ih =>
    rw [List.foldlM_cons]
    by_cases hof : o = f
    · simp only [hof, if_true]
      exact (ih acc).imp (by simp) fun l h x => by simp [h]
    · simp only [hof, if_false]
      refine (((submodulesOf_lookup g o.id).map (Q := fun acc' => ∀ x, x ∈ acc' ↔ x ∈ acc ∨ Reach g o.id x)
        fun s hs => by simp [hs]).bind fun acc' h => (ih acc').imp Iff.rfl fun l hl x => ?_).iff (by simp [hof])
      simp [hl, h, hof, or_assoc]

theorem exclUnion_lookup (g : PGraph Str) (f : Filter) (os : List Filter) :
    Lookup (exclUnion g f os) (∀ o ∈ os, o ≠ f → g.hasNode o.id = true)
      fun l => ∀ x, x ∈ l ↔ ∃ o ∈ os, o ≠ f ∧ Reach g o.id x :=
  (exclUnion_go g f os []).imp Iff.rfl fun l h => by simpa using h

/-- membership in the pair list all three searches build: near end `u` from `l`, far end `v` from `s u`, kept by `p` -/
theorem mem_flatMap_pairs {α β γ : Type} (l : List α) (s : α → List β) (p : α → β → Bool) (mk : α → β → γ) (x : γ)
    (u : α) (v : β) (hmk : ∀ n c, mk n c = x ↔ n = u ∧ c = v) :
    x ∈ l.flatMap (fun n => ((s n).filter (p n)).map (mk n)) ↔ u ∈ l ∧ v ∈ s u ∧ p u v = true := by
  simp only [List.mem_flatMap, List.mem_map, List.mem_filter, hmk]
  constructor
  · rintro ⟨n, hn, c, ⟨hc, hp⟩, rfl, rfl⟩; exact ⟨hn, hc, hp⟩
  · rintro ⟨hn, hc, hp⟩; exact ⟨u, hn, v, ⟨hc, hp⟩, rfl, rfl⟩

theorem depBetween_lookup (g : PGraph Str) (f o : Filter) :
    Lookup (depBetween g f o) (g.hasNode o.id = true ∧ g.hasNode f.id = true) fun l => ∀ u v, (u, v) ∈ l ↔
      (Reach g f.id u ∧ v ∈ g.importSuccs u ∧ Reach g o.id v ∧ u ∉ parentIds [f, o] ∧ v ∉ parentIds [f, o]) := by
  refine (submodulesOf_lookup g o.id).bind fun lo hmo => (submodulesOf_lookup g f.id).map fun lf hmf u v => ?_
  refine (mem_flatMap_pairs _ _ _ _ _ u v (by simp)).trans ?_
  simp only [Bool.and_eq_true, Bool.not_eq_true', List.contains_eq_mem, decide_eq_false_iff_not, decide_eq_true_eq,
    hmf, hmo, and_assoc]

theorem depBetween_ok (g : PGraph Str) (f o : Filter) (hf : g.hasNode f.id = true) (ho : g.hasNode o.id = true) :
    ∃ l, depBetween g f o = .ok l ∧ ∀ u v, (u, v) ∈ l ↔
      (Reach g f.id u ∧ v ∈ g.importSuccs u ∧ Reach g o.id v ∧ u ∉ parentIds [f, o] ∧ v ∉ parentIds [f, o]) :=
  (depBetween_lookup g f o).1 ⟨ho, hf⟩

theorem depBetween_err (g : PGraph Str) (f o : Filter) (h : g.hasNode f.id = false ∨ g.hasNode o.id = false) :
    depBetween g f o = .error .lookupError :=
  (depBetween_lookup g f o).2 fun hc => by simp [hc.1, hc.2] at h

theorem otherFrom_lookup (g : PGraph Str) (f : Filter) (os : List Filter) :
    Lookup (otherFrom g f os) ((∀ o ∈ os, o ≠ f → g.hasNode o.id = true) ∧ g.hasNode f.id = true) fun l =>
      ∀ u v, (u, v) ∈ l ↔
      (Reach g f.id u ∧ (f.isParent = true → u ≠ f.id) ∧ v ∈ g.importSuccs u ∧ ¬ Reach g f.id v ∧
       ¬ ((∃ o ∈ os, o ≠ f ∧ Reach g o.id v) ∧ v ∉ parentIds os)) := by
  refine (exclUnion_lookup g f os).bind fun le hme => (submodulesOf_lookup g f.id).map fun lf hmf u v => ?_
  have hskip : u ∈ (if f.isParent = true then [f.id] else []) ↔ f.isParent = true ∧ u = f.id := by
    cases f.isParent <;> simp
  refine (mem_flatMap_pairs _ _ _ _ _ u v (by simp)).trans ?_
  simp only [List.mem_filter, Bool.and_eq_true, Bool.not_eq_true', List.contains_eq_mem, decide_eq_false_iff_not,
    hmf, hme, hskip, not_and]
  exact ⟨fun ⟨⟨a, b⟩, c, d, e⟩ => ⟨a, b, c, e, d⟩, fun ⟨a, b, c, e, d⟩ => ⟨⟨a, b⟩, c, d, e⟩⟩

theorem otherFrom_ok (g : PGraph Str) (f : Filter) (os : List Filter) (hf : g.hasNode f.id = true)
    (hos : ∀ o ∈ os, g.hasNode o.id = true) :
    ∃ l, otherFrom g f os = .ok l ∧ ∀ u v, (u, v) ∈ l ↔
      (Reach g f.id u ∧ (f.isParent = true → u ≠ f.id) ∧ v ∈ g.importSuccs u ∧ ¬ Reach g f.id v ∧
       ¬ ((∃ o ∈ os, o ≠ f ∧ Reach g o.id v) ∧ v ∉ parentIds os)) :=
  (otherFrom_lookup g f os).1 ⟨fun o ho _ => hos o ho, hf⟩

theorem otherFrom_err (g : PGraph Str) (f : Filter) (os : List Filter)
    (h : g.hasNode f.id = false ∨ ∃ o ∈ os, o ≠ f ∧ g.hasNode o.id = false) :
    otherFrom g f os = .error .lookupError :=
  (otherFrom_lookup g f os).2 fun hc => by
    rcases h with h | ⟨o, ho, hne, h⟩
    · simp [hc.2] at h
    · simp [hc.1 o ho hne] at h

theorem otherTo_lookup (g : PGraph Str) (fs : List Filter) (o : Filter) :
    Lookup (otherTo g fs o) ((∀ f ∈ fs, f ≠ o → g.hasNode f.id = true) ∧ g.hasNode o.id = true) fun l =>
      ∀ p n, (p, n) ∈ l ↔
      (Reach g o.id n ∧ (o.isParent = true → n ≠ o.id) ∧ p ∈ g.importPreds n ∧
       ¬ (Reach g o.id p ∧ (o.isParent = true → p ≠ o.id)) ∧
       ¬ ((∃ f ∈ fs, f ≠ o ∧ Reach g f.id p) ∧ p ∉ parentIds fs)) := by
  refine (exclUnion_lookup g o fs).bind fun le hme => (submodulesOf_lookup g o.id).map fun lo hmo p n => ?_
  have hown : ∀ x, x ∈ (if o.isParent = true then lo.filter (· != o.id) else lo) ↔
      (Reach g o.id x ∧ (o.isParent = true → x ≠ o.id)) := by
    intro x
    cases hp : o.isParent <;> simp [hmo]
  refine (mem_flatMap_pairs _ _ _ _ _ n p (by simp [and_comm])).trans ?_
  simp only [List.mem_filter, Bool.and_eq_true, Bool.not_eq_true', List.contains_eq_mem, decide_eq_false_iff_not,
    hme, hown, not_and]
  exact ⟨fun ⟨⟨a, b⟩, c, d, e⟩ => ⟨a, b, c, e, d⟩, fun ⟨a, b, c, e, d⟩ => ⟨⟨a, b⟩, c, d, e⟩⟩

theorem otherTo_ok (g : PGraph Str) (fs : List Filter) (o : Filter) (ho : g.hasNode o.id = true)
    (hfs : ∀ f ∈ fs, g.hasNode f.id = true) :
    ∃ l, otherTo g fs o = .ok l ∧ ∀ p n, (p, n) ∈ l ↔
      (Reach g o.id n ∧ (o.isParent = true → n ≠ o.id) ∧ p ∈ g.importPreds n ∧
       ¬ (Reach g o.id p ∧ (o.isParent = true → p ≠ o.id)) ∧
       ¬ ((∃ f ∈ fs, f ≠ o ∧ Reach g f.id p) ∧ p ∉ parentIds fs)) :=
  (otherTo_lookup g fs o).1 ⟨fun f hf _ => hfs f hf, ho⟩

theorem otherTo_err (g : PGraph Str) (fs : List Filter) (o : Filter)
    (h : g.hasNode o.id = false ∨ ∃ f ∈ fs, f ≠ o ∧ g.hasNode f.id = false) :
    otherTo g fs o = .error .lookupError :=
  (otherTo_lookup g fs o).2 fun hc => by
    rcases h with h | ⟨f, hf, hne, h⟩
    · simp [hc.2] at h
    · simp [hc.1 f hf hne] at h

theorem runQueries_ok_iff (g : PGraph Str) (b : Behavior) (ir : Bool) (subs objs : List Filter)
    (expl : Option ExplDeps) (other : Option OtherDeps) :
    runQueries g b ir subs objs = .ok (expl, other) ↔
    ((if (b.explReq || b.explForb) = true then
        ∃ e, getDependencies g (if ir = true then subs else objs) (if ir = true then objs else subs) = .ok e ∧ expl = some e
      else expl = none) ∧
     (if (b.otherReq || b.otherForb) = true then
        ∃ e, (if ir = true then getOtherFrom g subs objs else getOtherTo g objs subs) = .ok e ∧ other = some e
      else other = none)) := by
  -- not `cases ir <;> rfl`: the unifier compares the dead branches first and unfolds the queries
  have hO : (if ir = true then getOtherFrom g (if ir = true then subs else objs) (if ir = true then objs else subs)
      else getOtherTo g (if ir = true then subs else objs) (if ir = true then objs else subs)) =
      (if ir = true then getOtherFrom g subs objs else getOtherTo g objs subs) := by
    cases ir <;> simp only [Bool.false_eq_true, if_false, if_true]
  simp only [runQueries, optBind_ok_iff, hO]
  constructor
  · rintro ⟨v, h1, w, h2, h⟩
    obtain ⟨rfl, rfl⟩ := Prod.mk.inj (Except.ok.inj h)
    exact ⟨h1, h2⟩
  · rintro ⟨h1, h2⟩
    exact ⟨_, h1, _, h2, rfl⟩

theorem mem_impItems_realised (ir : Bool) {κ : Type} (deps : List (κ × List (Str × Str))) (u v : Str) (d : Bool)
    (h : Item.imp u v d ∈ impItems ir (realised ir deps)) : ∃ kd ∈ deps, (u, v) ∈ kd.2 := by
  unfold impItems realised at h
  simp only [List.mem_map, List.mem_flatMap] at h
  obtain ⟨dd, ⟨kd, hkd, p, hp, rfl⟩, hi⟩ := h
  refine ⟨kd, hkd, ?_⟩
  cases ir <;> simp [userOrder] at hi <;> obtain ⟨rfl, rfl, _⟩ := hi <;> exact hp

theorem imp_not_mem_missItems (a ir : Bool) (ds : List Dep) (u v : Str) (d : Bool) :
    Item.imp u v d ∉ missItems a ir ds := by
  unfold missItems; simp

theorem miss_not_mem_impItems (ir : Bool) (ds : List Dep) (a : Bool) (s : Mod) (os : List Mod) (d : Bool) :
    Item.miss a s os d ∉ impItems ir ds := by
  unfold impItems; simp

end Pta
