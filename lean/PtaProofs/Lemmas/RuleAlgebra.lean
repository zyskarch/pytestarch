/-
  PtaProofs.Lemmas.RuleAlgebra — lemmas behind the rule-algebra theorems of Props/C12.lean: duality (through the
  matcher), the two directions of negation, monotonicity under an added import edge.

  "`should` passes iff `should not` fails" is FALSE for a regex subject, which may expand to several modules
  (`Pta.C12.negation_counterexample_regex`, `negation_lemma_counterexample_except`). What holds is `negation_lemma_mp`
  (pass → fail, all filters) and `negation_lemma_mpr` (the converse for one subject module and one object module).
-/
import PtaProofs.Lemmas.Expansion
namespace Pta
open Pta.Alg

/-- without `except` the detector looks neither at the direction nor at the objects -/
theorem detect_any_plain (b : Behavior) (hb : b.exc = false) (d d' : Bool) (E : ExplDeps) (X : OtherDeps)
    (objs objs' : List Mod) :
    (detect b d (if (b.explReq || b.explForb) = true then some E else none)
      (if (b.otherReq || b.otherForb) = true then some X else none) objs).any =
    (detect b d' (if (b.explReq || b.explForb) = true then some E else none)
      (if (b.otherReq || b.otherForb) = true then some X else none) objs').any := by
  have h : b.otherReq = false := by simp [Behavior.otherReq, hb]
  have key : ∀ x y : Bool, (x = false ↔ y = false) → x = y := by decide
  apply key
  rw [any_answers, any_answers]
  simp only [realised_eq_nil, abstractWithout_eq_nil, h, Bool.false_eq_true, false_imp_iff]

theorem runQueries_dual (g : PGraph Str) (neg : Bool) (A' B' : List Filter) :
    runQueries g ⟨!neg, false, neg, false⟩ false B' A' = runQueries g ⟨!neg, false, neg, false⟩ true A' B' := by
  cases neg <;> simp [runQueries, Behavior.explReq, Behavior.explForb, Behavior.otherReq, Behavior.otherForb]

theorem matchRule_dual (mt : Str → Str → Bool) (g : PGraph Str) (A B : List Filter) (neg : Bool) :
    (matchRule mt g ⟨!neg, false, neg, false⟩ true A B).cls = (matchRule mt g ⟨!neg, false, neg, false⟩ false B A).cls := by
  unfold matchRule
  cases hA : convertFilters mt g.nodes A with
  | error k =>
    rw [convertFilters_error_kind _ _ _ _ hA]
    cases hB : convertFilters mt g.nodes B with
    | error k' => rw [convertFilters_error_kind _ _ _ _ hB]
    | ok B' => rfl
  | ok A' =>
    cases hB : convertFilters mt g.nodes B with
    | error k' => rfl
    | ok B' =>
      simp only [runQueries_dual]
      cases h : runQueries g ⟨!neg, false, neg, false⟩ true A' B' with
      | error k => rfl
      | ok p =>
        obtain ⟨-, rfl⟩ := (runQueries_iff ..).1 h
        simp only [answers,
          detect_any_plain ⟨!neg, false, neg, false⟩ rfl true false _ _ (B'.map Filter.toMod) (A'.map Filter.toMod)]
        -- not `rfl`: the unifier would first compare the two reports
        exact cls_ite_congr _ _ _

theorem duality_lemma (mt : Str → Str → Bool) (g : PGraph Str) (A B : List Filter) (neg : Bool) :
    verdictOf mt g (mkRule (!neg) false neg true false A B) = verdictOf mt g (mkRule (!neg) false neg false false B A) := by
  rw [verdictOf_mkRule, verdictOf_mkRule, matchRule_dual, Bool.or_right_comm]

/-- duality from either direction: swapping subjects and objects swaps `import` and `be imported by` -/
theorem duality_dir (mt : Str → Str → Bool) (g : PGraph Str) (A B : List Filter) (neg dir : Bool) :
    verdictOf mt g (mkRule (!neg) false neg dir false A B) = verdictOf mt g (mkRule (!neg) false neg (!dir) false B A) := by
  cases dir
  · exact (duality_lemma mt g B A neg).symm
  · exact duality_lemma mt g A B neg

/-- per subject, `should only` asks and demands what `should` and `should not` with the opposite `except` ask and demand
    together: the same two questions, one answer not empty, the other empty -/
theorem only_iff (g : PGraph Str) (e d : Bool) (O : List Filter) (s : Filter) :
    (Answered g ⟨false, true, false, e⟩ d O s ↔
      Answered g ⟨true, false, false, e⟩ d O s ∧ Answered g ⟨false, false, true, !e⟩ d O s) ∧
    (Holds g ⟨false, true, false, e⟩ d O s ↔ Holds g ⟨true, false, false, e⟩ d O s ∧ Holds g ⟨false, false, true, !e⟩ d O s) := by
  cases e <;>
    simp (config := {decide := true}) only [Answered, Holds, forall_const, false_implies, and_true, true_and]
  exact ⟨and_comm, and_comm⟩

theorem decomposition_pass (mt : Str → Str → Bool) (g : PGraph Str) (A B : List Filter) (dir exc : Bool) :
    verdictOf mt g (mkRule false true false dir exc A B) = .pass ↔
    (verdictOf mt g (mkRule true false false dir exc A B) = .pass ∧
     verdictOf mt g (mkRule false false true dir (!exc) A B) = .pass) := by
  have hc : ∀ e, (Behavior.mk false true false e).inconsistent = false ∧ (Behavior.mk true false false e).inconsistent = false ∧
      (Behavior.mk false false true e).inconsistent = false := by decide
  simp only [verdictOf_pass_iff, hc, only_iff, Bool.or_true, Bool.true_or, true_and]
  exact ⟨fun ⟨hA, hB, h1, h2, h⟩ => ⟨⟨hA, hB, h1, h2, fun s hs => ⟨(h s hs).1.1, (h s hs).2.1⟩⟩,
      hA, hB, h1, h2, fun s hs => ⟨(h s hs).1.2, (h s hs).2.2⟩⟩,
    fun ⟨⟨hA, hB, h1, h2, h⟩, _, _, _, _, h'⟩ => ⟨hA, hB, h1, h2, fun s hs => ⟨⟨(h s hs).1, (h' s hs).1⟩, (h s hs).2, (h' s hs).2⟩⟩⟩

/-- `should` and `should not` with the same `except` ask the same question — one per object without `except`, one per
    subject with it; `should` wants every answer not empty, `should not` empty -/
theorem verb_iff (g : PGraph Str) (e d : Bool) (O : List Filter) (s : Filter) :
    (Answered g ⟨false, false, true, e⟩ d O s ↔ Answered g ⟨true, false, false, e⟩ d O s) ∧
    (Holds g ⟨true, false, false, e⟩ d O s ↔
      if e = true then okD (otherQuery g d s O) ≠ [] else ∀ o ∈ O, okD (pairQuery g d s o) ≠ []) ∧
    (Holds g ⟨false, false, true, e⟩ d O s ↔
      if e = true then okD (otherQuery g d s O) = [] else ∀ o ∈ O, okD (pairQuery g d s o) = []) := by
  cases e <;>
    simp (config := {decide := true}) only [Answered, Holds, forall_const, false_implies, and_true, true_and, if_true, if_false]

theorem negation_lemma_mp (mt : Str → Str → Bool) (g : PGraph Str) (A B : List Filter) (dir exc : Bool) :
    verdictOf mt g (mkRule true false false dir exc A B) = .pass →
    verdictOf mt g (mkRule false false true dir exc A B) = .fail := by
  intro h
  obtain ⟨-, hA, hB, -, hS, hO, hok, hall⟩ := (verdictOf_ofBool_iff mt g true false false dir exc A B true).1 h
  obtain ⟨s0, hs0⟩ := List.exists_mem_of_ne_nil _ (expand_ne_nil mt g.nodes A hA hS)
  obtain ⟨o0, ho0⟩ := List.exists_mem_of_ne_nil _ (expand_ne_nil mt g.nodes B hB hO)
  have hq := fun s => verb_iff g exc dir (expand mt g.nodes B) s
  have h0 := (hq s0).2.1.1 (hall.2 rfl s0 hs0)
  refine (verdictOf_ofBool_iff mt g false false true dir exc A B false).2 ⟨rfl, hA, hB, by cases exc <;> rfl,
    hS, hO, fun s hs => (hq s).1.2 (hok s hs), fun hn => ?_, nofun⟩
  have h1 := (hq s0).2.2.1 (hn s0 hs0)
  cases exc
  · exact absurd (h1 o0 ho0) (h0 o0 ho0)
  · exact absurd h1 h0

theorem negation_lemma_mpr (mt : Str → Str → Bool) (g : PGraph Str) (s o : Filter) (dir exc : Bool)
    (hs : s.isRegex = false) (ho : o.isRegex = false) :
    verdictOf mt g (mkRule false false true dir exc [s] [o]) = .fail →
    verdictOf mt g (mkRule true false false dir exc [s] [o]) = .pass := by
  intro h
  have hs' := expand_of_noregex mt g.nodes (fs := [s]) fun f hf => List.mem_singleton.1 hf ▸ hs
  have ho' := expand_of_noregex mt g.nodes (fs := [o]) fun f hf => List.mem_singleton.1 hf ▸ ho
  obtain ⟨-, hA, hB, -, hS, hO, hok, hall⟩ := (verdictOf_ofBool_iff mt g false false true dir exc [s] [o] false).1 h
  rw [hs', ho'] at hok hall
  have hq := verb_iff g exc dir [o] s
  refine (verdictOf_ofBool_iff mt g true false false dir exc [s] [o] true).2 ?_
  rw [hs', ho']
  refine ⟨rfl, hA, hB, by cases exc <;> rfl, hS, hO, List.forall_mem_singleton.2 (hq.1.1 (hok s (by simp))), fun _ => rfl,
    fun _ => List.forall_mem_singleton.2 (hq.2.1.2 ?_)⟩
  -- one subject, one object: one answer, empty or not
  have hn : ¬ _ := fun h' => nomatch hall.1 (List.forall_mem_singleton.2 (hq.2.2.2 h'))
  cases exc
  · exact List.forall_mem_singleton.2 fun he => hn (List.forall_mem_singleton.2 he)
  · exact hn


/-- a regex subject expanding to `m1`, `m2`, of which only `m1` is among the objects' importers: `should … except` and
    `should not … except` both fail -/
theorem negation_lemma_counterexample_except :
    let g : PGraph Str := ⟨["m1".toList, "m2".toList, "q".toList], [⟨"m1".toList, "q".toList, false⟩]⟩
    let mt : Str → Str → Bool := fun _ m => m == "m1".toList || m == "m2".toList
    ¬ (verdictOf mt g (mkRule true false false true true [.regex "m.".toList] [.name "m1".toList]) = .pass ↔
       verdictOf mt g (mkRule false false true true true [.regex "m.".toList] [.name "m1".toList]) = .fail) := by
  decide

/-! Adding one import edge leaves the hierarchy searches unchanged and only enlarges the results of the three graph
    searches (errors are unchanged). -/

namespace Alg

theorem hierChildren_add (g : PGraph Str) (u v n : Str) :
    (addImportEdge g u v).hierChildren n = g.hierChildren n := by
  simp [addImportEdge, PGraph.hierChildren, List.filter_append]

theorem reach_add (g : PGraph Str) (u v a b : Str) : Reach (addImportEdge g u v) a b ↔ Reach g a b := by
  constructor <;> intro h <;> induction h with
  | refl => exact .refl _
  | step _ hc ih => exact .step ih (by simpa only [hierChildren_add] using hc)

theorem importSuccs_add (g : PGraph Str) (u v n : Str) :
    g.importSuccs n ⊆ (addImportEdge g u v).importSuccs n := by
  intro x hx
  simp only [addImportEdge, PGraph.importSuccs, List.filter_append, List.map_append, List.mem_append]
  exact .inl hx

theorem importPreds_add (g : PGraph Str) (u v n : Str) :
    g.importPreds n ⊆ (addImportEdge g u v).importPreds n := by
  intro x hx
  simp only [addImportEdge, PGraph.importPreds, List.filter_append, List.map_append, List.mem_append]
  exact .inl hx

theorem lookup_mono {β γ : Type} {x x' : Except ErrKind (List (β × γ))} {c : Prop} {Q Q' : β → γ → Prop}
    (hx : Lookup x c fun l => ∀ a b, (a, b) ∈ l ↔ Q a b) (hx' : Lookup x' c fun l => ∀ a b, (a, b) ∈ l ↔ Q' a b)
    (hQ : ∀ a b, Q a b → Q' a b) (l : List (β × γ)) (h : x = .ok l) : ∃ l', x' = .ok l' ∧ l ⊆ l' := by
  obtain ⟨hc, hm⟩ := hx.of_ok h
  obtain ⟨l', hl', hm'⟩ := hx'.1 hc
  exact ⟨l', hl', fun p hp => (hm' p.1 p.2).2 (hQ _ _ ((hm p.1 p.2).1 hp))⟩

theorem depBetween_add (g : PGraph Str) (u v : Str) (f o : Filter) (l : List (Str × Str))
    (h : depBetween g f o = .ok l) : ∃ l', depBetween (addImportEdge g u v) f o = .ok l' ∧ l ⊆ l' := by
  refine lookup_mono (depBetween_lookup g f o) (depBetween_lookup (addImportEdge g u v) f o) ?_ l h
  simp only [reach_add]
  exact fun a b ⟨h1, h2, h3⟩ => ⟨h1, importSuccs_add g u v a h2, h3⟩

theorem otherFrom_add (g : PGraph Str) (u v : Str) (f : Filter) (os : List Filter) (l : List (Str × Str))
    (h : otherFrom g f os = .ok l) : ∃ l', otherFrom (addImportEdge g u v) f os = .ok l' ∧ l ⊆ l' := by
  refine lookup_mono (otherFrom_lookup g f os) (otherFrom_lookup (addImportEdge g u v) f os) ?_ l h
  simp only [reach_add]
  exact fun a b ⟨h1, h2, h3, h4⟩ => ⟨h1, h2, importSuccs_add g u v a h3, h4⟩

theorem otherTo_add (g : PGraph Str) (u v : Str) (fs : List Filter) (o : Filter) (l : List (Str × Str))
    (h : otherTo g fs o = .ok l) : ∃ l', otherTo (addImportEdge g u v) fs o = .ok l' ∧ l ⊆ l' := by
  refine lookup_mono (otherTo_lookup g fs o) (otherTo_lookup (addImportEdge g u v) fs o) ?_ l h
  simp only [reach_add]
  exact fun a b ⟨h1, h2, h3, h4⟩ => ⟨h1, h2, importPreds_add g u v b h3, h4⟩

end Alg

theorem pairQuery_add (g : PGraph Str) (u v : Str) (d : Bool) (s o : Filter) (l : List (Str × Str))
    (h : pairQuery g d s o = .ok l) : ∃ l', pairQuery (addImportEdge g u v) d s o = .ok l' ∧ l ⊆ l' := by
  cases d
  · exact depBetween_add g u v o s l h
  · exact depBetween_add g u v s o l h

theorem otherQuery_add (g : PGraph Str) (u v : Str) (d : Bool) (O : List Filter) (s : Filter) (l : List (Str × Str))
    (h : otherQuery g d s O = .ok l) : ∃ l', otherQuery (addImportEdge g u v) d s O = .ok l' ∧ l ⊆ l' := by
  cases d
  · exact otherTo_add g u v _ s l h
  · exact otherFrom_add g u v s _ l h

/-! Adding an import edge leaves every question answered and only enlarges the answers: what is required stays there,
    and what is forbidden was absent before. -/

theorem okD_add {x x' : Except ErrKind (List (Str × Str))} (hadd : ∀ l, x = .ok l → ∃ l', x' = .ok l' ∧ l ⊆ l')
    (h : ∃ l, x = .ok l) : (∃ l', x' = .ok l') ∧ okD x ⊆ okD x' := by
  obtain ⟨l, rfl⟩ := h
  obtain ⟨l', rfl, hs⟩ := hadd l rfl
  exact ⟨⟨l', rfl⟩, hs⟩

theorem Answered_add (g : PGraph Str) (u v : Str) (b : Behavior) (d : Bool) (O : List Filter) (s : Filter)
    (h : Answered g b d O s) : Answered (addImportEdge g u v) b d O s :=
  ⟨fun c o ho => (okD_add (pairQuery_add g u v d s o) (h.1 c o ho)).1, fun c => (okD_add (otherQuery_add g u v d O s) (h.2 c)).1⟩

theorem ne_nil_of_subset {β : Type} (l l' : List β) (hs : l ⊆ l') (h : l ≠ []) : l' ≠ [] :=
  fun hn => h (List.eq_nil_of_subset_nil (hn ▸ hs))

theorem Holds_add (g : PGraph Str) (u v : Str) (b : Behavior) (d : Bool) (O : List Filter) (s : Filter)
    (hf : b.explForb = false) (hf' : b.otherForb = false) (ha : Answered g b d O s) (h : Holds g b d O s) :
    Holds (addImportEdge g u v) b d O s :=
  ⟨fun c o ho => ne_nil_of_subset _ _ (okD_add (pairQuery_add g u v d s o) (ha.1 (by rw [c]; rfl) o ho)).2 (h.1 c o ho),
    fun c => absurd (hf.symm.trans c) Bool.false_ne_true,
    fun c => ne_nil_of_subset _ _ (okD_add (otherQuery_add g u v d O s) (ha.2 (by rw [c]; rfl))).2 (h.2.2.1 c),
    fun c => absurd (hf'.symm.trans c) Bool.false_ne_true⟩

theorem Holds_of_add (g : PGraph Str) (u v : Str) (b : Behavior) (d : Bool) (O : List Filter) (s : Filter)
    (hr : b.explReq = false) (hr' : b.otherReq = false) (ha : Answered g b d O s)
    (h : Holds (addImportEdge g u v) b d O s) : Holds g b d O s :=
  ⟨fun c => absurd (hr.symm.trans c) Bool.false_ne_true,
    fun c o ho => List.eq_nil_of_subset_nil
      (h.2.1 c o ho ▸ (okD_add (pairQuery_add g u v d s o) (ha.1 (by rw [c]; exact Bool.or_true _) o ho)).2),
    fun c => absurd (hr'.symm.trans c) Bool.false_ne_true,
    fun c => List.eq_nil_of_subset_nil
      (h.2.2.2 c ▸ (okD_add (otherQuery_add g u v d O s) (ha.2 (by rw [c]; exact Bool.or_true _))).2)⟩

theorem monotone_should_add (mt : Str → Str → Bool) (g : PGraph Str) (u v : Str) (A B : List Filter) (dir exc : Bool) :
    verdictOf mt g (mkRule true false false dir exc A B) = .pass →
    verdictOf mt (addImportEdge g u v) (mkRule true false false dir exc A B) = .pass := by
  intro h
  obtain ⟨hv, hA, hB, hc, hS, hO, hall⟩ := (verdictOf_pass_iff mt g true false false dir exc A B).1 h
  exact (verdictOf_pass_iff mt _ true false false dir exc A B).2 ⟨hv, hA, hB, hc, hS, hO, fun s hs =>
    ⟨Answered_add g u v _ dir _ s (hall s hs).1, Holds_add g u v _ dir _ s rfl rfl (hall s hs).1 (hall s hs).2⟩⟩

theorem monotone_should_lemma (mt : Str → Str → Bool) (g : PGraph Str) (u v : Str) (A B : List Filter) (dir exc : Bool)
    (_hnew : g.hasEdge u v = false) :
    verdictOf mt g (mkRule true false false dir exc A B) = .pass →
    verdictOf mt (addImportEdge g u v) (mkRule true false false dir exc A B) = .pass :=
  monotone_should_add mt g u v A B dir exc

theorem monotone_should_not_add (mt : Str → Str → Bool) (g : PGraph Str) (u v : Str) (A B : List Filter) (dir exc : Bool) :
    verdictOf mt g (mkRule false false true dir exc A B) = .fail →
    verdictOf mt (addImportEdge g u v) (mkRule false false true dir exc A B) = .fail := by
  intro h
  obtain ⟨hv, hA, hB, hc, hS, hO, hok, hall⟩ := (verdictOf_ofBool_iff mt g false false true dir exc A B false).1 h
  exact (verdictOf_ofBool_iff mt _ false false true dir exc A B false).2 ⟨hv, hA, hB, hc, hS, hO,
    fun s hs => Answered_add g u v _ dir _ s (hok s hs),
    fun hn => hall.1 fun s hs => Holds_of_add g u v _ dir _ s rfl (Bool.and_false _) (hok s hs) (hn s hs), nofun⟩

theorem monotone_should_not_lemma (mt : Str → Str → Bool) (g : PGraph Str) (u v : Str) (A B : List Filter) (dir exc : Bool)
    (_hnew : g.hasEdge u v = false) :
    verdictOf mt g (mkRule false false true dir exc A B) = .fail →
    verdictOf mt (addImportEdge g u v) (mkRule false false true dir exc A B) = .fail :=
  monotone_should_not_add mt g u v A B dir exc

end Pta
