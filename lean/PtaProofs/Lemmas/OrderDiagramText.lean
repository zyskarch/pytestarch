/-
  PtaProofs.Lemmas.OrderDiagramText —
  the aggregated diagram message (property C15) under a change of the ORDER in which the parser lists modules, dictionary
  keys and dictionary values: the rules generated from two parse results with the same module set and the same dependency
  relation correspond one to one (`rules_text_perm`), each with literally the same message, because a message sorts the
  objects inside a `does not import` line; so the batch has the same messages and lines (`views_perm`; the class and the
  error are read off `findSome?_perm_uniform` (Lemmas/Str.lean) by `C15.same_outcome_of_perm`, Props/C15Text.lean).
-/
import Bridge.MessageAgg
import Bridge.OrderDefs
import PtaProofs.Lemmas.MessageAgg
import PtaProofs.Lemmas.OrderReport
import PtaProofs.Lemmas.OrderPumlText
import PtaProofs.Lemmas.DiagramE2E
import PtaProofs.Lemmas.C13More
namespace Pta.OrdDT
open Pta.Ord Pta.Dg Pta.E2E Pta.C07 -- `C07` for `DepsOK`

theorem views_perm (mt : Str → Str → Bool) (g : PGraph Str) (rs rs' : List RuleState)
    (hp : (rs.map (ruleText mt g)).Perm (rs'.map (ruleText mt g))) :
    (aggMessages mt g rs).Perm (aggMessages mt g rs') ∧ (aggLines mt g rs).Perm (aggLines mt g rs') := by
  rw [← Pta.Agg.filterMap_msg, ← Pta.Agg.filterMap_msg, Pta.Agg.aggLines_eq, Pta.Agg.aggLines_eq]
  exact ⟨hp.filterMap _, hp.flatMap_right _⟩

theorem text_mkD_sm (mt : Str → Str → Bool) (g : PGraph Str) (s : Str) (os os' : List Str) (v : RuleOp) (h : SM os os') :
    ruleText mt g (mkD s os v) = ruleText mt g (mkD s os' v) :=
  Pta.report_congr_lemma mt g g (graphEquiv_refl g) _ _
    ⟨SM.refl _, h.map Filter.name, SM.refl _, rfl, rfl, rfl, rfl, rfl, rfl⟩

theorem keys_sm (p q : Parsed') (hp : DepsOK p) (hd : ∀ x y, y ∈ p.depsOf x ↔ y ∈ q.depsOf x) (k : Str)
    (hk : k ∈ p.dependencies.map (·.1)) : k ∈ q.dependencies.map (·.1) := by
  obtain ⟨kv, hkv, rfl⟩ := List.mem_map.1 hk
  obtain ⟨kv', hkv', h1, _⟩ := entry_sim p q hp hd kv hkv
  exact List.mem_map.2 ⟨kv', hkv', h1⟩

theorem deps_map_keys {β : Type} (p : Parsed') (hp : DepsOK p) (F : Str → List Str → β) :
    p.dependencies.map (fun kv => F kv.1 kv.2) = (p.dependencies.map (·.1)).map fun k => F k (p.depsOf k) := by
  rw [List.map_map]
  apply List.map_congr_left
  intro kv hkv
  show F kv.1 kv.2 = F kv.1 (p.depsOf kv.1)
  rw [depsOf_of_mem p hp.1 kv hkv]

/-- the `should` rules follow the key order of the dictionary, hence a permutation; the `should not` rules come in the
    same, sorted, order, with literally the same messages -/
theorem rules_text_perm (mt : Str → Str → Bool) (g : PGraph Str) (so : Bool) (p q : Parsed') (hp : DepsOK p) (hq : DepsOK q)
    (hm : ∀ x, x ∈ p.modules ↔ x ∈ q.modules) (hd : ∀ x y, y ∈ p.depsOf x ↔ y ∈ q.depsOf x) :
    ((diagramRules so p).map (ruleText mt g)).Perm ((diagramRules so q).map (ruleText mt g)) := by
  rw [diagramRules_eq, diagramRules_eq, List.map_append, List.map_append]
  apply List.Perm.append
  · rw [List.map_map, List.map_map]
    have e1 := deps_map_keys p hp (fun k vs => ruleText mt g (mkD k vs (shouldVerb so)))
    have e2 := deps_map_keys q hq (fun k vs => ruleText mt g (mkD k vs (shouldVerb so)))
    simp only [Function.comp_def]
    rw [e1, e2]
    have hk : (p.dependencies.map (·.1)).Perm (q.dependencies.map (·.1)) := by
      rw [List.perm_ext_iff_of_nodup hp.1 hq.1]
      exact fun k => ⟨keys_sm p q hp hd k, keys_sm q p hq (fun x y => (hd x y).symm) k⟩
    have hc : ((p.dependencies.map (·.1)).map fun k => ruleText mt g (mkD k (p.depsOf k) (shouldVerb so))) =
        (p.dependencies.map (·.1)).map fun k => ruleText mt g (mkD k (q.depsOf k) (shouldVerb so)) := by
      apply List.map_congr_left
      intro k _
      exact text_mkD_sm mt g k _ _ _ (fun y => hd k y)
    rw [hc]
    exact hk.map _
  · have hmods : sortStr (dedup p.modules) = sortStr (dedup q.modules) := Pta.canon_ext _ _ hm
    rw [hmods, List.map_filterMap, List.map_filterMap]
    have : ∀ m, Option.map (ruleText mt g) (shouldNotOf p m) = Option.map (ruleText mt g) (shouldNotOf q m) := by
      intro m
      have hN := notImportedOf_sim p q hm hd m
      unfold shouldNotOf
      rw [Ord.isEmpty_congr hN.nil_iff]
      split
      · rfl
      · simp only [Option.map_some, Option.some.injEq]
        exact text_mkD_sm mt g m _ _ _ (sm_sortStr hN)
    simp only [this]
    exact List.Perm.refl _

/-- non-empty dictionary values (`hp.2`) rule out the configuration error; what remains is the lookup of a module of the
    diagram (with the base module prefixed) that is not a module of the architecture -/
theorem generated_rule_err (mt : Str → Str → Bool) (g : PGraph Str) (so : Bool) (p : Parsed') (hp : DepsOK p)
    (r : RuleState) (hr : r ∈ diagramRules so p) (k : ErrKind) (h : ruleText mt g r = .err k) : k = .lookupError := by
  obtain ⟨s, os, v, rfl, hv, ho⟩ := Pta.C13M.diagramRules_shape so p hp.2 r hr
  have e : (ruleVerdict mt g (mkD s os v)).errKind = some k := by
    rw [← Pta.Agg.toText_errKind, ← Pta.Agg.ruleText_eq, h]; rfl
  exact ((Pta.C13M.mkD_err_iff mt g s os v hv ho k).1 (errKind_eq_some.1 e)).1

theorem applyAllText_err_kind (mt : Str → Str → Bool) (g : PGraph Str) (so : Bool) (p : Parsed') (hp : DepsOK p)
    (k : ErrKind) (h : applyAllText mt g (diagramRules so p) = .err k) : k = .lookupError := by
  obtain ⟨pre, r, post, e, _, hr⟩ := (Pta.Agg.applyAllText_err_iff mt g _ k).1 h
  exact generated_rule_err mt g so p hp r (by rw [e]; simp) k hr

theorem depsOK_of_unify {ms : List PModule} {ds : List (Str × Str)} {p : Parsed'} (h : pumlUnify ms ds = .ok p) : DepsOK p := by
  unfold pumlUnify at h
  split at h
  · cases h; exact .of_dictOK (Pta.pumlAgg_spec ms ds).1
  · cases h

theorem linesText_parse (n1 n2 : Str) (lines lines' : List Str) (hperm : lines.Perm lines')
    (hl : ∀ l ∈ lines, '\n' ∉ l ∧ '@' ∉ l) (hn : isInfix "@enduml".toList n2 = false) :
    (pumlParse (linesText n1 lines n2) = .error .pumlParsingError ∧
      pumlParse (linesText n1 lines' n2) = .error .pumlParsingError) ∨
    ∃ p q, pumlParse (linesText n1 lines n2) = .ok p ∧ pumlParse (linesText n1 lines' n2) = .ok q ∧
      DepsOK p ∧ DepsOK q ∧ (∀ x, x ∈ p.modules ↔ x ∈ q.modules) ∧ (∀ x y, y ∈ p.depsOf x ↔ y ∈ q.depsOf x) := by
  rw [Pta.OrdT.parse_linesText n1 n2 lines hl hn,
    Pta.OrdT.parse_linesText n1 n2 lines' (fun l h => hl l (hperm.mem_iff.2 h)) hn]
  have h := OrdD.unify_perm _ _ _ _ (hperm.flatMap_right lineModules) (hperm.filterMap lineDependency)
  cases hp : pumlUnify (lines.flatMap lineModules) (lines.filterMap lineDependency) <;>
    cases hq : pumlUnify (lines'.flatMap lineModules) (lines'.filterMap lineDependency) <;> rw [hp, hq] at h
  · exact .inl ⟨congrArg _ h.1, congrArg _ h.2⟩
  · exact h.elim
  · exact h.elim
  · have op := depsOK_of_unify hp
    have oq := depsOK_of_unify hq
    exact .inr ⟨_, _, rfl, rfl, op, oq, h.1, fun x y => by
      rw [← hasDep_iff_depsOf _ op.1, ← hasDep_iff_depsOf _ oq.1, h.2 x y]⟩

end Pta.OrdDT
