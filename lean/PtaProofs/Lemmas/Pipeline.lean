/-
  PtaProofs.Lemmas.Pipeline — one normal form for the four `assert_applies` of the model (`assertApplies`,
  `assertAppliesText`, `assertAppliesLayer`, `assertAppliesLayerText`) and their matchers.

  All four run the same front end (`front`: the checks on the configuration, `_convert_aliases`, the conversion of both
  filter lists, the queries) and differ only in what they do with its result (`Front.outcome`): which detector finds the
  violations, and how a non-empty set of violations is reported. A fact about `assert_applies` is proved once for
  `front` and once per detector / report; the `_front` / `_queries` equations below carry it to the model's definitions.
  The checks that read the configuration alone are also given in the builder's fields (`Hist.neOpt`, `Hist.preFail_eq`).
-/
import Bridge.Message
import PtaProofs.Lemmas.ExceptList
import PtaProofs.Lemmas.DroppedAbsent
namespace Pta

/-- What `Rule.assert_applies` and `LayerRule.assert_applies` check on the converted configuration before they match:
    the error raised, or the import direction, the subjects and the objects. -/
def gate (g : PGraph Str) (c : RuleConfig) : Except ErrKind (Bool × List Filter × List Filter) :=
  if configMissing c then .error .improperlyConfigured
  else if droppedAbsent g c then .error .lookupError
  else if c.behavior.inconsistent then .error .ruleInconsistency
  else
    match c.importDir, c.subjects, c.objects with
    | some d, some ss, some os => .ok (d, ss, os)
    | _, _, _ => .error .improperlyConfigured

/-- what every matcher knows when its detector starts: the behaviour flags, the direction, the filters as configured
    (`ss`, `os`: the layer mapping expands the regexes among them), the converted objects and the query results -/
structure Front where
  b : Behavior
  dir : Bool
  ss : List Filter
  os : List Filter
  objs : List Filter
  expl : Option ExplDeps
  other : Option OtherDeps

/-- the part the four matchers share: both conversions, then the queries -/
def queries (mt : Str → Str → Bool) (g : PGraph Str) (b : Behavior) (d : Bool) (ss os : List Filter) :
    Except ErrKind Front := do
  let subs ← convertFilters mt g.nodes ss
  let objs ← convertFilters mt g.nodes os
  let q ← runQueries g b d subs objs
  pure ⟨b, d, ss, os, objs, q.1, q.2⟩

/-- the part the four `assert_applies` share -/
def front (mt : Str → Str → Bool) (g : PGraph Str) (c : RuleConfig) : Except ErrKind Front :=
  if anythingMisused c then .error .improperlyConfigured
  else do
    let t ← gate g (convertAliases c)
    queries mt g (convertAliases c).behavior t.1 t.2.1 t.2.2

namespace Front

/-- `none`: the rule holds; `some r`: it is violated, with report `r` -/
def outcome {β : Type} (viol : Front → Except ErrKind Violations) (report : Front → Violations → Except ErrKind β)
    (x : Front) : Except ErrKind (Option β) := do
  let v ← viol x
  if v.any then (report x v).map some else pure none

def violations (x : Front) : Except ErrKind Violations :=
  pure (detect x.b x.dir x.expl x.other (x.objs.map Filter.toMod))

def items (x : Front) (v : Violations) : Except ErrKind (List Item) := pure (reportItems x.dir v)

def lines (x : Front) (v : Violations) : Except ErrKind (List Str) := pure (messageLines x.dir v)

/-- `LayerRuleMatcher._update_layer_mapping` for this rule -/
def layerMap (mt : Str → Str → Bool) (g : PGraph Str) (a : LArch) (x : Front) : LayerMap :=
  updateLayerMap mt g.nodes a (((x.ss ++ x.os).filter (·.isRegex)).map (·.id))

def violationsL (mt : Str → Str → Bool) (g : PGraph Str) (a : LArch) (x : Front) : Except ErrKind Violations :=
  if !(x.layerMap mt g a).consistent then .error .layerMismatch
  else detectL (x.layerMap mt g a) x.b x.dir x.expl x.other (x.objs.map Filter.toMod)

def itemsL (mt : Str → Str → Bool) (g : PGraph Str) (a : LArch) (x : Front) (v : Violations) :
    Except ErrKind (List LItem) := reportItemsL (x.layerMap mt g a) x.dir v

def linesL (mt : Str → Str → Bool) (g : PGraph Str) (a : LArch) (x : Front) (v : Violations) :
    Except ErrKind (List Str) := messageLinesL (x.layerMap mt g a) x.dir v

theorem bind_outcome_map {β γ : Type} {viol : Front → Except ErrKind Violations} {report : Front → Violations → Except ErrKind β}
    {report' : Front → Violations → Except ErrKind γ} {f : β → γ} (h : ∀ x v, report' x v = (report x v).map f)
    (x : Except ErrKind Front) : (x >>= outcome viol report') = (x >>= outcome viol report).map (Option.map f) := by
  cases x with
  | error k => rfl
  | ok x =>
    show outcome viol report' x = (outcome viol report x).map (Option.map f)
    unfold outcome
    cases viol x with
    | error k => rfl
    | ok v =>
      show (if v.any then _ else _) = Except.map _ (if v.any then _ else _)
      cases v.any
      · rfl
      · rw [if_pos rfl, if_pos rfl, h]
        cases report x v <;> rfl

end Front

def Verdict.ofRes : Except ErrKind (Option (List Item)) → Verdict
  | .error k => .err k
  | .ok none => .pass
  | .ok (some items) => .fail items

def LVerdict.ofRes : Except ErrKind (Option (List LItem)) → LVerdict
  | .error k => .err k
  | .ok none => .pass
  | .ok (some items) => .fail items

def TextVerdict.ofRes : Except ErrKind (Option (List Str)) → TextVerdict
  | .error k => .err k
  | .ok none => .pass
  | .ok (some lines) => .fail lines

theorem Verdict.toText_ofRes (r : Except ErrKind (Option (List Item))) :
    (Verdict.ofRes r).toText = TextVerdict.ofRes (r.map (Option.map renderItems)) := by
  rcases r with _ | _ | _ <;> rfl

theorem LVerdict.toText_ofRes (r : Except ErrKind (Option (List LItem))) :
    (LVerdict.ofRes r).toText = TextVerdict.ofRes (r.map (Option.map renderLItems)) := by
  rcases r with _ | _ | _ <;> rfl

section
variable (mt : Str → Str → Bool) (g : PGraph Str)

/-- the three `match`es every matcher starts with -/
private theorem match_eq {ω β : Type} (ofRes : Except ErrKind (Option β) → ω) (err : ErrKind → ω)
    (herr : ∀ k, ofRes (.error k) = err k) (b : Behavior) (d : Bool) (ss os : List Filter)
    (tail : List Filter → Option ExplDeps → Option OtherDeps → ω) (k : Front → Except ErrKind (Option β))
    (h : ∀ objs expl other, tail objs expl other = ofRes (k ⟨b, d, ss, os, objs, expl, other⟩)) :
    (match convertFilters mt g.nodes ss with
      | .error e => err e
      | .ok subs =>
        match convertFilters mt g.nodes os with
        | .error e => err e
        | .ok objs =>
          match runQueries g b d subs objs with
          | .error e => err e
          | .ok (expl, other) => tail objs expl other) = ofRes (queries mt g b d ss os >>= k) := by
  unfold queries
  cases convertFilters mt g.nodes ss with
  | error e => exact (herr e).symm
  | ok subs =>
    dsimp only [bind, Except.bind]
    cases convertFilters mt g.nodes os with
    | error e => exact (herr e).symm
    | ok objs =>
      dsimp only
      cases runQueries g b d subs objs with
      | error e => exact (herr e).symm
      | ok q => exact h objs q.1 q.2

theorem matchRule_queries (b : Behavior) (d : Bool) (ss os : List Filter) :
    matchRule mt g b d ss os = .ofRes (queries mt g b d ss os >>= Front.outcome Front.violations Front.items) := by
  unfold matchRule
  refine match_eq mt g Verdict.ofRes .err (fun _ => rfl) b d ss os _ _ fun objs expl other => ?_
  show (if _ then _ else _) = Verdict.ofRes (if _ then _ else _)
  cases (detect b d expl other (objs.map Filter.toMod)).any <;> rfl

theorem matchRuleText_queries (b : Behavior) (d : Bool) (ss os : List Filter) :
    matchRuleText mt g b d ss os = .ofRes (queries mt g b d ss os >>= Front.outcome Front.violations Front.lines) := by
  unfold matchRuleText
  refine match_eq mt g TextVerdict.ofRes .err (fun _ => rfl) b d ss os _ _ fun objs expl other => ?_
  show (if _ then _ else _) = TextVerdict.ofRes (if _ then _ else _)
  cases (detect b d expl other (objs.map Filter.toMod)).any <;> rfl

/-- what a layer matcher does with the query results; `fin` is its last `match`, on the report -/
private theorem layer_tail {ω β : Type} (ofRes : Except ErrKind (Option β) → ω) (pass : ω) (err : ErrKind → ω)
    (fin : Except ErrKind β → ω) (herr : ∀ k, ofRes (.error k) = err k) (hpass : ofRes (.ok none) = pass)
    (hfin : ∀ r, fin r = ofRes (r.map some)) (consistent : Bool) (viol : Except ErrKind Violations)
    (report : Violations → Except ErrKind β) :
    (if !consistent then err .layerMismatch else
      match viol with
      | .error k => err k
      | .ok v => if v.any then fin (report v) else pass) =
      ofRes ((if !consistent then .error .layerMismatch else viol) >>= fun v =>
        if v.any then (report v).map some else pure none) := by
  cases consistent
  · exact (herr _).symm
  · cases viol with
    | error k => exact (herr k).symm
    | ok v =>
      show (if v.any then _ else pass) = ofRes (if v.any then _ else _)
      cases v.any
      · exact hpass.symm
      · exact hfin _

theorem matchLayerRule_queries (a : LArch) (b : Behavior) (d : Bool) (ss os : List Filter) :
    matchLayerRule mt g a b d ss os =
      .ofRes (queries mt g b d ss os >>= Front.outcome (Front.violationsL mt g a) (Front.itemsL mt g a)) := by
  unfold matchLayerRule
  exact match_eq mt g LVerdict.ofRes .err (fun _ => rfl) b d ss os _ _ fun _ _ _ =>
    layer_tail LVerdict.ofRes .pass .err (fun r => match r with | .error k => .err k | .ok items => .fail items)
      (fun _ => rfl) rfl (fun r => by cases r <;> rfl) _ _ _

theorem matchLayerRuleText_queries (a : LArch) (b : Behavior) (d : Bool) (ss os : List Filter) :
    matchLayerRuleText mt g a b d ss os =
      .ofRes (queries mt g b d ss os >>= Front.outcome (Front.violationsL mt g a) (Front.linesL mt g a)) := by
  unfold matchLayerRuleText
  exact match_eq mt g TextVerdict.ofRes .err (fun _ => rfl) b d ss os _ _ fun _ _ _ =>
    layer_tail TextVerdict.ofRes .pass .err (fun r => match r with | .error k => .err k | .ok lines => .fail lines)
      (fun _ => rfl) rfl (fun r => by cases r <;> rfl) _ _ _

/-- the checks every `assert_applies` starts with; `e0` is what the first of them returns -/
private theorem checks_eq {ω β : Type} (ofRes : Except ErrKind (Option β) → ω) (err : ErrKind → ω)
    (herr : ∀ k, ofRes (.error k) = err k) (c0 : RuleConfig) (e0 : ω)
    (m : Behavior → Bool → List Filter → List Filter → ω) (k : Front → Except ErrKind (Option β))
    (h : ∀ b d ss os, m b d ss os = ofRes (queries mt g b d ss os >>= k)) :
    (if anythingMisused c0 then e0
     else
       if configMissing (convertAliases c0) then err .improperlyConfigured
       else if droppedAbsent g (convertAliases c0) then err .lookupError
       else if (convertAliases c0).behavior.inconsistent then err .ruleInconsistency
       else
         match (convertAliases c0).importDir, (convertAliases c0).subjects, (convertAliases c0).objects with
         | some d, some ss, some os => m (convertAliases c0).behavior d ss os
         | _, _, _ => err .improperlyConfigured) =
      if anythingMisused c0 then e0 else ofRes (front mt g c0 >>= k) := by
  unfold front gate
  cases anythingMisused c0
  · simp only [Bool.false_eq_true, if_false]
    generalize convertAliases c0 = c
    cases configMissing c
    · cases droppedAbsent g c
      · cases c.behavior.inconsistent
        · obtain ⟨subjects, objects, _, _, _, _, dir, _, _⟩ := c
          cases dir <;> cases subjects <;> cases objects <;> first | exact (herr _).symm | exact h _ _ _ _
        · exact (herr _).symm
      · exact (herr _).symm
    · exact (herr _).symm
  · rfl

theorem assertApplies_front (s : RuleState) :
    assertApplies mt s g = (if anythingMisused s.cfg then s else { s with cfg := convertAliases s.cfg },
      .ofRes (front mt g s.cfg >>= Front.outcome Front.violations Front.items)) := by
  unfold assertApplies
  refine (checks_eq mt g (fun r => ({ s with cfg := convertAliases s.cfg }, Verdict.ofRes r)) (fun k => (_, .err k))
    (fun _ => rfl) s.cfg (s, .err .improperlyConfigured) (fun b d ss os => (_, matchRule mt g b d ss os)) _
    fun b d ss os => congrArg _ (matchRule_queries mt g b d ss os)).trans ?_
  unfold front
  cases anythingMisused s.cfg <;> rfl

theorem assertAppliesText_front (s : RuleState) :
    assertAppliesText mt s g = (if anythingMisused s.cfg then s else { s with cfg := convertAliases s.cfg },
      .ofRes (front mt g s.cfg >>= Front.outcome Front.violations Front.lines)) := by
  unfold assertAppliesText
  refine (checks_eq mt g (fun r => ({ s with cfg := convertAliases s.cfg }, TextVerdict.ofRes r)) (fun k => (_, .err k))
    (fun _ => rfl) s.cfg (s, .err .improperlyConfigured) (fun b d ss os => (_, matchRuleText mt g b d ss os)) _
    fun b d ss os => congrArg _ (matchRuleText_queries mt g b d ss os)).trans ?_
  unfold front
  cases anythingMisused s.cfg <;> rfl

theorem assertAppliesLayer_front (a : LArch) (r : RuleState) :
    assertAppliesLayer mt ⟨some a, some r⟩ g =
      .ofRes (front mt g r.cfg >>= Front.outcome (Front.violationsL mt g a) (Front.itemsL mt g a)) := by
  unfold assertAppliesLayer
  refine (checks_eq mt g LVerdict.ofRes .err (fun _ => rfl) r.cfg (.err .improperlyConfigured)
    (matchLayerRule mt g a) _ (matchLayerRule_queries mt g a)).trans ?_
  unfold front
  cases anythingMisused r.cfg <;> rfl

theorem assertAppliesLayerText_front (a : LArch) (r : RuleState) :
    assertAppliesLayerText mt ⟨some a, some r⟩ g =
      .ofRes (front mt g r.cfg >>= Front.outcome (Front.violationsL mt g a) (Front.linesL mt g a)) := by
  unfold assertAppliesLayerText
  refine (checks_eq mt g TextVerdict.ofRes .err (fun _ => rfl) r.cfg (.err .improperlyConfigured)
    (matchLayerRuleText mt g a) _ (matchLayerRuleText_queries mt g a)).trans ?_
  unfold front
  cases anythingMisused r.cfg <;> rfl

end

theorem Verdict.ofRes_err_iff {r : Except ErrKind (Option (List Item))} {k : ErrKind} :
    Verdict.ofRes r = .err k ↔ r = .error k := by
  rcases r with _ | _ | _ <;> simp [Verdict.ofRes]

theorem Verdict.ofRes_fail_iff {r : Except ErrKind (Option (List Item))} {items : List Item} :
    Verdict.ofRes r = .fail items ↔ r = .ok (some items) := by
  rcases r with _ | _ | _ <;> simp [Verdict.ofRes]

theorem LVerdict.ofRes_err_iff {r : Except ErrKind (Option (List LItem))} {k : ErrKind} :
    LVerdict.ofRes r = .err k ↔ r = .error k := by
  rcases r with _ | _ | _ <;> simp [LVerdict.ofRes]

theorem Front.outcome_plain (x : Front) :
    Front.outcome Front.violations Front.items x =
      .ok (if (detect x.b x.dir x.expl x.other (x.objs.map Filter.toMod)).any then
        some (reportItems x.dir (detect x.b x.dir x.expl x.other (x.objs.map Filter.toMod))) else none) := by
  show (if _ then _ else _) = _
  cases (detect x.b x.dir x.expl x.other (x.objs.map Filter.toMod)).any <;> rfl

section
variable (mt : Str → Str → Bool) (g : PGraph Str)

theorem queries_ok_iff (b : Behavior) (d : Bool) (ss os : List Filter) (x : Front) :
    queries mt g b d ss os = .ok x ↔ ∃ subs objs expl other, convertFilters mt g.nodes ss = .ok subs ∧
      convertFilters mt g.nodes os = .ok objs ∧ runQueries g b d subs objs = .ok (expl, other) ∧
      x = ⟨b, d, ss, os, objs, expl, other⟩ := by
  unfold queries
  simp only [bind_ok_iff]
  constructor
  · rintro ⟨subs, h1, objs, h2, q, h3, h⟩
    exact ⟨subs, objs, q.1, q.2, h1, h2, h3, (Except.ok.inj h).symm⟩
  · rintro ⟨subs, objs, expl, other, h1, h2, h3, rfl⟩
    exact ⟨subs, h1, objs, h2, _, h3, rfl⟩

theorem queries_error_iff (b : Behavior) (d : Bool) (ss os : List Filter) (k : ErrKind) :
    queries mt g b d ss os = .error k ↔
      convertFilters mt g.nodes ss = .error k ∨
      (∃ subs, convertFilters mt g.nodes ss = .ok subs ∧ convertFilters mt g.nodes os = .error k) ∨
      (∃ subs objs, convertFilters mt g.nodes ss = .ok subs ∧ convertFilters mt g.nodes os = .ok objs ∧
        runQueries g b d subs objs = .error k) := by
  unfold queries
  cases convertFilters mt g.nodes ss with
  | error e => simp [bind, Except.bind]
  | ok subs =>
    dsimp only [bind, Except.bind]
    cases convertFilters mt g.nodes os with
    | error e => simp
    | ok objs =>
      dsimp only
      cases h : runQueries g b d subs objs <;> simp [pure, Except.pure, h]

/-- a complete configuration has a direction, subjects and objects: the last `match` of `gate` succeeds -/
theorem configMissing_false {c : RuleConfig} (h : configMissing c = false) :
    ∃ d ss os, c.importDir = some d ∧ c.subjects = some ss ∧ c.objects = some os := by
  obtain ⟨subjects, objects, _, _, _, _, dir, _, _⟩ := c
  cases dir <;> cases subjects <;> cases objects <;> simp [configMissing] at h ⊢

theorem gate_error_iff (c : RuleConfig) (k : ErrKind) :
    gate g c = .error k ↔
      if configMissing c then k = .improperlyConfigured
      else if droppedAbsent g c then k = .lookupError
      else c.behavior.inconsistent = true ∧ k = .ruleInconsistency := by
  unfold gate
  cases hm : configMissing c
  · obtain ⟨d, ss, os, h1, h2, h3⟩ := configMissing_false hm
    cases droppedAbsent g c <;> cases c.behavior.inconsistent <;> simp [h1, h2, h3, eq_comm]
  · simp [eq_comm]

theorem gate_ok_iff (c : RuleConfig) (d : Bool) (ss os : List Filter) :
    gate g c = .ok (d, ss, os) ↔ configMissing c = false ∧ droppedAbsent g c = false ∧ c.behavior.inconsistent = false ∧
      c.importDir = some d ∧ c.subjects = some ss ∧ c.objects = some os := by
  unfold gate
  cases hm : configMissing c
  · obtain ⟨d', ss', os', h1, h2, h3⟩ := configMissing_false hm
    cases droppedAbsent g c <;> cases c.behavior.inconsistent <;> simp [h1, h2, h3]
  · simp

variable {mt g}

theorem front_of_gate_error {c : RuleConfig} {k : ErrKind} (h0 : anythingMisused c = false)
    (h : gate g (convertAliases c) = .error k) : front mt g c = .error k := by
  unfold front
  rw [h0, h]
  rfl

theorem front_of_gate {c : RuleConfig} {d : Bool} {ss os : List Filter} (h0 : anythingMisused c = false)
    (h : gate g (convertAliases c) = .ok (d, ss, os)) : front mt g c = queries mt g (convertAliases c).behavior d ss os := by
  unfold front
  rw [h0, h]
  rfl

variable (mt g)

theorem front_cases (c : RuleConfig) :
    (anythingMisused c = true ∧ front mt g c = .error .improperlyConfigured) ∨
    (anythingMisused c = false ∧ ∃ k, gate g (convertAliases c) = .error k ∧ front mt g c = .error k) ∨
    (anythingMisused c = false ∧ ∃ d ss os,
      (configMissing (convertAliases c) = false ∧ droppedAbsent g (convertAliases c) = false ∧
        (convertAliases c).behavior.inconsistent = false ∧ (convertAliases c).importDir = some d ∧
        (convertAliases c).subjects = some ss ∧ (convertAliases c).objects = some os) ∧
      front mt g c = queries mt g (convertAliases c).behavior d ss os) := by
  cases h0 : anythingMisused c
  · cases h : gate g (convertAliases c) with
    | error k => exact .inr (.inl ⟨rfl, k, rfl, front_of_gate_error h0 h⟩)
    | ok t => exact .inr (.inr ⟨rfl, t.1, t.2.1, t.2.2, (gate_ok_iff g _ t.1 t.2.1 t.2.2).1 h, front_of_gate h0 h⟩)
  · exact .inl ⟨rfl, if_pos h0⟩

/-! an error of the front end is the error of `assert_applies`, module or layer; the module variants raise no other -/

theorem matchRule_err_iff_queries (b : Behavior) (d : Bool) (ss os : List Filter) (k : ErrKind) :
    matchRule mt g b d ss os = .err k ↔ queries mt g b d ss os = .error k := by
  rw [matchRule_queries, Verdict.ofRes_err_iff, bind_error_iff_left fun x _ h => by rw [Front.outcome_plain] at h; cases h]

theorem assertApplies_err_iff_front (s : RuleState) (k : ErrKind) :
    (assertApplies mt s g).2 = .err k ↔ front mt g s.cfg = .error k := by
  rw [assertApplies_front, Verdict.ofRes_err_iff, bind_error_iff_left fun x _ h => by rw [Front.outcome_plain] at h; cases h]

theorem assertAppliesLayer_err_of_front (a : LArch) {r : RuleState} {k : ErrKind} (h : front mt g r.cfg = .error k) :
    assertAppliesLayer mt ⟨some a, some r⟩ g = .err k := by
  rw [assertAppliesLayer_front, h]
  rfl

end

section
variable {mt : Str → Str → Bool} {g : PGraph Str}

theorem queries_of_conv {b : Behavior} {d : Bool} {ss os subs objs : List Filter}
    (hs : convertFilters mt g.nodes ss = .ok subs) (ho : convertFilters mt g.nodes os = .ok objs) :
    queries mt g b d ss os = (runQueries g b d subs objs).map fun q => ⟨b, d, ss, os, objs, q.1, q.2⟩ := by
  unfold queries
  rw [hs, ho]
  show (runQueries g b d subs objs >>= _) = _
  cases runQueries g b d subs objs <;> rfl

theorem assertApplies_of_front {s : RuleState} {b : Behavior} {d : Bool} {ss os : List Filter}
    (h : front mt g s.cfg = queries mt g b d ss os) : (assertApplies mt s g).2 = matchRule mt g b d ss os := by
  rw [assertApplies_front, matchRule_queries, h]

theorem assertAppliesLayer_of_front {a : LArch} {r : RuleState} {b : Behavior} {d : Bool} {ss os : List Filter}
    (h : front mt g r.cfg = queries mt g b d ss os) :
    assertAppliesLayer mt ⟨some a, some r⟩ g = matchLayerRule mt g a b d ss os := by
  rw [assertAppliesLayer_front, matchLayerRule_queries, h]

end

theorem matchRule_of_ok {mt : Str → Str → Bool} {g : PGraph Str} {b : Behavior} {d : Bool} {ss os subs objs : List Filter}
    {expl : Option ExplDeps} {other : Option OtherDeps} (hs : convertFilters mt g.nodes ss = .ok subs)
    (ho : convertFilters mt g.nodes os = .ok objs) (hq : runQueries g b d subs objs = .ok (expl, other)) :
    matchRule mt g b d ss os =
      if (detect b d expl other (objs.map Filter.toMod)).any then
        .fail (reportItems d (detect b d expl other (objs.map Filter.toMod)))
      else .pass := by
  rw [matchRule_queries, queries_of_conv hs ho, hq]
  show Verdict.ofRes (Front.outcome Front.violations Front.items ⟨b, d, ss, os, objs, expl, other⟩) = _
  rw [Front.outcome_plain]
  cases (detect b d expl other (objs.map Filter.toMod)).any <;> rfl

/-! the checks that read the configuration alone, in the builder's fields -/

namespace Hist

def neOpt : Option (List Filter) → Bool
  | some l => !l.isEmpty
  | none => false

theorem neOpt_map_dedup (o : Option (List Filter)) : neOpt (o.map dedupSubjects) = neOpt o := by
  cases o with
  | none => rfl
  | some l =>
    cases l with
    | nil => rfl
    | cons x xs =>
      have := dedupSubjects_ne_nil (x :: xs) (by simp)
      simp only [Option.map, neOpt]
      cases hd : dedupSubjects (x :: xs) with
      | nil => exact absurd hd this
      | cons _ _ => rfl

theorem configMissing_eq (c : RuleConfig) :
    configMissing c =
      !(neOpt c.subjects && (c.should || c.shouldOnly || c.shouldNot) && c.importDir.isSome && neOpt c.objects) := by
  unfold configMissing neOpt
  cases c.subjects <;> cases c.objects <;> cases c.importDir <;>
    simp [Bool.not_and, Bool.or_assoc, Bool.or_comm, Bool.or_left_comm]

/-- `_validate` does not look at `except`: a rule is inconsistent iff `should_not` meets `should` or `should_only` -/
theorem inconsistent_eq (b : Behavior) : b.inconsistent = (b.shouldNot && (b.should || b.shouldOnly)) := by
  obtain ⟨sh, so, sn, e⟩ := b
  cases sh <;> cases so <;> cases sn <;> cases e <;> rfl

/-- the three pre-checks of `assert_applies` / `LayerRule.assert_applies` that read the configuration alone (each a
    configuration error); the fourth, `droppedAbsent`, reads the graph and is a lookup error (`front_not_preFail`) -/
def preFail (c : RuleConfig) : Bool :=
  anythingMisused c || (configMissing (convertAliases c) || (convertAliases c).behavior.inconsistent)

/-- the pre-checks in terms of the builder's fields, in the shape of `RTrack.classify` -/
theorem preFail_eq (c : RuleConfig) :
    preFail c = ((c.anything && !c.shouldNot) ||
      !(neOpt c.subjects && (c.should || c.shouldOnly || c.shouldNot) && c.importDir.isSome &&
          (if c.anything then neOpt c.subjects else neOpt c.objects)) ||
      (c.shouldNot && (c.should || c.shouldOnly))) := by
  unfold preFail
  rw [configMissing_eq, inconsistent_eq, ← Bool.or_assoc]
  unfold anythingMisused convertAliases RuleConfig.behavior
  cases c.anything
  · rfl
  · simp only [Bool.not_true, Bool.false_eq_true, if_false, if_true, neOpt_map_dedup]

end Hist

/-- the object an application leaves behind has the front of the one it found: the only in-place rewrite
    (`_convert_aliases`) is idempotent and clears `anything` -/
theorem front_applied (mt : Str → Str → Bool) (g : PGraph Str) (s : RuleState) :
    front mt g (if anythingMisused s.cfg then s else { s with cfg := convertAliases s.cfg }).cfg = front mt g s.cfg := by
  cases hm : anythingMisused s.cfg
  · show front mt g (convertAliases s.cfg) = _
    unfold front
    rw [anythingMisused_convertAliases, convertAliases_idem, hm]
  · rfl

end Pta
