/-
  PtaProofs.Lemmas.AstScan — the specification's `scanImports` does not depend on the ORDER (or multiplicity) of a
  file's statement list: two listings that agree in everything but carry statement lists with the same members give
  the same answer (both `none`, or edge lists with the same members): each simulates the other (`ScanSim.sim_of_bare`).
  C02 uses it at graph level to pass from the statements the model's walk collects (`Entry.withCollected`) to the
  statements the specification reads off the tree (`allImports`).
-/
import PtaProofs.Lemmas.ScanImports
import PtaProofs.Lemmas.ScanSim
namespace Pta.AstScan
open PtaSpec ScanImports ScanSim

section congr
variable {ι : Type} (f1 f2 : ι → SEntry) (l : List ι) (root : Comp) (mp : List Comp)
  (hb : ∀ i, bare (f1 i) = bare (f2 i)) (h_st : ∀ i ∈ l, ∀ st, st ∈ (f1 i).stmts ↔ st ∈ (f2 i).stmts)
include hb h_st

theorem scanImports_congr :
    (scanImports root (l.map f1) mp = none ∧ scanImports root (l.map f2) mp = none) ∨
    ∃ is1 is2, scanImports root (l.map f1) mp = some is1 ∧ scanImports root (l.map f2) mp = some is2 ∧
      ∀ e, e ∈ is1 ↔ e ∈ is2 := by
  have s12 := sim_of_bare f1 f2 l root mp hb fun i hi st => (h_st i hi st).1
  have s21 := sim_of_bare f2 f1 l root mp (fun i => (hb i).symm) fun i hi st => (h_st i hi st).2
  have hI : insideOf root (l.map f1) mp = insideOf root (l.map f2) mp :=
    insideOf_of_bare (by simp only [List.map_map, Function.comp_def, hb]) root mp
  cases h2 : scanImports root (l.map f2) mp with
  | none => exact .inl ⟨sim_none s21 (fun _ => trivial) h2, rfl⟩
  | some is2 =>
    obtain ⟨is1, h1, h⟩ := sim_part s12 s21 (fun _ _ => trivial) (fun t ht => ⟨hI ▸ ht, trivial⟩) (fun t ht _ => hI ▸ ht) h2
    exact .inr ⟨is1, is2, h1, rfl, fun e => (h e).trans (and_iff_left ⟨trivial, trivial⟩)⟩

end congr

theorem toSEntries_withCollected (excl : Str → Bool) (base : Str) (entries : List Entry) :
    toSEntries excl base (entries.map Entry.withCollected) =
      (rootEntry :: entries).map (toSEntry excl base ∘ Entry.withCollected) := by
  simp only [toSEntries, List.map_cons, List.map_map]
  rfl

end Pta.AstScan

namespace Pta.AstWalk

theorem lastName_withCollected (e : Entry) : lastName e.withCollected = lastName e := rfl

end Pta.AstWalk
