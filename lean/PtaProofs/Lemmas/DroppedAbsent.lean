/-
  PtaProofs.Lemmas.DroppedAbsent — the repair of F-C13b: `_convert_aliases` remembers the subjects it removes
  (`droppedSubjects`, field `dropped`) and `_assert_modules_removed_by_alias_conversion_exist` (`droppedAbsent`) looks
  them up. Characterisations and the cases in which the check is vacuous.
-/
import PtaModel
import PtaProofs.Lemmas.Str
namespace Pta

/-- a subject is dropped by the de-duplication iff it is a dotted sub module of another subject that is not a
    'sub modules of' filter (repair of F-C12a) -/
theorem contains_dedupSubjects (ss : List Filter) (f : Filter) (hf : f ∈ ss) :
    (dedupSubjects ss).contains f = !(ss.any fun o => !o.isParent && isStrictSub o.id f.id) := by
  rw [Bool.eq_iff_iff]
  simp only [List.contains_iff_mem, dedupSubjects, List.mem_filter, hf, true_and]

theorem mem_dedupSubjects (ss : List Filter) (f : Filter) :
    f ∈ dedupSubjects ss ↔ f ∈ ss ∧ ∀ o ∈ ss, (!o.isParent && isStrictSub o.id f.id) = false := by
  simp only [dedupSubjects, List.mem_filter, Bool.not_eq_true', List.any_eq_false, Bool.not_eq_true]

theorem dedupSubjects_subset (S : List Filter) : ∀ f ∈ dedupSubjects S, f ∈ S :=
  fun f hf => ((mem_dedupSubjects S f).1 hf).1

theorem isStrictSub_length (a b : Str) (h : isStrictSub a b = true) : a.length < b.length := by
  have := ((startsWith_iff_prefix _ _).1 h).length_le
  simp at this
  omega

theorem isStrictSub_self (p : Str) : isStrictSub p p = false :=
  Bool.eq_false_iff.2 fun h => Nat.lt_irrefl _ (isStrictSub_length p p h)

theorem dedupSubjects_single (f : Filter) : dedupSubjects [f] = [f] := by
  simp [dedupSubjects, isStrictSub_self]

/-- Keep the members of a list that no member lies strictly above, where "strictly above" lowers a measure: every member
    is reached from a kept one by a chain of such steps, stated for any relation `P` a chain establishes. -/
theorem filter_minimal_cover {α : Type} (l : List α) (above : α → α → Bool) (μ : α → Nat)
    (hμ : ∀ o m, above o m = true → μ o < μ m) (P : α → α → Prop) (hrefl : ∀ m, P m m)
    (hstep : ∀ r o m, o ∈ l → m ∈ l → P r o → above o m = true → P r m) :
    ∀ m ∈ l, ∃ r ∈ l.filter (fun m => !l.any (above · m)), P r m := by
  intro m
  induction hn : μ m using Nat.strongRecOn generalizing m with
  | _ n ih =>
    intro hm
    cases hk : l.any (above · m)
    · exact ⟨m, List.mem_filter.2 ⟨hm, by rw [hk]; rfl⟩, hrefl m⟩
    · obtain ⟨o, ho, ha⟩ := List.any_eq_true.1 hk
      obtain ⟨r, hr, hP⟩ := ih _ (hn ▸ hμ o m ha) o rfl ho
      exact ⟨r, hr, hstep r o m ho hm hP ha⟩

theorem dedup_chain (S : List Filter) (P : Filter → Filter → Prop) (hrefl : ∀ f, P f f)
    (hstep : ∀ r o f, o ∈ S → f ∈ S → P r o → isStrictSub o.id f.id = true → P r f) :
    ∀ f ∈ S, ∃ r ∈ dedupSubjects S, P r f :=
  filter_minimal_cover S (fun o f => !o.isParent && isStrictSub o.id f.id) (·.id.length)
    (fun _ _ h => isStrictSub_length _ _ (Bool.and_eq_true_iff.1 h).2) P hrefl
    fun r o f ho hf hP h => hstep r o f ho hf hP (Bool.and_eq_true_iff.1 h).2

theorem dedupSubjects_ne_nil (S : List Filter) (hne : S ≠ []) : dedupSubjects S ≠ [] := by
  obtain ⟨f, hf⟩ := List.exists_mem_of_ne_nil S hne
  obtain ⟨r, hr, _⟩ := dedup_chain S (fun _ _ => True) (fun _ => trivial) (fun _ _ _ _ _ _ _ => trivial) f hf
  exact List.ne_nil_of_mem hr

theorem mem_droppedSubjects (ss : List Filter) (f : Filter) :
    f ∈ droppedSubjects ss ↔ f ∈ ss ∧ f ∉ dedupSubjects ss := by
  simp only [droppedSubjects, List.mem_filter, Bool.not_eq_true', List.contains_eq_mem, decide_eq_false_iff_not]

theorem droppedSubjects_eq (ss : List Filter) :
    droppedSubjects ss = ss.filter fun f => ss.any fun o => !o.isParent && isStrictSub o.id f.id := by
  unfold droppedSubjects
  apply List.filter_congr
  intro f hf
  rw [contains_dedupSubjects ss f hf, Bool.not_not]

theorem mem_droppedSubjects' (ss : List Filter) (f : Filter) :
    f ∈ droppedSubjects ss ↔ f ∈ ss ∧ ∃ o ∈ ss, (!o.isParent && isStrictSub o.id f.id) = true := by
  rw [droppedSubjects_eq, List.mem_filter, List.any_eq_true]

theorem droppedSubjects_of_dedup_eq (ss : List Filter) (h : dedupSubjects ss = ss) : droppedSubjects ss = [] := by
  rw [List.eq_nil_iff_forall_not_mem]
  intro f hf
  rw [mem_droppedSubjects, h] at hf
  exact hf.2 hf.1

theorem dedupSubjects_idem (ss : List Filter) : dedupSubjects (dedupSubjects ss) = dedupSubjects ss :=
  List.filter_eq_self.2 fun m hm => by
    simp only [Bool.not_eq_true', List.any_eq_false, Bool.not_eq_true]
    exact fun o ho => ((mem_dedupSubjects ss m).1 hm).2 o (dedupSubjects_subset ss o ho)

theorem dropped_dedup (ss : List Filter) : droppedSubjects (dedupSubjects ss) = [] :=
  droppedSubjects_of_dedup_eq _ (dedupSubjects_idem ss)

theorem convertAliases_not_anything (c : RuleConfig) (ha : c.anything = false) : convertAliases c = c := by
  unfold convertAliases; simp [ha]

theorem convertAliases_anything (c : RuleConfig) : (convertAliases c).anything = false := by
  unfold convertAliases
  cases h : c.anything <;> simp [h]

theorem convertAliases_idem (c : RuleConfig) : convertAliases (convertAliases c) = convertAliases c :=
  convertAliases_not_anything _ (convertAliases_anything c)

theorem anythingMisused_convertAliases (c : RuleConfig) : anythingMisused (convertAliases c) = false := by
  simp [anythingMisused, convertAliases_anything]

theorem convertAliases_dropped (c : RuleConfig) (ss : List Filter) (ha : c.anything = true) (hs : c.subjects = some ss) :
    (convertAliases c).dropped = droppedSubjects ss := by
  unfold convertAliases; simp [ha, hs]

/-- the check on the subjects dropped from a subject list -/
def droppedAbsentIn (g : PGraph Str) (ss : List Filter) : Bool :=
  (droppedSubjects ss).any fun f => !f.isRegex && !g.hasNode f.id

theorem droppedAbsent_convert (g : PGraph Str) (c : RuleConfig) (ss : List Filter) (ha : c.anything = true)
    (hs : c.subjects = some ss) : droppedAbsent g (convertAliases c) = droppedAbsentIn g ss := by
  unfold droppedAbsent droppedAbsentIn
  rw [convertAliases_dropped c ss ha hs]

theorem droppedAbsent_nil (g : PGraph Str) (c : RuleConfig) (h : c.dropped = []) : droppedAbsent g c = false := by
  unfold droppedAbsent; rw [h]; rfl

theorem droppedAbsentIn_iff (g : PGraph Str) (ss : List Filter) :
    droppedAbsentIn g ss = true ↔
      ∃ f ∈ ss, f ∉ dedupSubjects ss ∧ f.isRegex = false ∧ g.hasNode f.id = false := by
  simp only [droppedAbsentIn, List.any_eq_true, mem_droppedSubjects, Bool.and_eq_true, Bool.not_eq_true', and_assoc]

theorem droppedAbsentIn_false_iff (g : PGraph Str) (ss : List Filter) :
    droppedAbsentIn g ss = false ↔
      ∀ f ∈ ss, f ∉ dedupSubjects ss → f.isRegex = false → g.hasNode f.id = true := by
  rw [← Bool.not_eq_true, droppedAbsentIn_iff]
  constructor
  · intro h f hf hn hr
    cases hg : g.hasNode f.id
    · exact absurd ⟨f, hf, hn, hr, hg⟩ h
    · rfl
  · rintro h ⟨f, hf, hn, hr, hg⟩
    rw [h f hf hn hr] at hg; cases hg

theorem droppedAbsentIn_of_dedup_eq (g : PGraph Str) (ss : List Filter) (h : dedupSubjects ss = ss) :
    droppedAbsentIn g ss = false := by
  unfold droppedAbsentIn; rw [droppedSubjects_of_dedup_eq ss h]; rfl

theorem droppedAbsentIn_of_nodes (g : PGraph Str) (ss : List Filter)
    (h : ∀ f ∈ ss, f.isRegex = false → g.hasNode f.id = true) : droppedAbsentIn g ss = false := by
  rw [droppedAbsentIn_false_iff]
  intro f hf _ hr
  exact h f hf hr

theorem droppedAbsent_congr (g g' : PGraph Str) (c : RuleConfig) (h : ∀ s, g.hasNode s = g'.hasNode s) :
    droppedAbsent g c = droppedAbsent g' c := by
  unfold droppedAbsent
  simp only [h]

end Pta
