/-
  PtaProofs.Lemmas.DiagramHist — DiagramRule builder histories (`DiagramRuleOp`, `runDiagramOps`): the builder state
  after any history holds the file supplied last and the base module supplied last, so the run is the one-shot
  `diagramAssert` on what the specification classifier `classifyDiagram` extracts from the history.
-/
import Bridge.BuilderCalls
namespace Pta.Hist
open PtaSpec

theorem getLast?_filterMap_cons {α β : Type} (f : α → Option β) (c : α) (cs : List α) :
    ((c :: cs).filterMap f).getLast? = ((cs.filterMap f).getLast?).or (f c) := by
  -- the last hit is the first hit from the back, and `c` comes last there
  rw [List.getLast?_filterMap, List.getLast?_filterMap, List.reverse_cons, List.findSome?_append,
    List.findSome?_singleton]

theorem lastFile_cons (c : DCall) (cs : List DCall) : lastFile (c :: cs) = (lastFile cs).or c.file? :=
  getLast?_filterMap_cons DCall.file? c cs

theorem lastBase_cons (c : DCall) (cs : List DCall) : lastBase (c :: cs) = (lastBase cs).or c.base? :=
  getLast?_filterMap_cons DCall.base? c cs

theorem step_fields (s : DiagramRuleState) (op : DiagramRuleOp) :
    (s.step op).file = (toDCall op).file?.or s.file ∧ (s.step op).base = (toDCall op).base?.or s.base ∧
    (s.step op).shouldOnly = s.shouldOnly := by
  cases op <;> exact ⟨rfl, rfl, rfl⟩

theorem foldl_state (ops : List DiagramRuleOp) (s : DiagramRuleState) :
    (ops.foldl DiagramRuleState.step s).file = (lastFile (ops.map toDCall)).or s.file ∧
    (ops.foldl DiagramRuleState.step s).base = (lastBase (ops.map toDCall)).or s.base ∧
    (ops.foldl DiagramRuleState.step s).shouldOnly = s.shouldOnly := by
  induction ops generalizing s with
  | nil => exact ⟨rfl, rfl, rfl⟩
  | cons op rest ih =>
    obtain ⟨h1, h2, h3⟩ := ih (s.step op)
    obtain ⟨e1, e2, e3⟩ := step_fields s op
    rw [List.foldl_cons, List.map_cons, lastFile_cons, lastBase_cons, h1, h2, h3, e1, e2, e3, Option.or_assoc,
      Option.or_assoc]
    exact ⟨rfl, rfl, rfl⟩

theorem state_after (only : Bool) (ops : List DiagramRuleOp) :
    (diagramRuleStateAfter only ops).file = lastFile (ops.map toDCall) ∧
    (diagramRuleStateAfter only ops).base = lastBase (ops.map toDCall) ∧
    (diagramRuleStateAfter only ops).shouldOnly = only := by
  obtain ⟨h1, h2, h3⟩ := foldl_state ops { shouldOnly := only }
  exact ⟨h1.trans Option.or_none, h2.trans Option.or_none, h3⟩

theorem lastFile_none_iff (cs : List DCall) : lastFile cs = none ↔ ∀ c ∈ cs, c.file? = none := by
  unfold lastFile
  rw [List.getLast?_eq_none_iff, List.filterMap_eq_nil_iff]

theorem lastFile_split (pre post : List DCall) (f : List Char) (h : ∀ c ∈ post, c.file? = none) :
    lastFile (pre ++ .fromFile f :: post) = some f := by
  unfold lastFile
  have : post.filterMap DCall.file? = [] := List.filterMap_eq_nil_iff.mpr h
  rw [List.filterMap_append, List.filterMap_cons]
  simp [DCall.file?, this]

theorem lastBase_none_iff (cs : List DCall) : lastBase cs = none ↔ ∀ c ∈ cs, c.base? = none := by
  unfold lastBase
  rw [List.getLast?_eq_none_iff, List.filterMap_eq_nil_iff]

theorem lastBase_split (pre post : List DCall) (p : List Char) (h : ∀ c ∈ post, c.base? = none) :
    lastBase (pre ++ .withBase p :: post) = some p := by
  unfold lastBase
  have : post.filterMap DCall.base? = [] := List.filterMap_eq_nil_iff.mpr h
  rw [List.filterMap_append, List.filterMap_cons]
  simp [DCall.base?, this]

theorem runDiagramOps_eq (only : Bool) (ops : List DiagramRuleOp) (mt : Str → Str → Bool) (g : PGraph Str) :
    runDiagramOps only ops mt g = diagramAssert mt (lastFile (ops.map toDCall)) (lastBase (ops.map toDCall)) only g := by
  obtain ⟨h1, h2, h3⟩ := state_after only ops
  unfold runDiagramOps DiagramRuleState.assertApplies
  rw [h1, h2, h3]

theorem file?_none {ops : List DiagramRuleOp} (h : ∀ c, DiagramRuleOp.fromFile c ∉ ops) :
    ∀ c ∈ ops.map toDCall, c.file? = none := by
  intro c hc
  obtain ⟨op, hop, rfl⟩ := List.mem_map.mp hc
  cases op with
  | fromFile c => exact absurd hop (h c)
  | withBaseModule p => rfl
  | baseModuleIncluded => rfl

theorem base?_none {ops : List DiagramRuleOp} (h : ∀ p, DiagramRuleOp.withBaseModule p ∉ ops) :
    ∀ c ∈ ops.map toDCall, c.base? = none := by
  intro c hc
  obtain ⟨op, hop, rfl⟩ := List.mem_map.mp hc
  cases op with
  | fromFile c => rfl
  | withBaseModule q => exact absurd hop (h q)
  | baseModuleIncluded => rfl

theorem classify_complete_iff (cs : List DCall) (f : List Char) (b : Option (List Char)) :
    classifyDiagram cs = .complete f b ↔ lastFile cs = some f ∧ lastBase cs = b := by
  unfold classifyDiagram
  cases lastFile cs with
  | none => exact ⟨nofun, nofun⟩
  | some f' => simp only [DClass.complete.injEq, Option.some.injEq]

theorem classify_incomplete_iff_lastFile (cs : List DCall) : classifyDiagram cs = .incomplete ↔ lastFile cs = none := by
  unfold classifyDiagram
  cases lastFile cs with
  | none => exact ⟨fun _ => rfl, fun _ => rfl⟩
  | some f => exact ⟨nofun, nofun⟩

end Pta.Hist
