/-
  PtaProofs.Lemmas.LayerDetect — the lenient (layer) detector and the layer report in normal form. Every function of
  PtaModel/Layer.lean that takes the layer mapping looks identifiers up with `LayerMap.layerOf`, which raises nothing
  but `LayerMismatch`, and is otherwise a pure list expression over the total tag function `tagS`:
  `fL m x = guardL m (ids x) (fP m x)`, without hypotheses; a fact about such a function is a fact about `okAll m ids`
  and one about the pure expression. Before that, `architecture[layer]` (`LArch.get`).
-/
import Bridge.LayerAbs
import PtaProofs.Lemmas.Pipeline
import PtaProofs.Lemmas.Detector
namespace Pta

/-! ### `architecture[layer]` -/

theorem LArch.get_eq (a : LArch) (n : Str) :
    a.get n = if a.hasLayer n then .ok (a.getD n) else .error .lookupError := by
  unfold LArch.getD LArch.get LArch.hasLayer
  cases hf : a.find? (·.1 == n) with
  | some l => rw [if_pos (List.any_eq_true.mpr ⟨l, List.mem_of_find?_eq_some hf, List.find?_some hf⟩)]
  | none =>
    rw [List.find?_eq_none] at hf
    rw [if_neg fun h => by obtain ⟨l, hl, hn⟩ := List.any_eq_true.mp h; exact hf l hl hn]

theorem LArch.get_perm {a a' : LArch} (hp : a.Perm a') (hn : (a.map (·.1)).Nodup) (n : Str) : a.get n = a'.get n := by
  have hn' : (a'.map (·.1)).Nodup := (hp.map _).nodup_iff.1 hn
  unfold LArch.get
  cases h1 : a.find? (·.1 == n) with
  | none => rw [List.find?_eq_none.2 fun x hx => List.find?_eq_none.1 h1 x (hp.mem_iff.2 hx)]
  | some l =>
    -- the entry found on the left is the only one with its name on the right
    have hln := List.find?_some h1
    have e : l.1 = n := beq_iff_eq.1 hln
    rw [← e, find?_key_of_nodup a' hn' l (hp.mem_iff.1 (List.mem_of_find?_eq_some h1))]

theorem LArch.get_err (a : LArch) (n : Str) (e : ErrKind) (h : a.get n = .error e) : e = .lookupError := by
  unfold LArch.get at h
  split at h <;> cases h
  rfl

/-- the layer tag of a raw identifier, `none` when the lookup raises -/
def tagS (m : LayerMap) (s : Str) : Option Str :=
  match m.layerOf s with
  | .ok t => t
  | .error _ => none

def TagOk (m : LayerMap) (s : Str) : Prop := m.layerOf s = .ok (tagS m s)

theorem tagOk_of_eq {m : LayerMap} {s : Str} {t : Option Str} (h : m.layerOf s = .ok t) : TagOk m s := by
  unfold TagOk tagS; rw [h]

theorem tagS_of_eq {m : LayerMap} {s : Str} {t : Option Str} (h : m.layerOf s = .ok t) : tagS m s = t := by
  unfold tagS; rw [h]

/-! ### look the identifiers up, then compute -/

def okAll (m : LayerMap) (ids : List Str) : Bool := ids.all fun s => (m.layerOf s).isOk

/-- look `ids` up (the first failure raises `LayerMismatch`), then return `v` -/
def guardL {α : Type} (m : LayerMap) (ids : List Str) (v : α) : Except ErrKind α :=
  if okAll m ids then .ok v else .error .layerMismatch

theorem layerOf_err_kind (m : LayerMap) (x : Str) (e : ErrKind) (h : m.layerOf x = .error e) : e = .layerMismatch := by
  unfold LayerMap.layerOf at h
  split at h
  · cases h
  · simp only at h
    split at h
    · cases h
    · cases h
    · cases h; rfl

theorem layerOf_guard (m : LayerMap) (s : Str) : m.layerOf s = guardL m [s] (tagS m s) := by
  unfold guardL okAll tagS
  simp only [List.all_cons, List.all_nil, Bool.and_true]
  cases h : m.layerOf s with
  | ok t => rfl
  | error e => cases layerOf_err_kind m s e h; rfl

section guard
variable {α β : Type} (m : LayerMap)

theorem guardL_bind_eq (i : List Str) (v : α) (k : α → Except ErrKind β) (j : List Str) (w : β)
    (h : k v = guardL m j w) : guardL m i v >>= k = guardL m (i ++ j) w := by
  unfold guardL okAll at *
  rw [List.all_append]
  cases i.all fun s => (m.layerOf s).isOk
  · rfl
  · exact h

theorem guardL_bind (i : List Str) (v : α) (j : α → List Str) (w : α → β) :
    (guardL m i v >>= fun a => guardL m (j a) (w a)) = guardL m (i ++ j v) (w v) :=
  guardL_bind_eq m i v _ _ _ rfl

theorem guardL_bind_ok (i : List Str) (v : α) (k : α → Except ErrKind β) (w : β) (h : k v = .ok w) :
    guardL m i v >>= k = guardL m i w := by
  unfold guardL
  cases okAll m i
  · rfl
  · exact h

theorem guardL_bind_pure (i : List Str) (v : α) (w : α → β) :
    (guardL m i v >>= fun a => pure (w a)) = guardL m i (w v) := guardL_bind_ok m i v _ _ rfl

theorem guardL_map (i : List Str) (v : α) (w : α → β) : (guardL m i v).map w = guardL m i (w v) := by
  unfold guardL
  cases okAll m i <;> rfl

theorem mapM_guard (f : α → Except ErrKind β) (i : α → List Str) (f' : α → β)
    (h : ∀ x, f x = guardL m (i x) (f' x)) (l : List α) : l.mapM f = guardL m (l.flatMap i) (l.map f') := by
  induction l with
  | nil => rfl
  | cons a l ih =>
    rw [List.mapM_cons, h a, ih]
    simp only [guardL_bind_pure, guardL_bind]
    rfl

theorem okAll_iff (ids : List Str) : okAll m ids = true ↔ ∀ s ∈ ids, TagOk m s := by
  unfold okAll TagOk tagS
  rw [List.all_eq_true]
  refine forall₂_congr fun s _ => ?_
  cases m.layerOf s <;> simp [Except.isOk, Except.toBool]

theorem okAll_congr {i j : List Str} (h : ∀ s, s ∈ i ↔ s ∈ j) : okAll m i = okAll m j := by
  rw [Bool.eq_iff_iff, okAll_iff, okAll_iff]
  exact ⟨fun hi s hs => hi s ((h s).2 hs), fun hj s hs => hj s ((h s).1 hs)⟩

theorem guardL_ids {i j : List Str} (h : ∀ s, s ∈ i ↔ s ∈ j) (v : α) : guardL m i v = guardL m j v := by
  unfold guardL; rw [okAll_congr m h]

theorem guardL_ok (i : List Str) (v : α) (h : ∀ s ∈ i, TagOk m s) : guardL m i v = .ok v := by
  unfold guardL; rw [(okAll_iff m i).2 h]; rfl

theorem guardL_err (i : List Str) (v : α) (e : ErrKind) (h : guardL m i v = .error e) : e = .layerMismatch := by
  unfold guardL at h
  split at h <;> cases h
  rfl

end guard

def depIds (ds : List Dep) : List Str := ds.flatMap fun d => [d.1.id, d.2.id]

theorem mem_depIds (ds : List Dep) (s : Str) : s ∈ depIds ds ↔ ∃ d ∈ ds, s = d.1.id ∨ s = d.2.id := by
  simp [depIds]

theorem depIds_append (a b : List Dep) : depIds (a ++ b) = depIds a ++ depIds b := List.flatMap_append

/-! `P` holds of every name in a list of dependencies, in a query result. With `P := TagOk m`: every lookup succeeds;
    with `P := RL.LOK φ m`: every name is looked up alike before and after a renaming. -/
def DepsIn (P : Str → Prop) (ds : List Dep) : Prop := ∀ d ∈ ds, P d.1.id ∧ P d.2.id
def ExplIn (P : Str → Prop) (e : ExplDeps) : Prop := ∀ kd ∈ e, (P kd.1.1.id ∧ P kd.1.2.id) ∧ ∀ p ∈ kd.2, P p.1 ∧ P p.2
def OtherIn (P : Str → Prop) (o : OtherDeps) : Prop := ∀ kd ∈ o, P kd.1.id ∧ ∀ p ∈ kd.2, P p.1 ∧ P p.2

def DepsOk (m : LayerMap) (ds : List Dep) : Prop := ∀ d ∈ ds, TagOk m d.1.id ∧ TagOk m d.2.id

theorem depsIn_append {P : Str → Prop} {a b : List Dep} : DepsIn P (a ++ b) ↔ DepsIn P a ∧ DepsIn P b := by
  unfold DepsIn
  simp only [List.mem_append, or_imp]
  exact ⟨fun h => ⟨fun d hd => (h d).1 hd, fun d hd => (h d).2 hd⟩, fun h d => ⟨h.1 d, h.2 d⟩⟩

theorem depsOk_append {m : LayerMap} {a b : List Dep} (ha : DepsOk m a) (hb : DepsOk m b) : DepsOk m (a ++ b) :=
  depsIn_append.2 ⟨ha, hb⟩

theorem DepsIn.ids {P : Str → Prop} {ds : List Dep} (h : DepsIn P ds) : ∀ s ∈ depIds ds, P s := by
  intro s hs
  obtain ⟨d, hd, rfl | rfl⟩ := (mem_depIds ds s).1 hs
  · exact (h d hd).1
  · exact (h d hd).2

theorem realised_mem (d : Bool) {κ : Type} (deps : List (κ × List (Str × Str))) (x : Dep) :
    x ∈ realised d deps ↔ ∃ kd ∈ deps, ∃ p ∈ kd.2, x = userOrder d ((⟨false, p.1⟩ : Mod), (⟨false, p.2⟩ : Mod)) := by
  simp only [realised, List.mem_flatMap, List.mem_map, eq_comm]

theorem realised_in (P : Str → Prop) (d : Bool) {κ : Type} (deps : List (κ × List (Str × Str)))
    (h : ∀ kd ∈ deps, ∀ p ∈ kd.2, P p.1 ∧ P p.2) : DepsIn P (realised d deps) := by
  intro x hx
  obtain ⟨kd, hkd, p, hp, rfl⟩ := (realised_mem d deps x).1 hx
  obtain ⟨h1, h2⟩ := h kd hkd p hp
  cases d
  · exact ⟨h2, h1⟩
  · exact ⟨h1, h2⟩

theorem lookup2 {β : Type} (m : LayerMap) (x y : Str) (k : Option Str → Option Str → β) :
    (do let a ← m.layerOf x; let b ← m.layerOf y; pure (k a b) : Except ErrKind β) =
      guardL m [x, y] (k (tagS m x) (tagS m y)) := by
  simp only [layerOf_guard m x, layerOf_guard m y, guardL_bind_pure, guardL_bind]
  rfl

/-- the recurring traversal: both ends of every dependency are looked up -/
theorem mapM_lookup2 {β : Type} (m : LayerMap) (k : Dep → Option Str → Option Str → β) (ds : List Dep) :
    ds.mapM (fun d => do let a ← m.layerOf d.1.id; let b ← m.layerOf d.2.id; pure (k d a b)) =
      guardL m (depIds ds) (ds.map fun d => k d (tagS m d.1.id) (tagS m d.2.id)) := by
  -- in term mode the unifier compares the two `do` blocks under the binder (slow to check)
  apply mapM_guard m _ (fun d : Dep => [d.1.id, d.2.id])
  intro d
  exact lookup2 m d.1.id d.2.id (k d)

theorem dropSameLayer_nf (m : LayerMap) (ds : List Dep) :
    dropSameLayer m ds = guardL m (depIds ds) (ds.filter fun d => tagS m d.1.id != tagS m d.2.id) := by
  unfold dropSameLayer
  rw [filterMapM_eq, mapM_lookup2 m (fun d a b => if a != b then some d else none), guardL_map, List.filterMap_map]
  exact congrArg _ (congrFun List.filterMap_eq_filter ds)

def realisedP (m : LayerMap) (d : Bool) {κ : Type} (deps : List (κ × List (Str × Str))) : List Dep :=
  (realised d deps).filter fun x => tagS m x.1.id != tagS m x.2.id

def pairIds (d : Bool) {κ : Type} (deps : List (κ × List (Str × Str))) : List Str := depIds (realised d deps)

theorem realisedL_nf (m : LayerMap) (d : Bool) {κ : Type} (deps : List (κ × List (Str × Str))) :
    realisedL m d deps = guardL m (pairIds d deps) (realisedP m d deps) := dropSameLayer_nf m _

theorem realisedP_isEmpty (m : LayerMap) (d : Bool) {κ : Type} (deps : List (κ × List (Str × Str))) :
    (realisedP m d deps).isEmpty = false ↔ ∃ kd ∈ deps, ∃ p ∈ kd.2, tagS m p.1 ≠ tagS m p.2 := by
  rw [← Bool.not_eq_true, List.isEmpty_iff, realisedP]
  simp only [List.filter_eq_nil_iff, realised_mem]
  constructor
  · intro h
    apply Classical.byContradiction
    intro hn
    apply h
    rintro x ⟨kd, hkd, p, hp, rfl⟩
    have : tagS m p.1 = tagS m p.2 := Classical.byContradiction fun hne => hn ⟨kd, hkd, p, hp, hne⟩
    cases d <;> simp [userOrder, this]
  · rintro ⟨kd, hkd, p, hp, hne⟩ h
    have := h _ ⟨kd, hkd, p, hp, rfl⟩
    cases d
    · simp [userOrder] at this; exact hne this.symm
    · simp [userOrder] at this; exact hne this

theorem mem_realisedP (m : LayerMap) (d : Bool) {κ : Type} (deps : List (κ × List (Str × Str))) (dd : Dep)
    (h : dd ∈ realisedP m d deps) :
    ∃ kd ∈ deps, ∃ p ∈ kd.2, userOrder d (dd.1.id, dd.2.id) = p ∧ tagS m p.1 ≠ tagS m p.2 := by
  obtain ⟨h1, h2⟩ := List.mem_filter.1 h
  obtain ⟨kd, hkd, p, hp, rfl⟩ := (realised_mem d deps dd).1 h1
  refine ⟨kd, hkd, p, hp, ?_, ?_⟩
  · cases d <;> simp [userOrder]
  · cases d
    · simp [userOrder] at h2; exact fun h => h2 h.symm
    · simp [userOrder] at h2; exact h2

/-- the module whose layer groups the abstract dependencies: always the rule's object -/
def relevantOf (d : Bool) (kd : Dep × List (Str × Str)) : Mod := if d then kd.1.2 else kd.1.1

def abstractP (m : LayerMap) (d : Bool) (deps : ExplDeps) : List Dep :=
  m.flatMap fun layer =>
    let forLayer := deps.filter fun kd => tagS m (relevantOf d kd).id == some layer.1
    if forLayer.isEmpty then []
    else if forLayer.any fun kd => !kd.2.isEmpty then []
    else forLayer.map fun kd => userOrder d kd.1

def keyIds (d : Bool) (deps : ExplDeps) : List Str := deps.flatMap fun kd => [(relevantOf d kd).id]

theorem abstractWithoutAny_nf (m : LayerMap) (d : Bool) (deps : ExplDeps) :
    abstractWithoutAny m d deps = guardL m (keyIds d deps) (abstractP m d deps) := by
  unfold abstractWithoutAny
  rw [mapM_guard m _ (fun kd => [(relevantOf d kd).id]) (fun kd => (tagS m (relevantOf d kd).id, kd))
    (fun kd => by simp only [layerOf_guard, guardL_bind_pure]; rfl), guardL_bind_pure]
  refine congrArg (guardL m _) ?_
  unfold abstractP
  have key : ∀ layer : Str × List Str,
      ((deps.map fun kd => (tagS m (relevantOf d kd).id, kd)).filter fun t => t.1 == some layer.1).map (·.2) =
        deps.filter fun kd => tagS m (relevantOf d kd).id == some layer.1 := by
    intro layer
    rw [List.filter_map, List.map_map]
    simp only [Function.comp_def, List.map_id']
  simp only [key]

theorem abstractP_nonempty (m : LayerMap) (d : Bool) (deps : ExplDeps) :
    (abstractP m d deps).isEmpty = false ↔
      ∃ layer ∈ m, (∃ kd ∈ deps, tagS m (relevantOf d kd).id = some layer.1) ∧
        ∀ kd ∈ deps, tagS m (relevantOf d kd).id = some layer.1 → kd.2 = [] := by
  rw [← Bool.not_eq_true, List.isEmpty_iff, abstractP, List.flatMap_eq_nil_iff]
  constructor
  · intro h
    apply Classical.byContradiction
    intro hn
    apply h
    intro layer hl
    simp only
    split
    · rfl
    · rename_i h1
      split
      · rfl
      · rename_i h2
        exfalso
        apply hn
        refine ⟨layer, hl, ?_, ?_⟩
        · rw [List.isEmpty_iff] at h1
          obtain ⟨kd, hkd⟩ := List.exists_mem_of_ne_nil _ h1
          obtain ⟨hk1, hk2⟩ := List.mem_filter.1 hkd
          exact ⟨kd, hk1, by simpa using hk2⟩
        · intro kd hkd ht
          simp only [List.any_eq_true, Bool.not_eq_true', not_exists, not_and] at h2
          have := h2 kd (List.mem_filter.2 ⟨hkd, by simpa using ht⟩)
          simpa [List.isEmpty_iff] using this
  · rintro ⟨layer, hl, ⟨kd0, hkd0, ht0⟩, hall⟩ h
    have := h layer hl
    simp only at this
    have hmem : kd0 ∈ deps.filter fun kd => tagS m (relevantOf d kd).id == some layer.1 :=
      List.mem_filter.2 ⟨hkd0, by simpa using ht0⟩
    have hne : (deps.filter fun kd => tagS m (relevantOf d kd).id == some layer.1).isEmpty = false := by
      rw [← Bool.not_eq_true, List.isEmpty_iff]
      intro h0; rw [h0] at hmem; cases hmem
    have hany : ((deps.filter fun kd => tagS m (relevantOf d kd).id == some layer.1).any fun kd => !kd.2.isEmpty) = false := by
      rw [List.any_eq_false]
      intro kd hkd
      obtain ⟨hk1, hk2⟩ := List.mem_filter.1 hkd
      simp [hall kd hk1 (by simpa using hk2)]
    rw [hne, hany] at this
    simp only [Bool.false_eq_true, if_false, List.map_eq_nil_iff] at this
    rw [this] at hmem; cases hmem

theorem abstractP_mem (m : LayerMap) (d : Bool) (deps : ExplDeps) (x : Dep) (h : x ∈ abstractP m d deps) :
    ∃ kd ∈ deps, x = userOrder d kd.1 := by
  unfold abstractP at h
  obtain ⟨layer, _, hx⟩ := List.mem_flatMap.1 h
  simp only at hx
  split at hx
  · cases hx
  · split at hx
    · cases hx
    · obtain ⟨kd, hkd, rfl⟩ := List.mem_map.1 hx
      exact ⟨kd, (List.mem_filter.1 hkd).1, rfl⟩

def anyMissingP (m : LayerMap) (d : Bool) (deps : OtherDeps) (objs : List Mod) : List Dep :=
  if !(realisedP m d deps).isEmpty then [] else deps.flatMap fun kd => objs.map fun o => (kd.1, o)

theorem anyMissing_nf (m : LayerMap) (d : Bool) (deps : OtherDeps) (objs : List Mod) :
    anyMissing m d deps objs = guardL m (pairIds d deps) (anyMissingP m d deps objs) := by
  unfold anyMissing
  rw [realisedL_nf]
  exact guardL_bind_ok m _ _ _ _ (by unfold anyMissingP; split <;> rfl)

theorem anyMissingP_isEmpty (m : LayerMap) (d : Bool) (deps : OtherDeps) (objs : List Mod) (hd : deps ≠ [])
    (ho : objs ≠ []) : (anyMissingP m d deps objs).isEmpty = !(realisedP m d deps).isEmpty := by
  unfold anyMissingP
  cases hR : (realisedP m d deps).isEmpty
  · simp
  · simp only [Bool.not_true, Bool.false_eq_true, if_false]
    rw [← Bool.not_eq_true, List.isEmpty_iff, List.flatMap_eq_nil_iff]
    intro h
    obtain ⟨kd, hkd⟩ := List.exists_mem_of_ne_nil _ hd
    have := h kd hkd
    simp only [List.map_eq_nil_iff] at this
    exact ho this

theorem anyMissingP_mem (m : LayerMap) (d : Bool) (deps : OtherDeps) (objs : List Mod) (x : Dep)
    (h : x ∈ anyMissingP m d deps objs) : ∃ kd ∈ deps, ∃ o ∈ objs, x = (kd.1, o) := by
  unfold anyMissingP at h
  split at h
  · cases h
  · obtain ⟨kd, hkd, hx⟩ := List.mem_flatMap.1 h
    obtain ⟨o, ho, rfl⟩ := List.mem_map.1 hx
    exact ⟨kd, hkd, o, ho, rfl⟩

def detectP (m : LayerMap) (b : Behavior) (d : Bool) (expl : Option ExplDeps) (other : Option OtherDeps)
    (objs : List Mod) : Violations :=
  { shouldNot := Det.onOpt [] expl b.expExplNotPresent (realisedP m d)
    should := Det.onOpt [] expl b.expExplPresent (abstractP m d)
    shouldOnlyNoImport := Det.onOpt [] expl b.expExplAndNoOther (abstractP m d)
    shouldOnlyForbidden := Det.onOpt [] other b.expExplAndNoOther (realisedP m d)
    shouldExcept := Det.onOpt [] other b.expAtLeastOneOther (fun o => anyMissingP m d o objs)
    shouldOnlyExceptNoImport := Det.onOpt [] other b.expExplNotButOthers (fun o => anyMissingP m d o objs)
    shouldOnlyExceptForbidden := Det.onOpt [] expl b.expExplNotButOthers (realisedP m d)
    shouldNotExcept := Det.onOpt [] other b.expOtherNotPresent (realisedP m d) }

/-- what the detector looks up, bucket by bucket in the order of `Det.detectL_eq` -/
def detectIds (b : Behavior) (d : Bool) (expl : Option ExplDeps) (other : Option OtherDeps) : List Str :=
  Det.onOpt [] expl b.expExplNotPresent (pairIds d) ++ (Det.onOpt [] expl b.expExplPresent (keyIds d) ++
  (Det.onOpt [] expl b.expExplAndNoOther (keyIds d) ++ (Det.onOpt [] other b.expExplAndNoOther (pairIds d) ++
  (Det.onOpt [] other b.expAtLeastOneOther (pairIds d) ++ (Det.onOpt [] other b.expExplNotButOthers (pairIds d) ++
  (Det.onOpt [] expl b.expExplNotButOthers (pairIds d) ++ Det.onOpt [] other b.expOtherNotPresent (pairIds d)))))))

theorem onOpt_guard {α : Type} (m : LayerMap) (x : Option α) (flag : Bool) (f : α → Except ErrKind (List Dep))
    (i : α → List Str) (f' : α → List Dep) (h : ∀ a, f a = guardL m (i a) (f' a)) :
    Det.onOpt (pure []) x flag f = guardL m (Det.onOpt [] x flag i) (Det.onOpt [] x flag f') := by
  cases x with
  | none => rfl
  | some a =>
    cases flag
    · rfl
    · exact h a

theorem detectL_nf (m : LayerMap) (b : Behavior) (d : Bool) (expl : Option ExplDeps) (other : Option OtherDeps)
    (objs : List Mod) :
    detectL m b d expl other objs = guardL m (detectIds b d expl other) (detectP m b d expl other objs) := by
  have hEr := fun flag => onOpt_guard m expl flag _ _ _ (realisedL_nf m d)
  have hEa := fun flag => onOpt_guard m expl flag _ _ _ (abstractWithoutAny_nf m d)
  have hOr := fun flag => onOpt_guard m other flag _ _ _ (realisedL_nf m d)
  have hOm := fun flag => onOpt_guard m other flag _ _ _ (fun o => anyMissing_nf m d o objs)
  rw [Det.detectL_eq]
  simp only [hEr, hEa, hOr, hOm, guardL_bind_pure, guardL_bind]
  rfl

/-- the four buckets of imports that must not exist -/
def _root_.Pta.Violations.forbidden (v : Violations) : List Dep :=
  v.shouldOnlyForbidden ++ v.shouldNot ++ v.shouldOnlyExceptForbidden ++ v.shouldNotExcept

/-- the buckets of `Violations.forbidden` hold realised dependencies across layers -/
theorem detectP_forbidden_mem (m : LayerMap) (b : Behavior) (d : Bool) (expl : Option ExplDeps) (other : Option OtherDeps)
    (objs : List Mod) (dd : Dep) (h : dd ∈ (detectP m b d expl other objs).forbidden) :
    (∃ e, expl = some e ∧ dd ∈ realisedP m d e) ∨ (∃ o, other = some o ∧ dd ∈ realisedP m d o) := by
  simp only [Violations.forbidden, detectP, List.mem_append] at h
  rcases h with ((h | h) | h) | h
  · exact .inr (Det.mem_onOpt h)
  · exact .inl (Det.mem_onOpt h)
  · exact .inl (Det.mem_onOpt h)
  · exact .inr (Det.mem_onOpt h)

def impItemsP (m : LayerMap) (d : Bool) (ds : List Dep) : List LItem :=
  ds.map fun dd =>
    let p := userOrder d (dd.1.id, dd.2.id)
    LItem.imp p.1 p.2 (!d) (tagS m p.1) (tagS m p.2)

theorem impItemsL_nf (m : LayerMap) (d : Bool) (ds : List Dep) :
    impItemsL m d ds = guardL m (depIds ds) (impItemsP m d ds) := by
  cases d
  · -- `imported by`: the importee's end is looked up first
    refine Eq.trans ?_ (guardL_ids m (i := ds.flatMap fun dd => [dd.2.id, dd.1.id]) (fun s => by simp [depIds, or_comm]) _)
    apply mapM_guard m _ (fun dd : Dep => [dd.2.id, dd.1.id])
    intro dd
    exact lookup2 m dd.2.id dd.1.id (LItem.imp dd.2.id dd.1.id true)
  · exact mapM_lookup2 m (fun dd => LItem.imp dd.1.id dd.2.id false) ds

/-- the `miss` items of a list of layer pairs: one per subject layer, with the set of its object layers -/
def missOfPairsL (any ir : Bool) (ls : List (Option Str × Option Str)) : List LItem :=
  (dedup (ls.map (·.1))).map fun s => LItem.miss any s (dedup ((ls.filter fun d => d.1 = s).map (·.2))) (!ir)

def missItemsP (m : LayerMap) (any d : Bool) (ds : List Dep) : List LItem :=
  missOfPairsL any d (ds.map fun dd => (tagS m dd.1.id, tagS m dd.2.id))

theorem missItemsL_nf (m : LayerMap) (any d : Bool) (ds : List Dep) :
    missItemsL m any d ds = guardL m (depIds ds) (missItemsP m any d ds) := by
  unfold missItemsL
  rw [mapM_lookup2 m (fun _ => Prod.mk), guardL_bind_pure]
  rfl

def reportItemsP (m : LayerMap) (d : Bool) (v : Violations) : List LItem :=
  missItemsP m false d v.should ++ impItemsP m d v.shouldOnlyForbidden ++ missItemsP m false d v.shouldOnlyNoImport ++
  impItemsP m d v.shouldNot ++ missItemsP m true d v.shouldExcept ++ impItemsP m d v.shouldOnlyExceptForbidden ++
  missItemsP m true d v.shouldOnlyExceptNoImport ++ impItemsP m d v.shouldNotExcept

/-- the eight buckets in the order of the report -/
def _root_.Pta.Violations.all (v : Violations) : List Dep :=
  v.should ++ (v.shouldOnlyForbidden ++ (v.shouldOnlyNoImport ++ (v.shouldNot ++ (v.shouldExcept ++
    (v.shouldOnlyExceptForbidden ++ (v.shouldOnlyExceptNoImport ++ v.shouldNotExcept))))))

theorem reportItemsL_nf (m : LayerMap) (d : Bool) (v : Violations) :
    reportItemsL m d v = guardL m (depIds v.all) (reportItemsP m d v) := by
  unfold reportItemsL
  simp only [missItemsL_nf, impItemsL_nf, guardL_bind_pure, guardL_bind, Violations.all, depIds_append]
  rfl

theorem imp_not_mem_missItemsP (m : LayerMap) (any d : Bool) (ds : List Dep) (u v : Str) (b : Bool) (tu tv : Option Str) :
    LItem.imp u v b tu tv ∉ missItemsP m any d ds := by
  unfold missItemsP missOfPairsL
  simp

theorem mem_impItemsP (m : LayerMap) (d : Bool) (ds : List Dep) (u v : Str) (b : Bool) (tu tv : Option Str)
    (h : LItem.imp u v b tu tv ∈ impItemsP m d ds) :
    ∃ dd ∈ ds, (u, v) = userOrder d (dd.1.id, dd.2.id) ∧ tu = tagS m u ∧ tv = tagS m v := by
  unfold impItemsP at h
  obtain ⟨dd, hdd, heq⟩ := List.mem_map.1 h
  simp only [LItem.imp.injEq] at heq
  obtain ⟨h1, h2, _, h4, h5⟩ := heq
  refine ⟨dd, hdd, ?_, ?_, ?_⟩
  · rw [← h1, ← h2]
  · rw [← h4, h1]
  · rw [← h5, h2]

/-- the import lines of a layer report come from the buckets of `Violations.forbidden` -/
theorem imp_mem_reportItemsP (m : LayerMap) (d : Bool) (V : Violations) (u v : Str) (b : Bool) (tu tv : Option Str)
    (h : LItem.imp u v b tu tv ∈ reportItemsP m d V) :
    ∃ dd ∈ V.forbidden, (u, v) = userOrder d (dd.1.id, dd.2.id) ∧ tu = tagS m u ∧ tv = tagS m v := by
  unfold reportItemsP at h
  simp only [List.mem_append, imp_not_mem_missItemsP, false_or, or_false] at h
  rcases h with ((h | h) | h) | h
  all_goals
    obtain ⟨dd, hdd, hrest⟩ := mem_impItemsP m d _ u v b tu tv h
    exact ⟨dd, by simp [Violations.forbidden, hdd], hrest⟩

/-! ### the names the detector looks up and returns are names of the query results and of the objects -/

section names
variable (P : Str → Prop) (m : LayerMap) (b : Behavior) (d : Bool) {expl : Option ExplDeps} {other : Option OtherDeps}
  (hE : ∀ e, expl = some e → ExplIn P e) (hO : ∀ o, other = some o → OtherIn P o)
include hE hO

theorem detectIds_in : ∀ s ∈ detectIds b d expl other, P s := by
  have hp : ∀ e, expl = some e → ∀ s ∈ pairIds d e, P s := fun e he =>
    (realised_in P d e fun kd hkd => (hE e he kd hkd).2).ids
  have hk : ∀ e, expl = some e → ∀ s ∈ keyIds d e, P s := by
    intro e he s hs
    obtain ⟨kd, hkd, hs⟩ := List.mem_flatMap.1 hs
    rw [List.mem_singleton.1 hs]
    unfold relevantOf
    split
    · exact (hE e he kd hkd).1.2
    · exact (hE e he kd hkd).1.1
  have ho : ∀ o, other = some o → ∀ s ∈ pairIds d o, P s := fun o ho =>
    (realised_in P d o fun kd hkd => (hO o ho kd hkd).2).ids
  intro s hs
  simp only [detectIds, List.mem_append] at hs
  rcases hs with h | h | h | h | h | h | h | h <;> obtain ⟨a, ha, h⟩ := Det.mem_onOpt h
  · exact hp a ha s h
  · exact hk a ha s h
  · exact hk a ha s h
  · exact ho a ha s h
  · exact ho a ha s h
  · exact ho a ha s h
  · exact hp a ha s h
  · exact ho a ha s h

theorem detectP_in (objs : List Mod) (hobj : ∀ o ∈ objs, P o.id) : DepsIn P (detectP m b d expl other objs).all := by
  have hrE : ∀ e, expl = some e → DepsIn P (realisedP m d e) := fun e he x hx =>
    realised_in P d e (fun kd hkd => (hE e he kd hkd).2) x (List.mem_filter.1 hx).1
  have hrO : ∀ o, other = some o → DepsIn P (realisedP m d o) := fun o ho x hx =>
    realised_in P d o (fun kd hkd => (hO o ho kd hkd).2) x (List.mem_filter.1 hx).1
  have ha : ∀ e, expl = some e → DepsIn P (abstractP m d e) := by
    intro e he x hx
    obtain ⟨kd, hkd, rfl⟩ := abstractP_mem m d e x hx
    obtain ⟨h1, h2⟩ := (hE e he kd hkd).1
    cases d
    · exact ⟨h2, h1⟩
    · exact ⟨h1, h2⟩
  have hm : ∀ o, other = some o → DepsIn P (anyMissingP m d o objs) := by
    intro o ho x hx
    obtain ⟨kd, hkd, om, hom, rfl⟩ := anyMissingP_mem m d o objs x hx
    exact ⟨(hO o ho kd hkd).1, hobj om hom⟩
  intro x hx
  simp only [Violations.all, detectP, List.mem_append] at hx
  rcases hx with h | h | h | h | h | h | h | h <;> obtain ⟨a, hs, h⟩ := Det.mem_onOpt h
  · exact ha a hs x h
  · exact hrO a hs x h
  · exact ha a hs x h
  · exact hrE a hs x h
  · exact hm a hs x h
  · exact hrE a hs x h
  · exact hm a hs x h
  · exact hrO a hs x h

end names

/-- what a layer matcher looks up at a result of the queries: the detector's lookups and, if it finds a violation, both
    ends of every dependency it found -/
def Front.idsL (m : LayerMap) (x : Front) : List Str :=
  detectIds x.b x.dir x.expl x.other ++
    if (detectP m x.b x.dir x.expl x.other (x.objs.map Filter.toMod)).any then
      depIds (detectP m x.b x.dir x.expl x.other (x.objs.map Filter.toMod)).all else []

/-- what it returns when no lookup fails -/
def Front.itemsP (m : LayerMap) (x : Front) : Option (List LItem) :=
  if (detectP m x.b x.dir x.expl x.other (x.objs.map Filter.toMod)).any then
    some (reportItemsP m x.dir (detectP m x.b x.dir x.expl x.other (x.objs.map Filter.toMod))) else none

/-- the whole of `LayerRuleMatcher.match` after the queries: the check of the mapping, the lookups, a pure report -/
theorem Front.outcomeL_nf (mt : Str → Str → Bool) (g : PGraph Str) (a : LArch) (x : Front) :
    Front.outcome (Front.violationsL mt g a) (Front.itemsL mt g a) x =
      if !(x.layerMap mt g a).consistent then .error .layerMismatch
      else guardL (x.layerMap mt g a) (x.idsL (x.layerMap mt g a)) (x.itemsP (x.layerMap mt g a)) := by
  unfold Front.outcome Front.violationsL Front.itemsL Front.idsL Front.itemsP
  split
  · rfl
  · rw [detectL_nf]
    refine guardL_bind_eq _ _ _ _ _ _ ?_
    split
    · rw [reportItemsL_nf, guardL_map]
    · rfl

theorem Front.idsL_in (P : Str → Prop) (m : LayerMap) (x : Front) (hE : ∀ e, x.expl = some e → ExplIn P e)
    (hO : ∀ o, x.other = some o → OtherIn P o) (hobj : ∀ o ∈ x.objs.map Filter.toMod, P o.id) : ∀ s ∈ x.idsL m, P s := by
  intro s hs
  rcases List.mem_append.1 hs with hs | hs
  · exact detectIds_in P x.b x.dir hE hO s hs
  · split at hs
    · exact (detectP_in P m x.b x.dir hE hO _ hobj).ids s hs
    · cases hs

/-- after the queries a layer rule raises nothing but `LayerMismatch`: from `_update_layer_mapping`, or from a layer
    lookup of the detector or the report -/
theorem outcomeL_errOnly (mt : Str → Str → Bool) (g : PGraph Str) (a : LArch) (x : Front) (e : ErrKind)
    (h : Front.outcome (Front.violationsL mt g a) (Front.itemsL mt g a) x = .error e) : e = .layerMismatch := by
  rw [Front.outcomeL_nf] at h
  split at h
  · cases h; rfl
  · exact guardL_err _ _ _ e h

/-- an error other than `LayerMismatch` is the error of the conversions and queries; only `LayerMismatch` looks at the
    layered architecture -/
theorem matchLayerRule_err_iff_queries (mt : Str → Str → Bool) (g : PGraph Str) (a : LArch) (b : Behavior) (d : Bool)
    (ss os : List Filter) (k : ErrKind) (hk : k ≠ .layerMismatch) :
    matchLayerRule mt g a b d ss os = .err k ↔ queries mt g b d ss os = .error k := by
  rw [matchLayerRule_queries, LVerdict.ofRes_err_iff, bind_error_iff]
  exact or_iff_left fun ⟨x, _, h⟩ => hk (outcomeL_errOnly mt g a x k h)

end Pta
