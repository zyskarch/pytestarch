/-
  PtaProofs.Lemmas.LimitVerdict — property C09, second sentence: rules whose identifiers lie at or above the level
  limit have the same verdict on the flattened and on the full graph.
  Route: the flattened graph is the graph of the quotient architecture `truncArch (some k) a`, which is well-formed;
  C01 applies to both graphs; on the specification side truncation neither creates nor destroys a witness of
  `edges` / `others` for such rules.
-/
import Bridge.Abs
import Bridge.Quotient
import PtaProofs.Lemmas.Semantics
namespace Pta
open PtaSpec

/-- membership in the result of a function that drops an element occurring again later, from its two equations -/
theorem mem_dedupLater {α : Type} [BEq α] [LawfulBEq α] (f : List α → List α) (h0 : f [] = [])
    (h1 : ∀ x xs, f (x :: xs) = if xs.contains x then f xs else x :: f xs) (l : List α) (x : α) :
    x ∈ f l ↔ x ∈ l := by
  induction l with
  | nil => rw [h0]
  | cons y ys ih =>
    rw [h1]
    split
    · rename_i h
      have hy : y ∈ ys := by simpa using h
      rw [ih, List.mem_cons]
      exact ⟨.inr, fun h' => h'.elim (fun e => e ▸ hy) id⟩
    · rw [List.mem_cons, List.mem_cons, ih]

theorem mem_dedupNames (l : List Name) (x : Name) : x ∈ dedupNames l ↔ x ∈ l :=
  mem_dedupLater dedupNames rfl (fun _ _ => rfl) l x

theorem mem_dedupPairs (l : List (Name × Name)) (x : Name × Name) : x ∈ dedupPairs l ↔ x ∈ l :=
  mem_dedupLater dedupPairs rfl (fun _ _ => rfl) l x

theorem nodupB_dedupNames (l : List Name) : nodupB (dedupNames l) = true := by
  induction l with
  | nil => rfl
  | cons y ys ih =>
    unfold dedupNames
    split
    · exact ih
    · rename_i h
      have hy : y ∉ ys := by simpa using h
      simp only [nodupB, Bool.and_eq_true, Bool.not_eq_true', ih, and_true]
      rw [← Bool.not_eq_true, List.contains_iff_mem, mem_dedupNames]
      exact hy

theorem mem_truncArch_nodes (lim : Option Nat) (a : Arch) (n : Name) :
    n ∈ (truncArch lim a).nodes ↔ ∃ m ∈ a.nodes, n = trunc lim m := by
  unfold truncArch
  simp only [mem_dedupNames, List.mem_map]
  constructor
  · rintro ⟨m, hm, rfl⟩; exact ⟨m, hm, rfl⟩
  · rintro ⟨m, hm, rfl⟩; exact ⟨m, hm, rfl⟩

theorem mem_truncArch_imports (lim : Option Nat) (a : Arch) (p : Name × Name) :
    p ∈ (truncArch lim a).imports ↔
      ∃ e ∈ a.imports, trunc lim e.1 ≠ trunc lim e.2 ∧ p = (trunc lim e.1, trunc lim e.2) := by
  unfold truncArch
  simp only [mem_dedupPairs, List.mem_filter, List.mem_map, bne_iff_ne, ne_eq]
  constructor
  · rintro ⟨⟨e, he, rfl⟩, hne⟩; exact ⟨e, he, hne, rfl⟩
  · rintro ⟨e, he, hne, rfl⟩; exact ⟨⟨e, he, rfl⟩, hne⟩

theorem exists_truncArch_nodes (lim : Option Nat) (a : Arch) (P : Name → Prop) :
    (∃ c ∈ (truncArch lim a).nodes, P c) ↔ ∃ n ∈ a.nodes, P (trunc lim n) := by
  simp only [mem_truncArch_nodes]
  exact ⟨fun ⟨_, ⟨n, hn, rfl⟩, h⟩ => ⟨n, hn, h⟩, fun ⟨n, hn, h⟩ => ⟨_, ⟨n, hn, rfl⟩, h⟩⟩

theorem exists_truncArch_imports (lim : Option Nat) (a : Arch) (P : Name × Name → Prop) :
    (∃ p ∈ (truncArch lim a).imports, P p) ↔
      ∃ e ∈ a.imports, trunc lim e.1 ≠ trunc lim e.2 ∧ P (trunc lim e.1, trunc lim e.2) := by
  simp only [mem_truncArch_imports]
  exact ⟨fun ⟨_, ⟨e, he, hne, rfl⟩, h⟩ => ⟨e, he, hne, h⟩, fun ⟨e, he, hne, h⟩ => ⟨_, ⟨e, he, hne, rfl⟩, h⟩⟩

/-! ### the quotient graph is the graph of the quotient architecture -/

theorem graphOf_truncArch (a : Arch) (lim : Option Nat) (g : PGraph Str) (h : QuotientOf a lim g) :
    GraphOf (truncArch lim a) g :=
  ⟨fun s => (h.nodes s).trans (exists_truncArch_nodes lim a fun c => s = render c).symm,
   fun s x => (h.hier s x).trans
     (exists_truncArch_nodes lim a fun c => 2 ≤ c.length ∧ s = render c.dropLast ∧ x = render c).symm,
   fun s x => (h.succs s x).trans (exists_truncArch_imports lim a fun p => s = render p.1 ∧ x = render p.2).symm,
   fun s x => (h.preds s x).trans (exists_truncArch_imports lim a fun p => x = render p.1 ∧ s = render p.2).symm⟩

/-- truncation never turns a non-ancestor into a strict ancestor -/
theorem sdesc_of_sdesc_trunc (lim : Option Nat) (u v : Name) (h : sdesc (trunc lim u) (trunc lim v) = true) :
    sdesc u v = true := by
  cases lim with
  | none => exact h
  | some k =>
    rw [sdesc_iff] at h ⊢
    obtain ⟨hpre, hne⟩ := h
    simp only [trunc] at hpre hne
    have hlt := prefix_length_lt hpre hne
    simp only [List.length_take] at hlt
    have hu : u.take (k + 1) = u := List.take_of_length_le (by omega)
    rw [hu] at hpre hne
    refine ⟨hpre.trans (List.take_prefix _ _), ?_⟩
    rintro rfl
    exact hne hu.symm

theorem desc_take (k : Nat) (x n : Name) (hx : x.length ≤ k + 1) : desc x (n.take (k + 1)) = desc x n := by
  rw [Bool.eq_iff_iff, desc_iff, desc_iff]
  constructor
  · exact fun h => h.trans (List.take_prefix _ _)
  · intro h
    rw [List.prefix_iff_eq_take.1 h]
    exact List.take_prefix_take_left hx

theorem sdesc_take (k : Nat) (x n : Name) (hx : x.length ≤ k) : sdesc x (n.take (k + 1)) = sdesc x n := by
  have hd := desc_take k x n (Nat.le_succ_of_le hx)
  rw [Bool.eq_iff_iff, desc_iff, desc_iff] at hd
  rw [Bool.eq_iff_iff, sdesc_iff_lt, sdesc_iff_lt, hd, List.length_take]
  exact and_congr_right fun _ => by omega

/-! ### filters at or above the limit do not see the truncation -/

theorem above_id_length (k : Nat) (f : SFilter) (h : filterAbove k f = true) : f.id.length ≤ k + 1 := by
  cases f with
  | named x => simpa [filterAbove, SFilter.id] using h
  | subOf x =>
    have : x.length ≤ k := by simpa [filterAbove] using h
    simp only [SFilter.id]; omega

theorem mem_trunc (k : Nat) (f : SFilter) (h : filterAbove k f = true) (n : Name) :
    f.mem (trunc (some k) n) = f.mem n := by
  cases f with
  | named x => exact desc_take k x n (by simpa [filterAbove] using h)
  | subOf x => exact sdesc_take k x n (by simpa [filterAbove] using h)

theorem desc_id_trunc (k : Nat) (f : SFilter) (h : filterAbove k f = true) (n : Name) :
    desc f.id (trunc (some k) n) = desc f.id n :=
  desc_take k f.id n (above_id_length k f h)

/-- a test that does not see the truncation agrees on names that collapse -/
theorem collapse_congr {β : Type} {lim : Option Nat} {q : Name → β} (hq : ∀ n, q (trunc lim n) = q n) {u v : Name}
    (hc : trunc lim u = trunc lim v) : q u = q v := by
  rw [← hq u, hc, hq v]

/-- two modules that collapse under truncation lie in the same sub trees above the limit -/
theorem desc_id_of_collapse (k : Nat) (f : SFilter) (h : filterAbove k f = true) (u v : Name)
    (hu : f.mem u = true) (hc : trunc (some k) u = trunc (some k) v) : desc f.id v = true :=
  mem_desc f v (collapse_congr (mem_trunc k f h) hc ▸ hu)

theorem related_of_common (x y n : Name) (hx : desc x n = true) (hy : desc y n = true) : related x y = true :=
  related_of_prefixes ((desc_iff _ _).1 hx) ((desc_iff _ _).1 hy)

theorem isEmpty_congr {α β : Type} (l₁ : List α) (l₂ : List β) (h : (∃ x, x ∈ l₁) ↔ (∃ y, y ∈ l₂)) :
    l₁.isEmpty = l₂.isEmpty :=
  Ord.isEmpty_congr (by simp only [List.eq_nil_iff_forall_not_mem, ← not_exists, h])

theorem exists_import_trunc (k : Nat) (a : Arch) (p : Name × Name → Prop)
    (hp : ∀ e, p (trunc (some k) e.1, trunc (some k) e.2) ↔ p e)
    (hne : ∀ e, p e → trunc (some k) e.1 ≠ trunc (some k) e.2) :
    (∃ q ∈ (truncArch (some k) a).imports, p q) ↔ ∃ e ∈ a.imports, p e := by
  simp only [mem_truncArch_imports]
  constructor
  · rintro ⟨_, ⟨e, he, _, rfl⟩, h⟩
    exact ⟨e, he, (hp e).1 h⟩
  · rintro ⟨e, he, h⟩
    exact ⟨_, ⟨e, he, hne e h, rfl⟩, (hp e).2 h⟩

theorem filter_truncArch_isEmpty (k : Nat) (a : Arch) (P : Name × Name → Bool)
    (hP : ∀ e, P (trunc (some k) e.1, trunc (some k) e.2) = P e)
    (hne : ∀ e, P e = true → trunc (some k) e.1 ≠ trunc (some k) e.2) :
    ((truncArch (some k) a).imports.filter P).isEmpty = (a.imports.filter P).isEmpty := by
  apply isEmpty_congr
  simp only [List.mem_filter]
  exact exists_import_trunc k a (fun e => P e = true) (fun e => by rw [hP]) hne

theorem edges_trunc (k : Nat) (a : Arch) (dir : Bool) (s o : SFilter) (hs : filterAbove k s = true)
    (ho : filterAbove k o = true) (hso : related s.id o.id = false) :
    (edges (truncArch (some k) a) dir s o).isEmpty = (edges a dir s o).isEmpty := by
  unfold edges
  refine filter_truncArch_isEmpty k a _ (fun e => by simp only [mem_trunc k s hs, mem_trunc k o ho])
    fun e hq hc => ?_
  -- ends that collapse lie in a common sub tree of the subject and the object, which are unrelated
  cases dir with
  | true =>
    simp only [if_true, Bool.and_eq_true] at hq
    rw [related_of_common _ _ _ (desc_id_of_collapse k s hs _ _ hq.1 hc) (mem_desc o _ hq.2)] at hso
    cases hso
  | false =>
    simp only [Bool.false_eq_true, if_false, Bool.and_eq_true] at hq
    rw [related_of_common _ _ _ (mem_desc s _ hq.2) (desc_id_of_collapse k o ho _ _ hq.1 hc)] at hso
    cases hso

theorem others_trunc (k : Nat) (a : Arch) (dir : Bool) (s : SFilter) (os : List SFilter) (hs : filterAbove k s = true)
    (hos : ∀ o ∈ os, filterAbove k o = true) :
    (others (truncArch (some k) a) dir s os).isEmpty = (others a dir s os).isEmpty := by
  unfold others
  refine filter_truncArch_isEmpty k a _ (fun e => ?_) fun e hq hc => ?_
  · have hall : ∀ n, (os.all fun o => !o.mem (trunc (some k) n)) = os.all fun o => !o.mem n :=
      fun n => all_congr_mem os _ _ (fun o ho => by rw [mem_trunc k o (hos o ho)])
    cases dir <;> simp only [mem_trunc k s hs, desc_id_trunc k s hs, hall, if_true, if_false, Bool.false_eq_true]
  · -- the near end is a member of the subject, so a far end collapsing with it lies below the subject's identifier
    cases dir with
    | true =>
      simp only [if_true, Bool.and_eq_true, Bool.not_eq_true'] at hq
      exact Bool.false_ne_true (hq.1.2.symm.trans (desc_id_of_collapse k s hs e.1 e.2 hq.1.1 hc))
    | false =>
      simp only [Bool.false_eq_true, if_false, Bool.and_eq_true, Bool.not_eq_true'] at hq
      exact Bool.false_ne_true (hq.1.2.symm.trans (desc_id_of_collapse k s hs e.2 e.1 hq.1.1 hc.symm))

theorem truncArch_wf (lim : Option Nat) (a : Arch) (hwf : a.wf = true) : (truncArch lim a).wf = true := by
  have hw := archWF_of_wf a hwf
  refine (BuildNames.wf_iff _).2 ⟨(nodupB_iff _).1 (nodupB_dedupNames _), ?_, ?_, ?_⟩
  · intro n hn
    obtain ⟨m, hm, rfl⟩ := (mem_truncArch_nodes lim a n).1 hn
    exact nameWF_trunc lim m (hw.nwf m hm)
  · intro n hn p hp
    obtain ⟨m, hm, rfl⟩ := (mem_truncArch_nodes lim a n).1 hn
    obtain ⟨j, h0, hj, rfl⟩ := (mem_properPrefixes _ _).1 hp
    have hpre : (trunc lim m).take j <+: trunc lim m := List.take_prefix _ _
    have hne : (trunc lim m).take j ≠ [] := by
      intro h
      have := congrArg List.length h
      simp only [List.length_take, List.length_nil] at this
      omega
    exact (mem_truncArch_nodes lim a _).2
      ⟨_, hw.pref m hm _ hne (hpre.trans (BuildNames.trunc_prefix lim m)), (BuildNames.trunc_of_prefix lim hpre).symm⟩
  · intro p hp
    obtain ⟨e, he, hne, rfl⟩ := (mem_truncArch_imports lim a p).1 hp
    refine ⟨?_, ?_, hne, ?_⟩
    · exact (mem_truncArch_nodes lim a _).2 ⟨e.1, hw.impL e he, rfl⟩
    · exact (mem_truncArch_nodes lim a _).2 ⟨e.2, hw.impR e he, rfl⟩
    · cases h : sdesc (trunc lim e.1) (trunc lim e.2) with
      | false => rfl
      | true =>
        have := sdesc_of_sdesc_trunc lim e.1 e.2 h
        rw [hw.noAnc e he] at this
        cases this

theorem pw_append_unrelated (l₁ l₂ : List Name) (h : pairwiseUnrelated (l₁ ++ l₂) = true) :
    ∀ x ∈ l₁, ∀ y ∈ l₂, related x y = false :=
  (List.pairwise_append.1 ((pu_iff _).1 h)).2.2

theorem strict_subject_object (r : RuleSpec) (hstrict : r.strict = true) (hany : r.anything = false) :
    ∀ s ∈ r.subjects, ∀ o ∈ r.effObjects, related s.id o.id = false := by
  unfold RuleSpec.strict at hstrict
  unfold RuleSpec.effObjects
  rw [hany] at hstrict ⊢
  simp only [Bool.false_eq_true, if_false] at hstrict ⊢
  intro s hs o ho
  exact pw_append_unrelated _ _ hstrict s.id (List.mem_map_of_mem hs) o.id (List.mem_map_of_mem ho)

theorem verdict_trunc (k : Nat) (a : Arch) (r : RuleSpec) (hstrict : r.strict = true) (habove : ruleAbove k r = true)
    (hany : r.anything = true → r.verb = .shouldNot) :
    verdict (truncArch (some k) a) r = verdict a r := by
  unfold ruleAbove at habove
  simp only [List.all_eq_true, List.mem_append] at habove
  have hO : ∀ s ∈ r.subjects,
      (others (truncArch (some k) a) r.importDir s r.effObjects).isEmpty = (others a r.importDir s r.effObjects).isEmpty :=
    fun s hs => others_trunc k a r.importDir s r.effObjects (habove s (.inl hs)) (fun o ho => habove o (.inr ho))
  cases hA : r.anything with
  | true =>
    unfold verdict
    simp only [RuleSpec.effExc, hA, hany hA, Bool.true_or]
    exact all_congr_mem _ _ _ hO
  | false =>
    exact verdict_congr _ a r (fun s hs o ho => edges_trunc k a r.importDir s o (habove s (.inl hs)) (habove o (.inr ho))
      (strict_subject_object r hstrict hA s hs o ho)) hO

theorem namesIn_trunc (k : Nat) (a : Arch) (r : RuleSpec) (hnames : r.namesIn a = true) (habove : ruleAbove k r = true) :
    r.namesIn (truncArch (some k) a) = true := by
  unfold RuleSpec.namesIn at hnames ⊢
  unfold ruleAbove at habove
  simp only [List.all_eq_true, List.contains_iff_mem] at hnames habove ⊢
  intro f hf
  refine (mem_truncArch_nodes _ a _).2 ⟨f.id, hnames f hf, ?_⟩
  exact (List.take_of_length_le (above_id_length k f (habove f hf))).symm

/-- C01 ∘ C09 on any quotient graph: such rules have the documented verdict of the FULL architecture -/
theorem verdict_of_quotient (mt : Str → Str → Bool) (a : Arch) (hwf : a.wf = true) (k : Nat) (g : PGraph Str)
    (q : QuotientOf a (some k) g)
    (r : RuleSpec) (hstrict : r.strict = true) (hnames : r.namesIn a = true)
    (hs : r.subjects ≠ []) (ho : r.anything = true ∨ r.objects ≠ [])
    (hany : r.anything = true → r.verb = .shouldNot)
    (habove : ruleAbove k r = true) :
    verdictOf mt g (compile r) = VClass.ofBool (verdict a r) := by
  rw [verdict_spec_of_graph_lemma mt (truncArch (some k) a) g (graphOf_truncArch a (some k) g q)
        (truncArch_wf (some k) a hwf) r hstrict (namesIn_trunc k a r hnames habove) hs ho hany,
      verdict_trunc k a r hstrict habove hany]

end Pta
