/-
  PtaProofs.Lemmas.LayerConsistent — the check `LayerRuleMatcher._update_layer_mapping` performs since fix 481d97d
  (`LayerMap.consistent`: no identifier is listed by two entries carrying different layer names) as a proposition, the
  mapping entry by entry, and what `matchLayerRule` / `assert_applies` return when the check fails.
-/
import PtaModel
import PtaProofs.Lemmas.Pipeline
import PtaProofs.Lemmas.SameMembers
namespace Pta

/-- `LayerMap.consistent` as a proposition: an identifier listed by two entries is listed under one layer name (the check
    `_update_layer_mapping` makes since fix 481d97d; listing an identifier twice in the SAME layer is allowed) -/
def ConsP (m : LayerMap) : Prop := ∀ l1 ∈ m, ∀ l2 ∈ m, ∀ id, id ∈ l1.2 → id ∈ l2.2 → l1.1 = l2.1

theorem consistent_iff (m : LayerMap) : m.consistent = true ↔ ConsP m := by
  unfold LayerMap.consistent ConsP
  simp only [List.all_eq_true, Bool.or_eq_true, beq_iff_eq, Bool.not_eq_true', List.any_eq_false,
    List.contains_iff_mem]
  constructor
  · intro h l1 h1 l2 h2 id i1 i2
    rcases h l1 h1 l2 h2 with e | hn
    · exact e
    · exact absurd i2 (hn id i1)
  · intro h l1 h1 l2 h2
    by_cases e : l1.1 = l2.1
    · exact Or.inl e
    · right
      intro id i1 i2
      exact e (h l1 h1 l2 h2 id i1 i2)

/-- only the SET of entries matters for the check -/
theorem consistent_congr {m m' : LayerMap} (h : ∀ x, x ∈ m ↔ x ∈ m') : m.consistent = m'.consistent := by
  unfold LayerMap.consistent
  simp only [Ord.all_congr h]

theorem consistent_perm {m m' : LayerMap} (h : m.Perm m') : m.consistent = m'.consistent :=
  consistent_congr fun _ => h.mem_iff

theorem ConsP.of_sub {m m' : LayerMap} (h : ConsP m')
    (hsub : ∀ l ∈ m, ∃ l' ∈ m', l'.1 = l.1 ∧ ∀ id ∈ l.2, id ∈ l'.2) : ConsP m := by
  intro l1 h1 l2 h2 id i1 i2
  obtain ⟨k1, hk1, e1, s1⟩ := hsub l1 h1
  obtain ⟨k2, hk2, e2, s2⟩ := hsub l2 h2
  rw [← e1, ← e2]
  exact h k1 hk1 k2 hk2 id (s1 id i1) (s2 id i2)

/-- on a mapping that passed the check, "the last entry listing `id`" is any entry listing it -/
theorem layerOfListed_eq_some_iff {m : LayerMap} (hc : ConsP m) (id t : Str) :
    m.layerOfListed id = some t ↔ ∃ l ∈ m, l.1 = t ∧ id ∈ l.2 := by
  unfold LayerMap.layerOfListed
  rw [Option.map_eq_some_iff]
  constructor
  · rintro ⟨l, hl, rfl⟩
    have := List.mem_filter.1 (List.mem_of_getLast? hl)
    exact ⟨l, this.1, rfl, by simpa using this.2⟩
  · rintro ⟨l, hl, rfl, hid⟩
    obtain ⟨k, hg⟩ : ∃ k, (m.filter fun l => l.2.contains id).getLast? = some k := Option.isSome_iff_exists.1
      (List.getLast?_isSome.2 (List.ne_nil_of_mem (List.mem_filter.2 ⟨hl, List.contains_iff_mem.2 hid⟩)))
    have hk := List.mem_filter.1 (List.mem_of_getLast? hg)
    exact ⟨k, hg, hc k hk.1 l hl id (by simpa using hk.2) hid⟩

/-- one entry of the mapping `_update_layer_mapping` builds -/
def entryOf (mt : Str → Str → Bool) (mods : List Str) (conv : List Str) (L : Str × List Filter) : Str × List Str :=
  (L.1, L.2.flatMap fun f =>
    match f with
    | .regex p => if conv.contains p then mods.filter (mt p) else []
    | f => [f.id])

theorem updateLayerMap_eq_map (mt : Str → Str → Bool) (mods : List Str) (a : LArch) (conv : List Str) :
    updateLayerMap mt mods a conv = a.map (entryOf mt mods conv) := rfl

/-- the layer mapping the rule matcher builds: the regexes occurring in the rule are expanded -/
def ruleMap (mt : Str → Str → Bool) (g : PGraph Str) (a : LArch) (subjects objects : List Filter) : LayerMap :=
  updateLayerMap mt g.nodes a (((subjects ++ objects).filter (·.isRegex)).map (·.id))

theorem Front.layerMap_eq (mt : Str → Str → Bool) (g : PGraph Str) (a : LArch) (x : Front) :
    x.layerMap mt g a = ruleMap mt g a x.ss x.os := rfl

/-- `_update_layer_mapping` raises before the detector runs -/
theorem Front.outcome_inconsistent {β : Type} {mt : Str → Str → Bool} {g : PGraph Str} {a : LArch} {x : Front}
    (report : Front → Violations → Except ErrKind β) (hc : (x.layerMap mt g a).consistent = false) :
    Front.outcome (Front.violationsL mt g a) report x = .error .layerMismatch := by
  unfold Front.outcome Front.violationsL
  rw [hc]
  rfl

/-- the repaired matcher: conversion and queries succeed, the resolved mapping assigns an identifier to two different
    layers ⟹ `LayerMismatch`, whatever the detector would have said -/
theorem matchLayerRule_inconsistent (mt : Str → Str → Bool) (g : PGraph Str) (a : LArch) (b : Behavior) (d : Bool)
    (subjects objects subs objs : List Filter) (q : Option ExplDeps × Option OtherDeps)
    (h1 : convertFilters mt g.nodes subjects = .ok subs) (h2 : convertFilters mt g.nodes objects = .ok objs)
    (h3 : runQueries g b d subs objs = .ok q)
    (hc : (ruleMap mt g a subjects objects).consistent = false) :
    matchLayerRule mt g a b d subjects objects = .err .layerMismatch := by
  rw [matchLayerRule_queries, (queries_ok_iff mt g b d subjects objects _).2 ⟨subs, objs, q.1, q.2, h1, h2, h3, rfl⟩]
  exact congrArg LVerdict.ofRes (Front.outcome_inconsistent (x := ⟨b, d, subjects, objects, _, _, _⟩) _ hc)

/-- with an inconsistent mapping the matcher never returns a verdict (it raises `LayerMismatch`, or an earlier error of
    the regex conversion / the graph queries) -/
theorem matchLayerRule_err_of_inconsistent (mt : Str → Str → Bool) (g : PGraph Str) (a : LArch) (b : Behavior) (d : Bool)
    (subjects objects : List Filter) (hc : (ruleMap mt g a subjects objects).consistent = false) :
    ∃ k, matchLayerRule mt g a b d subjects objects = .err k := by
  rw [matchLayerRule_queries]
  cases hq : queries mt g b d subjects objects with
  | error k => exact ⟨k, rfl⟩
  | ok x =>
    obtain ⟨_, _, _, _, _, _, _, rfl⟩ := (queries_ok_iff mt g b d subjects objects x).1 hq
    exact ⟨_, congrArg LVerdict.ofRes (Front.outcome_inconsistent (x := ⟨b, d, subjects, objects, _, _, _⟩) _ hc)⟩

/-- the layer mapping `assert_applies` builds for a rule object (`LayerRuleMatcher._update_layer_mapping` on the
    subjects and objects that are left after `_convert_aliases`) -/
def stateLayerMap (mt : Str → Str → Bool) (g : PGraph Str) (larch : LArch) (r : RuleState) : LayerMap :=
  ruleMap mt g larch ((convertAliases r.cfg).subjects.getD []) ((convertAliases r.cfg).objects.getD [])

theorem assertAppliesLayer_err_of_inconsistent (mt : Str → Str → Bool) (g : PGraph Str) (larch : LArch) (r : RuleState)
    (hc : (stateLayerMap mt g larch r).consistent = false) :
    ∃ k, assertAppliesLayer mt ⟨some larch, some r⟩ g = .err k := by
  rw [assertAppliesLayer_front]
  rcases front_cases mt g r.cfg with ⟨_, hf⟩ | ⟨_, k, _, hf⟩ | ⟨_, d, ss, os, ⟨-, -, -, -, hs, ho⟩, hf⟩ <;> rw [hf]
  · exact ⟨_, rfl⟩
  · exact ⟨_, rfl⟩
  · unfold stateLayerMap at hc
    rw [hs, ho] at hc
    rw [← matchLayerRule_queries]
    exact matchLayerRule_err_of_inconsistent mt g larch _ d ss os hc

end Pta
