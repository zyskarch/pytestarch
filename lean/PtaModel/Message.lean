/-
  PtaModel.Message — rule_assessment/error_message/message_generator.py: the TEXT of the violation message
  (`RuleViolationMessageBaseGenerator`, `RuleViolationMessageGenerator`, `LayerRuleViolationMessageGenerator`),
  transcribed function by function, plus text-valued variants of `assert_applies` that run the existing pipeline
  (same queries, same eight buckets) and hand the buckets to the text generator instead of the item generator.

  Python sets. The eight buckets of `RuleViolations` are `set[Dependency]`; the model keeps them as lists. Iterating a
  set is modelled by `setIter` (each element once). The order in which Python iterates a set is unspecified, but every
  iteration below ends in a `sorted(...)` / `.sort()` before anything is emitted, and the final list of lines is
  `sorted(list(set(lines)))`; so the list order chosen by `setIter` never shows in the result
  (`PtaProofs/Lemmas/Str.lean: canon_ext`), and the message is a deterministic LIST of lines.
-/
import PtaModel.Layer
namespace Pta

/-- `RuleViolatedMessage` -/
structure Msg where
  subject : Str
  verb : Str
  object : Str
deriving DecidableEq, Repr

/-- `f"{message.rule_subject} {message.rule_verb} {message.rule_object}."` -/
def Msg.text (m : Msg) : Str := m.subject ++ ' ' :: (m.verb ++ ' ' :: (m.object ++ ['.']))

/-- iterating a Python `set` that the model keeps as a list: every element once -/
def setIter {α : Type} [DecidableEq α] (l : List α) : List α := dedup l

/-! ### constants -/

def kwImport : Str := "import".toList                                   -- IMPORT
def kwImportedBy : Str := "imported by".toList                          -- IMPORTED_BY
def kwThirdPerson : Str := "s".toList                                   -- THIRD_PERSON_SINGULAR
def kwSubmoduleMarker : Str := "a sub module of ".toList                -- RULE_OBJECT_IS_SUBMODULE_MARKER
def kwAnyModule : Str := "any module that is not ".toList               -- ANY_MODULE_THAT_IS_NOT
def kwAnyLayer : Str := "any layer that is not ".toList                 -- ANY_LAYER_THAT_IS_NOT
def kwSubModulesOf : Str := "Sub modules of ".toList
def kwCommaSpace : Str := ", ".toList

/-- `PREFIX_MAPPING[(import, negated, subject singular)]` — a `defaultdict(str)`: the two missing keys give `""` -/
def verbPrefix (importRule negated singular : Bool) : Str :=
  match importRule, negated, singular with
  | false, false, true => "is ".toList
  | false, true, true => "is not ".toList
  | true, true, true => "does not ".toList
  | false, false, false => "are ".toList
  | false, true, false => "are not ".toList
  | true, true, false => "do not ".toList
  | true, false, _ => []

/-- `self._base_verb` -/
def baseVerb (importRule : Bool) : Str := if importRule then kwImport else kwImportedBy

/-- `_get_verb_suffix` -/
def verbSuffix (importRule singular : Bool) : Str :=
  if !singular then [] else if importRule then kwThirdPerson else []

/-- `_concatenate_verb` -/
def concatVerb (verb pre suf : Str) : Str := pre ++ verb ++ suf

/-- `_get_quoted_name` -/
def quotedName (n : Str) : Str := '"' :: (n ++ ['"'])

/-- `_get_rule_object` (`is_single_module` = not a `ModuleGroup`) -/
def ruleObjectText (o : Mod) : Str := (if !o.group then [] else kwSubmoduleMarker) ++ quotedName o.id

/-- `_get_rule_subject_formatted` -/
def ruleSubjectText (s : Mod) : Str := (if s.group then kwSubModulesOf else []) ++ quotedName s.id

/-! ### module rules: `RuleViolationMessageGenerator` -/

/-- `_get_violating_rule_subjects_and_objects`: the set of rule subjects, and for each of them the list of its rule
    objects in the order the bucket (a set) is iterated -/
def violatingSubjectsAndObjects (bucket : List Dep) : List (Mod × List Mod) :=
  let ds := setIter bucket
  (setIter (ds.map (·.1))).map fun s => (s, (ds.filter fun d => d.1 = s).map (·.2))

/-- `_add_combined_rule_objects` -/
def addCombinedRuleObjects (ruleObjects : List Str) (ruleSubject ruleVerb : Str) : List Msg :=
  let combined := joinWith kwCommaSpace ruleObjects
  if !combined.isEmpty then [⟨ruleSubject, ruleVerb, combined⟩] else []

/-- `_add_combined_any_rule_objects` -/
def addCombinedAnyRuleObjects (ruleObjects : List Str) (ruleSubject ruleVerb ruleObjectType : Str) : List Msg :=
  if !ruleObjects.isEmpty then [⟨ruleSubject, ruleVerb, ruleObjectType ++ joinWith kwCommaSpace ruleObjects⟩] else []

/-- `_create_no_import_between_original_subject_and_objects_message` -/
def noImportBetweenMsgs (importRule : Bool) (bucket : List Dep) : List Msg :=
  (violatingSubjectsAndObjects bucket).flatMap fun so =>
    let ruleVerb := concatVerb (baseVerb importRule) (verbPrefix importRule true (!so.1.group)) []
    let ruleObjects := sortStr (so.2.map ruleObjectText)
    addCombinedRuleObjects ruleObjects (ruleSubjectText so.1) ruleVerb

/-- `_create_no_import_other_than_between_original_subject_and_objects_message` -/
def noImportOtherThanMsgs (importRule : Bool) (bucket : List Dep) : List Msg :=
  (violatingSubjectsAndObjects bucket).flatMap fun so =>
    let ruleVerb := concatVerb (baseVerb importRule) (verbPrefix importRule true (!so.1.group)) []
    let ruleObjects := sortStr (so.2.map ruleObjectText)
    addCombinedAnyRuleObjects ruleObjects (ruleSubjectText so.1) ruleVerb kwAnyModule

/-- the sort key `(m.rule_subject, m.rule_object)` of `_create_other_violating_dependencies_message`, as `≤` on tuples -/
def msgKeyLe (a b : Msg) : Bool :=
  if strLt a.subject b.subject then true
  else if strLt b.subject a.subject then false
  else strLe a.object b.object

/-- `_create_other_violating_dependencies_message`, the names already completed by
    `_get_rule_subject_and_object_of_dependency` (quoted, with the layer suffix for layer rules) -/
def otherViolatingOfNames (importRule : Bool) (names : List (Str × Str)) : List Msg :=
  let ruleVerb := concatVerb (baseVerb importRule) (verbPrefix importRule false true) (verbSuffix importRule true)
  sortBy msgKeyLe (names.map fun n => ⟨n.1, ruleVerb, n.2⟩)

/-- `_get_suffix` (module generator): "no suffix needed here" -/
def moduleSuffix (_ : Str) : Str := []

/-- `_get_rule_subject_and_object_of_dependency` (module generator) -/
def subjectAndObjectOfDependency (d : Dep) : Str × Str :=
  (quotedName d.1.id ++ moduleSuffix d.1.id, quotedName d.2.id ++ moduleSuffix d.2.id)

/-- `_create_other_violating_dependencies_message` (module rules) -/
def otherViolatingMsgs (importRule : Bool) (bucket : List Dep) : List Msg :=
  otherViolatingOfNames importRule ((setIter bucket).map subjectAndObjectOfDependency)

/-- `_create_violation_messages`: should, should only (forbidden import, no import), should not, should except,
    should only except (forbidden import, no import), should not except -/
def violationMessages (importRule : Bool) (v : Violations) : List Msg :=
  noImportBetweenMsgs importRule v.should ++
  (otherViolatingMsgs importRule v.shouldOnlyForbidden ++ noImportBetweenMsgs importRule v.shouldOnlyNoImport) ++
  otherViolatingMsgs importRule v.shouldNot ++
  noImportOtherThanMsgs importRule v.shouldExcept ++
  (otherViolatingMsgs importRule v.shouldOnlyExceptForbidden ++ noImportOtherThanMsgs importRule v.shouldOnlyExceptNoImport) ++
  otherViolatingMsgs importRule v.shouldNotExcept

/-- the tail of `create_rule_violation_messages`: `sorted(list(set(texts)))` -/
def finishLines (ms : List Msg) : List Str := sortStr (setIter (ms.map Msg.text))

/-- `create_rule_violation_messages` -/
def messageLines (importRule : Bool) (v : Violations) : List Str := finishLines (violationMessages importRule v)

/-- `create_rule_violation_message`: `"\n".join(...)` -/
def messageText (lines : List Str) : Str := joinWith ['\n'] lines

/-! ### layer rules: `LayerRuleViolationMessageGenerator` -/

/-- `_get_suffix` (layer generator) -/
def layerSuffix (m : LayerMap) (name : Str) : Except ErrKind Str := do
  match ← m.layerOf name with
  | none => pure " (no layer)".toList
  | some l => pure (" (layer ".toList ++ quotedName l ++ [')'])

/-- `_get_rule_subject_and_object_of_dependency` (layer generator) -/
def subjectAndObjectOfDependencyL (m : LayerMap) (d : Dep) : Except ErrKind (Str × Str) := do
  let s1 ← layerSuffix m d.1.id
  let s2 ← layerSuffix m d.2.id
  pure (quotedName d.1.id ++ s1, quotedName d.2.id ++ s2)

/-- `_create_other_violating_dependencies_message` (layer rules) -/
def otherViolatingMsgsL (m : LayerMap) (importRule : Bool) (bucket : List Dep) : Except ErrKind (List Msg) := do
  let names ← (setIter bucket).mapM (subjectAndObjectOfDependencyL m)
  pure (otherViolatingOfNames importRule names)

/-- what an f-string prints for a layer name; `None` cannot occur for rules built through `LayerRule`, whose subjects
    and objects are the contents of layers -/
def layerNameText : Option Str → Str
  | none => "None".toList
  | some l => l

/-- the order `sorted(...)` uses on layer names. Python compares `str`s; a `None` next to a `str` would raise
    `TypeError` (unreachable, see `layerNameText`) — the model puts `None` first instead. -/
def layerNameLe : Option Str → Option Str → Bool
  | none, _ => true
  | some _, none => false
  | some a, some b => strLe a b

/-- `_get_violating_rule_subject_and_objects_layers`: the set of subject layers with, for each, the SET of object layers.
    Both results are sets, so meeting a dependency twice changes nothing and the bucket is walked as it is. -/
def violatingSubjectAndObjectLayers (m : LayerMap) (bucket : List Dep) :
    Except ErrKind (List (Option Str × List (Option Str))) := do
  let ls ← bucket.mapM fun d => do
    let a ← m.layerOf d.1.id
    let b ← m.layerOf d.2.id
    pure (a, b)
  pure ((setIter (ls.map (·.1))).map fun s => (s, setIter ((ls.filter fun d => d.1 = s).map (·.2))))

/-- `_prepend_prefix` -/
def prependLayerPrefix (x : Str) (capital : Bool := true) : Str :=
  (if capital then 'L' else 'l') :: ("ayer ".toList ++ x)

/-- the object layers of one subject layer: `sorted(...)` on the layer NAMES, then formatted -/
def objectLayerTexts (objs : List (Option Str)) : List Str :=
  (sortBy layerNameLe objs).map fun l => prependLayerPrefix (quotedName (layerNameText l)) false

/-- `_create_no_import_between_original_subject_and_objects_message` (layer generator) -/
def noImportBetweenMsgsL (m : LayerMap) (importRule : Bool) (bucket : List Dep) : Except ErrKind (List Msg) := do
  let sos ← violatingSubjectAndObjectLayers m bucket
  pure <| sos.flatMap fun so =>
    let ruleVerb := concatVerb (baseVerb importRule) (verbPrefix importRule true true) []
    addCombinedRuleObjects (objectLayerTexts so.2) (prependLayerPrefix (quotedName (layerNameText so.1))) ruleVerb

/-- `_create_no_import_other_than_between_original_subject_and_objects_message` (layer generator) -/
def noImportOtherThanMsgsL (m : LayerMap) (importRule : Bool) (bucket : List Dep) : Except ErrKind (List Msg) := do
  let sos ← violatingSubjectAndObjectLayers m bucket
  pure <| sos.flatMap fun so =>
    let ruleVerb := concatVerb (baseVerb importRule) (verbPrefix importRule true true) []
    addCombinedAnyRuleObjects (objectLayerTexts so.2) (prependLayerPrefix (quotedName (layerNameText so.1))) ruleVerb kwAnyLayer

/-- `_create_violation_messages` with the layer generator's overrides -/
def violationMessagesL (m : LayerMap) (importRule : Bool) (v : Violations) : Except ErrKind (List Msg) := do
  let a ← noImportBetweenMsgsL m importRule v.should
  let b ← otherViolatingMsgsL m importRule v.shouldOnlyForbidden
  let c ← noImportBetweenMsgsL m importRule v.shouldOnlyNoImport
  let d ← otherViolatingMsgsL m importRule v.shouldNot
  let e ← noImportOtherThanMsgsL m importRule v.shouldExcept
  let f ← otherViolatingMsgsL m importRule v.shouldOnlyExceptForbidden
  let g ← noImportOtherThanMsgsL m importRule v.shouldOnlyExceptNoImport
  let h ← otherViolatingMsgsL m importRule v.shouldNotExcept
  pure (a ++ b ++ c ++ d ++ e ++ f ++ g ++ h)

/-- `create_rule_violation_messages` (layer rules) -/
def messageLinesL (m : LayerMap) (importRule : Bool) (v : Violations) : Except ErrKind (List Str) :=
  (violationMessagesL m importRule v).map finishLines

/-! ### `assert_applies` with the message text -/

/-- the outcome of `assert_applies`, the `AssertionError` carrying `"\n".join(lines)` -/
inductive TextVerdict
  | pass
  | fail (lines : List Str)
  | err (k : ErrKind)
deriving DecidableEq, Repr

/-- `RuleMatcher.match` (the pipeline of `matchRule`, the buckets rendered as text) -/
def matchRuleText (mt : Str → Str → Bool) (g : PGraph Str) (b : Behavior) (importRule : Bool)
    (subjects objects : List Filter) : TextVerdict :=
  match convertFilters mt g.nodes subjects with
  | .error k => .err k
  | .ok subs =>
  match convertFilters mt g.nodes objects with
  | .error k => .err k
  | .ok objs =>
  match runQueries g b importRule subs objs with
  | .error k => .err k
  | .ok (expl, other) =>
    let v := detect b importRule expl other (objs.map Filter.toMod)
    if v.any then .fail (messageLines importRule v) else .pass

/-- `Rule.assert_applies` (the pipeline of `assertApplies`) -/
def assertAppliesText (mt : Str → Str → Bool) (s : RuleState) (g : PGraph Str) : RuleState × TextVerdict :=
  if anythingMisused s.cfg then (s, .err .improperlyConfigured)
  else
    let c := convertAliases s.cfg
    let s' := { s with cfg := c }
    if configMissing c then (s', .err .improperlyConfigured)
    else if droppedAbsent g c then (s', .err .lookupError)
    else if c.behavior.inconsistent then (s', .err .ruleInconsistency)
    else
      match c.importDir, c.subjects, c.objects with
      | some d, some ss, some os => (s', matchRuleText mt g c.behavior d ss os)
      | _, _, _ => (s', .err .improperlyConfigured)

/-- the call chain of `runRuleOps`, ending in `assertAppliesText` -/
def runRuleOpsTextGo (glob : Str → Str) (mt : Str → Str → Bool) (g : PGraph Str) (s : RuleState) (i : Nat) :
    List RuleOp → TextVerdict × Nat
  | [] => ((assertAppliesText mt s g).2, i)
  | op :: rest =>
    match s.step glob op with
    | .error k => (.err k, i)
    | .ok s' => runRuleOpsTextGo glob mt g s' (i + 1) rest

def runRuleOpsText (glob : Str → Str) (mt : Str → Str → Bool) (ops : List RuleOp) (g : PGraph Str) :
    TextVerdict × Nat := runRuleOpsTextGo glob mt g {} 0 ops

/-- `LayerRuleMatcher.match` (the pipeline of `matchLayerRule`) -/
def matchLayerRuleText (mt : Str → Str → Bool) (g : PGraph Str) (a : LArch) (b : Behavior) (importRule : Bool)
    (subjects objects : List Filter) : TextVerdict :=
  match convertFilters mt g.nodes subjects with
  | .error k => .err k
  | .ok subs =>
  match convertFilters mt g.nodes objects with
  | .error k => .err k
  | .ok objs =>
  match runQueries g b importRule subs objs with
  | .error k => .err k
  | .ok (expl, other) =>
    let converted := ((subjects ++ objects).filter (·.isRegex)).map (·.id)
    let m := updateLayerMap mt g.nodes a converted
    if !m.consistent then .err .layerMismatch else
    match detectL m b importRule expl other (objs.map Filter.toMod) with
    | .error k => .err k
    | .ok v =>
      if v.any then
        match messageLinesL m importRule v with
        | .error k => .err k
        | .ok lines => .fail lines
      else .pass

/-- `LayerRule.assert_applies` (the pipeline of `assertAppliesLayer`) -/
def assertAppliesLayerText (mt : Str → Str → Bool) (s : LayerRuleState) (g : PGraph Str) : TextVerdict :=
  match s.rule, s.arch with
  | none, _ => .err .improperlyConfigured
  | some _, none => .err .improperlyConfigured
  | some r, some a =>
    if anythingMisused r.cfg then .err .improperlyConfigured
    else
      let c := convertAliases r.cfg
      if configMissing c then .err .improperlyConfigured
      else if droppedAbsent g c then .err .lookupError
      else if c.behavior.inconsistent then .err .ruleInconsistency
      else
        match c.importDir, c.subjects, c.objects with
        | some d, some ss, some os => matchLayerRuleText mt g a c.behavior d ss os
        | _, _, _ => .err .improperlyConfigured

def runLayerRuleOpsTextGo (mt : Str → Str → Bool) (g : PGraph Str) (s : LayerRuleState) (i : Nat) :
    List LayerRuleOp → TextVerdict × Nat
  | [] => (assertAppliesLayerText mt s g, i)
  | op :: rest =>
    match s.step op with
    | .error k => (.err k, i)
    | .ok s' => runLayerRuleOpsTextGo mt g s' (i + 1) rest

def runLayerRuleOpsText (mt : Str → Str → Bool) (ops : List LayerRuleOp) (g : PGraph Str) : TextVerdict × Nat :=
  runLayerRuleOpsTextGo mt g {} 0 ops

end Pta
