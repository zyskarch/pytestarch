/-
  PtaModel.Scan — pytestarch.py (option validation, entry point), file_import/parser.py (directory
  walk, module names), file_import/file_filter.py, file_import/converter.py (import statements to
  Import records; after fixes 203ca2f / 0dc3136), file_import/import_types.py (relative targets),
  file_import/import_filter.py, file_import/importee_module_calculator.py and
  graph_generation/graph_generator.py (after fixes 2a73f45, c4bc59d, ccd1721).

  What is a parameter rather than a model: the file system (a flat list of entries below the root),
  the CPython parser (each `.py` file comes with the list of its `Import` / `ImportFrom` nodes at
  any depth — `Entry.stmts` — or with its AST as a flat node list — `Entry.tree`, from which `collectImports`, the
  walk of `ImportConverter.convert`, computes that list: `Entry.withCollected`), and `re.match` for user-supplied regular expressions (`mt`).
-/
import PtaModel.Graph
import PtaModel.Glob
import PtaModel.Search
namespace Pta

/-- an `ast.Import` / `ast.ImportFrom` node -/
inductive ImportStmt
  | imp (names : List Str)                                       -- import a.b, c as d
  | impFrom (module : Option Str) (names : List Str) (level : Nat) -- from ..m import x, y
deriving DecidableEq, Repr

/-- what `ImportConverter.convert` asks of an AST node: `isinstance(node, (ast.Import, ast.ImportFrom))`, and for
    those the data `_convert` reads; every other node class (`Module`, `If`, `Try`, `ExceptHandler`, `match_case`,
    `FunctionDef`, `ClassDef`, `Expr`, …) is `other` with its class name -/
inductive AstKind
  | imp (names : List Str)
  | impFrom (module : Option Str) (names : List Str) (level : Nat)
  | other (cls : Str)
deriving DecidableEq, Repr

/-- One node of a file's AST. The tree is a flat list of nodes: `path` = child indices from the `ast.Module` node
    (the root has path `[]`; the `i`-th node `ast.iter_child_nodes` yields for the node at `p` has path `p ++ [i]`),
    `field` = name of the parent's field the node sits in (`body`, `orelse`, `handlers`, `finalbody`, `cases`, …;
    empty for the root). -/
structure AstNode where
  path : List Nat
  kind : AstKind
  field : Str := []
deriving DecidableEq, Repr

/-- a directory entry below the root: path components relative to the root directory -/
structure Entry where
  rel : List Str
  isDir : Bool
  stmts : List ImportStmt := []       -- for files: every import statement of the file
  tree : List AstNode := []           -- for files, optional: the AST (see `collectImports`, `Entry.withCollected`)
deriving Repr

/-- how an exclusion tuple is interpreted -/
inductive Patterns
  | globs (ps : List Str)       -- exclusions / external_exclusions (converted by convert_partial_match_to_regex)
  | regexes (ps : List Str)     -- regex_exclusions / regex_external_exclusions
deriving Repr

/-- `FileFilter.is_excluded`: `any(re.match(p, s))`. Glob patterns go through the converter and the
    emitted-class matcher; user regexes through the uninterpreted `mt`. A converted glob the emitted-class
    parser does not recognise cannot occur (PtaProofs: `GlobLabel.convert_shape_lemma`); `false` is never used. -/
def isExcluded (mt : Str → Str → Bool) (ps : Patterns) (s : Str) : Bool :=
  match ps with
  | .globs gs => gs.any fun g => (matchEmitted (convertPartialMatch g) s) == some true
  | .regexes rs => rs.any fun r => mt r s

def Patterns.isEmpty : Patterns → Bool
  | .globs l => l.isEmpty
  | .regexes l => l.isEmpty

/-- `str(path)` for a path below the root directory `base` -/
def pathStr (base : Str) (rel : List Str) : Str :=
  rel.foldl (fun acc c => acc ++ '/' :: c) base

/-- `path.suffix == ".py"` for the generated names (a non-empty stem followed by ".py") -/
def isPyFile (name : Str) : Bool := endsWith ".py".toList name && name.length > 3

/-- `Path.with_suffix("")` on the last component (file names: drop the last ".ext") -/
def dropSuffix (name : Str) : Str :=
  match (name.reverse.dropWhile (· != '.')) with
  | [] => name                          -- no dot: unchanged
  | _ :: stemRev => if stemRev.isEmpty then name else stemRev.reverse

/-- `Parser._get_module_name` -/
def moduleName (rootName : Str) (rel : List Str) : Str :=
  match rel.reverse with
  | [] => rootName
  | last :: initRev => joinDots (rootName :: (initRev.reverse ++ [dropSuffix last]))

def childrenOf (entries : List Entry) (p : List Str) : List Entry :=
  entries.filter fun e => e.rel.length == p.length + 1 && e.rel.take p.length == p

structure Parsed where
  allModules : List Str := []
  files : List (Str × List ImportStmt) := []       -- NamedModule: module name with its import statements
deriving Repr

def Parsed.append (a b : Parsed) : Parsed := ⟨a.allModules ++ b.allModules, a.files ++ b.files⟩

/-- `Parser.parse`, as a depth-bounded recursive descent (the Python uses an explicit stack; the
    visiting order only affects list order). `excl` is `FileFilter.is_excluded` on path strings. -/
def parseWalk (excl : Str → Bool) (base rootName : Str) (entries : List Entry) :
    Nat → Entry → Parsed
  | 0, _ => {}
  | fuel + 1, e =>
    let path := pathStr base e.rel
    if e.isDir then
      if excl path then {}
      else
        (childrenOf entries e.rel).foldl (fun acc c => acc.append (parseWalk excl base rootName entries fuel c))
          { allModules := [moduleName rootName e.rel] }
    else
      match e.rel.getLast? with
      | none => {}
      | some name =>
        if isPyFile name && !excl path then
          { allModules := [moduleName rootName e.rel], files := [(moduleName rootName e.rel, e.stmts)] }
        else {}

def maxDepth (entries : List Entry) : Nat := entries.foldl (fun m e => max m e.rel.length) 0

/-- `is_internal_module` -/
def isInternal (name internalPrefix : Str) : Bool := isModuleOrSub internalPrefix name

/-- `ImportConverter._adjust_with_root_prefix` -/
def adjustWithRootPrefix (name absPrefix : Str) (internal : List Str) : Str :=
  let potential := absPrefix ++ '.' :: name
  if internal.contains potential then potential else name

/-- `RelativeImport._calculate_importee`: `hierarchy[-level] + "." + name`; IndexError when too deep -/
def relativeImportee (importer name : Str) (level : Nat) : Except ErrKind Str :=
  let hier := parentModules importer
  if level == 0 || level > hier.length then .error .lookupError
  else
    match hier[hier.length - level]? with
    | some base => .ok (base ++ '.' :: name)
    | none => .error .lookupError

/-- `ImportConverter._convert` for one statement of module `importer` -/
def convertStmt (importer absPrefix : Str) (internal : List Str) : ImportStmt → Except ErrKind (List ImportRec)
  | .imp names => .ok (names.map fun n => absImport importer (adjustWithRootPrefix n absPrefix internal))
  | .impFrom module names 0 =>
    match module with
    | none => .error .lookupError       -- cannot be produced by the parser (level 0 always has a module)
    | some m =>
      .ok (names.map fun n =>
        let sub := adjustWithRootPrefix (m ++ '.' :: n) absPrefix internal
        if internal.contains sub then absImport importer sub
        else absImport importer (adjustWithRootPrefix m absPrefix internal))
  | .impFrom module names level =>
    names.mapM fun n => do
      let relName := match module with | some m => m | none => n
      let importee ← relativeImportee importer relName level
      -- after fix 36379e2 the importee's parent modules are those of the RESOLVED importee
      let plain : ImportRec := absImport importer importee
      match module with
      | none => pure plain
      | some m =>
        let subName := m ++ '.' :: n
        let subImportee ← relativeImportee importer subName level
        pure (if internal.contains subImportee then absImport importer subImportee else plain)

/-! ### the AST walk of `ImportConverter.convert` (after fix 203ca2f)

  ```
  module_to_search = asts                      # one NamedModule(ast.Module, name) per file
  while module_to_search:
      module = module_to_search.pop()
      if not isinstance(ast_module, (ast.Import, ast.ImportFrom)):
          module_to_search.extend([NamedModule(m, module_name) for m in ast.iter_child_nodes(ast_module)])
      else:
          imports.extend(self._convert(...))
  ```
  Every stack element carries its file's module name and the result is a concatenation, so the loop is the
  concatenation (last file first) of one walk per file; `convertAll` folds over the files and their statements.
  Below: the walk of ONE file, from its `ast.Module` node. The stack's top is the head of the list, so
  `extend(children)` followed by `pop()` is `children.reverse ++ rest`. -/

/-- `_convert` applies to this node (it is an `ast.Import` / `ast.ImportFrom`): the statement it reads -/
def AstNode.stmt? (n : AstNode) : Option ImportStmt :=
  match n.kind with
  | .imp names => some (.imp names)
  | .impFrom m names level => some (.impFrom m names level)
  | .other _ => none

/-- `ast.iter_child_nodes(node)` for the node at `p`: ALL nodes one level below it, whatever field they sit in.
    Order = list order; for a tree listed in pre-order (as the driver's parser lists it) that is ascending child
    index, the order `iter_child_nodes` yields. -/
def astChildren (nodes : List AstNode) (p : List Nat) : List AstNode :=
  nodes.filter fun m => m.path.length == p.length + 1 && p.isPrefixOf m.path

/-- the `while module_to_search` loop. `follow` selects the children that are pushed: all of them in the library
    as it is (`collectImports`), those in the field `body` before fix 203ca2f (`collectBodyOnly`). One iteration
    per unit of fuel; `acc` = `imports` (statements in the order `_convert` is reached for them). -/
def walkLoop (follow : AstNode → Bool) (nodes : List AstNode) :
    Nat → List AstNode → List ImportStmt → List ImportStmt
  | 0, _, acc => acc
  | _ + 1, [], acc => acc
  | fuel + 1, n :: rest, acc =>
    match n.stmt? with
    | some st => walkLoop follow nodes fuel rest (acc ++ [st])
    | none => walkLoop follow nodes fuel (((astChildren nodes n.path).filter follow).reverse ++ rest) acc

/-- the `ast.Module` node(s): path `[]` -/
def astRoots (nodes : List AstNode) : List AstNode := nodes.filter fun n => n.path.isEmpty

/-- `ImportConverter.convert` for one file: the import statements the walk reaches, in the order it reaches them.
    On a tree (unique paths) every node is pushed at most once, so `nodes.length + 1` iterations suffice
    (PtaProofs/Lemmas/AstWalk.lean: `walkLoop_perm`). -/
def collectImports (nodes : List AstNode) : List ImportStmt :=
  walkLoop (fun _ => true) nodes (nodes.length + 1) (astRoots nodes) []

/-- the walk BEFORE fix 203ca2f (defect F-C02a): `if hasattr(node, "body"): extend(node.body) else: _convert(node)` —
    only the children in the field `body` are pushed (a node without that field has none; `_convert` yields nothing
    for a node that is not an import) -/
def collectBodyOnly (nodes : List AstNode) : List ImportStmt :=
  walkLoop (fun c => c.field == "body".toList) nodes (nodes.length + 1) (astRoots nodes) []

/-- a file entry whose statements are what the walk collects from its AST -/
def Entry.withCollected (e : Entry) : Entry := { e with stmts := collectImports e.tree }

structure ScanOptions where
  exclusions : Patterns
  excludeExternal : Bool := true
  levelLimit : Option Nat := none
  externalExclusions : Patterns := .regexes []
deriving Repr

/-- `_add_extra_levels_to_limit_if_root_and_module_path_differ` -/
def shiftedLimit (o : ScanOptions) (mp : List Str) : Option Nat :=
  o.levelLimit.map fun k => if !mp.isEmpty then k + mp.length else k

/-- `_get_all_ast_modules`: the walk from `module_path` -/
def scanParsed (mt : Str → Str → Bool) (base rootName : Str) (mp : List Str) (entries : List Entry) (o : ScanOptions) : Parsed :=
  parseWalk (isExcluded mt o.exclusions) base rootName entries (maxDepth entries + 2) { rel := mp, isDir := true }

/-- `_get_internal_module_prefix` (after fix 2a73f45: the name of the base module, no trailing dot) -/
def internalPrefix (rootName : Str) (mp : List Str) : Str := if !mp.isEmpty then joinDots (rootName :: mp) else rootName

/-- `_get_absolute_import_prefix` -/
def absolutePrefix (rootName : Str) (mp : List Str) : Str := if !mp.isEmpty then joinDots (rootName :: mp.dropLast) else []

/-- `_get_imports_from_ast`: every statement of every parsed file, converted -/
def convertAll (parsed : Parsed) (absPrefix : Str) (internal : List Str) : Except ErrKind (List ImportRec) :=
  parsed.files.foldlM (fun acc f => do
      let is ← f.2.foldlM (fun acc2 st => do
        let r ← convertStmt f.1 absPrefix internal st
        pure (acc2 ++ r)) []
      pure (acc ++ is)) []

/-- `ExternalImportFilter.filter` -/
def retainImports (mt : Str → Str → Bool) (o : ScanOptions) (pre : Str) (imports : List ImportRec) : List ImportRec :=
  let extExcluded (s : Str) : Bool := isExcluded mt o.externalExclusions s
  if !o.excludeExternal && o.externalExclusions.isEmpty then imports
  else if !o.externalExclusions.isEmpty then
    imports.filter fun i => isInternal i.importee pre || !(extExcluded i.importee || i.importeeParents.any extExcluded)
  else imports.filter fun i => isInternal i.importee pre

/-- `_append_external_modules_to_module_list` as it was BEFORE the repair of F-C10e (library commit 4ee40c9):
    `ImporteeModuleCalculator.calculate_importee_modules` skipped every importee whose dotted name contains
    `str(root_path)` (= `base`) as a substring. Kept verbatim for the before/after theorems in `Props/C10.lean`;
    not used by `generateGraph`. -/
def moduleListBeforeRepair (mt : Str → Str → Bool) (base : Str) (o : ScanOptions) (pre : Str) (parsedModules : List Str)
    (imports : List ImportRec) : List Str :=
  if o.excludeExternal then parsedModules
  else
    let ext := imports.filter fun i => !isInternal i.importee pre
    let added := ext.flatMap fun i => if isInfix base i.importee then [] else i.importee :: i.importeeParents
    let all := dedup (parsedModules ++ added)
    if o.externalExclusions.isEmpty then all
    else all.filter fun m => parsedModules.contains m || !isExcluded mt o.externalExclusions m

set_option linter.unusedVariables false in
/-- `_append_external_modules_to_module_list` (after the repair of F-C10e, library commit 4ee40c9):
    `ImporteeModuleCalculator.calculate_importee_modules` adds the importee and its parent modules of EVERY
    external import; the substring test against `str(root_path)` is gone. The parameter `base` stays in the
    signature (the call sites pass it) but is unused. -/
def moduleList (mt : Str → Str → Bool) (base : Str) (o : ScanOptions) (pre : Str) (parsedModules : List Str)
    (imports : List ImportRec) : List Str :=
  if o.excludeExternal then parsedModules
  else
    let ext := imports.filter fun i => !isInternal i.importee pre
    let added := ext.flatMap fun i => i.importee :: i.importeeParents
    let all := dedup (parsedModules ++ added)
    if o.externalExclusions.isEmpty then all
    else all.filter fun m => parsedModules.contains m || !isExcluded mt o.externalExclusions m

/-- `generate_graph` for root directory `base` (named `rootName`), module path `mp` (components
    below the root) and the entries of the tree. -/
def generateGraph (mt : Str → Str → Bool) (base rootName : Str) (mp : List Str) (entries : List Entry)
    (o : ScanOptions) : Except ErrKind (PGraph Str) := do
  let parsed := scanParsed mt base rootName mp entries o
  let pre := internalPrefix rootName mp
  let internal := parsed.allModules.filter fun m => isInternal m pre
  let imports ← convertAll parsed (absolutePrefix rootName mp) internal
  let imports := retainImports mt o pre imports
  pure (buildGraph (moduleList mt base o pre parsed.allModules imports) imports (shiftedLimit o mp))

/-- the option checks at the top of `get_evaluable_architecture` (presence = truthiness of the tuple) -/
structure EntryOptions where
  exclusions : Bool
  regexExclusions : Bool
  externalExclusions : Bool
  regexExternalExclusions : Bool
  excludeExternal : Bool
  modulePathInsideRoot : Bool
deriving DecidableEq, Repr

def entryOptionsError (o : EntryOptions) : Option ErrKind :=
  if o.regexExclusions && o.exclusions then some .improperlyConfigured
  else if o.regexExternalExclusions && o.externalExclusions then some .improperlyConfigured
  else if o.excludeExternal && (o.externalExclusions || o.regexExternalExclusions) then some .improperlyConfigured
  else if !o.modulePathInsideRoot then some .lookupError      -- ValueError from Path.relative_to
  else none

end Pta

/-! ### the two entry points of pytestarch.py: paths, and module objects (property C04)

  `get_evaluable_architecture(root_path, module_path, *options)` checks the options, turns the two strings into
  `pathlib.Path`s, computes `module_path.relative_to(root_path)` and calls `generate_graph`;
  `get_evaluable_architecture_for_module_objects(root_module, module, *options)` computes
  `os.path.dirname(root_module.__file__)`, `os.path.dirname(module.__file__)` and delegates with the six options unchanged.
  Modelled: `posixpath.dirname`, the part of `PurePosixPath` the entry point uses (parsing, `str`, `name`, `relative_to`),
  the option plumbing. Parameters: the file system (`fs`: normalised root path string ↦ entries below that directory) and,
  as everywhere, `mt`. A module object is its `__file__`. -/
namespace Pta

/-- `s.split("/")` — never empty -/
def splitSlash : Str → List Str
  | [] => [[]]
  | c :: cs =>
    match splitSlash cs with
    | [] => [[]]
    | h :: t => if c = '/' then [] :: h :: t else (c :: h) :: t

/-- `posixpath.dirname`:
    ```
    i = p.rfind('/') + 1
    head = p[:i]
    if head and head != '/' * len(head): head = head.rstrip('/')
    return head
    ``` -/
def dirname (p : Str) : Str :=
  let head := (p.reverse.dropWhile (· != '/')).reverse          -- `p[:i]`: up to and including the last '/'; "" without one
  if !head.isEmpty && !head.all (· == '/') then (head.reverse.dropWhile (· == '/')).reverse else head

/-- a parsed `PurePosixPath`: the root (`""`, `"/"`, or `"//"` for exactly two leading slashes) and the components -/
structure PPath where
  root : Str
  parts : List Str
deriving DecidableEq, Repr

/-- `PurePosixPath(s)`: `splitroot`, then the components that are neither empty nor `.` (`..` is kept) -/
def parsePath (s : Str) : PPath :=
  let stripped := s.dropWhile (· == '/')
  let lead := s.length - stripped.length
  let root : Str := if lead == 0 then [] else if lead == 2 then ['/', '/'] else ['/']
  ⟨root, (splitSlash stripped).filter fun x => !x.isEmpty && x != ['.']⟩

/-- `str(path)` -/
def PPath.str (p : PPath) : Str :=
  let s := p.root ++ joinWith ['/'] p.parts
  if s.isEmpty then ['.'] else s

/-- `path.name` -/
def PPath.name (p : PPath) : Str :=
  match p.parts.getLast? with
  | some n => n
  | none => []

/-- `m.relative_to(r)`: same root and the components of `r` are a prefix of those of `m`; otherwise `ValueError` -/
def PPath.relativeTo (m r : PPath) : Except ErrKind (List Str) :=
  if m.root == r.root && r.parts.isPrefixOf m.parts then .ok (m.parts.drop r.parts.length)
  else .error .lookupError

/-- what `get_evaluable_architecture` derives from its two path arguments: `str(root_as_path)` (the `base` of `pathStr`),
    `root_as_path.name` and the components of `module_as_path.relative_to(root_as_path)` (`mp`; empty iff the
    `path_diff_between_root_and_module` is `"."`) -/
def entryPaths (rootPath modulePath : Str) : Except ErrKind (Str × Str × List Str) :=
  let r := parsePath rootPath
  match (parsePath modulePath).relativeTo r with
  | .ok mp => .ok (r.str, r.name, mp)
  | .error k => .error k

/-- the six options of both entry points, with the defaults of the signature (`None` = `none`) -/
structure EntryArgs where
  exclusions : List Str := ["*__pycache__*".toList]
  excludeExternal : Bool := true
  levelLimit : Option Nat := none
  regexExclusions : Option (List Str) := none
  externalExclusions : Option (List Str) := none
  regexExternalExclusions : Option (List Str) := none
deriving Repr

/-- truthiness of an optional tuple -/
def tupleGiven : Option (List Str) → Bool
  | some l => !l.isEmpty
  | none => false

/-- the flags `entryOptionsError` looks at -/
def EntryArgs.flags (a : EntryArgs) (inside : Bool) : EntryOptions :=
  ⟨!a.exclusions.isEmpty, tupleGiven a.regexExclusions, tupleGiven a.externalExclusions,
   tupleGiven a.regexExternalExclusions, a.excludeExternal, inside⟩

/-- `if exclusions: regex_exclusions = tuple(convert_partial_match_to_regex(p) …) elif regex_exclusions is None:
    regex_exclusions = ()`; the value then handed to `generate_graph` as `exclusions`. Since the repair c0bb7ac (F-C08a)
    it is never `None`: an empty `exclusions` tuple without `regex_exclusions` means that nothing is excluded.
    (Before the repair the last case was `none`, and `FileFilter(Config(None))` raised a `TypeError` — see
    `EntryArgs.filePatternsBeforeRepair` and `Pta.C08.no_patterns_*`.) -/
def EntryArgs.filePatterns (a : EntryArgs) : Option Patterns :=
  if !a.exclusions.isEmpty then some (.globs a.exclusions)
  else some (.regexes (a.regexExclusions.getD []))

/-- the same computation before the repair c0bb7ac -/
def EntryArgs.filePatternsBeforeRepair (a : EntryArgs) : Option Patterns :=
  if !a.exclusions.isEmpty then some (.globs a.exclusions)
  else a.regexExclusions.map .regexes

/-- the same for `external_exclusions`; `generate_graph` replaces `None` by `()` -/
def EntryArgs.externalPatterns (a : EntryArgs) : Patterns :=
  if tupleGiven a.externalExclusions then .globs (a.externalExclusions.getD [])
  else .regexes (a.regexExternalExclusions.getD [])

/-- the options as `generate_graph` receives them -/
def EntryArgs.scanOptions (a : EntryArgs) : Option ScanOptions :=
  a.filePatterns.map fun ex =>
    { exclusions := ex, excludeExternal := a.excludeExternal, levelLimit := a.levelLimit,
      externalExclusions := a.externalPatterns }

/-- errors of the entry points: the kinds the harness distinguishes, and the `TypeError` of `FileFilter(Config(None))`
    (`for pattern in None`) that `exclusions=()` without `regex_exclusions` ran into at the start of `generate_graph`
    before the repair c0bb7ac; since then `scanOptions` is always `some _` and the branch is dead
    (`Pta.C08.no_type_error`) -/
inductive EntryErr
  | kind (k : ErrKind)
  | typeError
deriving DecidableEq, Repr

/-- `get_evaluable_architecture(root_path, module_path, *options)` -/
def getEvaluableArchitecture (mt : Str → Str → Bool) (fs : Str → List Entry) (rootPath modulePath : Str)
    (a : EntryArgs) : Except EntryErr (PGraph Str) :=
  -- the three option checks (`modulePathInsideRoot := true`: the paths have not been looked at yet)
  match entryOptionsError (a.flags true) with
  | some k => .error (.kind k)
  | none =>
    match entryPaths rootPath modulePath with
    | .error k => .error (.kind k)
    | .ok (base, rootName, mp) =>
      match a.scanOptions with
      | none => .error .typeError
      | some o =>
        match generateGraph mt base rootName mp (fs base) o with
        | .error k => .error (.kind k)
        | .ok g => .ok g

/-- a module object, as far as the entry point looks at it: `module.__file__` -/
structure ModuleObj where
  file : Str
deriving DecidableEq, Repr

/-- `get_evaluable_architecture_for_module_objects(root_module, module, *options)` -/
def scanForModuleObjects (mt : Str → Str → Bool) (fs : Str → List Entry) (rootModule module : ModuleObj)
    (a : EntryArgs) : Except EntryErr (PGraph Str) :=
  let rootPath := dirname rootModule.file
  let modulePath := dirname module.file
  getEvaluableArchitecture mt fs rootPath modulePath a

end Pta
