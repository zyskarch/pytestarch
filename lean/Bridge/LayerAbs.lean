/-
  Bridge.LayerAbs — abstraction maps for layer rules (property C05): from a specification layer rule
  (`PtaSpec.LRuleSpec`) and resolved layers (`PtaSpec.Layers`) to the model's inputs (`LArch`, `LayerRuleState`,
  the fluent call chain), and the relation "the specification's layers are the resolution of the model's layers".
-/
import PtaModel
import PtaSpec
import Bridge.Abs
namespace Pta
open PtaSpec

/-- `architecture[layer]`, `[]` for an undefined layer -/
def LArch.getD (a : LArch) (n : Str) : List Filter :=
  match a.get n with
  | .ok fs => fs
  | .error _ => []

/-- the LayerRule object a specification layer rule denotes: the state of the fluent builder after the complete
    chain `LayerRule().based_on(larch).layers_that().are_named(subject).<verb>().<access…>().are_named(objects)`
    (see `layerRuleOps` and `PtaProofs/Lemmas/LayerRuleSim.lean: runLayerRuleOps_chain_lemma`).
    subjects = filters of the subject layer, objects = concatenated filters of the object layers. -/
def compileLayerRule (larch : LArch) (r : LRuleSpec) : LayerRuleState :=
  { arch := some larch,
    rule := some
      { cfg := { subjects := some (larch.getD r.subject),
                 objects := if r.anything then none else some (r.objects.flatMap larch.getD),
                 should := r.verb == .should, shouldOnly := r.verb == .shouldOnly, shouldNot := r.verb == .shouldNot,
                 exceptPresent := !r.anything && r.exc, importDir := some r.importDir, anything := r.anything },
        next := some false } }

def verbOp : Verb → LayerRuleOp
  | .should => .should
  | .shouldOnly => .shouldOnly
  | .shouldNot => .shouldNot

def accessOp (r : LRuleSpec) : LayerRuleOp :=
  if r.anything then (if r.importDir then .accessAny else .beAccessedByAny)
  else match r.importDir, r.exc with
    | true, false => .access
    | false, false => .beAccessedBy
    | true, true => .accessExcept
    | false, true => .beAccessedByExcept

/-- the complete fluent call chain of a layer rule; `isList` says whether the object layers are passed as a list -/
def layerRuleOps (larch : LArch) (r : LRuleSpec) (isList : Bool) : List LayerRuleOp :=
  [.basedOn larch, .layersThat, .areNamed [r.subject] false, verbOp r.verb, accessOp r] ++
  (if r.anything then [] else [.areNamed r.objects isList])

/-- a layered architecture whose layers all list modules by name -/
def compileLArch (ls : Layers) : LArch := ls.map fun l => (l.1, l.2.map fun m => Filter.name (render m))

/-- `ms` is what the layer definition `fs` stands for on a graph with modules `nodes`: a name list stands for itself,
    a regex layer for the modules its pattern matches (in the graph's module order) -/
def layerRes (mt : Str → Str → Bool) (nodes : List Str) (fs : List Filter) (ms : List Name) : Bool :=
  fs == ms.map (fun m => Filter.name (render m)) ||
  match fs with
  | [.regex p] => nodes.filter (mt p) == ms.map render
  | _ => false

/-- the specification's layers `ls` are the model's layers `larch` with every regex resolved (what the harness sends as
    `lres`) -/
def resolves (mt : Str → Str → Bool) (nodes : List Str) : LArch → Layers → Bool
  | [], [] => true
  | L :: Ls, l :: ls => L.1 == l.1 && layerRes mt nodes L.2 l.2 && resolves mt nodes Ls ls
  | _, _ => false

/-- the layer of a module: the layer listing one of its ancestors (or itself) -/
def layerTag (ls : Layers) (n : Name) : Option (List Char) := (ls.find? fun l => inLayer l.2 n).map (·.1)

end Pta
